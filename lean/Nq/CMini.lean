/-
  Nq.CMini — a deep embedding of the small C fragment in which the byte loops of notqmail are
  written (the body of `for (;;) { substdio_get(&ss,&ch,1); ... }` in qmail-smtpd.c `blast()`):
  `int` locals, `if`, `switch` with fall-through, `break` / `continue` / `return`, assignments of
  constants, `++v`, comparisons of the current byte with character and string literals, calls
  of the one-byte output routine and of routines that do not return.

  The translator (tools/extractors/c05.py) turns the clang AST of the CURRENT source text into a value of
  `Stmt` (Nq/Gen/SmtpdBlast.lean, regenerated on every run); `run` below is the meaning of such a
  value.  Theorems in Nq/Lemmas/SmtpdSrc/Main.lean / Nq/Props/C05.lean show that the meaning of the
  extracted text IS the hand-written automaton the C05 theorems are about.

  Values are natural numbers (the fragment has no subtraction and no negative constant; the
  translator refuses anything else).  The current byte is its unsigned value; it only occurs in
  `==` / `!=` tests against ASCII constants (again enforced by the translator), so the signedness
  of `char` does not matter.
-/
namespace Nq.CMini

abbrev Env := List Nat            -- locals, by index (names in the generated module)

inductive Expr
  | ch                            -- the byte read by substdio_get
  | lit (n : Nat)                 -- integer or character constant
  | var (v : Nat)
  | strAt (s : List Nat) (e : Expr)   -- "literal"[e]; `s` includes the terminating NUL
  | eq (a b : Expr) | ne (a b : Expr) | lt (a b : Expr)
  | lnot (a : Expr) | land (a b : Expr) | lor (a b : Expr)
  deriving DecidableEq, Repr

inductive Stmt
  | skip
  | assign (v : Nat) (e : Expr)
  | incr (v : Nat)                -- ++v
  | hop                           -- ++*hops  (the out-parameter: recorded as an event)
  | put (e : Expr)                -- put(&ch) / put("\r"): one byte handed to the queue writer
  | noret (f : Nat)               -- call of a routine that does not return (straynewline)
  | ite (c : Expr) (t e : Stmt)
  | seq (a b : Stmt)
  | label (k : Nat)               -- `case k:` (only directly inside a switch body)
  | switch (e : Expr) (body : Stmt)
  | brk | cont | ret
  deriving DecidableEq, Repr

inductive Ev | put (b : Nat) | hop
  deriving DecidableEq, Repr

inductive Ctl | norm | brk | cont | ret | exit (f : Nat)
  deriving DecidableEq, Repr

structure Res where
  env : Env
  evs : List Ev
  ctl : Ctl
  seek : Option Nat               -- `some k`: still looking for `case k:` (inside a switch body)
  deriving DecidableEq, Repr

def b2n (b : Bool) : Nat := if b then 1 else 0

def eval (env : Env) (c : Nat) : Expr → Nat
  | .ch => c
  | .lit n => n
  | .var v => env.getD v 0
  | .strAt s e => s.getD (eval env c e) 0
  | .eq a b => b2n (eval env c a == eval env c b)
  | .ne a b => b2n (eval env c a != eval env c b)
  | .lt a b => b2n (eval env c a < eval env c b)
  | .lnot a => b2n (eval env c a == 0)
  | .land a b => b2n (eval env c a != 0 && eval env c b != 0)
  | .lor a b => b2n (eval env c a != 0 || eval env c b != 0)

/-- Meaning of a statement. `sk = some k`: control is jumping to `case k:`; statements are skipped
until that label is met (labels are looked for along `seq` only: the translator refuses case
labels nested in other statements). -/
def run : Stmt → Option Nat → Env → Nat → Res
  | .label k, sk, env, _ =>
      ⟨env, [], .norm, if sk = some k then none else sk⟩
  | .seq a b, sk, env, c =>
      let r := run a sk env c
      match r.ctl with
      | .norm => let r2 := run b r.seek r.env c
                 ⟨r2.env, r.evs ++ r2.evs, r2.ctl, r2.seek⟩
      | _ => r
  | s, some k, env, _ => ⟨env, [], .norm, some k⟩          -- skipped while seeking
  | .skip, none, env, _ => ⟨env, [], .norm, none⟩
  | .assign v e, none, env, c => ⟨env.set v (eval env c e), [], .norm, none⟩
  | .incr v, none, env, _ => ⟨env.set v (env.getD v 0 + 1), [], .norm, none⟩
  | .hop, none, env, _ => ⟨env, [.hop], .norm, none⟩
  | .put e, none, env, c => ⟨env, [.put (eval env c e)], .norm, none⟩
  | .noret f, none, env, _ => ⟨env, [], .exit f, none⟩
  | .ite cnd t e, none, env, c =>
      if eval env c cnd != 0 then run t none env c else run e none env c
  | .switch e body, none, env, c =>
      let r := run body (some (eval env c e)) env c
      ⟨r.env, r.evs, (match r.ctl with | .brk => .norm | x => x), none⟩
  | .brk, none, env, _ => ⟨env, [], .brk, none⟩
  | .cont, none, env, _ => ⟨env, [], .cont, none⟩
  | .ret, none, env, _ => ⟨env, [], .ret, none⟩

/-- one iteration of `for (;;) { get; body }` on the byte `c` -/
def iter (body : Stmt) (env : Env) (c : Nat) : Res := run body none env c

/-- Result of running the loop over a finite input. -/
inductive Out
  | returned (evs : List Ev) (rest : List Nat)   -- `return` reached; unread input
  | exited (f : Nat) (evs : List Ev)             -- a no-return routine was called
  | starved (evs : List Ev) (env : Env)          -- input exhausted (the read routine then exits)
  deriving DecidableEq, Repr

def loop (body : Stmt) : Env → List Nat → Out
  | env, [] => .starved [] env
  | env, c :: rest =>
      let r := iter body env c
      match r.ctl with
      | .ret => .returned r.evs rest
      | .exit f => .exited f r.evs
      | _ =>            -- norm / cont: next iteration (a `break` outside a switch does not occur:
                        -- the translator refuses it)
        match loop body r.env rest with
        | .returned e x => .returned (r.evs ++ e) x
        | .exited f e => .exited f (r.evs ++ e)
        | .starved e v => .starved (r.evs ++ e) v

/-! ### Variables a statement mentions, and independence from the others -/

def Expr.vars : Expr → List Nat
  | .ch => [] | .lit _ => [] | .var v => [v]
  | .strAt _ e => e.vars
  | .eq a b => a.vars ++ b.vars | .ne a b => a.vars ++ b.vars | .lt a b => a.vars ++ b.vars
  | .lnot a => a.vars | .land a b => a.vars ++ b.vars | .lor a b => a.vars ++ b.vars

def Stmt.vars : Stmt → List Nat
  | .assign v e => v :: e.vars
  | .incr v => [v]
  | .put e => e.vars
  | .ite c t e => c.vars ++ t.vars ++ e.vars
  | .seq a b => a.vars ++ b.vars
  | .switch e b => e.vars ++ b.vars
  | _ => []

end Nq.CMini
