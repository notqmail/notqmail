/-
  Accepted traces.  Every stateful model has a step `accept : σ → ε → Option σ` and a fold over an event list
  that stops at the first refusal (`acceptAll` and its like); each of these folds is `List.foldlM accept` in `Option`
  (one bridging equation per model, from `eq_foldlM`; `Daemon.acceptAll2` alone has none and is reasoned about by its
  own recursion, `acceptAll2_induct`).  What holds of accepted traces whatever the model is proved here, about `List.foldlM`.
-/
namespace Nq.Acceptor
variable {σ ε : Type} {f : σ → ε → Option σ}

theorem eq_foldlM {run : σ → List ε → Option σ} (h0 : ∀ s, run s [] = some s)
    (hc : ∀ s e es, run s (e :: es) = (f s e).bind (run · es)) : ∀ (es : List ε) (s : σ), run s es = es.foldlM f s
  | [], s => h0 s
  | e :: es, s => by rw [hc, List.foldlM_cons, funext (eq_foldlM h0 hc es)]; rfl

theorem foldlM_cons {s s' : σ} {e : ε} {es : List ε} :
    (e :: es).foldlM f s = some s' ↔ ∃ s1, f s e = some s1 ∧ es.foldlM f s1 = some s' := by
  simp [List.foldlM_cons, Option.bind_eq_some_iff]

theorem foldlM_append {s s' : σ} {a b : List ε} :
    (a ++ b).foldlM f s = some s' ↔ ∃ s1, a.foldlM f s = some s1 ∧ b.foldlM f s1 = some s' := by
  simp [List.foldlM_append, Option.bind_eq_some_iff]

theorem foldlM_concat {s s' : σ} {es : List ε} {e : ε} :
    (es ++ [e]).foldlM f s = some s' ↔ ∃ s1, es.foldlM f s = some s1 ∧ f s1 e = some s' := by
  simp [List.foldlM_append, Option.bind_eq_some_iff]

theorem foldlM_take {s s' : σ} {es : List ε} (h : es.foldlM f s = some s') (k : Nat) :
    ∃ s1, (es.take k).foldlM f s = some s1 := by
  rw [← List.take_append_drop k es, foldlM_append] at h
  obtain ⟨s1, h1, -⟩ := h
  exact ⟨s1, h1⟩

theorem foldlM_induct (P : σ → Prop) (hstep : ∀ s e s', P s → f s e = some s' → P s') :
    ∀ (es : List ε) (s s' : σ), P s → es.foldlM f s = some s' → P s'
  | [], s, s', h0, h => by cases h; exact h0
  | e :: es, s, s', h0, h => by
    obtain ⟨s1, h1, h2⟩ := foldlM_cons.1 h
    exact foldlM_induct P hstep es s1 s' (hstep s e s1 h0 h1) h2

/-- the same with a second state that every event updates alongside (the file system next to the program's control point),
for traces whose events all satisfy `G` -/
theorem foldlM_induct₂ {τ : Type} (g : τ → ε → τ) (P : σ → τ → Prop) (G : ε → Prop)
    (hstep : ∀ s t e s', P s t → G e → f s e = some s' → P s' (g t e)) :
    ∀ (es : List ε) (s s' : σ) (t : τ), P s t → (∀ e ∈ es, G e) → es.foldlM f s = some s' → P s' (es.foldl g t)
  | [], s, s', t, h0, _, h => by cases h; exact h0
  | e :: es, s, s', t, h0, hg, h => by
    obtain ⟨s1, h1, h2⟩ := foldlM_cons.1 h
    exact foldlM_induct₂ g P G hstep es s1 s' (g t e) (hstep s t e s1 h0 (hg e List.mem_cons_self) h1)
      (fun x hx => hg x (List.mem_cons_of_mem _ hx)) h2

/-- … and with no second state: a property kept by every accepted step whose event satisfies `G` -/
theorem foldlM_induct_guard (P : σ → Prop) (G : ε → Prop) (hstep : ∀ s e s', P s → G e → f s e = some s' → P s') :
    ∀ (es : List ε) (s s' : σ), P s → (∀ e ∈ es, G e) → es.foldlM f s = some s' → P s' :=
  fun es s s' => foldlM_induct₂ (fun (_ : Unit) _ => ()) (fun s _ => P s) G (fun s _ e s' => hstep s e s') es s s' ()

/-- … with the events so far as the second state -/
theorem foldlM_hist (P : σ → List ε → Prop) (hstep : ∀ s h e s', P s h → f s e = some s' → P s' (h ++ [e])) :
    ∀ (es : List ε) (s s' : σ) (h : List ε), P s h → es.foldlM f s = some s' → P s' (h ++ es)
  | [], s, s', h, h0, ha => by cases ha; rwa [List.append_nil]
  | e :: es, s, s', h, h0, ha => by
    obtain ⟨s1, h1, h2⟩ := foldlM_cons.1 ha
    have := foldlM_hist P hstep es s1 s' (h ++ [e]) (hstep s h e s1 h0 h1) h2
    rwa [List.append_assoc] at this

/-- a step on pairs that steps the first component by `f` and only records in the second runs as `f` does -/
theorem foldlM_fst {σ γ ε : Type} {f : σ → ε → Option σ} {h : σ → γ → ε → γ} {f' : σ × γ → ε → Option (σ × γ)}
    (hf : ∀ sg e, f' sg e = (f sg.1 e).map fun s' => (s', h sg.1 sg.2 e)) : ∀ (es : List ε) (sg : σ × γ),
    (es.foldlM f' sg).map (·.1) = es.foldlM f sg.1
  | [], _ => rfl
  | e :: es, sg => by
    rw [List.foldlM_cons, List.foldlM_cons, hf]
    cases f sg.1 e with
    | none => rfl
    | some s' => exact foldlM_fst hf es _

theorem foldlM_mono {f' : σ → ε → Option σ} (h : ∀ s e s', f s e = some s' → f' s e = some s') :
    ∀ (es : List ε) (s s' : σ), es.foldlM f s = some s' → es.foldlM f' s = some s'
  | [], _, _, ha => ha
  | e :: es, s, s', ha => by
    obtain ⟨s1, h1, h2⟩ := foldlM_cons.1 ha
    exact foldlM_cons.2 ⟨s1, h s e s1 h1, foldlM_mono h es s1 s' h2⟩

/-- Where a fact at the end of a run comes from: if `P` after a step means that the step was a cause (`Q`) or that `P` held
before it and the event is of a kind `R` that keeps it, then `P` at the end means `P` at the start and only `R` events, or a
cause followed by `R` events only. -/
theorem foldlM_origin (P : σ → Prop) (Q : σ → ε → Prop) (R : ε → Bool)
    (hstep : ∀ s e s', f s e = some s' → P s' → Q s e ∨ (R e = true ∧ P s)) :
    ∀ (es : List ε) (s0 s : σ), es.foldlM f s0 = some s → P s →
      (P s0 ∧ es.all R = true) ∨
      ∃ pre e post s1, es = pre ++ e :: post ∧ pre.foldlM f s0 = some s1 ∧ Q s1 e ∧ post.all R = true
  | [], s0, s, h, hp => by cases h; exact Or.inl ⟨hp, rfl⟩
  | e :: es, s0, s, h, hp => by
    obtain ⟨s1, h1, h2⟩ := foldlM_cons.1 h
    rcases foldlM_origin P Q R hstep es s1 s h2 hp with ⟨hp1, hall⟩ | ⟨pre, e', post, s2, he, hpre, hq, hall⟩
    · rcases hstep s0 e s1 h1 hp1 with hq | ⟨hr, hp0⟩
      · exact Or.inr ⟨[], e, es, s0, rfl, rfl, hq, hall⟩
      · exact Or.inl ⟨hp0, by rw [List.all_cons, hr, hall]; rfl⟩
    · exact Or.inr ⟨e :: pre, e', post, s2, by rw [he]; rfl, foldlM_cons.2 ⟨s1, h1, hpre⟩, hq, hall⟩

end Nq.Acceptor
