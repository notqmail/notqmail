/-
  `Nq.Bounce` (model of qmail-send.c's bounce code) against `Nq.BounceSpec` (paragraph reader, governing
  virtualdomains entry): one `addbounce` call is one paragraph, the loops of `stripvdomprepend` compute
  `namedRecipient`, the in-place scan is the forward pass, `control_readline` is the documented first line;
  closed forms of `del_dochan`'s report cut, of `injectbounce`'s exits and of `bounceOf`.
-/
import Nq.Lemmas.Basic
import Nq.Bounce
import Nq.Spec.BounceSpec

namespace Nq.Lemmas.Bounce
open Nq Nq.Bounce Nq.BounceSpec

/-! ### the paragraph reader -/

/-- put a run of bytes in front of the current paragraph -/
def pprep (x : Bytes) : List Bytes → List Bytes
  | [] => [x]
  | p :: ps => (x ++ p) :: ps

theorem pcons_eq_pprep (c : Byte) (l : List Bytes) : pcons c l = pprep [c] l := by
  cases l <;> simp [pcons, pprep]

theorem pprep_nil {l : List Bytes} (h : l ≠ []) : pprep [] l = l := by
  cases l with
  | nil => exact absurd rfl h
  | cons p ps => simp [pprep]

theorem pcons_pprep (c : Byte) (x : Bytes) (l : List Bytes) : pcons c (pprep x l) = pprep (c :: x) l := by
  cases l <;> simp [pcons, pprep]

theorem pprep_ne (x : Bytes) (l : List Bytes) : pprep x l ≠ [] := by
  cases l <;> simp [pprep]

theorem pcons_ne (c : Byte) (l : List Bytes) : pcons c l ≠ [] :=
  pcons_eq_pprep c l ▸ pprep_ne [c] l

theorem paras_ne (s : PSt) (t : Bytes) (h : s ≠ .blank) : paras s t ≠ [] := by
  cases t with
  | nil => cases s <;> simp_all [paras]
  | cons c t =>
    cases s with
    | blank => exact absurd rfl h
    | bol => by_cases hc : c = LF <;> simp [paras, hc, pcons_ne]
    | mid => by_cases hc : c = LF <;> simp [paras, hc, pcons_ne]

/-- reading `x` from state `s` never ends the paragraph being read (nor skips a blank line) -/
def inPara : PSt → Bytes → Bool
  | _, [] => true
  | .blank, c :: t => c != LF && inPara .mid t
  | .mid, c :: t => if c = LF then inPara .bol t else inPara .mid t
  | .bol, c :: t => c != LF && inPara .mid t

theorem paras_inPara (x y : Bytes) (s : PSt) (h : inPara s x = true) (hs : s ≠ .blank ∨ x ≠ []) :
    paras s (x ++ y) = pprep x (paras (endSt s x) y) ∧ endSt s x ≠ .blank := by
  induction x generalizing s with
  | nil =>
    have hs' : s ≠ .blank := hs.elim id (fun h => absurd rfl h)
    exact ⟨by simp [endSt, pprep_nil (paras_ne s y hs')], hs'⟩
  | cons c t ih =>
    cases s with
    | blank | bol =>
      simp only [inPara, Bool.and_eq_true, bne_iff_ne, ne_eq] at h
      have := ih .mid h.2 (Or.inl nofun)
      simp [paras, endSt, h.1, this, pcons_pprep]
    | mid =>
      by_cases hc : c = LF
      · simp only [inPara, hc, if_true] at h
        have := ih .bol h (Or.inl nofun)
        simp [paras, endSt, hc, this, pcons_pprep]
      · simp only [inPara, hc, if_false] at h
        have := ih .mid h (Or.inl nofun)
        simp [paras, endSt, hc, this, pcons_pprep]

theorem endSt_append (x y : Bytes) (s : PSt) : endSt s (x ++ y) = endSt (endSt s x) y := by
  induction x generalizing s with
  | nil => simp [endSt]
  | cons c t ih => cases s <;> simp [endSt, ih]

theorem endSt_LFLF (x : Bytes) (s : PSt) : endSt s (x ++ [LF, LF]) = .blank := by
  rw [endSt_append]
  cases endSt s x <;> simp [endSt]

theorem paras_append_blank (x y : Bytes) (s : PSt) (h : endSt s x = .blank) :
    paras s (x ++ y) = paras s x ++ paras .blank y := by
  induction x generalizing s with
  | nil => simp only [endSt] at h; subst h; simp [paras]
  | cons c t ih =>
    have pc : ∀ (b : Byte) (l1 l2 : List Bytes), l1 ≠ [] → pcons b (l1 ++ l2) = pcons b l1 ++ l2 := by
      intro b l1 l2 hl
      cases l1 with
      | nil => exact absurd rfl hl
      | cons p ps => simp [pcons]
    cases s with
    | blank | bol =>
      by_cases hc : c = LF
      · simp only [endSt, hc, if_true] at h
        simp [paras, hc, ih .blank h]
      · simp only [endSt, hc, if_false] at h
        simp [paras, hc, ih .mid h, pc _ _ _ (paras_ne .mid t nofun)]
    | mid =>
      by_cases hc : c = LF
      · simp only [endSt, hc, if_true] at h
        simp [paras, hc, ih .bol h, pc _ _ _ (paras_ne .bol t (by simp))]
      · simp only [endSt, hc, if_false] at h
        simp [paras, hc, ih .mid h, pc _ _ _ (paras_ne .mid t (by simp))]

/-! ### the scan of addbounce() -/

theorem scanFrom_snoc (a : Bytes) (l : Byte) (p : Bool) : scanFrom p (a ++ [l]) = squashAll p a ++ [l] := by
  induction a generalizing p with
  | nil => simp [scanFrom, squashAll]
  | cons c t ih =>
    cases t with
    | nil => simp [scanFrom, squashAll]
    | cons d u =>
      have := ih (c == LF)
      simp only [List.cons_append] at this ⊢
      simp [scanFrom, squashAll, this]

/-- the scanned text never leaves its paragraph: no LF directly after an LF survives -/
theorem inPara_squashAll (r : Bytes) :
    (∀ p, inPara .mid (squashAll p r) = true) ∧ inPara .bol (squashAll true r) = true := by
  induction r with
  | nil => simp [squashAll, inPara]
  | cons c t ih =>
    constructor
    · intro p
      by_cases hc : c = LF
      · cases p
        · simp [squashAll, inPara, hc, ih.2]
        · simp [squashAll, inPara, hc, ih.1, SLASH, LF]
      · have hb : (c == LF) = false := by simpa using hc
        simp [squashAll, inPara, hc, hb, ih.1]
    · by_cases hc : c = LF
      · simp [squashAll, inPara, hc, ih.1, SLASH, LF]
      · have hb : (c == LF) = false := by simpa using hc
        simp [squashAll, inPara, hc, hb, ih.1]

theorem squashAll_length (p : Bool) (r : Bytes) : (squashAll p r).length = r.length := by
  induction r generalizing p with
  | nil => simp [squashAll]
  | cons c t ih => simp [squashAll, ih]

theorem squashAll_cons (p : Bool) (c : Byte) (t : Bytes) :
    squashAll p (c :: t) = (if p && c == LF then SLASH else c) :: squashAll (c == LF) t := by
  simp [squashAll]

theorem squashAll_lffree (c : Byte) (a b : Bytes) (p : Bool) (hc : c ≠ LF) (ha : LF ∉ a) :
    squashAll p (c :: a ++ b) = c :: a ++ squashAll false b := by
  induction a generalizing c p with
  | nil =>
    have hb : (c == LF) = false := by simpa using hc
    simp [squashAll, hc, hb]
  | cons d u ih =>
    have hd : d ≠ LF := fun h => ha (by simp [h])
    have hu : LF ∉ u := fun h => ha (by simp [h])
    have hb : (c == LF) = false := by simpa using hc
    have := ih d (c == LF) hd hu
    simp only [List.cons_append] at this ⊢
    rw [squashAll_cons, this]
    simp [hb]

theorem sanit_squashAll (p : Bool) (r : Bytes) : sanit r (squashAll p r) = true := by
  induction r generalizing p with
  | nil => simp [squashAll, sanit]
  | cons c t ih =>
    by_cases hc : c = LF
    · cases p <;> simp [squashAll, sanit, hc, ih]
    · have hb : (c == LF) = false := by simpa using hc
      simp [squashAll, sanit, hb, ih]

theorem squashAll_id (r : Bytes) (p : Bool) (h1 : hasLFLF r = false) (h2 : p = true → r.head? ≠ some LF) :
    squashAll p r = r := by
  induction r generalizing p with
  | nil => simp [squashAll]
  | cons c t ih =>
    have hpc : (p && c == LF) = false := by
      cases p
      · simp
      · have := h2 rfl
        simpa using this
    have ht : hasLFLF t = false := by
      cases t with
      | nil => simp [hasLFLF]
      | cons d u => simp only [hasLFLF, Bool.or_eq_false_iff] at h1; exact h1.2
    have hh : (c == LF) = true → t.head? ≠ some LF := by
      intro hc
      cases t with
      | nil => simp
      | cons d u =>
        simp only [hasLFLF, Bool.or_eq_false_iff, Bool.and_eq_false_iff] at h1
        have hc' : c = LF := by simpa using hc
        cases h1.1 with
        | inl h => simp [hc'] at h
        | inr h => simpa using h
    simp [squashAll, hpc, ih (c == LF) ht hh]

/-! ### stripvdomprepend(): the loop order is the documented precedence -/

theorem entryFor_eq_cmLookup (es : List (Bytes × Bytes)) (k : Bytes) : entryFor es k = cmLookup es k := by
  unfold entryFor cmLookup
  induction es.reverse with
  | nil => simp [cmLookupRev]
  | cons e r ih =>
    obtain ⟨a, b⟩ := e
    by_cases h : lower a == lower k
    · simp [cmLookupRev, List.find?, h]
    · simp [cmLookupRev, List.find?, h, ih]

theorem dotSuffixes_eq (d : Bytes) :
    dotSuffixes d = (tails d).filter (fun s => s.isEmpty || s.head? == some DOT) := by
  induction d with
  | nil => simp [dotSuffixes, tails]
  | cons c r ih =>
    by_cases hc : c = DOT
    · simp [dotSuffixes, tails, hc, ih]
    · simp [dotSuffixes, tails, hc, ih]

theorem suffixKeys_eq_candidates (d : Bytes) : suffixKeys d = candidates d := by
  cases d with
  | nil => simp [suffixKeys, candidates, tails]
  | cons c r => simp [suffixKeys, candidates, tails, dotSuffixes_eq]

theorem firstHit_eq_governing (es : List (Bytes × Bytes)) (d : Bytes) :
    firstHit es (suffixKeys d) = governing es d := by
  unfold governing
  rw [← suffixKeys_eq_candidates]
  induction suffixKeys d with
  | nil => simp [firstHit]
  | cons k ks ih =>
    simp only [firstHit, List.findSome?, entryFor_eq_cmLookup]
    cases cmLookup es k <;> simp [ih]

theorem domainOf_eq_domainPart (a : Bytes) : domainOf a = domainPart a := by
  unfold domainPart
  induction a with
  | nil => simp [domainOf, tails]
  | cons c r ih =>
    simp only [domainOf, tails, List.reverse_cons, List.find?_append]
    rw [ih]
    cases h : List.find? (fun s => s.head? == some AT) (tails r).reverse with
    | some s => simp
    | none =>
      by_cases hc : c = AT
      · simp [hc]
      · simp [hc]

theorem cmMember_eq_isLocal (ls : List Bytes) (d : Bytes) : cmMember ls d = isLocal ls d := by
  unfold isLocal
  induction ls with
  | nil => simp [cmMember]
  | cons l r ih => simp [cmMember, ih]

theorem userCut_dash (es : List (Bytes × Bytes)) (pre t : Bytes) :
    userCut es (pre, 45 :: t) = match cmLookup es t with
      | some p => if !p.isEmpty && p == pre then some t else none
      | none => none := by
  unfold userCut
  simp only [entryFor_eq_cmLookup]
  cases cmLookup es t <;> rfl

theorem userCut_other (es : List (Bytes × Bytes)) (pre t : Bytes) (c : Byte) (hc : c ≠ 45) :
    userCut es (pre, c :: t) = none := by
  unfold userCut
  split
  · rename_i rest heq
    simp at heq
    exact absurd heq.1 hc
  · rfl

theorem userCut_nil (es : List (Bytes × Bytes)) (pre : Bytes) : userCut es (pre, []) = none := by
  simp [userCut]

theorem userStripGo_eq (es : List (Bytes × Bytes)) (pre r : Bytes) :
    userStripGo es pre r = ((splits r).map (fun x => (pre ++ x.1, x.2))).findSome? (userCut es) := by
  induction r generalizing pre with
  | nil => simp [userStripGo, splits]
  | cons c t ih =>
    have hmap : (List.map (fun x => (pre ++ x.1, x.2)) (List.map (fun x => (c :: x.1, x.2)) (splits t)))
        = List.map (fun x => ((pre ++ [c]) ++ x.1, x.2)) (splits t) := by
      simp [List.map_map, Function.comp_def]
    simp only [splits, List.map_cons, List.findSome?_cons, List.append_nil, hmap, ← ih (pre ++ [c])]
    by_cases hc : c = DASH
    · subst hc
      have := userCut_dash es pre t
      simp only [DASH] at this ⊢
      rw [this]
      simp only [userStripGo, DASH, if_true]
      cases hl : cmLookup es t with
      | none => rfl
      | some p =>
        by_cases hp : (!p.isEmpty && p == pre) = true
        · simp [hp]
        · have hp' : (!p.isEmpty && p == pre) = false := by simpa using hp
          simp [hp']
    · rw [userCut_other es pre t c hc]
      simp [userStripGo, hc]

theorem userStripGo_skip (es : List (Bytes × Bytes)) (pre p r : Bytes) (h : DASH ∉ p) :
    userStripGo es pre (p ++ r) = userStripGo es (pre ++ p) r := by
  induction p generalizing pre with
  | nil => simp
  | cons c t ih =>
    have hc : c ≠ DASH := fun e => h (by simp [e])
    have ht : DASH ∉ t := fun e => h (by simp [e])
    simp only [List.cons_append, userStripGo, hc, if_false]
    rw [ih (pre ++ [c]) ht]
    simp

theorem userStripGo_eq_userSplit (es : List (Bytes × Bytes)) (recip : Bytes) :
    userStripGo es [] recip = userSplit es recip := by
  rw [userStripGo_eq]
  unfold userSplit
  simp

theorem userSplit_dashfree (es : List (Bytes × Bytes)) (p addr : Bytes)
    (he : entryFor es addr = some p) (hp : p ≠ []) (hdash : DASH ∉ p) :
    userSplit es (p ++ DASH :: addr) = some addr := by
  rw [← userStripGo_eq_userSplit, userStripGo_skip _ _ _ _ hdash]
  have hpe : p.isEmpty = false := by simpa using hp
  rw [entryFor_eq_cmLookup] at he
  simp [userStripGo, he, hpe]

theorem stripvdom_eq_named (t : Tables) (recip : Bytes) :
    stripvdom t recip = namedRecipient true t.locals t.vdoms recip := by
  unfold stripvdom namedRecipient prefixUndone
  rw [domainOf_eq_domainPart]
  simp only [Bool.not_true, Bool.false_eq_true, if_false]
  cases domainPart recip with
  | none => rfl
  | some d =>
    simp only [firstHit_eq_governing, cmMember_eq_isLocal, userStripGo_eq_userSplit]
    split
    · rfl
    · cases userSplit t.vdoms recip with
      | some r => rfl
      | none => cases governing t.vdoms d <;> rfl

theorem nameOf_eq_named (t : Tables) (fl : Bool) (recip : Bytes) :
    nameOf t fl recip = namedRecipient fl t.locals t.vdoms recip := by
  cases fl with
  | true => simp only [nameOf, if_true]; exact stripvdom_eq_named t recip
  | false => simp [nameOf, namedRecipient]

/-! ### the literal in-place loop equals the forward pass -/

theorem scanAt_get_ne (s : Bytes) (pos i : Nat) (h : i ≠ pos) : (scanAt s pos)[i]? = s[i]? := by
  unfold scanAt
  split
  · exact List.getElem?_set_ne (Ne.symm h)
  · rfl

theorem scanAt_get_self (s : Bytes) (pos : Nat) :
    (scanAt s pos)[pos]? = if s[pos]? = some LF ∧ s[pos - 1]? = some LF then some SLASH else s[pos]? := by
  unfold scanAt
  split
  · rename_i h
    rw [List.getElem?_set_self]
    rcases Nat.lt_or_ge pos s.length with hl | hl
    · exact hl
    · rw [List.getElem?_eq_none hl] at h; cases h.1
  · rfl

/-- the downward loop: each position is decided by the bytes of the text before the scan, because the positions below
the one being visited have not been written yet -/
theorem scanDown_get (n : Nat) (s : Bytes) (i : Nat) :
    (scanDown n s)[i]? =
      if 1 ≤ i ∧ i ≤ n ∧ s[i]? = some LF ∧ s[i - 1]? = some LF then some SLASH else s[i]? := by
  induction n generalizing s with
  | zero => exact (if_neg (fun h => Nat.not_succ_le_zero 0 (Nat.le_trans h.1 h.2.1))).symm
  | succ n ih =>
    rw [scanDown, ih]
    rcases Nat.lt_trichotomy i (n + 1) with hi | hi | hi
    · -- below the position just visited: `i` and `i - 1` are as in `s`
      rw [scanAt_get_ne s _ i (Nat.ne_of_lt hi),
        scanAt_get_ne s _ (i - 1) (Nat.ne_of_lt (Nat.lt_of_le_of_lt (Nat.sub_le i 1) hi))]
      exact ite_congr (propext (and_congr_right fun _ => and_congr_left'
        ⟨fun _ => Nat.le_of_lt hi, fun _ => Nat.le_of_lt_succ hi⟩)) (fun _ => rfl) (fun _ => rfl)
    · subst hi
      rw [if_neg (fun h => Nat.not_succ_le_self n h.2.1), scanAt_get_self]
      exact ite_congr (propext ⟨fun h => ⟨Nat.le_add_left 1 n, Nat.le_refl _, h⟩, fun h => h.2.2⟩) (fun _ => rfl)
        (fun _ => rfl)
    · rw [if_neg (fun h => Nat.not_le_of_lt (Nat.lt_of_succ_lt hi) h.2.1), if_neg (fun h => Nat.not_le_of_lt hi h.2.1),
        scanAt_get_ne s _ i (Nat.ne_of_gt hi)]

theorem some_eq_LF (c : Byte) : (c == LF) = true ↔ some c = some LF := by simp

theorem scanFrom_get (p : Bool) (s : Bytes) (i : Nat) :
    (scanFrom p s)[i]? =
      if i + 1 < s.length ∧ s[i]? = some LF ∧ (if i = 0 then p = true else s[i - 1]? = some LF)
      then some SLASH else s[i]? := by
  induction s generalizing p i with
  | nil => exact (if_neg (fun h => Nat.not_lt_zero _ h.1)).symm
  | cons c t ih =>
    cases t with
    | nil => exact (if_neg (fun h => Nat.not_lt_zero _ (Nat.lt_of_succ_lt_succ h.1))).symm
    | cons d u =>
      cases i with
      | zero =>
        show some (if (p && c == LF) = true then SLASH else c) = _
        have hlen : 0 + 1 < (c :: d :: u).length := Nat.succ_lt_succ (Nat.succ_pos _)
        by_cases h : (p && c == LF) = true
        · have h' := Bool.and_eq_true_iff.1 h
          rw [if_pos h, if_pos ⟨hlen, (some_eq_LF c).1 h'.2, h'.1⟩]
        · rw [if_neg h, if_neg (fun hh => h (Bool.and_eq_true_iff.2 ⟨hh.2.2, (some_eq_LF c).2 hh.2.1⟩))]
          rfl
      | succ j =>
        show (scanFrom (c == LF) (d :: u))[j]? = _
        rw [ih]
        refine ite_congr (propext (and_congr Nat.succ_lt_succ_iff.symm (and_congr Iff.rfl ?_))) (fun _ => rfl)
          (fun _ => rfl)
        -- the byte before position `j + 1` of `c :: d :: u`
        rw [if_neg (Nat.succ_ne_zero j)]
        cases j with
        | zero => exact some_eq_LF c
        | succ k => exact Iff.rfl

theorem scanInPlace_eq (s : Bytes) : scanInPlace s = scanFrom false s := by
  apply List.ext_getElem?
  intro i
  unfold scanInPlace
  rw [scanDown_get, scanFrom_get]
  refine ite_congr (propext ?_) (fun _ => rfl) (fun _ => rfl)
  cases i with
  | zero => exact ⟨fun h => absurd h.1 (by decide), fun h => Bool.noConfusion h.2.2⟩
  | succ j =>
    rw [if_neg (Nat.succ_ne_zero j)]
    exact ⟨fun ⟨_, h2, h34⟩ => ⟨by omega, h34⟩, fun ⟨h1, h34⟩ => ⟨Nat.succ_pos j, by omega, h34⟩⟩

/-! ### addbounce(): closed form of the text and its paragraph structure -/

/-- the report without one final LF -/
def chomp1 (r : Bytes) : Bytes := if r.getLast? = some LF then r.dropLast else r

theorem hasLFLF_append_left (a b : Bytes) (h : hasLFLF (a ++ b) = false) : hasLFLF a = false := by
  induction a with
  | nil => simp [hasLFLF]
  | cons c t ih =>
    cases t with
    | nil => simp [hasLFLF]
    | cons d u =>
      simp only [List.cons_append, hasLFLF, Bool.or_eq_false_iff] at h ⊢
      exact ⟨h.1, ih h.2⟩

theorem chomp1_hasLFLF (r : Bytes) (h : hasLFLF r = false) : hasLFLF (chomp1 r) = false := by
  unfold chomp1
  split
  · rename_i hl
    exact hasLFLF_append_left _ [LF] (by rw [← eq_dropLast_concat hl]; exact h)
  · exact h

theorem chomp1_head (r : Bytes) (h : r.head? ≠ some LF) : (chomp1 r).head? ≠ some LF := by
  unfold chomp1
  split
  · cases r with
    | nil => simp
    | cons c t =>
      cases t with
      | nil => simp
      | cons d u => simpa using h
  · exact h

/-- the name as it is shown: LF as '_' -/
def shown (name : Bytes) : Bytes := name.map lf2us

/-- everything `addbounce` writes except the two final LFs, before the scan -/
def rawPara (name report : Bytes) : Bytes :=
  LANGLE :: (shown name ++ [RANGLE, COLON] ++ (if report = [] then [] else LF :: chomp1 report))

theorem lf2us_langle : lf2us LANGLE = LANGLE := by simp [lf2us, LANGLE, LF]

theorem addbounceNamed_form (name report : Bytes) :
    addbounceNamed name report = squashAll false (rawPara name report) ++ [LF, LF] := by
  have key : ∀ t4, t4 = rawPara name report ++ [LF] →
      scanFrom false t4 ++ [LF] = squashAll false (rawPara name report) ++ [LF, LF] := by
    intro t4 h
    rw [h, scanFrom_snoc]
    simp
  unfold addbounceNamed
  apply key
  by_cases hr : report = []
  · simp [hr, rawPara, shown, lf2us_langle]
  · have he : report.isEmpty = false := by simpa using hr
    by_cases hl : report.getLast? = some LF
    · have hsp := eq_dropLast_concat hl
      have hb : (report.getLast? != some LF) = false := by simp [hl]
      simp only [he, hb, rawPara, shown, chomp1, hr, hl, if_true, if_false, Bool.not_false, Bool.true_and,
        Bool.false_eq_true, List.map_cons, List.cons_append, List.append_assoc, lf2us_langle]
      conv => lhs; rw [hsp]
      simp
    · have hb : (report.getLast? != some LF) = true := by simpa using hl
      simp [he, hb, hl, rawPara, shown, chomp1, hr, lf2us_langle]

theorem lf_not_mem_shown (name : Bytes) : LF ∉ shown name := by
  unfold shown
  intro h
  rw [List.mem_map] at h
  obtain ⟨a, _, ha⟩ := h
  unfold lf2us at ha
  by_cases hc : a = LF
  · simp [hc, USCORE, LF] at ha
  · simp [hc] at ha

theorem lf_not_mem_hdr (name : Bytes) : LF ∉ shown name ++ [RANGLE, COLON] := by
  intro h
  rw [List.mem_append] at h
  cases h with
  | inl h => exact lf_not_mem_shown name h
  | inr h => simp [RANGLE, COLON, LF] at h

theorem recipLine_eq (name : Bytes) :
    recipLine name = LANGLE :: (shown name ++ [RANGLE, COLON]) ++ [LF] := by
  have : (fun c : Byte => if c = LF then (95 : Byte) else c) = lf2us := by
    funext c; simp [lf2us, USCORE]
  simp [recipLine, shown, this, LANGLE, RANGLE, COLON]

theorem scanned_nil (name : Bytes) :
    squashAll false (rawPara name []) = LANGLE :: (shown name ++ [RANGLE, COLON]) := by
  have := squashAll_lffree LANGLE (shown name ++ [RANGLE, COLON]) [] false (by simp [LANGLE, LF]) (lf_not_mem_hdr name)
  simpa [rawPara, squashAll] using this

theorem scanned_cons (name report : Bytes) (hr : report ≠ []) :
    squashAll false (rawPara name report) = recipLine name ++ squashAll true (chomp1 report) := by
  have := squashAll_lffree LANGLE (shown name ++ [RANGLE, COLON]) (LF :: chomp1 report) false (by simp [LANGLE, LF]) (lf_not_mem_hdr name)
  have e : rawPara name report = LANGLE :: (shown name ++ [RANGLE, COLON]) ++ LF :: chomp1 report := by
    simp [rawPara, hr]
  rw [e, this, recipLine_eq, squashAll_cons]
  simp

/-- `addbounce` writes: the recipient line, the report with every LF that follows an LF shown as
'/', and one empty line (two if the report ended in an empty line of its own) -/
theorem addbounceNamed_shape (name report : Bytes) :
    addbounceNamed name report =
      recipLine name ++ squashAll true (chomp1 report)
        ++ (if report = [] then [LF] else [LF, LF]) := by
  rw [addbounceNamed_form]
  by_cases hr : report = []
  · subst hr
    rw [scanned_nil, recipLine_eq]
    simp [chomp1, squashAll]
  · rw [scanned_cons name report hr]
    simp [hr]

theorem endSt_lffree (a : Bytes) (s : PSt) (hm : LF ∉ a) (hne : a ≠ []) : endSt s a = .mid := by
  induction a generalizing s with
  | nil => exact absurd rfl hne
  | cons c t ih =>
    have hc : c ≠ LF := fun h => hm (by simp [h])
    have ht : LF ∉ t := fun h => hm (by simp [h])
    cases t with
    | nil => cases s <;> simp [endSt, hc]
    | cons d u => cases s <;> simp [endSt, hc, ih .mid ht (by simp)]

/-- the paragraph a reader sees for one `addbounce` call -/
def paraCore (name report : Bytes) : Bytes :=
  if endSt .blank (squashAll false (rawPara name report)) = .bol
  then squashAll false (rawPara name report)
  else squashAll false (rawPara name report) ++ [LF]

theorem inPara_rawPara (name report : Bytes) :
    inPara .blank (squashAll false (rawPara name report)) = true := by
  unfold rawPara
  rw [squashAll_cons]
  simp [inPara, (inPara_squashAll _).1, LANGLE, LF]

theorem scanned_ne (name report : Bytes) :
    squashAll false (rawPara name report) ≠ [] := by
  unfold rawPara; rw [squashAll_cons]; simp

/-- **One call, one paragraph**, whatever follows in the file. -/
theorem paras_addbounceNamed (name report rest : Bytes) :
    paras .blank (addbounceNamed name report ++ rest) = paraCore name report :: paras .blank rest := by
  rw [addbounceNamed_form]
  have hin := inPara_rawPara name report
  have hne := scanned_ne name report
  obtain ⟨this, hend⟩ := paras_inPara (squashAll false (rawPara name report)) (LF :: LF :: rest) .blank hin (Or.inr hne)
  simp only [List.append_assoc, List.cons_append, List.nil_append]
  rw [this]
  unfold paraCore
  cases h : endSt .blank (squashAll false (rawPara name report)) with
  | blank => exact absurd h hend
  | bol => simp [paras, pprep]
  | mid => simp [paras, pprep, pcons]

theorem paras_bounceFile (es : Tables) (fails : List Fail) (rest : Bytes) :
    paras .blank (bounceFile es fails ++ rest)
      = fails.map (fun f => paraCore (nameOf es f.1 f.2.1) f.2.2) ++ paras .blank rest := by
  induction fails with
  | nil => simp [bounceFile]
  | cons f fs ih =>
    obtain ⟨fl, r, t⟩ := f
    simp only [bounceFile, addbounceText, List.append_assoc, paras_addbounceNamed, ih, List.map_cons, List.cons_append]

theorem addbounceNamed_core (name report : Bytes) :
    addbounceNamed name report = paraCore name report ++ [LF] ∨
    addbounceNamed name report = paraCore name report ++ [LF, LF] := by
  rw [addbounceNamed_form]
  unfold paraCore
  by_cases h : endSt .blank (squashAll false (rawPara name report)) = .bol
  · right; simp [h]
  · left; simp [h]

theorem paraCore_nil (name : Bytes) :
    paraCore name [] = recipLine name := by
  unfold paraCore
  rw [scanned_nil, recipLine_eq]
  have hm : LF ∉ LANGLE :: (shown name ++ [RANGLE, COLON]) := by
    intro h
    rw [List.mem_cons] at h
    cases h with
    | inl h => simp [LANGLE, LF] at h
    | inr h => exact lf_not_mem_hdr name h
  rw [endSt_lffree _ .blank hm (by simp)]
  simp

theorem recipLine_prefix_paraCore (name report : Bytes) :
    recipLine name <+: paraCore name report := by
  by_cases hr : report = []
  · subst hr; rw [paraCore_nil]; exact List.prefix_refl _
  · unfold paraCore
    rw [scanned_cons name report hr]
    split
    · exact ⟨_, rfl⟩
    · exact ⟨squashAll true (chomp1 report) ++ [LF], by simp⟩

theorem namedInOrder_cores (es : Tables) (fails : List Fail) :
    NamedInOrder es.locals es.vdoms fails (fails.map (fun f => paraCore (nameOf es f.1 f.2.1) f.2.2)) := by
  induction fails with
  | nil => simp [NamedInOrder]
  | cons f fs ih =>
    simp only [List.map_cons, NamedInOrder]
    refine ⟨?_, ih⟩
    rw [← nameOf_eq_named]
    exact recipLine_prefix_paraCore _ f.2.2

theorem paragraphs_bounceFile (es : Tables) (fails : List Fail) :
    paragraphs (bounceFile es fails) = fails.map (fun f => paraCore (nameOf es f.1 f.2.1) f.2.2) := by
  have := paras_bounceFile es fails []
  simpa [paragraphs, paras] using this

theorem domainOf_append (x a d : Bytes) (h : domainOf a = some d) : domainOf (x ++ a) = some d := by
  induction x with
  | nil => simpa using h
  | cons c t ih => simp [domainOf, ih]

theorem domainPart_append (x a d : Bytes) (h : domainPart a = some d) : domainPart (x ++ a) = some d := by
  rw [← domainOf_eq_domainPart] at h ⊢
  exact domainOf_append x a d h

theorem domainPart_prefixed (p a d : Bytes) (h : domainPart a = some d) : domainPart (p ++ 45 :: a) = some d :=
  domainPart_append p _ d (domainPart_append [45] a d h)

/-! ### control_readline = the documented first line -/

theorem firstLine_eq (f : Bytes) :
    firstLine f = f.takeWhile (· != LF) ++ (if LF ∈ f then [LF] else []) := by
  induction f with
  | nil => simp [firstLine]
  | cons c r ih =>
    by_cases hc : c = LF
    · simp [firstLine, hc]
    · have : (LF = c) = False := by simp; exact fun e => hc e.symm
      simp [firstLine, hc, ih, List.takeWhile_cons, this]

theorem stripTrail_snoc_lf (x : Bytes) : stripTrail (x ++ [LF]) = stripTrail x := by
  simp [stripTrail, isTrailWs]

theorem stripTrail_no_lf (x : Bytes) (h : LF ∉ x) : stripTrail x = rstripBlank x := rstripWs_lffree x h

theorem readline_eq_spec (f : Bytes) : readline f = specFirstLine f := by
  unfold readline specFirstLine
  rw [firstLine_eq]
  by_cases h : LF ∈ f
  · simp only [h, if_true, stripTrail_snoc_lf]
    exact stripTrail_no_lf _ (not_mem_takeWhile_ne LF f)
  · simp only [h, if_false, List.append_nil]
    exact stripTrail_no_lf _ (not_mem_takeWhile_ne LF f)

/-- `del_dochan` on a report with its delivery number and status byte in front: the text is cut so that the whole report
keeps to `REPORTMAX` bytes (one less where the explanation is appended) -/
theorem delReport_eq (dying : Bool) (n st : Byte) (text : Bytes) :
    delReport dying (n :: st :: text) =
      if st = 90 ∧ dying then some (text.take (Gen.REPORTMAX - 3) ++ dyingText)
      else if st = 68 then some (text.take (Gen.REPORTMAX - 2)) else none := by
  -- `delReport` takes `REPORTMAX` bytes of the report and looks at the first two or three: writing the constant as
  -- `k + 3` lets `List.take` unfold that far without evaluating `take 10000`
  obtain ⟨k, hk⟩ : ∃ k, Gen.REPORTMAX = k + 3 := ⟨Gen.REPORTMAX - 3, by decide⟩
  unfold delReport
  rw [hk]
  simp [List.take]

/-- The three ways a call of `injectbounce` ends: done, the notice that was due queued and the file gone; failed with
nothing queued; failed in `unlink`, after queueing.  `due = none`: no bounce file, or a sender with VERP base `#@[]`,
whose notice is discarded. -/
theorem inject_cases (cfg : Cfg) (date : Bytes) (id qp : Nat) (f : Fault) (sender : Bytes) (bounce : Option Bytes) (mess : Bytes) :
    let r := inject cfg date id qp f sender bounce mess
    let due := bounce.bind fun bf => bounceOf cfg date bf { sender := sender, rcpts := [], body := mess }
    (r.ret = true ∧ r.bounce = none ∧ r.queued = due) ∨
    (r.ret = false ∧ r.bounce = bounce ∧ r.queued = none ∧ f ≠ .none) ∨
    (r.ret = false ∧ r.bounce = bounce ∧ r.queued = due ∧ f = .unlink) := by
  intro r due
  -- `inject` is a cascade of tests `f = …`; `simp` evaluates it for each fault.  For a notice that is due (`due = some _`):
  -- no fault ends in the first disjunct, `.unlink` in the third, the eight others in the second.  For a discarded one and
  -- without a file `qmail_open` is never reached, so only `.info`/`.statErr` land in the second.
  cases bounce with
  | none => cases f <;> simp [r, due, inject]
  | some bf =>
    cases hb : bounceOf cfg date bf { sender := sender, rcpts := [], body := mess } <;> cases f <;>
      simp [r, due, inject, hb]

/-- the notice for a message whose sender has base address `b`: the bounce to `b`, or, if `b` is empty, the double bounce -/
def noticeTo (cfg : Cfg) (date bf b mess : Bytes) : Msg :=
  if b = [] then { sender := DBSENDER, rcpts := [cfg.doublebounceto],
                   body := preamble cfg date cfg.doublebounceto false ++ bf ++ trailer false [] mess }
  else { sender := [], rcpts := [b], body := preamble cfg date b true ++ bf ++ trailer true b mess }

theorem bounceOf_eq (cfg : Cfg) (date bf : Bytes) (m : Msg) :
    bounceOf cfg date bf m =
      if verpBase m.sender = DBSENDER then none else some (noticeTo cfg date bf (verpBase m.sender) m.body) := by
  unfold bounceOf decideBounce noticeTo
  by_cases h1 : verpBase m.sender = DBSENDER
  · simp [h1]
  · by_cases h2 : verpBase m.sender = []
    · simp [h2, DBSENDER]
    · simp [h1, h2]

theorem bounceOf_none_iff (cfg : Cfg) (date bf : Bytes) (m : Msg) :
    bounceOf cfg date bf m = none ↔ verpBase m.sender = DBSENDER := by
  rw [bounceOf_eq]; split <;> simp [*]

theorem noticeTo_body (cfg : Cfg) (date bf b mess : Bytes) :
    ∃ rcpt single base, (noticeTo cfg date bf b mess).body = preamble cfg date rcpt single ++ bf ++ trailer single base mess := by
  unfold noticeTo
  split
  · exact ⟨_, false, [], rfl⟩
  · exact ⟨b, true, b, rfl⟩

theorem bounceOf_body (cfg : Cfg) (date bf : Bytes) (m m' : Msg) (h : bounceOf cfg date bf m = some m') :
    ∃ rcpt single base, m'.body = preamble cfg date rcpt single ++ bf ++ trailer single base m.body := by
  rw [bounceOf_eq] at h
  split at h
  · cases h
  · cases h; exact noticeTo_body ..

theorem bounceOf_envelope (cfg : Cfg) (date bf : Bytes) (m m' : Msg) (h : bounceOf cfg date bf m = some m') :
    (verpBase m.sender ≠ [] ∧ m'.sender = [] ∧ m'.rcpts = [verpBase m.sender]) ∨
    (verpBase m.sender = [] ∧ m'.sender = DBSENDER ∧ m'.rcpts = [cfg.doublebounceto]) := by
  rw [bounceOf_eq] at h
  split at h
  · cases h
  · cases h
    unfold noticeTo
    split
    · exact Or.inr ⟨‹_›, rfl, rfl⟩
    · exact Or.inl ⟨‹_›, rfl, rfl⟩

theorem suffix_trailer (single : Bool) (base mess : Bytes) : mess <:+ trailer single base mess :=
  ⟨_, rfl⟩

end Nq.Lemmas.Bounce
