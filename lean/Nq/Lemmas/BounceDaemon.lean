/-
  Lemmas for C14 at daemon level: the history invariant `GInv` of the ghost layer
  `Nq.BounceDaemon` over the monitor `Nq.Daemon`, preserved by every accepted event; the
  characterisation of `last` on traces; `isInfix` facts; the bridge lemmas between
  `Nq.Bounce.inject` and the monitor's guards.
-/
import Nq.BounceDaemon
import Nq.Lemmas.DaemonMain
import Nq.Lemmas.Bounce
import Nq.Lemmas.Acceptor

namespace Nq.Lemmas.BD
open Nq Nq.Daemon Nq.BounceDaemon

/-! ### `isInfix` -/

theorem isInfix_iff (pat : Bytes) : ∀ (s : Bytes), isInfix pat s = true ↔ pat <:+: s
  | [] => by simp [isInfix]
  | c :: t => by
    rw [isInfix, Bool.or_eq_true, List.isPrefixOf_iff_prefix, isInfix_iff pat t, List.infix_cons_iff]

theorem isInfix_trans (a b c : Bytes) (h1 : isInfix a b = true) (h2 : isInfix b c = true) : isInfix a c = true :=
  (isInfix_iff a c).2 (((isInfix_iff a b).1 h1).trans ((isInfix_iff b c).1 h2))

theorem isInfix_append_right (p a b : Bytes) (h : isInfix p a = true) : isInfix p (a ++ b) = true :=
  (isInfix_iff p _).2 (((isInfix_iff p a).1 h).trans (List.prefix_append a b).isInfix)

/-! ### the part of a message's state the bounce record depends on -/

structure BV where
  todo : Bool
  accepted : Option (Bytes × List Bytes)
  info : Option Bytes
  bounce : Option Bytes
  noted : List (Ch × Nat)
  inFile : List (Ch × Nat)
  bounced : List (Ch × Nat)
  discarded : Bool
  lost : Bool
  lastInject : Bool
  lostRecs : List (Ch × Nat)

def bv (ms : MsgSt) : BV :=
  { todo := ms.todo.isSome, accepted := ms.accepted, info := ms.info, bounce := ms.bounce, noted := ms.noted, inFile := ms.inFile,
    bounced := ms.bounced, discarded := ms.discarded, lost := ms.lost, lastInject := ms.lastInject,
    lostRecs := ms.lostRecs }

/-- well-formedness of one recorded injection `x` of a message whose present state is `v` -/
structure SentOK (cfg : Cfg) (v : BV) (x : Sent) : Prop where
  inf : isInfix x.file x.body = true
  env : x.env = bounceEnvelope cfg x.sender
  notdb : x.sender ≠ Bounce.DBSENDER
  len : x.paras.length = x.parts.length
  sender : ∀ info, v.info = some info → x.sender = senderOf info
  acc : ∀ sd r, v.accepted = some (sd, r) → x.sender = sd
  /-- unless a machine crash intervened, the injected file was the concatenation of the appended texts -/
  intact : v.lost = false → x.parts ≠ [] ∧ x.file = fileOf x.parts
  /-- per record: the text appended for a record that is not among the crash-lost ones is in the file that was injected -/
  kept : ∀ pr ∈ List.zip x.paras x.parts, pr.1 ∉ v.lostRecs → isInfix pr.2 x.file = true

/-- the history invariant of one message -/
structure GMInv (cfg : Cfg) (v : BV) (gm : GMsg) : Prop where
  /-- while `todo/<m>` exists there is no bounce record and no history -/
  t0 : v.todo = true → v.bounce = none ∧ v.noted = [] ∧ v.inFile = [] ∧ v.bounced = [] ∧ v.lastInject = false ∧ gm = {}
  /-- every appended paragraph is in the file, in a committed bounce, or was discarded — counted with multiplicity -/
  c1 : ∀ x, v.noted.count x = v.inFile.count x + v.bounced.count x + gm.dropped.count x
  /-- the monitor's `bounced` is exactly what the committed injections carried -/
  c2 : v.bounced = (gm.committed.map (·.paras)).flatten
  /-- one recorded text per record of the current file; `SentOK.len` of an injection is this at its moment -/
  c3 : gm.parts.length = v.inFile.length
  /-- unless a machine crash intervened, the file is the concatenation of the appended texts -/
  c4 : v.lost = false → v.bounce = (if gm.parts = [] then none else some (fileOf gm.parts))
  /-- `lastInject` on an existing file: the recorded last injection is of exactly this file -/
  c5 : v.lastInject = true → v.bounce ≠ none →
        ∃ x, gm.last = some x ∧ v.bounce = some x.file ∧ x.paras = v.inFile ∧ x.parts = gm.parts
  /-- the recorded last injection is an attempt: `c6` speaks of it, and the unlink that commits it keeps `c6a` -/
  c5a : ∀ x, gm.last = some x → x ∈ gm.attempts
  /-- every successful injection made so far is well-formed against the present state of the message -/
  c6 : ∀ x ∈ gm.attempts, SentOK cfg v x
  /-- committed injections are attempts, so `c6` holds of them -/
  c6a : ∀ x ∈ gm.committed, x ∈ gm.attempts
  /-- paragraphs are dropped only with the bounce file of a `#@[]` message, which the monitor flags `discarded` -/
  c8 : gm.dropped ≠ [] → v.discarded = true
  /-- per record: the text appended for a record of the current file that is not among the crash-lost ones is in the file -/
  p1 : ∀ pr ∈ List.zip v.inFile gm.parts, pr.1 ∉ v.lostRecs → isInfix pr.2 (v.bounce.getD []) = true

def GInv (cfg : Cfg) (s : St) (g : Ghost) : Prop := ∀ k, GMInv cfg (bv (s.msg k)) (g k)

theorem gminv_empty (cfg : Cfg) (v : BV) (hb : v.bounce = none) (h1 : v.noted = []) (h2 : v.inFile = [])
    (h3 : v.bounced = []) (h4 : v.lastInject = false) : GMInv cfg v {} := by
  constructor
  case t0 => intro _; exact ⟨hb, h1, h2, h3, h4, rfl⟩
  case c1 => intro x; simp [h1, h2, h3]
  case c2 => simp [h3]
  case c3 => simp [h2]
  case c4 => intro _; simp [hb]
  case c5 => intro h; rw [h4] at h; cases h
  case c5a => intro x h; cases h
  case c6 => intro x h; cases h
  case c6a => intro x h; cases h
  case c8 => intro h; exact absurd rfl h
  case p1 => intro pr hpr; simp [h2] at hpr

theorem ginv_init (cfg : Cfg) : GInv cfg ginit.1 ginit.2 := by
  intro k
  show GMInv cfg (bv (({} : St).msg k)) {}
  rw [St.msg_empty]
  exact gminv_empty cfg _ rfl rfl rfl rfl rfl

/-- events in the `todo/<m>` context may rewrite `info/<m>` freely -/
theorem gminv_todo_ctx (cfg : Cfg) (v v' : BV) (gm : GMsg) (h : GMInv cfg v gm) (ht : v.todo = true)
    (e1 : v'.bounce = v.bounce) (e2 : v'.noted = v.noted) (e3 : v'.inFile = v.inFile)
    (e4 : v'.bounced = v.bounced) (e5 : v'.lastInject = v.lastInject) : GMInv cfg v' gm := by
  obtain ⟨a, b, c, d, e, f⟩ := h.t0 ht
  subst f
  exact gminv_empty cfg v' (by rw [e1]; exact a) (by rw [e2]; exact b) (by rw [e3]; exact c) (by rw [e4]; exact d)
    (by rw [e5]; exact e)

theorem gset_apply (g : Ghost) (m : Nat) (v : GMsg) (k : Nat) : gset g m v k = if k = m then v else g k := rfl

theorem gset_self (g : Ghost) (k : Nat) (v : GMsg) : gset g k v k = v := ite_upd_same g k v

theorem ginv_upd (cfg : Cfg) (s s' : St) (g g' : Ghost) (m : Nat) (ms' : MsgSt)
    (htab : s'.tab = tabSet s.tab m ms') (hg : ∀ k, k ≠ m → g' k = g k)
    (hinv : GInv cfg s g) (hm : GMInv cfg (bv ms') (g' m)) : GInv cfg s' g' := by
  intro k
  rw [DI.msg_upd_tab s s' m ms' htab k]
  by_cases hk : k = m
  · rw [if_pos hk, hk]; exact hm
  · rw [if_neg hk, hg k hk]; exact hinv k

theorem ginv_msg (cfg : Cfg) (s s' : St) (g : Ghost) (m : Nat) (ms' : MsgSt) (htab : s'.tab = tabSet s.tab m ms')
    (hinv : GInv cfg s g) (hm : GMInv cfg (bv ms') (g m)) : GInv cfg s' g :=
  ginv_upd cfg s s' g g m ms' htab (fun _ _ => rfl) hinv hm

theorem ginv_gset (cfg : Cfg) (s s' : St) (g : Ghost) (m : Nat) (ms' : MsgSt) (gm' : GMsg)
    (htab : s'.tab = tabSet s.tab m ms') (hinv : GInv cfg s g) (hm : GMInv cfg (bv ms') gm') :
    GInv cfg s' (gset g m gm') :=
  ginv_upd cfg s s' g _ m ms' htab (fun k => ite_upd_other g m k gm') hinv (by rw [gset_self]; exact hm)

theorem ginv_frame (cfg : Cfg) (s s' : St) (g : Ghost) (m : Nat) (ms' : MsgSt)
    (htab : s'.tab = tabSet s.tab m ms')
    (hinv : GInv cfg s g) (hbv : bv ms' = bv (s.msg m)) : GInv cfg s' g :=
  ginv_msg cfg s s' g m ms' htab hinv (by rw [hbv]; exact hinv m)

theorem ginv_same (cfg : Cfg) (s s' : St) (g : Ghost) (hmsg : ∀ k, bv (s'.msg k) = bv (s.msg k))
    (hinv : GInv cfg s g) : GInv cfg s' g := by
  intro k; rw [hmsg k]; exact hinv k

theorem ginv_todo (cfg : Cfg) (s s' : St) (g : Ghost) (m : Nat) (ms' : MsgSt)
    (htab : s'.tab = tabSet s.tab m ms')
    (hinv : GInv cfg s g) (ht : (s.msg m).todo.isSome = true)
    (e1 : ms'.bounce = (s.msg m).bounce) (e2 : ms'.noted = (s.msg m).noted)
    (e3 : ms'.inFile = (s.msg m).inFile) (e4 : ms'.bounced = (s.msg m).bounced)
    (e5 : ms'.lastInject = (s.msg m).lastInject) : GInv cfg s' g :=
  ginv_msg cfg s s' g m ms' htab hinv
    (gminv_todo_ctx cfg (bv (s.msg m)) (bv ms') (g m) (hinv m) ht e1 e2 e3 e4 e5)

theorem bv_setChan (ms : MsgSt) (c : Ch) (v : Option (List Rec)) : bv (ms.setChan c v) = bv ms := by
  cases c <;> rfl
theorem bv_setChanSynced (ms : MsgSt) (c : Ch) (v : Bool) : bv (ms.setChanSynced c v) = bv ms := by
  cases c <;> rfl

theorem bv_feedReports (cfg : Cfg) (c : Ch) (bs : Bytes) (s : St) (k : Nat) :
    bv ((feedReports cfg s c bs).msg k) = bv (s.msg k) := by
  obtain ⟨xs, h, _⟩ := (DI.feedReports_fed cfg c bs s).msg k
  rw [h]; rfl

/-! ### per-event preservation (on the bounce view) -/

theorem sentOK_mono (cfg : Cfg) (v v' : BV) (l : List Sent) (hl : ∀ x ∈ l, SentOK cfg v x)
    (hinfo : v'.info = v.info ∨ v'.info = none) (hlost : v'.lost = false → v.lost = false)
    (hacc : v'.accepted = v.accepted := by rfl)
    (hlr : ∀ r, r ∈ v.lostRecs → r ∈ v'.lostRecs := by intro r h; exact h) : ∀ x ∈ l, SentOK cfg v' x := by
  intro x hx
  have h := hl x hx
  refine ⟨h.inf, h.env, h.notdb, h.len, ?_, fun sd r ha => h.acc sd r (by rw [← hacc]; exact ha), fun hl => h.intact (hlost hl),
    fun pr hpr hn => h.kept pr hpr (fun hm => hn (hlr _ hm))⟩
  intro info hi
  rcases hinfo with e | e
  · exact h.sender info (by rw [← e]; exact hi)
  · rw [e] at hi; cases hi

theorem fileOf_cons (bs : Bytes) (parts : List Bytes) : fileOf (bs :: parts) = fileOf parts ++ bs := by
  simp [fileOf]

theorem gminv_append (cfg : Cfg) (v : BV) (gm : GMsg) (a : Ch × Nat) (bs : Bytes) (h : GMInv cfg v gm)
    (ht : v.todo = false) :
    GMInv cfg { v with bounce := some (v.bounce.getD [] ++ bs), noted := a :: v.noted, inFile := a :: v.inFile, lastInject := false }
      { gm with parts := bs :: gm.parts, last := none } :=
  { h with
    t0 := fun h' => by simp [ht] at h'
    c1 := fun x => by
      have := h.c1 x
      simp only [List.count_cons]
      omega
    c3 := by simp [h.c3]
    c4 := fun hl => by
      have h4 := h.c4 hl
      simp only [List.cons_ne_nil, if_false]
      rw [fileOf_cons]
      by_cases hp : gm.parts = []
      · simp [hp] at h4; simp [h4, hp, fileOf]
      · simp [hp] at h4; simp [h4]
    c5 := fun h' => by simp at h'
    c5a := fun x h' => by simp at h'
    c6 := sentOK_mono cfg v _ _ h.c6 (Or.inl rfl) (fun hl => hl)
    p1 := fun pr hpr hn => by
      simp only [List.zip_cons_cons, List.mem_cons] at hpr
      simp only [Option.getD_some]
      rcases hpr with rfl | hpr
      · exact (isInfix_iff _ _).2 (List.suffix_append _ _).isInfix
      · exact isInfix_append_right _ _ _ (h.p1 pr hpr hn) }

theorem gminv_inject_fail (cfg : Cfg) (v : BV) (gm : GMsg) (h : GMInv cfg v gm) (ht : v.todo = false) :
    GMInv cfg { v with lastInject := false } { gm with last := none } :=
  { h with
    t0 := fun h' => by simp [ht] at h'
    c5 := fun h' => by simp at h'
    c5a := fun x h' => by simp at h'
    c6 := sentOK_mono cfg v _ _ h.c6 (Or.inl rfl) (fun hl => hl) }

theorem gminv_inject_ok (cfg : Cfg) (v : BV) (gm : GMsg) (info file env body : Bytes) (h : GMInv cfg v gm)
    (ht : v.todo = false) (hi : v.info = some info) (hb : v.bounce = some file)
    (hdb : senderOf info ≠ Bounce.DBSENDER) (hinf : isInfix file body = true) (henv : env = bounceEnvelope cfg (senderOf info))
    (hacc : ∀ sd r, v.accepted = some (sd, r) → senderOf info = sd)
    (x : Sent) (hx : x = ⟨senderOf (v.info.getD []), env, body, v.bounce.getD [], v.inFile, gm.parts⟩) :
    GMInv cfg { v with lastInject := true } { gm with last := some x, attempts := x :: gm.attempts } := by
  have hsnt : SentOK cfg v x := by
    subst hx
    refine ⟨by simp [hb, hinf], by simp [hi, henv], by simp [hi, hdb], by simp [h.c3], ?_, ?_, ?_, ?_⟩
    · intro info' hi'; rw [hi] at hi'; cases hi'; simp [hi]
    · intro sd r ha; simp only [hi, Option.getD_some]; exact hacc sd r ha
    · intro hl
      have h4 := h.c4 hl
      rw [hb] at h4
      by_cases hp : gm.parts = []
      · simp [hp] at h4
      · simp [hp] at h4; exact ⟨hp, by simp [hb, h4]⟩
    · exact h.p1
  exact { h with
    t0 := fun h' => by simp [ht] at h'
    c5 := fun _ _ => by subst hx; exact ⟨_, rfl, by simp [hb], rfl, rfl⟩
    c5a := fun x hx => by simp only [Option.some.injEq] at hx; subst hx; exact List.mem_cons_self
    c6 := sentOK_mono cfg v _ _ (List.forall_mem_cons.2 ⟨hsnt, h.c6⟩) (Or.inl rfl) (fun hl => hl)
    c6a := fun x hx => List.mem_cons_of_mem _ (h.c6a x hx) }

theorem gminv_unlink_discard (cfg : Cfg) (v : BV) (gm : GMsg) (h : GMInv cfg v gm) (ht : v.todo = false) :
    GMInv cfg { v with bounce := none, inFile := [], discarded := true }
      { gm with parts := [], last := none, dropped := v.inFile ++ gm.dropped } :=
  { h with
    t0 := fun h' => by simp [ht] at h'
    c1 := fun x => by
      have := h.c1 x
      simp only [List.count_append, List.count_nil]
      omega
    c3 := rfl
    c4 := fun _ => rfl
    c5 := fun _ h' => absurd rfl h'
    c5a := fun x h' => by simp at h'
    c6 := sentOK_mono cfg v _ _ h.c6 (Or.inl rfl) (fun hl => hl)
    c8 := fun _ => rfl
    p1 := fun pr hpr => by simp at hpr }

theorem gminv_unlink_ok (cfg : Cfg) (v : BV) (gm : GMsg) (h : GMInv cfg v gm) (ht : v.todo = false)
    (hl : v.lastInject = true) (hb : v.bounce ≠ none) :
    GMInv cfg { v with bounce := none, bounced := v.inFile ++ v.bounced, inFile := [] }
      { gm with parts := [], last := none, committed := gm.last.toList ++ gm.committed } := by
  obtain ⟨x, hx, _, hp, _⟩ := h.c5 hl hb
  exact { h with
    t0 := fun h' => by simp [ht] at h'
    c1 := fun y => by
      have := h.c1 y
      simp only [List.count_append, List.count_nil]
      omega
    c2 := by simp [hx, hp, h.c2]
    c3 := rfl
    c4 := fun _ => rfl
    c5 := fun _ h' => absurd rfl h'
    c5a := fun y h' => by simp at h'
    c6 := sentOK_mono cfg v _ _ h.c6 (Or.inl rfl) (fun hl => hl)
    c6a := fun y hy => by
      simp only [hx, Option.toList, List.cons_append, List.nil_append, List.mem_cons] at hy
      rcases hy with rfl | hy
      · exact h.c5a _ hx
      · exact h.c6a y hy
    p1 := fun pr hpr => by simp at hpr }

theorem gminv_crash (cfg : Cfg) (v : BV) (gm : GMsg) (content : Bytes) (h : GMInv cfg v gm) (ht : v.todo = false) :
    GMInv cfg { v with bounce := some content, lost := true, lastInject := false,
                       lostRecs := (if (v.bounce.getD []).isPrefixOf content then [] else v.inFile) ++ v.lostRecs }
      { gm with last := none } :=
  { h with
    t0 := fun h' => by simp [ht] at h'
    c4 := fun h' => by simp at h'
    c5 := fun h' => by simp at h'
    c5a := fun x h' => by simp at h'
    c6 := sentOK_mono cfg v _ _ h.c6 (Or.inl rfl) (fun hl => by simp at hl) rfl (fun r hr => List.mem_append_right _ hr)
    p1 := fun pr hpr hn => by
      simp only [Option.getD_some]
      by_cases hp : (v.bounce.getD []).isPrefixOf content = true
      · simp only [hp, if_true, List.nil_append] at hn
        obtain ⟨rest, hrest⟩ := List.isPrefixOf_iff_prefix.1 hp
        rw [← hrest]
        exact isInfix_append_right _ _ _ (h.p1 pr hpr hn)
      · exfalso
        simp only [hp, if_false] at hn
        exact hn (List.mem_append_left _ (List.of_mem_zip hpr).1) }

theorem gminv_info_none (cfg : Cfg) (v : BV) (gm : GMsg) (h : GMInv cfg v gm) :
    GMInv cfg { v with info := none } gm :=
  { h with c6 := sentOK_mono cfg v _ _ h.c6 (Or.inr rfl) (fun hl => hl) }

theorem gminv_todo_done (cfg : Cfg) (v : BV) (gm : GMsg) (h : GMInv cfg v gm) (ht : v.todo = true) :
    GMInv cfg { v with todo := false, noted := [], inFile := [], bounced := [] } gm := by
  obtain ⟨a, _, _, _, e, f⟩ := h.t0 ht
  subst f
  exact gminv_empty cfg _ a rfl rfl rfl e

/-! ### every accepted event preserves the history invariant -/

theorem senderOf_info (sender : Bytes) : senderOf (70 :: sender ++ [0]) = sender := by
  simp [senderOf]

/-- `senderOf_info` as the monitor spells `senderOf` out -/
theorem senderOf_info' (sender : Bytes) : ((70 :: sender ++ [0] : Bytes).drop 1).dropLast = sender := senderOf_info sender

theorem todo_false_of_isNone (ms : MsgSt) (h : ms.todo.isNone = true) : (bv ms).todo = false := by
  show ms.todo.isSome = false
  cases ht : ms.todo with
  | none => rfl
  | some x => simp [ht] at h

theorem gstep_inv_core (cfg : Cfg) (s s' : St) (g : Ghost) (e : Ev) (hI : Nq.Lemmas.DI.Inv cfg s) (hG : GInv cfg s g)
    (hacc : acceptCore cfg s e = some s') : GInv cfg s' (gstep s g e) := by
  cases DI.acceptCore_step cfg s s' e hacc with
  | utimes => exact hG
  | tick | restart | cleanResp | cmd | cleanReqTodo | cleanReqFoop => exact ginv_same cfg s _ g (fun _ => rfl) hG
  | rbytes c bs => exact ginv_same cfg s _ g (fun k => by rw [bv_feedReports]; rfl) hG
  | creatInfo m _ ht | writeInfo m _ _ _ _ ht | fsyncInfo m _ ht | crashTodoFiles m _ _ _ ht =>
    exact ginv_todo cfg s _ g m _ rfl hG ht rfl rfl rfl rfl rfl
  | creatChan m c | writeChan m c =>
    exact ginv_frame cfg s _ g m _ rfl hG (by rw [bv_setChanSynced, bv_setChan])
  | fsyncChan m c => exact ginv_frame cfg s _ g m _ rfl hG (bv_setChanSynced _ c true)
  | unlinkChan m c | markD m c | crashMarks m c =>
    exact ginv_frame cfg s _ g m _ rfl hG (bv_setChan _ c _)
  | cUnlinkIntd m | cUnlinkMess m => exact ginv_frame cfg s _ g m _ rfl hG rfl
  | unlinkInfo m =>
    exact ginv_msg cfg s _ g m _ rfl hG (gminv_info_none cfg _ _ (hG m))
  | cUnlinkTodo m hcl =>
    obtain ⟨sd, rc, htd, _⟩ := hI.ready m hcl
    have ht : (bv (s.msg m)).todo = true := Option.isSome_of_eq_some htd
    exact ginv_msg cfg s _ g m _ rfl hG (gminv_todo_done cfg _ _ (hG m) ht)
  | newmsg m sender rcpts =>
    exact ginv_gset cfg s _ g m _ _ rfl hG (gminv_empty cfg _ rfl rfl rfl rfl rfl)
  | appendBounce m bs n _ _ hg =>
    exact ginv_gset cfg s _ g m _ _ rfl hG
      (gminv_append cfg _ _ (n.c, n.idx) bs (hG m) (todo_false_of_isNone _ hg.1))
  | crashBounce m content _ _ _ hg =>
    have ht : (bv (s.msg m)).todo = false := by
      cases htd : (bv (s.msg m)).todo with
      | false => rfl
      | true =>
        -- while `todo/<m>` exists there is no bounce file, and the guard's other disjunct needs `todo` gone
        have hb' : (s.msg m).bounce = none := ((hG m).t0 htd).1
        have htd' : (s.msg m).todo.isSome = true := htd
        rcases hg with h1 | h1
        · rw [hb'] at h1; cases h1
        · rw [Option.isNone_iff_eq_none.1 h1.1] at htd'; cases htd'
    exact ginv_gset cfg s _ g m _ _ rfl hG (gminv_crash cfg _ _ content (hG m) ht)
  | bounceInject m ok env body info file _ hinfo hfile hg =>
    have ht := todo_false_of_isNone _ hg.1
    cases ok with
    | false =>
      exact ginv_gset cfg s _ g m _ _ rfl hG (gminv_inject_fail cfg _ _ (hG m) ht)
    | true =>
      have h5 := hg.2.2.2.2 rfl
      have hacc : ∀ sd r, (bv (s.msg m)).accepted = some (sd, r) → senderOf info = sd :=
        fun sd r ha => (hI.msgs m).sender (Option.isNone_iff_eq_none.1 hg.1) ha hinfo
      exact ginv_gset cfg s _ g m _ _ rfl hG
        (gminv_inject_ok cfg _ _ info file env body (hG m) ht hinfo hfile hg.2.2.2.1 h5.1 h5.2 hacc _ rfl)
  | unlinkBounceDiscard m info file _ hinfo _ hg hs =>
    have hsd : senderOf ((s.msg m).info.getD []) = Bounce.DBSENDER := by rw [hinfo]; exact hs
    simp only [gstep, if_pos hsd]
    exact ginv_gset cfg s _ g m _ _ rfl hG
      (gminv_unlink_discard cfg _ _ (hG m) (todo_false_of_isNone _ hg.1))
  | unlinkBounceOk m info file _ hinfo hfile hg hs hl =>
    have hsd : ¬ senderOf ((s.msg m).info.getD []) = Bounce.DBSENDER := by rw [hinfo]; exact hs
    simp only [gstep, if_neg hsd]
    exact ginv_gset cfg s _ g m _ _ rfl hG
      (gminv_unlink_ok cfg _ _ (hG m) (todo_false_of_isNone _ hg.1) hl (Option.ne_none_iff_exists'.2 ⟨file, hfile⟩))

/-- the history step reads the files only: it does not see the crash mode -/
theorem gstep_before (s : St) (g : Ghost) (e : Ev) : gstep (s.before e) g e = gstep s g e := by
  unfold St.before
  split
  · rfl
  · cases e <;> rfl

theorem gstep_inv (cfg : Cfg) (s s' : St) (g : Ghost) (e : Ev) (hI : Nq.Lemmas.DI.Inv cfg s) (hG : GInv cfg s g)
    (hacc : accept cfg s e = some s') : GInv cfg s' (gstep s g e) := by
  rw [← gstep_before]
  exact gstep_inv_core cfg (s.before e) s' g e (Nq.Lemmas.DI.inv_before cfg s e hI)
    (ginv_same cfg s _ g (fun k => by rw [St.before_msg]) hG) hacc

/-! ### reachability -/

/-- reachable, with its history, from the empty queue -/
def GReach (cfg : Cfg) (s : St) (g : Ghost) : Prop := ∃ evs, gacceptAll cfg ginit evs = some (s, g)

theorem gacceptAll_eq (cfg : Cfg) (evs : List Ev) (sg : St × Ghost) :
    gacceptAll cfg sg evs = evs.foldlM (gaccept cfg) sg :=
  Acceptor.eq_foldlM (fun _ => rfl) (fun sg e es => by rw [gacceptAll]; cases gaccept cfg sg e <;> rfl) evs sg

theorem gaccept_eq (cfg : Cfg) (sg : St × Ghost) (e : Ev) :
    gaccept cfg sg e = (accept cfg sg.1 e).map fun s' => (s', gstep sg.1 sg.2 e) := by
  unfold gaccept; cases accept cfg sg.1 e <;> rfl

theorem gaccept_some {cfg : Cfg} {sg sg' : St × Ghost} {e : Ev} (h : gaccept cfg sg e = some sg') :
    accept cfg sg.1 e = some sg'.1 ∧ sg'.2 = gstep sg.1 sg.2 e := by
  rw [gaccept_eq] at h
  cases ha : accept cfg sg.1 e with
  | none => rw [ha] at h; cases h
  | some s1 => rw [ha] at h; cases h; exact ⟨rfl, rfl⟩

/-- the history layer refuses nothing and changes nothing: its run is the monitor's, with the history carried along -/
theorem gacceptAll_fst (cfg : Cfg) (evs : List Ev) (s : St) (g : Ghost) :
    (gacceptAll cfg (s, g) evs).map (·.1) = acceptAll cfg s evs := by
  rw [gacceptAll_eq, DI.acceptAll_eq]
  exact Acceptor.foldlM_fst (gaccept_eq cfg) evs (s, g)

theorem greach_inv (cfg : Cfg) (s : St) (g : Ghost) (h : GReach cfg s g) : Nq.Lemmas.DI.Inv cfg s ∧ GInv cfg s g := by
  obtain ⟨evs, h⟩ := h
  rw [gacceptAll_eq] at h
  refine Acceptor.foldlM_induct (fun sg : St × Ghost => Nq.Lemmas.DI.Inv cfg sg.1 ∧ GInv cfg sg.1 sg.2) ?_ evs ginit (s, g)
    ⟨Nq.Lemmas.DI.inv_init cfg, ginv_init cfg⟩ h
  intro sg e sg' hP hs
  obtain ⟨ha, hg⟩ := gaccept_some hs
  rw [hg]
  exact ⟨DI.step_inv cfg _ _ e hP.1 ha, gstep_inv cfg _ _ _ e hP.1 hP.2 ha⟩

/-! ### what `last = some x` means on the trace -/

theorem gset_ne (g : Ghost) (k m : Nat) (v : GMsg) (h : (k == m) = false) : gset g k v m = g m :=
  ite_upd_other g k m v (Ne.symm (ne_of_beq_false h))

theorem gstep_other (s : St) (g : Ghost) (e : Ev) (m : Nat) (h : bounceEvent m e = false) : gstep s g e m = g m := by
  cases e with
  | newmsg k | appendBounce k | crashBounce k => exact gset_ne g k m _ h
  | bounceInject k ok => cases ok <;> exact gset_ne g k m _ h
  | unlinkBounce k => simp only [gstep]; split <;> exact gset_ne g k m _ h
  | _ => rfl

theorem gstep_last (s : St) (g : Ghost) (e : Ev) (m : Nat) (x : Sent) (hb : bounceEvent m e = true)
    (hl : (gstep s g e m).last = some x) :
    e = .bounceInject m true x.env x.body ∧ x.file = (s.msg m).bounce.getD [] ∧ x.paras = (s.msg m).inFile := by
  cases e with
  | newmsg k | appendBounce k | crashBounce k =>
    cases eq_of_beq hb
    simp only [gstep, gset_self] at hl
    cases hl
  | unlinkBounce k =>
    cases eq_of_beq hb
    simp only [gstep] at hl
    split at hl <;> rw [gset_self] at hl <;> cases hl
  | bounceInject k ok env body =>
    cases eq_of_beq hb
    cases ok with
    | false => simp only [gstep, Bool.false_eq_true, ↓reduceIte, gset_self] at hl; cases hl
    | true =>
      simp only [gstep, ↓reduceIte, gset_self, Option.some.injEq] at hl
      subst hl
      exact ⟨rfl, rfl, rfl⟩
  | _ => cases hb

theorem last_trace (cfg : Cfg) (m : Nat) (x : Sent) (evs : List Ev) (s0 : St) (g0 : Ghost) (s : St) (g : Ghost)
    (h : gacceptAll cfg (s0, g0) evs = some (s, g)) (hl : (g m).last = some x) :
    ((g0 m).last = some x ∧ evs.all (fun e => !bounceEvent m e) = true) ∨
    ∃ pre post s1 g1, evs = pre ++ Ev.bounceInject m true x.env x.body :: post ∧
      gacceptAll cfg (s0, g0) pre = some (s1, g1) ∧ (accept cfg s1 (Ev.bounceInject m true x.env x.body)).isSome = true ∧
      x.file = (s1.msg m).bounce.getD [] ∧ x.paras = (s1.msg m).inFile ∧
      post.all (fun e => !bounceEvent m e) = true := by
  rw [gacceptAll_eq] at h
  have hstep : ∀ sg e sg', gaccept cfg sg e = some sg' → (sg'.2 m).last = some x →
      (e = .bounceInject m true x.env x.body ∧ (accept cfg sg.1 e).isSome = true ∧
        x.file = (sg.1.msg m).bounce.getD [] ∧ x.paras = (sg.1.msg m).inFile) ∨
      ((!bounceEvent m e) = true ∧ (sg.2 m).last = some x) := by
    intro sg e sg' hs hp
    obtain ⟨ha, hg⟩ := gaccept_some hs
    rw [hg] at hp
    cases hb : bounceEvent m e with
    | false => exact Or.inr ⟨rfl, by rw [← gstep_other sg.1 sg.2 e m hb]; exact hp⟩
    | true =>
      obtain ⟨he, hf, hpar⟩ := gstep_last sg.1 sg.2 e m x hb hp
      exact Or.inl ⟨he, by rw [ha]; rfl, hf, hpar⟩
  rcases Acceptor.foldlM_origin _ _ _ hstep evs (s0, g0) (s, g) h hl with
    h1 | ⟨pre, e, post, ⟨s1, g1⟩, h1, h2, ⟨rfl, h3, h4, h5⟩, h6⟩
  · exact Or.inl h1
  · exact Or.inr ⟨pre, post, s1, g1, h1, by rw [gacceptAll_eq]; exact h2, h3, h4, h5, h6⟩

theorem inject_bounce_some (cfg : Cfg) (s : St) (m : Nat) (ok : Bool) (env body : Bytes)
    (h : (accept cfg s (.bounceInject m ok env body)).isSome = true) : ∃ f, (s.msg m).bounce = some f := by
  obtain ⟨s', ha⟩ := Option.isSome_iff_exists.1 h
  cases DI.accept_step ha with
  | bounceInject _ _ _ _ info file _ _ hfile => exact ⟨file, hfile⟩

theorem unlink_refused (cfg : Cfg) (s : St) (m : Nat) (info : Bytes) (hi : (s.msg m).info = some info)
    (hs : senderOf info ≠ Bounce.DBSENDER) (hl : (s.msg m).lastInject = false) : accept cfg s (.unlinkBounce m) = none := by
  cases hu : accept cfg s (.unlinkBounce m) with
  | none => rfl
  | some s' =>
    cases DI.accept_step hu with
    | unlinkBounceDiscard _ info' _ _ hinfo _ _ hs' =>
      cases hi.symm.trans hinfo
      exact absurd hs' hs
    | unlinkBounceOk _ _ _ _ _ _ _ _ hl' => exact absurd (hl.symm.trans hl') Bool.false_ne_true

/-! ### bridge between `Nq.Bounce.inject` and the monitor's guards -/

theorem bounceEnvelope_eq (cfg : Cfg) (sender : Bytes) :
    bounceEnvelope cfg sender =
      if (Bounce.verpBase sender).isEmpty then [70, 35, 64, 91, 93, 0, 84] ++ cfg.doublebounceto ++ [0]
      else [70, 0, 84] ++ Bounce.verpBase sender ++ [0] := by
  -- the monitor spells the test for the suffix `Bounce.VERPSUF` out
  have hc : (sender.length ≥ 4 ∧ (sender.drop (sender.length - 4) == [45, 64, 91, 93]) = true) ↔
      Bounce.VERPSUF.isSuffixOf sender = true := (isSuffixOf_iff_drop Bounce.VERPSUF sender).symm
  unfold bounceEnvelope Bounce.verpBase
  simp only [hc]

theorem verpBase_db : Bounce.verpBase Bounce.DBSENDER = Bounce.DBSENDER := by decide

/-- What `injectbounce` queues passes the monitor's guard for `.bounceInject m true env body`; the three conjuncts
are that guard (`injectGuard_iff`). -/
theorem bounceOf_guard (dcfg : Cfg) (bcfg : Bounce.Cfg) (hdb : dcfg.doublebounceto = bcfg.doublebounceto)
    (date bf sender mess : Bytes) (rc : List Bytes) (q : Bounce.Msg)
    (h : Bounce.bounceOf bcfg date bf { sender := sender, rcpts := rc, body := mess } = some q) :
    sender ≠ Bounce.DBSENDER ∧ isInfix bf q.body = true ∧ envBytes q = bounceEnvelope dcfg sender := by
  refine ⟨fun he => ?_, ?_, ?_⟩
  · subst he
    cases h.symm.trans ((Nq.Lemmas.Bounce.bounceOf_none_iff ..).2 verpBase_db)
  · obtain ⟨r, sg, b, hb⟩ := Nq.Lemmas.Bounce.bounceOf_body bcfg date bf _ q h
    rw [hb]; exact (isInfix_iff _ _).2 ⟨_, _, rfl⟩
  · rw [bounceEnvelope_eq]
    rcases Nq.Lemmas.Bounce.bounceOf_envelope bcfg date bf _ q h with ⟨h2, hs, hr⟩ | ⟨h2, hs, hr⟩ <;>
      simp [envBytes, h2, hs, hr, hdb, Bounce.DBSENDER]

theorem injectGuard_iff (cfg : Cfg) (sender file env body : Bytes) :
    injectGuard cfg sender file env body = true ↔
      (sender ≠ Bounce.DBSENDER ∧ (isInfix file body = true ∧ env = bounceEnvelope cfg sender)) := by
  simp [injectGuard, Bounce.DBSENDER, and_assoc]

/-- the monitor state in which qmail-send calls `injectbounce(m)`: preprocessing done, both channel
files gone, `info/<m>` holds the envelope sender, `bounce/<m>` exists -/
structure InjReady (s : St) (m : Nat) (sender bf : Bytes) : Prop where
  clean : s.clean = none
  todo : (s.msg m).todo = none
  loc : (s.msg m).loc = none
  rem : (s.msg m).rem = none
  info : (s.msg m).info = some (70 :: sender ++ [0])
  bounce : (s.msg m).bounce = some bf

theorem acc_inject (cfg : Cfg) (s : St) (m : Nat) (sender bf env body : Bytes) (ok : Bool) (h : InjReady s m sender bf)
    (hne : sender ≠ Bounce.DBSENDER) (hg : ok = true → (isInfix bf body = true ∧ env = bounceEnvelope cfg sender)) :
    ∃ s', accept cfg s (.bounceInject m ok env body) = some s' ∧ InjReady s' m sender bf ∧ (s'.msg m).lastInject = ok := by
  have hne' : ¬ sender = [35, 64, 91, 93] := hne   -- the monitor's guard spells `Bounce.DBSENDER` out
  rw [accept_calm cfg s _ rfl]
  simp only [acceptCore, St.calm_clean, St.calm_msg, h.clean, h.info, h.bounce, h.todo, h.loc, h.rem, senderOf_info']
  rw [if_neg (by simp), if_pos ⟨rfl, rfl, rfl, hne', hg⟩]
  have hm : (s.calm.upd m fun ms => { ms with lastInject := ok }).msg m = { s.msg m with lastInject := ok } := by
    rw [St.msg_upd_self, St.calm_msg]
  exact ⟨_, rfl, ⟨h.clean, by rw [hm]; exact h.todo, by rw [hm]; exact h.loc, by rw [hm]; exact h.rem, by rw [hm]; exact h.info,
    by rw [hm]; exact h.bounce⟩, by rw [hm]⟩

theorem acc_unlink (cfg : Cfg) (s : St) (m : Nat) (sender bf : Bytes) (h : InjReady s m sender bf)
    (hl : sender = Bounce.DBSENDER ∨ (s.msg m).lastInject = true) :
    ∃ s', accept cfg s (.unlinkBounce m) = some s' ∧ (s'.msg m).bounce = none := by
  rw [accept_calm cfg s _ rfl]
  simp only [acceptCore, St.calm_clean, St.calm_msg, h.clean, h.info, h.bounce, h.todo, h.loc, h.rem, senderOf_info']
  rw [if_neg (by simp), if_pos ⟨rfl, rfl, rfl⟩]
  by_cases hs : sender = [35, 64, 91, 93]
  · rw [if_pos hs]; exact ⟨_, rfl, by rw [St.msg_upd_self]⟩
  · simp only [if_neg hs, hl.resolve_left hs, ↓reduceIte]; exact ⟨_, rfl, by rw [St.msg_upd_self]⟩

/-- **Every behaviour of `injectbounce` is accepted by the monitor** (the fault-free call and all nine fault
points of `Bounce.Fault`; all sender forms except, by `hv`, a sender that is not `#@[]` itself but whose VERP base is:
`Nq.Props.C14.C14_daemon_verp_discard_gap` shows what happens there): the events of the call are accepted from every
state in which qmail-send makes the call, and afterwards the monitor's `bounce/<m>` is the model's. -/
theorem inject_accepted (dcfg : Cfg) (bcfg : Bounce.Cfg) (hdb : dcfg.doublebounceto = bcfg.doublebounceto)
    (date : Bytes) (m qp : Nat) (f : Bounce.Fault) (sender bf mess : Bytes) (s : St) (h : InjReady s m sender bf)
    (hv : Bounce.verpBase sender = Bounce.DBSENDER → sender = Bounce.DBSENDER) :
    ∃ s', acceptAll dcfg s (injectEvents m f sender (some bf) (Bounce.inject bcfg date m qp f sender (some bf) mess)) = some s' ∧
      (s'.msg m).bounce = (Bounce.inject bcfg date m qp f sender (some bf) mess).bounce := by
  -- the three endings of the call: done / failed with nothing queued / `unlink` failed after queueing
  have hc := Nq.Lemmas.Bounce.inject_cases bcfg date m qp f sender (some bf) mess
  dsimp only [Option.bind_some] at hc   -- puts the two `let`s of that statement in
  generalize Bounce.inject bcfg date m qp f sender (some bf) mess = r at hc ⊢
  cases hq : Bounce.bounceOf bcfg date bf { sender := sender, rcpts := [], body := mess } with
  | none =>
    have hs : sender = Bounce.DBSENDER := hv ((Nq.Lemmas.Bounce.bounceOf_none_iff bcfg date bf _).1 hq)
    subst hs
    have hd : Bounce.decideBounce Bounce.DBSENDER = .discard := by decide
    obtain ⟨s2, a2, b2⟩ := acc_unlink dcfg s m _ bf h (.inl rfl)
    rw [hq] at hc
    -- a `#@[]` message: nothing is ever queued and (`hd`) no failed injection is shown either
    obtain ⟨_, hb, hn⟩ | ⟨_, hb, hn, _⟩ | ⟨_, hb, hn, _⟩ := hc
    · -- done: the one event is the unlink that discards the file
      simp [injectEvents, hb, hn, hd, acceptAll, a2, b2]
    · -- failed before the unlink: no event, the file stays
      simp [injectEvents, hb, hn, hd, acceptAll, h.bounce]
    · -- `unlink` failed: no event, the file stays
      simp [injectEvents, hb, hn, hd, acceptAll, h.bounce]
  | some q =>
    obtain ⟨hne, hinf, henv⟩ := bounceOf_guard dcfg bcfg hdb date bf sender mess [] q hq
    obtain ⟨s1, a1, r1, l1⟩ := acc_inject dcfg s m sender bf (envBytes q) q.body true h hne (fun _ => ⟨hinf, henv⟩)
    obtain ⟨s0, a0, r0, _⟩ := acc_inject dcfg s m sender bf [] [] false h hne (fun hh => by cases hh)
    obtain ⟨s2, a2, b2⟩ := acc_unlink dcfg s1 m sender bf r1 (.inr l1)
    rw [hq] at hc
    obtain ⟨_, hb, hn⟩ | ⟨_, hb, hn, _⟩ | ⟨_, hb, hn, _⟩ := hc
    · -- done: a successful injection, then the unlink
      simp [injectEvents, hb, hn, acceptAll, a1, a2, b2]
    · -- nothing queued: one failed injection if `qmail_close` was reached (`closeFails`), else no event; the file stays
      by_cases hcf : closeFails f = true ∧ Bounce.decideBounce sender ≠ .discard <;>
        simp [injectEvents, hb, hn, hcf, acceptAll, a0, r0.bounce, h.bounce]
    · -- `unlink` failed after queueing: the successful injection alone; the file stays
      simp [injectEvents, hb, hn, acceptAll, a1, r1.bounce]

end Nq.Lemmas.BD
