/-
  `Nq.BounceQq` (C14): the sticky error flag of qmail.c under injectbounce()'s calls; closed form of `injectQq`.
-/
import Nq.BounceQq

namespace Nq.Lemmas.BounceQq
open Nq Nq.Bounce Nq.BounceQq

theorem qput_err (q : Qq) (b : Bytes) (h : q.flagerr = true) : qput q b = q := by
  simp [qput, h]

theorem step_err (q : Qq) (c : Call) (h : q.flagerr = true) :
    (step q c).flagerr = true ∧ (step q c).msg = q.msg ∧ (step q c).env = q.env := by
  cases c <;> simp [step, qput, h]

theorem run_err (cs : List Call) : ∀ (q : Qq), q.flagerr = true →
    (run q cs).flagerr = true ∧ (run q cs).msg = q.msg ∧ (run q cs).env = q.env := by
  induction cs with
  | nil => intro q h; simp [run, h]
  | cons c cs ih =>
    intro q h
    obtain ⟨h1, h2, h3⟩ := step_err q c h
    obtain ⟨i1, i2, i3⟩ := ih (step q c) h1
    refine ⟨?_, ?_, ?_⟩
    · simpa [run] using i1
    · rw [← h2]; simpa [run] using i2
    · rw [← h3]; simpa [run] using i3

theorem run_append (q : Qq) (a b : List Call) : run q (a ++ b) = run (run q a) b := by
  simp [run, List.foldl_append]

theorem run_cons (q : Qq) (c : Call) (cs : List Call) : run q (c :: cs) = run (step q c) cs := rfl

/-- after a qmail_fail() nothing more reaches either pipe and the flag stays up -/
theorem run_fail (q : Qq) (a b : List Call) :
    (run q (a ++ .fail :: b)).flagerr = true ∧ (run q (a ++ .fail :: b)).msg = (run q a).msg
      ∧ (run q (a ++ .fail :: b)).env = (run q a).env := by
  rw [run_append, run_cons]
  have := run_err b (step (run q a) .fail) (by simp [step])
  simpa [step] using this

theorem trailer_split (single : Bool) (base mess : Bytes) :
    trailer single base mess = trailer single base [] ++ mess := by
  simp [trailer, List.append_assoc]

theorem bounceOf_parts (cfg : Cfg) (date bf sender mess : Bytes) :
    bounceOf cfg date bf { sender := sender, rcpts := [], body := mess }
      = (parts cfg date sender).map fun p =>
          { sender := p.2.2.1, rcpts := [p.2.2.2], body := p.1 ++ bf ++ p.2.1 ++ mess } := by
  unfold bounceOf parts
  cases decideBounce sender <;> simp [trailer_split _ _ mess, List.append_assoc]

theorem run_puts_msg (q : Qq) (b : Bytes) (h : q.flagerr = false) (he : q.onEnv = false) :
    run q [.put b] = { q with msg := q.msg ++ b } := by
  simp [run, step, qput, h, he]

theorem run_copy_ok (q : Qq) (file : Bytes) (h : q.flagerr = false) (he : q.onEnv = false) :
    run q (copyCalls file .ok) = { q with msg := q.msg ++ file } :=
  run_puts_msg q file h he

theorem copy_fail_mem (file : Bytes) (f : RF) (h : f ≠ .ok) : Call.fail ∈ copyCalls file f := by
  cases f <;> simp [copyCalls] at h ⊢

theorem copy_ok_nomem (file : Bytes) : Call.fail ∉ copyCalls file .ok := by
  simp [copyCalls]

def copied (file : Bytes) : RF → Bytes
  | .ok => file
  | .openFail => []
  | .readFail k => file.take k

theorem copied_prefix (file : Bytes) (r : RF) : copied file r <+: file := by
  cases r
  · exact List.prefix_refl _
  · exact List.nil_prefix
  · exact List.take_prefix _ _

/-- bytes of the notice that reach the message pipe: the first copy that fails ends them -/
def sentMsg (pre bf mid mess : Bytes) (fb fm : RF) : Bytes :=
  if fb = .ok then pre ++ bf ++ mid ++ copied mess fm else pre ++ copied bf fb

def faulty (fb fm : RF) : Bool := fb != .ok || fm != .ok

theorem sentMsg_ok_ok (pre bf mid mess : Bytes) : sentMsg pre bf mid mess .ok .ok = pre ++ bf ++ mid ++ mess := rfl

theorem run_seg (q : Qq) (b file : Bytes) (r : RF) (he : q.onEnv = false) :
    run q (.put b :: copyCalls file r) =
      if q.flagerr then q else { q with flagerr := r != .ok, msg := q.msg ++ b ++ copied file r } := by
  obtain ⟨fl, on, m, e⟩ := q
  cases r <;> cases fl <;> simp_all [copyCalls, run, step, qput, copied]

theorem injectQq_eq (cfg : Cfg) (date sender bf mess : Bytes) (fb fm : RF) (exit : Nat) (crashed : Bool) :
    injectQq cfg date sender bf mess fb fm exit crashed
      = (parts cfg date sender).map fun p =>
          ({ flagerr := faulty fb fm, onEnv := true, msg := sentMsg p.1 bf p.2.1 mess fb fm,
             env := if faulty fb fm then [] else fullEnv p.2.2.1 p.2.2.2 },
           !crashed && exit == 0 && !faulty fb fm) := by
  unfold injectQq injectCalls
  cases parts cfg date sender with
  | none => rfl
  | some p =>
    obtain ⟨pre, mid, f, t⟩ := p
    -- two segments (text, file copy), then the envelope
    have hc : [Call.put pre] ++ copyCalls bf fb ++ [.put mid] ++ copyCalls mess fm ++ [.efrom f, .eto t] =
        (.put pre :: copyCalls bf fb) ++ ((.put mid :: copyCalls mess fm) ++ [.efrom f, .eto t]) := by simp
    have h1 : run {} (.put pre :: copyCalls bf fb) = { flagerr := fb != .ok, msg := pre ++ copied bf fb } := by
      rw [run_seg _ _ _ _ rfl]; rfl
    have h2 := run_seg { flagerr := fb != .ok, msg := pre ++ copied bf fb } mid mess fm rfl
    simp only [Option.map_some, hc, run_append, h1, h2]
    -- left: `efrom`, `eto` and `close`, all through `qput`, which writes nothing once the flag is up.  So after a failed copy
    -- the envelope stays empty; a failed first copy also makes the second segment a no-op (the `if` of `run_seg`).
    by_cases hb : fb = .ok
    · subst hb
      cases hm : fm != .ok <;> simp [hm, run, step, qput, close, sentMsg, faulty, copied, fullEnv]
    · have hb' : (fb != .ok) = true := by simpa using hb
      simp [hb', hb, run, step, qput, close, sentMsg, faulty]

theorem injectQq_some {cfg : Cfg} {date sender bf mess : Bytes} {fb fm : RF} {exit : Nat} {crashed : Bool} {q : Qq} {acc : Bool}
    (h : injectQq cfg date sender bf mess fb fm exit crashed = some (q, acc)) :
    ∃ pre mid f t,
      bounceOf cfg date bf { sender := sender, rcpts := [], body := mess }
        = some { sender := f, rcpts := [t], body := pre ++ bf ++ mid ++ mess } ∧
      q = { flagerr := faulty fb fm, onEnv := true, msg := sentMsg pre bf mid mess fb fm,
            env := if faulty fb fm then [] else fullEnv f t } ∧
      (!crashed && exit == 0 && !faulty fb fm) = acc := by
  rw [injectQq_eq] at h
  rw [bounceOf_parts]
  cases hp : parts cfg date sender with
  | none => simp [hp] at h
  | some p =>
    obtain ⟨pre, mid, f, t⟩ := p
    simp only [hp, Option.map_some, Option.some.injEq, Prod.mk.injEq] at h
    exact ⟨pre, mid, f, t, rfl, h.1.symm, h.2⟩

theorem sentMsg_prefix (pre bf mid mess : Bytes) (fb fm : RF) :
    sentMsg pre bf mid mess fb fm <+: pre ++ bf ++ mid ++ mess := by
  unfold sentMsg
  split
  · exact (List.prefix_append_right_inj _).2 (copied_prefix mess fm)
  · rw [List.append_assoc, List.append_assoc]
    exact (List.prefix_append_right_inj _).2 ((copied_prefix bf fb).trans (List.prefix_append _ _))

theorem isSuffixB_append (x mess : Bytes) : isSuffixB mess (x ++ mess) = true := by
  simp [isSuffixB, List.reverse_append]

theorem queuedOK_fullEnv (f t : Bytes) : queuedOK 0 false (fullEnv f t) = true := by
  have h : fullEnv f t = (70 :: f ++ [0] ++ 84 :: t) ++ [0, 0] := by simp [fullEnv]
  have hl : (fullEnv f t).length = (70 :: f ++ [0] ++ 84 :: t).length + 2 := by rw [h, List.length_append]; rfl
  have hd : (fullEnv f t).drop ((fullEnv f t).length - 2) = [0, 0] := by
    rw [hl, Nat.add_sub_cancel, h]; exact List.drop_left' rfl
  have h3 : (fullEnv f t).length ≥ 3 := by rw [hl]; simp
  have hh : (fullEnv f t).head? = some 70 := rfl
  simp only [queuedOK, hd, hh, decide_eq_true h3]
  rfl

theorem faultOf_faulty (fb fm : RF) (hf : faulty fb fm = true) :
    faultOf fb fm = .bounceOpen ∨ faultOf fb fm = .bounceRead ∨ faultOf fb fm = .messOpen ∨ faultOf fb fm = .messRead := by
  cases fb
  · cases fm
    · cases hf
    · exact Or.inr (Or.inr (Or.inl rfl))
    · exact Or.inr (Or.inr (Or.inr rfl))
  · exact Or.inl rfl
  · exact Or.inr (Or.inl rfl)

theorem inject_faulty (cfg : Cfg) (date : Bytes) (id qp : Nat) (sender bf mess : Bytes) (fb fm : RF) (m : Msg)
    (hf : faulty fb fm = true) (hb : bounceOf cfg date bf { sender := sender, rcpts := [], body := mess } = some m) :
    inject cfg date id qp (faultOf fb fm) sender (some bf) mess
      = { ret := false, queued := none, bounce := some bf,
          log := str "warning: trouble injecting bounce message, will try later\n" } := by
  rcases faultOf_faulty fb fm hf with h | h | h | h <;> rw [h] <;> simp [inject, hb]

end Nq.Lemmas.BounceQq

