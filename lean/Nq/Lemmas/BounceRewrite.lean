/-
  Lemmas for C14: `stripvdomprepend()` (`Nq.Bounce.stripvdom`) against C10's model of
  `rewrite()` (`Nq.Rewrite.rewrite`; used through `rewrite_shape` and `rewrite_addr_spec`, which rest on
  `rewrite_eq_G` of `Nq.Lemmas.RewriteSpec`).

  `rewrite c r` is `⟨channel, tag, addr⟩`: `addr` is the recipient after the default host and the
  percent hack, `tag` the virtualdomains prepend (empty = none); the channel file gets
  `recipOf = addr` or `tag-addr`.  The lemmas say when `stripvdom` applied to that string gives
  `addr` back.
-/
import Nq.Lemmas.Bounce
import Nq.Lemmas.RewriteSpec

namespace Nq.Lemmas.BounceRewrite
open Nq Nq.Bounce Nq.BounceSpec Nq.Lemmas.Bounce
open Nq.Lemmas.RewriteSpec (firstHitF)

/-- the tables `stripvdomprepend` sees under C10's configuration (the same control files) -/
def tablesOf (c : Rewrite.Cfg) : Tables :=
  { locals := c.locals.map (·.key), vdoms := c.vdoms.map (fun e => (e.key, e.val)) }

/-- the recipient `rewrite()` writes into the channel file (`Routed.line` without `T` and NUL) -/
def recipOf (r : Rewrite.Routed) : Bytes := if r.tag = [] then r.addr else r.tag ++ 45 :: r.addr

theorem line_recipOf (r : Rewrite.Routed) : r.line = Rewrite.TEE :: (recipOf r ++ [NUL]) := by
  unfold Rewrite.Routed.line recipOf
  split <;> rfl

/-! ### the two constmap models agree -/

theorem cmLookupRev_map (l : List Rewrite.Ent) (k : Bytes) :
    cmLookupRev (l.map (fun e => (e.key, e.val))) k = Rewrite.mapLookupRev k l := by
  induction l with
  | nil => rfl
  | cons e r ih => simp only [List.map_cons, cmLookupRev, Rewrite.mapLookupRev, Rewrite.keyEq, ih]; rfl

theorem cmLookup_tablesOf (c : Rewrite.Cfg) (k : Bytes) :
    cmLookup (tablesOf c).vdoms k = Rewrite.mapLookup c.vdoms k := by
  unfold cmLookup Rewrite.mapLookup tablesOf
  rw [← List.map_reverse]
  exact cmLookupRev_map _ _

theorem entryFor_tablesOf (c : Rewrite.Cfg) (k : Bytes) :
    entryFor (tablesOf c).vdoms k = Rewrite.mapLookup c.vdoms k := by
  rw [entryFor_eq_cmLookup, cmLookup_tablesOf]

theorem cmMember_map (l : List Rewrite.Ent) (d : Bytes) :
    cmMember (l.map (·.key)) d = Route.listed l d := by
  unfold Route.listed
  induction l with
  | nil => rfl
  | cons e r ih => simp only [List.map_cons, cmMember, List.any_cons, ih]

theorem cmMember_tablesOf (c : Rewrite.Cfg) (d : Bytes) :
    cmMember (tablesOf c).locals d = Route.listed c.locals d := cmMember_map _ _

/-! ### domain part -/

theorem domainOf_none (d : Bytes) (h : AT ∉ d) : domainOf d = none := by
  induction d with
  | nil => rfl
  | cons c r ih =>
    have hc : c ≠ AT := fun e => h (by simp [e])
    have hr : AT ∉ r := fun e => h (by simp [e])
    simp [domainOf, ih hr, hc]

theorem domainOf_at (a d : Bytes) (h : AT ∉ d) : domainOf (a ++ AT :: d) = some d := by
  apply domainOf_append
  simp [domainOf, domainOf_none d h]

/-! ### the domain loop looks at the keys `rewrite()` looks at after the whole address -/

theorem dotSuffixes_route (r : Bytes) : Bounce.dotSuffixes r = Route.dotSuffixes r ++ [[]] := by
  induction r with
  | nil => rfl
  | cons c t ih =>
    by_cases hc : c = DOT
    · simp [Bounce.dotSuffixes, Route.dotSuffixes, hc, ih]
    · simp [Bounce.dotSuffixes, Route.dotSuffixes, hc, ih]

theorem firstHit_F (es : List (Bytes × Bytes)) (vd : Bytes → Option Bytes) (h : ∀ k, cmLookup es k = vd k)
    (ks : List Bytes) : Bounce.firstHit es ks = firstHitF vd ks := by
  induction ks with
  | nil => rfl
  | cons k r ih => simp only [Bounce.firstHit, firstHitF, h, ih]; rfl

theorem firstHitF_cons (vd : Bytes → Option Bytes) (k : Bytes) (ks : List Bytes) :
    firstHitF vd (k :: ks) = match vd k with
      | some t => some t
      | none => firstHitF vd ks := rfl

theorem firstHitF_dup (vd : Bytes → Option Bytes) (k : Bytes) (l : List Bytes) :
    firstHitF vd (k :: k :: l) = firstHitF vd (k :: l) := by
  simp only [firstHitF]
  cases vd k <;> rfl

theorem domainKeys_route (vd : Bytes → Option Bytes) (dom : Bytes) :
    firstHitF vd (dom :: (Route.dotSuffixes dom ++ [[]])) = firstHitF vd (suffixKeys dom) := by
  cases dom with
  | nil => exact firstHitF_dup vd [] []
  | cons c r =>
    simp only [suffixKeys, dotSuffixes_route, Route.dotSuffixes]
    by_cases hc : c = DOT
    · simp only [hc, if_true, List.cons_append]
      exact firstHitF_dup vd _ _
    · simp only [hc, if_false]

theorem governing_route (c : Rewrite.Cfg) (dom : Bytes) :
    governing (tablesOf c).vdoms dom
      = firstHitF (Rewrite.mapLookup c.vdoms) (dom :: (Route.dotSuffixes dom ++ [[]])) := by
  rw [← firstHit_eq_governing, domainKeys_route]
  exact firstHit_F _ _ (cmLookup_tablesOf c) _

theorem rewrite_shape (c : Rewrite.Cfg) (r : Bytes) : ∃ a dom, AT ∉ dom ∧ Rewrite.rewrite c r =
    (if Route.listed c.locals dom then ⟨.loc, [], a ++ AT :: dom⟩
     else match firstHitF (Rewrite.mapLookup c.vdoms) ((a ++ AT :: dom) :: dom :: (Route.dotSuffixes dom ++ [[]])) with
       | some t => if t = [] then ⟨.rem, [], a ++ AT :: dom⟩ else ⟨.loc, t, a ++ AT :: dom⟩
       | none => ⟨.rem, [], a ++ AT :: dom⟩) := by
  rw [RewriteSpec.rewrite_eq_G, RewriteSpec.routeSpecG_eq]
  obtain ⟨a, dom, h1, h2, _, h4⟩ := RewriteSpec.addr_decomp _ (RewriteSpec.spec_addr_shape c r)
  refine ⟨a, dom, h2, ?_⟩
  unfold RewriteSpec.specTail Route.candidates
  rw [h4, h1]
  -- the `match` of the statement is compiled in this file, that of `specTail` in RewriteSpec.lean: two matchers, equal by unfolding
  rfl

/-! ### which address that is: the recipient after `rewrite()`'s own normalisation -/

theorem specTail_addr (vd : Bytes → Option Bytes) (c : Rewrite.Cfg) (addr : Bytes) :
    (RewriteSpec.specTail vd c addr).addr = addr := by
  unfold RewriteSpec.specTail
  split
  · rfl
  · split
    · split <;> rfl
    · rfl

/-- `(rewrite c r).addr` is the recipient with the default host appended if it has no '@' and the
percent hack applied (C10's `pctFix`), whatever the routing decision -/
theorem rewrite_addr_spec (c : Rewrite.Cfg) (r : Bytes) :
    (Rewrite.rewrite c r).addr = (match Route.splitLast AT r with
      | some p => Route.pctFix c.ph (p.1.length + 1) p.1 p.2
      | none => Route.pctFix c.ph (r.length + 1) r c.env) := by
  rw [RewriteSpec.rewrite_eq_G, RewriteSpec.routeSpecG_eq]
  exact specTail_addr _ c _

theorem rewrite_addr_plain (c : Rewrite.Cfg) (r l d : Bytes) (h : Route.splitLast AT r = some (l, d))
    (hp : Route.listed c.ph d = false) : (Rewrite.rewrite c r).addr = r := by
  rw [rewrite_addr_spec, h]
  simp only [Route.pctFix, hp, Bool.false_eq_true, if_false]
  exact (RewriteSpec.splitLast_some h).1.symm

theorem rewrite_addr_noat (c : Rewrite.Cfg) (r : Bytes) (h : Route.splitLast AT r = none)
    (hp : Route.listed c.ph c.env = false) : (Rewrite.rewrite c r).addr = r ++ AT :: c.env := by
  rw [rewrite_addr_spec, h]
  simp only [Route.pctFix, hp, Bool.false_eq_true, if_false]

/-- the three outcomes of `rewrite()`: local by `locals`; remote; local with a prepend `t` — each with the virtualdomains
entry that decided (the whole address first, then the governing domain entry) -/
theorem rewrite_cases (c : Rewrite.Cfg) (r : Bytes) : ∃ a dom, AT ∉ dom ∧
    ((Route.listed c.locals dom = true ∧ Rewrite.rewrite c r = ⟨.loc, [], a ++ AT :: dom⟩) ∨
     (Route.listed c.locals dom = false ∧ Rewrite.rewrite c r = ⟨.rem, [], a ++ AT :: dom⟩ ∧
        (Rewrite.mapLookup c.vdoms (a ++ AT :: dom) = some [] ∨
         (Rewrite.mapLookup c.vdoms (a ++ AT :: dom) = none ∧
           (governing (tablesOf c).vdoms dom = some [] ∨ governing (tablesOf c).vdoms dom = none)))) ∨
     (Route.listed c.locals dom = false ∧ ∃ t, t ≠ [] ∧ Rewrite.rewrite c r = ⟨.loc, t, a ++ AT :: dom⟩ ∧
        (Rewrite.mapLookup c.vdoms (a ++ AT :: dom) = some t ∨
         (Rewrite.mapLookup c.vdoms (a ++ AT :: dom) = none ∧ governing (tablesOf c).vdoms dom = some t)))) := by
  obtain ⟨a, dom, hd, h⟩ := rewrite_shape c r
  refine ⟨a, dom, hd, ?_⟩
  rw [h, governing_route]
  by_cases hl : Route.listed c.locals dom = true
  · left; exact ⟨hl, by simp [hl]⟩
  · have hl' : Route.listed c.locals dom = false := by simpa using hl
    right
    -- the first key `rewrite()` tries is the whole address; the others are `governing`'s (`governing_route`, rewritten above)
    rw [firstHitF_cons]
    simp only [hl', Bool.false_eq_true, if_false]
    cases hw : Rewrite.mapLookup c.vdoms (a ++ AT :: dom) with
    | some t =>
      by_cases ht : t = []
      · left; subst ht; exact ⟨trivial, by simp, Or.inl rfl⟩
      · right; exact ⟨trivial, t, ht, by simp [ht], Or.inl rfl⟩
    | none =>
      simp only
      generalize firstHitF (Rewrite.mapLookup c.vdoms) (dom :: (Route.dotSuffixes dom ++ [[]])) = G
      cases G with
      | some t =>
        by_cases ht : t = []
        · left; subst ht; exact ⟨trivial, by simp, Or.inr ⟨trivial, Or.inl rfl⟩⟩
        · right; exact ⟨trivial, t, ht, by simp [ht], Or.inr ⟨trivial, rfl⟩⟩
      | none => left; exact ⟨trivial, by simp, Or.inr ⟨trivial, Or.inr rfl⟩⟩

/-! ### the virtual-user loop finds a cut when there is one -/

theorem splits_mem (p rest : Bytes) (c : Byte) : (p, c :: rest) ∈ splits (p ++ c :: rest) := by
  induction p with
  | nil => simp [splits]
  | cons x t ih =>
    simp only [List.cons_append, splits, List.mem_cons, List.mem_map]
    right
    exact ⟨(t, c :: rest), ih, rfl⟩

theorem userSplit_isSome (es : List (Bytes × Bytes)) (p rest : Bytes)
    (he : entryFor es rest = some p) (hp : p ≠ []) : (userSplit es (p ++ 45 :: rest)).isSome = true := by
  unfold userSplit
  rw [List.findSome?_isSome_iff]
  refine ⟨(p, 45 :: rest), splits_mem p rest 45, ?_⟩
  have hpe : p.isEmpty = false := by simpa using hp
  simp [userCut, he, hpe]

theorem userSplit_shorter (es : List (Bytes × Bytes)) (recip rest : Bytes)
    (h : userSplit es recip = some rest) : rest.length < recip.length := by
  unfold userSplit at h
  obtain ⟨x, hx, hc⟩ := List.exists_of_findSome?_eq_some h
  have hlen : ∀ (l : Bytes) (y : Bytes × Bytes), y ∈ splits l → y.1.length + y.2.length = l.length := by
    intro l
    induction l with
    | nil => intro y hy; simp [splits] at hy
    | cons c t ih =>
      intro y hy
      simp only [splits, List.mem_cons, List.mem_map] at hy
      rcases hy with rfl | ⟨z, hz, rfl⟩
      · simp
      · have := ih z hz; simp; omega
  have hl := hlen recip x hx
  unfold userCut at hc
  split at hc
  · rename_i r2 heq
    split at hc
    · split at hc
      · cases hc; rw [heq] at hl; simp at hl; omega
      · cases hc
    · cases hc
  · cases hc

/-! ### `stripvdomprepend` applied to what `rewrite()` wrote -/

/-- a recipient kept by `locals` is named as it is -/
theorem strip_local (c : Rewrite.Cfg) (r : Bytes)
    (hc : (Rewrite.rewrite c r).chan = .loc) (ht : (Rewrite.rewrite c r).tag = []) :
    stripvdom (tablesOf c) (Rewrite.rewrite c r).addr = (Rewrite.rewrite c r).addr := by
  obtain ⟨a, dom, hd, h | ⟨_, h, _⟩ | ⟨_, t, htne, h, _⟩⟩ := rewrite_cases c r
  · rw [h.2]
    simp [stripvdom, domainOf_at a dom hd, cmMember_tablesOf, h.1]
  · rw [h] at hc; cases hc
  · rw [h] at ht; exact absurd ht htne

theorem remote_untagged (c : Rewrite.Cfg) (r : Bytes) (hc : (Rewrite.rewrite c r).chan = .rem) :
    (Rewrite.rewrite c r).tag = [] := by
  obtain ⟨a, dom, hd, h | ⟨_, h, _⟩ | ⟨_, t, htne, h, _⟩⟩ := rewrite_cases c r
  · rw [h.2]
  · rw [h]
  · rw [h] at hc; cases hc

theorem tagged_local (c : Rewrite.Cfg) (r : Bytes) (ht : (Rewrite.rewrite c r).tag ≠ []) :
    (Rewrite.rewrite c r).chan = .loc := by
  cases hc : (Rewrite.rewrite c r).chan with
  | loc => rfl
  | rem => exact absurd (remote_untagged c r hc) ht

/-- a recipient that got a prefix: the prefix is removed, provided the only virtual-user reading of
the prefixed string (if any) is the right one -/
theorem strip_prefixed (c : Rewrite.Cfg) (r : Bytes)
    (ht : (Rewrite.rewrite c r).tag ≠ [])
    (hu : ∀ rest, userSplit (tablesOf c).vdoms
            ((Rewrite.rewrite c r).tag ++ 45 :: (Rewrite.rewrite c r).addr) = some rest →
            rest = (Rewrite.rewrite c r).addr) :
    stripvdom (tablesOf c) ((Rewrite.rewrite c r).tag ++ 45 :: (Rewrite.rewrite c r).addr)
      = (Rewrite.rewrite c r).addr := by
  obtain ⟨a, dom, hd, h | ⟨_, h, _⟩ | ⟨hl, t, htne, h, hv⟩⟩ := rewrite_cases c r
  · rw [h.2] at ht; exact absurd rfl ht
  · rw [h] at ht; exact absurd rfl ht
  · rw [h] at hu ⊢
    simp only at hu ⊢
    have hdom : domainOf (t ++ 45 :: (a ++ AT :: dom)) = some dom :=
      domainOf_append t _ dom (domainOf_append [45] _ dom (domainOf_at a dom hd))
    unfold stripvdom
    rw [hdom]
    simp only [cmMember_tablesOf, hl, Bool.false_eq_true, if_false, userStripGo_eq_userSplit,
      firstHit_eq_governing]
    cases hus : userSplit (tablesOf c).vdoms (t ++ 45 :: (a ++ AT :: dom)) with
    | some rest => exact hu rest hus
    | none =>
      rcases hv with hv | ⟨_, hg⟩
      · exfalso
        have := userSplit_isSome (tablesOf c).vdoms t (a ++ AT :: dom) (by rw [entryFor_tablesOf]; exact hv) htne
        rw [hus] at this; cases this
      · have hpe : t.isEmpty = false := by simpa using htne
        have hpre : (t ++ [DASH]).isPrefixOf (t ++ 45 :: (a ++ AT :: dom)) = true := by
          rw [List.isPrefixOf_iff_prefix]; exact ⟨a ++ AT :: dom, by simp [DASH]⟩
        simp only [hg, hpe, hpre, Bool.not_false, Bool.and_self, if_true]
        simp

/-- **end to end on the name**: what `addbounce` (flag = "local channel", as `del_dochan` passes it)
names for the channel-file recipient `rewrite()` wrote is the routed address -/
theorem nameOf_rewrite (c : Rewrite.Cfg) (r : Bytes)
    (hu : (Rewrite.rewrite c r).tag ≠ [] → ∀ rest, userSplit (tablesOf c).vdoms (recipOf (Rewrite.rewrite c r)) = some rest →
            rest = (Rewrite.rewrite c r).addr) :
    nameOf (tablesOf c) ((Rewrite.rewrite c r).chan == .loc) (recipOf (Rewrite.rewrite c r)) = (Rewrite.rewrite c r).addr := by
  have e1 : (Rewrite.Chan.rem == Rewrite.Chan.loc) = false := by decide
  have e2 : (Rewrite.Chan.loc == Rewrite.Chan.loc) = true := by decide
  cases hc : (Rewrite.rewrite c r).chan with
  | rem =>
    have ht := remote_untagged c r hc
    simp [nameOf, recipOf, ht, e1]
  | loc =>
    by_cases ht : (Rewrite.rewrite c r).tag = []
    · have := strip_local c r hc ht
      simp only [recipOf, ht, if_true, nameOf, e2]
      exact this
    · have h2 := hu ht
      simp only [recipOf, ht, if_false] at h2 ⊢
      have := strip_prefixed c r ht h2
      simp only [nameOf, e2, if_true]
      exact this

/-- sufficient for the unambiguity hypothesis of `strip_prefixed`: the prefix is the prepend of the
address's own (virtual-user) entry and contains no dash — the first dash of the string is then the
right cut -/
theorem unambiguous_of_dashfree (es : List (Bytes × Bytes)) (t addr : Bytes)
    (he : entryFor es addr = some t) (hp : t ≠ []) (hdash : (45 : Byte) ∉ t) :
    ∀ rest, userSplit es (t ++ 45 :: addr) = some rest → rest = addr := by
  intro rest h
  rw [userSplit_dashfree es t addr he hp hdash] at h
  exact (Option.some.inj h).symm

end Nq.Lemmas.BounceRewrite
