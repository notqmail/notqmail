/-
  The three daemon models as callers of qmail.c.  A run that stops inside a message makes an `Open` call sequence
  (`data_stopped`, `msg_stopped`, `parse_stopped`).  A run that reads it to the end is inverted into its reading steps:
  for qmail-qmtpd and qmail-qmqpd the structures `Parts` / `Full` and the record `fullMsg` / `fullRun` they determine
  (`msg_full`, `parse_full`); for qmail-smtpd `data_full`, in terms of C05's decoder `dblast` (`blast_eq`: `blast()` is
  that automaton with `put()`'s countdown).  More input behind a complete message changes only the unread remainder
  (`msg_ext`, `parse_ext`, `dblast_accept_rest`), so no prefix shorter than the consumed bytes is complete
  (`not_done_of_shorter`; `data_prefix`, `msg_prefix`, `parse_prefix`).
-/
import Nq.Netstring
import Nq.Spec.C07
import Nq.Lemmas.C07Qq
import Nq.Lemmas.C07Readers
import Nq.Lemmas.SmtpFraming

namespace Nq.Netstring
open Nq Nq.QmailC Nq.Received

theorem stream_pf : ∀ (ops : List QOp), (∀ op ∈ ops, pf op = true) → stream ops = Qmtp.putBytes ops
  | [], _ => rfl
  | op :: ops, h => by
    have ih := stream_pf ops (fun o ho => h o (by simp [ho]))
    have hop := h op (by simp)
    cases op <;> simp_all [pf, stream, Qmtp.putBytes]

theorem putBytes_map_put (l : List Bytes) : Qmtp.putBytes (l.map QOp.put) = l.flatten := by
  induction l with
  | nil => rfl
  | cons b l ih => simp [Qmtp.putBytes, ih]

theorem pf_map_put (l : List Bytes) : ∀ op ∈ l.map QOp.put, pf op = true := by
  intro op h; rw [List.mem_map] at h; obtain ⟨b, _, rfl⟩ := h; rfl

theorem safeputPieces_flatten (s : Bytes) : (safeputPieces s).flatten = safeput s := by
  unfold safeputPieces safeput
  induction cstr s with
  | nil => rfl
  | cons c r ih => simp [ih]

theorem receivedPieces_flatten (proto : Bytes) (p : Peer) (helo : Option Bytes) (t : Nat) :
    (receivedPieces proto p helo t).flatten = received proto p helo t := by
  unfold receivedPieces received
  cases helo <;> cases p.info <;>
    simp only [List.flatten_append, List.flatten_cons, List.flatten_nil, safeputPieces_flatten, List.append_nil]

theorem ovfOps_pf (bto : Nat) (c : Byte) : ∀ op ∈ ovfOps bto c, pf op = true := by
  intro op h; unfold ovfOps at h; split at h <;> simp at h <;> rcases h with rfl | rfl <;> rfl

theorem not_done_of_shorter {done : Bytes → Prop} {rest : Bytes → Bytes}
    (hext : ∀ p t, done p → rest (p ++ t) = rest p ++ t) (inp : Bytes) (j : Nat)
    (hj : j < inp.length - (rest inp).length) : ¬ done (inp.take j) := by
  intro hp
  have := hext (inp.take j) (inp.drop j) hp
  rw [List.take_append_drop] at this
  rw [this] at hj
  simp at hj
  omega

/-! ### qmail-smtpd -/
namespace Smtp
open Nq.SmtpIn

theorem ovfList_pf : ∀ (bs : Bytes) (bto : Nat), ∀ op ∈ ovfList bto bs, pf op = true
  | [], _ => by simp [ovfList]
  | c :: r, bto => by
    intro op h
    simp only [ovfList, List.mem_append] at h
    rcases h with h | h
    · exact ovfOps_pf bto c op h
    · exact ovfList_pf r _ op h

theorem ovfList_append : ∀ (a b : Bytes) (bto : Nat),
    ovfList bto (a ++ b) = ovfList bto a ++ ovfList (decN bto a.length) b
  | [], _, _ => rfl
  | c :: a, b, bto => by simp [ovfList, decN, ovfList_append a b, List.append_assoc]

/-- `blast()` is the automaton of C05 (`drun`); its calls are the stored bytes `b` sent through the countdown -/
theorem blast_eq : ∀ (inp : Bytes) (s : DSt) (bto : Nat), ∃ b,
    (blast s bto inp).ops = ovfList bto b ∧ (blast s bto inp).bto = bto - b.length ∧
    drun s inp = match (blast s bto inp).fin with
      | .done rest => .accepted b rest
      | .stray => .stray
      | .eof => .incomplete
  | [], _, _ => ⟨[], rfl, rfl, rfl⟩
  | c :: inp, s, bto => by
    unfold blast drun
    cases hd : (dstep s c).2 with
    | data bs =>
      obtain ⟨b, h1, h2, h3⟩ := blast_eq inp (dstep s c).1 (decN bto bs.length)
      refine ⟨bs ++ b, by simp only [h1, ovfList_append], ?_, ?_⟩
      · rw [List.length_append, ← Nat.sub_sub, ← decN_eq bs.length bto]; exact h2
      · simp only [h3]
        cases (blast (dstep s c).1 (decN bto bs.length) inp).fin <;> rfl
    | done => exact ⟨[], rfl, rfl, rfl⟩
    | stray => exact ⟨[], rfl, rfl, rfl⟩

theorem putBytes_ite_fail (c : Prop) [Decidable c] : Qmtp.putBytes (if c then [QOp.fail] else []) = [] := by
  split <;> rfl

theorem data_fin (cfg : Cfg) (helo : Option Bytes) (mailfrom rcptto inp : Bytes) :
    ((data cfg helo mailfrom rcptto inp).stop = none ↔
      ∃ r, (blast .s1 (if cfg.databytes = 0 then 0 else cfg.databytes + 1) inp).fin = .done r) ∧
    (∀ r, (blast .s1 (if cfg.databytes = 0 then 0 else cfg.databytes + 1) inp).fin = .done r →
      (data cfg helo mailfrom rcptto inp).rest = r) := by
  unfold data
  simp only
  split <;> simp_all

/-- DATA not terminated (client gone, stray LF): only `put`/`fail` calls were made — no `qmail_from`, no `qmail_close` -/
theorem data_stopped (cfg : Cfg) (helo : Option Bytes) (mailfrom rcptto inp : Bytes)
    (h : (data cfg helo mailfrom rcptto inp).stop ≠ none) :
    Open (data cfg helo mailfrom rcptto inp).ops := by
  unfold data at h ⊢
  simp only at h ⊢
  obtain ⟨b, hb, _⟩ := blast_eq inp .s1 (if cfg.databytes = 0 then 0 else cfg.databytes + 1)
  have hp : Open ((receivedPieces pSMTP cfg.peer (fakehelo cfg.peer helo) cfg.now).map QOp.put ++
      (blast .s1 (if cfg.databytes = 0 then 0 else cfg.databytes + 1) inp).ops) :=
    .msg (List.forall_mem_append.mpr ⟨pf_map_put _, hb ▸ ovfList_pf b _⟩)
  split at h
  · exact hp
  · exact hp
  · simp at h

/-- everything smtp_data() computes for a terminated DATA, in terms of the bytes `b` the decoder of C05 yields -/
theorem data_full (cfg : Cfg) (helo : Option Bytes) (mailfrom rcptto inp : Bytes)
    (h : (data cfg helo mailfrom rcptto inp).stop = none) :
    ∃ b, dblast inp = .accepted b (data cfg helo mailfrom rcptto inp).rest ∧ (data cfg helo mailfrom rcptto inp).stored = b ∧
      (data cfg helo mailfrom rcptto inp).ops =
        ((receivedPieces pSMTP cfg.peer (fakehelo cfg.peer helo) cfg.now).map QOp.put ++
          ovfList (if cfg.databytes = 0 then 0 else cfg.databytes + 1) b ++
          (if (data cfg helo mailfrom rcptto inp).hopsBad then [QOp.fail] else [])) ++
        [.from_ mailfrom] ++ [.put rcptto] ++ [.close] ∧
      ((data cfg helo mailfrom rcptto inp).overflow = true ↔ (cfg.databytes ≠ 0 ∧ b.length > cfg.databytes)) := by
  obtain ⟨rest, hfin⟩ := (data_fin cfg helo mailfrom rcptto inp).1.mp h
  obtain ⟨b, e1, e2, e3⟩ := blast_eq inp .s1 (if cfg.databytes = 0 then 0 else cfg.databytes + 1)
  rw [hfin] at e3
  refine ⟨b, ?_, ?_⟩
  · rw [(data_fin cfg helo mailfrom rcptto inp).2 rest hfin]; exact e3
  unfold data
  simp only [hfin, e1, e2, ovfList_bytes]
  refine ⟨trivial, by simp [List.append_assoc], ?_⟩
  by_cases h0 : cfg.databytes = 0
  · simp [h0]
  · simp only [decide_eq_true_eq, if_neg h0]
    exact ⟨fun ⟨_, hb⟩ => ⟨h0, by omega⟩, fun ⟨_, hb⟩ => ⟨h0, by omega⟩⟩

theorem data_dblast (cfg : Cfg) (helo : Option Bytes) (mailfrom rcptto inp : Bytes)
    (h : (data cfg helo mailfrom rcptto inp).stop = none) :
    dblast inp = .accepted (data cfg helo mailfrom rcptto inp).stored (data cfg helo mailfrom rcptto inp).rest := by
  obtain ⟨b, hd, hst, _⟩ := data_full cfg helo mailfrom rcptto inp h
  rw [hst]; exact hd

theorem data_of_dblast (cfg : Cfg) (helo : Option Bytes) (mailfrom rcptto inp b r : Bytes) (h : dblast inp = .accepted b r) :
    (data cfg helo mailfrom rcptto inp).stop = none ∧ (data cfg helo mailfrom rcptto inp).stored = b ∧
      (data cfg helo mailfrom rcptto inp).rest = r := by
  have hs : (data cfg helo mailfrom rcptto inp).stop = none := by
    obtain ⟨_, _, _, hd⟩ := blast_eq inp .s1 (if cfg.databytes = 0 then 0 else cfg.databytes + 1)
    rw [dblast, hd] at h
    rw [(data_fin cfg helo mailfrom rcptto inp).1]
    cases hf : (blast .s1 (if cfg.databytes = 0 then 0 else cfg.databytes + 1) inp).fin with
    | done r' => exact ⟨r', rfl⟩
    | stray => rw [hf] at h; cases h
    | eof => rw [hf] at h; cases h
  have hd := data_dblast cfg helo mailfrom rcptto inp hs
  rw [h] at hd
  injection hd with hb hr
  exact ⟨hs, hb.symm, hr.symm⟩

theorem data_stop_iff (cfg : Cfg) (helo : Option Bytes) (mf rt inp : Bytes) :
    (data cfg helo mf rt inp).stop = none ↔ ∃ b r, dblast inp = .accepted b r :=
  ⟨fun h => ⟨_, _, data_dblast cfg helo mf rt inp h⟩, fun ⟨b, r, h⟩ => (data_of_dblast cfg helo mf rt inp b r h).1⟩

/-- **cut, SMTP.**  On a prefix shorter than the bytes smtp_data() consumed, DATA is not terminated (so there is no
    `qmail_from`, no `qmail_close`): what the decoder accepts depends only on the bytes it consumed -/
theorem data_prefix (cfg : Cfg) (helo : Option Bytes) (mailfrom rcptto inp : Bytes) (j : Nat)
    (hj : j < inp.length - (data cfg helo mailfrom rcptto inp).rest.length) :
    (data cfg helo mailfrom rcptto (inp.take j)).stop ≠ none :=
  not_done_of_shorter (done := fun p => (data cfg helo mailfrom rcptto p).stop = none)
    (rest := fun p => (data cfg helo mailfrom rcptto p).rest)
    (fun p t hp => by
      obtain ⟨m, e, hm⟩ := Nq.Lemmas.SmtpCmd.dblast_accept_rest p _ _ (data_dblast cfg helo mailfrom rcptto p hp)
      have := hm ((data cfg helo mailfrom rcptto p).rest ++ t)
      rw [← List.append_assoc, ← e] at this
      exact (data_of_dblast cfg helo mailfrom rcptto (p ++ t) _ _ this).2.2)
    inp j hj

end Smtp

/-! ### qmail-qmtpd -/
namespace Qmtp

theorem unixBody_pf (len : Nat) (inp : Bytes) : ∀ op ∈ (unixBody len inp).ops, pf op = true := by
  rw [unixBody_eq]
  intro op hop
  obtain ⟨c, _, rfl⟩ := List.mem_map.mp hop
  rfl

/-- as `Smtp.blast_eq`: the calls of the CR-mode loop are the stored bytes `b` sent through the same countdown -/
theorem dosBody_eq : ∀ (len : Nat) (pend : Bool) (bto : Nat) (p : Bytes), ∃ b,
    (dosBody len pend bto p).ops = Smtp.ovfList bto b ∧ (dosBody len pend bto p).bto = bto - b.length
  | 0, _, _, _ => ⟨[], rfl, rfl⟩
  | _ + 1, _, _, [] => ⟨[], rfl, rfl⟩
  | len + 1, pend, bto, c :: p => by
    rw [dosBody_cons, pre_ops, pre_bto]
    obtain ⟨b, h1, h2⟩ := dosBody_eq len (dosStep len pend c).1 (Smtp.decN bto (dosStep len pend c).2.length) p
    exact ⟨(dosStep len pend c).2 ++ b, by rw [h1, Smtp.ovfList_append],
      by rw [h2, Smtp.decN_eq, List.length_append, Nat.sub_sub]⟩

theorem rcptLoop_ops (cfg : Cfg) : ∀ (fuel big : Nat) (inp : Bytes),
    (rcptLoop cfg fuel big inp).ops = (rcptLoop cfg fuel big inp).rcpts.map QOp.to
  | 0, _, _ => rfl
  | _ + 1, 0, _ => rfl
  | fuel + 1, big + 1, inp => by
    simp only [rcptLoop]
    -- the splits are those of `rcptLoop`, in its order: `rcptLen`, `len ≥ big1`, `getbytes`, `getcomma`; a round makes one
    -- `qmail_to`, for its own recipient if accepted (the `if` split last, the same on both sides), or none
    split
    · rfl
    · rename_i len big1 r1 _
      split
      · rfl
      · split
        · rfl
        · split
          · split <;> rfl
          · rename_i r3 _
            rw [RL.pre_ops, RL.pre_rcpts, rcptLoop_ops cfg fuel (big1 - (len + 1)) r3, List.map_append]
            split <;> rfl

theorem stream_map_to (l : List Bytes) : stream (l.map QOp.to) = entries l := by
  induction l with
  | nil => rfl
  | cons a l ih => simp only [List.map_cons, stream, ih]; rfl

theorem rcptLoop_env (cfg : Cfg) (fuel big : Nat) (inp : Bytes) : ∀ op ∈ (rcptLoop cfg fuel big inp).ops, EnvOp op := by
  rw [rcptLoop_ops]
  exact fun op h => by obtain ⟨a, _, rfl⟩ := List.mem_map.mp h; exact .to a

def bto0 (cfg : Cfg) : Nat := if cfg.databytes = 0 then 0 else cfg.databytes + 1

/-- the body loop `msg` runs for a message of framed length `len` whose mode byte is `c` -/
def bodyOf (cfg : Cfg) (len : Nat) (c : Byte) (r1 : Bytes) : BodyRes :=
  if c = CR then dosBody (len - 1) false (bto0 cfg) r1
  else (unixBody (len - 1) r1).pre (if c = LF ∧ cfg.databytes ≠ 0 ∧ len - 1 > cfg.databytes then [QOp.fail] else [])

/-- the countdown value `msg` looks at in the end: for CR framing what the loop left, for LF framing the outcome of the
    test made on the framed length before the copy -/
def btoAfter (cfg : Cfg) (len : Nat) (c : Byte) (r1 : Bytes) : Nat :=
  if c = CR then (bodyOf cfg len c r1).bto
  else if c = LF ∧ cfg.databytes ≠ 0 ∧ len - 1 > cfg.databytes then 0 else bto0 cfg

theorem bodyOf_pf (cfg : Cfg) (len : Nat) (c : Byte) (r1 : Bytes) : ∀ op ∈ (bodyOf cfg len c r1).ops, pf op = true := by
  unfold bodyOf
  split
  · obtain ⟨b, h, _⟩ := dosBody_eq (len - 1) false (bto0 cfg) r1
    rw [h]; exact Smtp.ovfList_pf b _
  · rw [pre_ops]
    exact List.forall_mem_append.mpr ⟨all_ite _ _ _ (by simp [pf]) (by simp), unixBody_pf _ _⟩

theorem recv_body_pf (cfg : Cfg) (len : Nat) (c : Byte) (r1 : Bytes) :
    ∀ op ∈ recvOps cfg ++ (bodyOf cfg len c r1).ops, pf op = true :=
  List.forall_mem_append.mpr ⟨pf_map_put _, bodyOf_pf cfg len c r1⟩

/-- what `msg` reads when every step succeeds: the framed length `len`, the mode byte `c` and the bytes `r1` behind it
    (`len - 1` of them the body), a sender netstring of `slen` bytes `sraw`, a recipient list of `biglen` bytes at the head
    of `r7`; `r2` … `r8` are what the steps leave unread, `r8` at the end -/
structure Parts where
  (len : Nat) (c : Byte) (r1 r2 r3 : Bytes) (slen : Nat) (r4 sraw r5 r6 : Bytes) (biglen : Nat) (r7 r8 : Bytes)

/-- the record `msg` returns when every reading step succeeds -/
def fullMsg (cfg : Cfg) (p : Parts) : Msg :=
  { ops := recvOps cfg ++ (bodyOf cfg p.len p.c p.r1).ops ++ [.from_ (if p.slen ≥ Nq.Gen.C07.qmtpAddrMax then [] else p.sraw)] ++
             (if (!decide (p.slen ≥ Nq.Gen.C07.qmtpAddrMax) && !p.sraw.contains 0) = true then [] else [.fail]) ++
             (rcptLoop cfg (p.r7.length + 1) p.biglen p.r7).ops ++
             (if (rcptLoop cfg (p.r7.length + 1) p.biglen p.r7).failure.contains 0 = true then [] else [.fail]) ++ [.close],
    opened := true, rest := p.r8, stored := putBytes (bodyOf cfg p.len p.c p.r1).ops,
    senderok := (!decide (p.slen ≥ Nq.Gen.C07.qmtpAddrMax) && !p.sraw.contains 0),
    overflow := decide (cfg.databytes ≠ 0 ∧ btoAfter cfg p.len p.c p.r1 = 0),
    sender := cstr (if p.slen ≥ Nq.Gen.C07.qmtpAddrMax then [] else p.sraw),
    failure := (rcptLoop cfg (p.r7.length + 1) p.biglen p.r7).failure,
    rcpts := (rcptLoop cfg (p.r7.length + 1) p.biglen p.r7).rcpts }

/-- every reading step of `msg` succeeds on `inp`, with these parts -/
structure Full (cfg : Cfg) (inp : Bytes) (p : Parts) : Prop where
  len : Netstring.getlen Nq.Gen.C07.qmtpLenMax 0 inp = .ok p.len (p.c :: p.r1)
  len_ne : p.len ≠ 0
  mode : p.c = LF ∨ p.c = CR
  body : (bodyOf cfg p.len p.c p.r1).rest = some p.r2
  comma1 : Netstring.getcomma p.r2 = .ok () p.r3
  slen : Netstring.getlen Nq.Gen.C07.qmtpLenMax 0 p.r3 = .ok p.slen p.r4
  sender : getbytes p.slen p.r4 = .ok p.sraw p.r5
  comma2 : Netstring.getcomma p.r5 = .ok () p.r6
  biglen : Netstring.getlen Nq.Gen.C07.qmtpLenMax 0 p.r6 = .ok p.biglen p.r7
  rcpts : (rcptLoop cfg (p.r7.length + 1) p.biglen p.r7).stop = none
  comma3 : Netstring.getcomma (rcptLoop cfg (p.r7.length + 1) p.biglen p.r7).rest = .ok () p.r8

theorem Full.msg_eq {cfg : Cfg} {inp : Bytes} {p : Parts} (R : Full cfg inp p) : msg cfg inp = fullMsg cfg p := by
  have hc' : ¬ (p.c ≠ LF ∧ p.c ≠ CR) := fun hh => R.mode.elim hh.1 hh.2
  have h2' : (if p.c = CR then dosBody (p.len - 1) false (if cfg.databytes = 0 then 0 else cfg.databytes + 1) p.r1
      else BodyRes.pre (if p.c = LF ∧ cfg.databytes ≠ 0 ∧ p.len - 1 > cfg.databytes then [QOp.fail] else [])
        (unixBody (p.len - 1) p.r1)).rest = some p.r2 := R.body
  unfold msg
  simp only [R.len, R.len_ne, hc', h2', R.comma1, R.slen, R.sender, R.comma2, R.biglen, R.rcpts, R.comma3, if_false]
  rfl

theorem msg_cases (cfg : Cfg) (inp : Bytes) :
    ((msg cfg inp).stop ≠ none ∧ Open (msg cfg inp).ops) ∨ ∃ p, Full cfg inp p := by
  -- `m` keeps the goal small while the definition is taken apart in `hm`, one reading step at a time
  generalize hm : msg cfg inp = m
  unfold msg at hm
  have k0 : Open [] := .msg nofun
  cases h1 : Netstring.getlen Nq.Gen.C07.qmtpLenMax 0 inp with
  | stop e r => rw [h1] at hm; subst hm; exact .inl ⟨nofun, k0⟩
  | ok len r0 =>
    rw [h1] at hm
    simp only at hm
    by_cases hl : len = 0
    · rw [if_pos hl] at hm; subst hm; exact .inl ⟨nofun, k0⟩
    · rw [if_neg hl] at hm
      cases r0 with
      | nil => subst hm; exact .inl ⟨nofun, k0⟩
      | cons c r1 =>
        simp only at hm
        by_cases hc : c ≠ LF ∧ c ≠ CR
        · rw [if_pos hc] at hm; subst hm; exact .inl ⟨nofun, k0⟩
        · rw [if_neg hc] at hm
          have hc' : c = LF ∨ c = CR := by
            by_cases h1' : c = LF
            · exact Or.inl h1'
            · exact Or.inr (Decidable.by_contra fun h2' => hc ⟨h1', h2'⟩)
          change (match (bodyOf cfg len c r1).rest with | none => _ | some r2 => _) = m at hm
          have k1 : Open (recvOps cfg ++ (bodyOf cfg len c r1).ops) := .msg (recv_body_pf cfg len c r1)
          cases h2 : (bodyOf cfg len c r1).rest with
          | none => rw [h2] at hm; subst hm; exact .inl ⟨nofun, k1⟩
          | some r2 =>
            rw [h2] at hm
            simp only at hm
            cases h3 : Netstring.getcomma r2 with
            | stop e r => rw [h3] at hm; subst hm; exact .inl ⟨nofun, k1⟩
            | ok u3 r3 =>
              rw [h3] at hm
              simp only at hm
              cases h4 : Netstring.getlen Nq.Gen.C07.qmtpLenMax 0 r3 with
              | stop e r => rw [h4] at hm; subst hm; exact .inl ⟨nofun, k1⟩
              | ok slen r4 =>
                rw [h4] at hm
                simp only at hm
                cases h5 : getbytes slen r4 with
                | stop e r => rw [h5] at hm; subst hm; exact .inl ⟨nofun, k1⟩
                | ok sraw r5 =>
                  rw [h5] at hm
                  simp only at hm
                  cases h6 : Netstring.getcomma r5 with
                  | stop e r => rw [h6] at hm; subst hm; exact .inl ⟨nofun, k1⟩
                  | ok u6 r6 =>
                    rw [h6] at hm
                    simp only at hm
                    have k2 : ∀ x : List QOp, (∀ op ∈ x, EnvOp op) →
                        Open (recvOps cfg ++ (bodyOf cfg len c r1).ops ++
                          [QOp.from_ (if slen ≥ Nq.Gen.C07.qmtpAddrMax then [] else sraw)] ++
                          (if (!decide (slen ≥ Nq.Gen.C07.qmtpAddrMax) && !sraw.contains 0) = true then [] else [QOp.fail]) ++
                          x) := fun x hx => by
                      rw [List.append_assoc (_ ++ [QOp.from_ _])]
                      exact .env _ (recv_body_pf cfg len c r1)
                        (List.forall_mem_append.mpr ⟨EnvOp.of_ite_fail _, hx⟩)
                    cases h7 : Netstring.getlen Nq.Gen.C07.qmtpLenMax 0 r6 with
                    | stop e r =>
                      rw [h7] at hm; subst hm
                      have k := k2 [] (by simp)
                      rw [List.append_nil] at k
                      exact .inl ⟨nofun, k⟩
                    | ok biglen r7 =>
                      rw [h7] at hm
                      simp only at hm
                      have k3 := k2 _ (rcptLoop_env cfg (r7.length + 1) biglen r7)
                      cases h8 : (rcptLoop cfg (r7.length + 1) biglen r7).stop with
                      | some e => rw [h8] at hm; subst hm; exact .inl ⟨nofun, k3⟩
                      | none =>
                        rw [h8] at hm
                        simp only at hm
                        cases h9 : Netstring.getcomma (rcptLoop cfg (r7.length + 1) biglen r7).rest with
                        | stop e r => rw [h9] at hm; subst hm; exact .inl ⟨nofun, k3⟩
                        | ok u9 r8 =>
                          exact .inr ⟨⟨len, c, r1, r2, r3, slen, r4, sraw, r5, r6, biglen, r7, r8⟩,
                            h1, hl, hc', h2, h3, h4, h5, h6, h7, h8, h9⟩

theorem msg_full (cfg : Cfg) (inp : Bytes) (h : (msg cfg inp).stop = none) : ∃ p, Full cfg inp p :=
  (msg_cases cfg inp).resolve_left fun hs => hs.1 h

theorem msg_stopped (cfg : Cfg) (inp : Bytes) (h : (msg cfg inp).stop ≠ none) : Open (msg cfg inp).ops := by
  rcases msg_cases cfg inp with hs | ⟨_, R⟩
  · exact hs.2
  · rw [R.msg_eq] at h; exact absurd rfl h

theorem stream_ite_fail (c : Prop) [Decidable c] : stream (if c then [] else [QOp.fail]) = [] := by
  split <;> rfl

open Nq.Spec.C07 (undos) in
theorem bodyOf_reads (cfg : Cfg) (len : Nat) (c : Byte) (r1 r2 : Bytes) (h : (bodyOf cfg len c r1).rest = some r2) :
    BodyRead (bodyOf cfg len c) (len - 1) r1 r2 (if c = CR then undos (r1.take (len - 1)) else r1.take (len - 1)) := by
  unfold bodyOf at h ⊢
  by_cases hc : c = CR
  · simp only [if_pos hc] at h ⊢
    exact dosBody_reads _ false _ r1 r2 (by simp) h
  · simp only [if_neg hc, pre_rest] at h ⊢
    obtain ⟨h1, h2, h3, h4⟩ := unixBody_reads (len - 1) r1 r2 h
    refine ⟨h1, h2, ?_, fun t => by rw [h4 t]; rfl⟩
    rw [pre_ops, putBytes_append, h3]
    split <;> rfl

theorem msg_ext (cfg : Cfg) (inp t : Bytes) (h : (msg cfg inp).stop = none) :
    msg cfg (inp ++ t) = { msg cfg inp with rest := (msg cfg inp).rest ++ t } := by
  obtain ⟨p, R⟩ := msg_full cfg inp h
  have hb := (bodyOf_reads cfg p.len p.c p.r1 p.r2 R.body).ext t
  have hr := rcptLoop_ext cfg (p.r7.length + 1) ((p.r7 ++ t).length + 1) p.biglen p.r7 t (by simp) R.rcpts
  have R' : Full cfg (inp ++ t) ⟨p.len, p.c, p.r1 ++ t, p.r2 ++ t, p.r3 ++ t, p.slen, p.r4 ++ t, p.sraw, p.r5 ++ t, p.r6 ++ t,
      p.biglen, p.r7 ++ t, p.r8 ++ t⟩ :=
    ⟨getlen_ext _ inp 0 p.len _ t R.len, R.len_ne, R.mode, by rw [hb], getcomma_ext p.r2 () p.r3 t R.comma1,
      getlen_ext _ p.r3 0 p.slen p.r4 t R.slen, getbytes_ext p.slen p.r4 p.sraw p.r5 t R.sender,
      getcomma_ext p.r5 () p.r6 t R.comma2, getlen_ext _ p.r6 0 p.biglen p.r7 t R.biglen, by rw [hr]; exact R.rcpts,
      by rw [hr]; exact getcomma_ext _ () p.r8 t R.comma3⟩
  rw [R.msg_eq, R'.msg_eq, fullMsg, fullMsg, btoAfter, btoAfter, hb, hr]

/-- **cut, QMTP.**  On a prefix shorter than the bytes `msg` consumed qmail-qmtpd does not get to `qmail_close`, nor to
    its replies -/
theorem msg_prefix (cfg : Cfg) (inp : Bytes) (j : Nat) (hj : j < inp.length - (msg cfg inp).rest.length) :
    (msg cfg (inp.take j)).stop ≠ none :=
  not_done_of_shorter (done := fun p => (msg cfg p).stop = none) (rest := fun p => (msg cfg p).rest)
    (fun p t hp => by rw [msg_ext cfg p t hp]) inp j hj

end Qmtp


/-! ### qmail-qmqpd -/
namespace Qmqp

theorem body_pf (len bl : Nat) (inp : Bytes) : ∀ op ∈ (body len bl inp).ops, pf op = true := by
  rw [body_ops]
  intro op hop
  obtain ⟨c, _, rfl⟩ := List.mem_map.mp hop
  rfl

theorem rcptLoop_calls : ∀ (fuel bl : Nat) (inp : Bytes),
    (∀ op ∈ (rcptLoop fuel bl inp).ops, EnvOp op) ∧
    stream (rcptLoop fuel bl inp).ops = entries (rcptLoop fuel bl inp).rcpts ∧
    (QOp.fail ∈ (rcptLoop fuel bl inp).ops ↔ (rcptLoop fuel bl inp).flagok = false)
  | 0, _, _ => by simp [rcptLoop, stream, entries]
  | _ + 1, 0, _ => by simp [rcptLoop, stream, entries]
  | fuel + 1, bl + 1, inp => by
    simp only [rcptLoop]
    cases h1 : getbuf (bl + 1) inp with
    | stop e r => simp [stream, entries]
    | ok v r1 =>
      obtain ⟨a, ok, bl1⟩ := v
      obtain ⟨i1, i2, i3⟩ := rcptLoop_calls fuel bl1 r1
      cases ok
      · simp only [Bool.false_eq_true, ↓reduceIte]
        exact ⟨List.forall_mem_cons.mpr ⟨.fail, i1⟩, by simpa [stream] using i2, by simp⟩
      · simp only [↓reduceIte]
        refine ⟨List.forall_mem_cons.mpr ⟨.to a, i1⟩, ?_, by simpa using i3⟩
        simp only [stream, entries, List.map_cons, List.flatten_cons] at i2 ⊢
        rw [i2]

/-- what `parse` reads when every step succeeds: the outer length, the body length `len` with `len` body bytes at the head
    of `r1`, the sender `s` with `getbuf`'s verdict `sok`, the recipients at the head of `r4`; `r0` … `r9` are what the steps
    leave unread, `r9` at the end, and `x1`, `bl1` … `bl4`, `u` their `bytesleft` -/
structure Parts where
  (outer x1 : Nat) (r0 : Bytes) (len bl1 : Nat) (r1 : Bytes) (bl2 : Nat) (r2 : Bytes) (bl3 : Nat) (r3 s : Bytes) (sok : Bool)
  (bl4 : Nat) (r4 : Bytes) (u : Nat) (r9 : Bytes)

/-- the record `parse` returns when every reading step succeeds -/
def fullRun (cfg : Cfg) (p : Parts) : Run :=
  { ops := recvOps cfg ++ (body p.len p.bl1 p.r1).ops ++ (if p.sok then [.from_ p.s] else [.from_ [], .fail]) ++
             (rcptLoop (p.r4.length + 1) p.bl4 p.r4).ops ++ [.close],
    opened := true, stored := Qmtp.putBytes (body p.len p.bl1 p.r1).ops,
    flagok := p.sok && (rcptLoop (p.r4.length + 1) p.bl4 p.r4).flagok, sender := if p.sok then p.s else [],
    rcpts := (rcptLoop (p.r4.length + 1) p.bl4 p.r4).rcpts, rest := p.r9 }

/-- every reading step of `parse` succeeds on `inp`, with these parts -/
structure Full (cfg : Cfg) (inp : Bytes) (p : Parts) : Prop where
  outer : getlen Nq.Gen.C07.qmqpLenMax Nq.Gen.C07.qmqpOuterDigits 0 inp = .ok (p.outer, p.x1) p.r0
  len : getlen Nq.Gen.C07.qmqpLenMax p.outer 0 p.r0 = .ok (p.len, p.bl1) p.r1
  body : (body p.len p.bl1 p.r1).res = .ok p.bl2 p.r2
  comma1 : getcomma p.bl2 p.r2 = .ok p.bl3 p.r3
  sender : getbuf p.bl3 p.r3 = .ok (p.s, p.sok, p.bl4) p.r4
  rcpts : (rcptLoop (p.r4.length + 1) p.bl4 p.r4).stop = none
  comma2 : getcomma 1 (rcptLoop (p.r4.length + 1) p.bl4 p.r4).rest = .ok p.u p.r9

theorem Full.parse_eq {cfg : Cfg} {inp : Bytes} {p : Parts} (R : Full cfg inp p) : parse cfg inp = fullRun cfg p := by
  unfold parse
  simp only [R.outer, R.len, R.body, R.comma1, R.sender, R.rcpts, R.comma2]
  rfl

theorem recv_body_pf (cfg : Cfg) (len bl : Nat) (r : Bytes) : ∀ op ∈ recvOps cfg ++ (body len bl r).ops, pf op = true :=
  List.forall_mem_append.mpr ⟨pf_map_put _, body_pf len bl r⟩

theorem parse_cases (cfg : Cfg) (inp : Bytes) :
    ((parse cfg inp).stop ≠ none ∧ Open (parse cfg inp).ops) ∨ ∃ p, Full cfg inp p := by
  have k3 : ∀ len bl1 r1 s (sok : Bool) bl4 (r4 : Bytes),
      Open (recvOps cfg ++ (body len bl1 r1).ops ++ (if sok = true then [QOp.from_ s] else [QOp.from_ [], QOp.fail]) ++
        (rcptLoop (r4.length + 1) bl4 r4).ops) := by
    intro len bl1 r1 s sok bl4 r4
    have he := (rcptLoop_calls (r4.length + 1) bl4 r4).1
    cases sok
    · have := Open.env [] (recv_body_pf cfg len bl1 r1) (List.forall_mem_cons.mpr ⟨EnvOp.fail, he⟩)
      simpa [List.append_assoc] using this
    · exact .env s (recv_body_pf cfg len bl1 r1) he
  -- one case for each exit of `parse`, in its order, the last the complete reading
  fun_cases parse cfg inp
  case case1 | case2 => exact .inl ⟨nofun, .msg nofun⟩
  case case3 | case4 | case5 => exact .inl ⟨nofun, .msg (recv_body_pf cfg _ _ _)⟩
  case case6 | case7 => exact .inl ⟨nofun, k3 _ _ _ _ _ _ _⟩
  case case8 outer x1 r0 h1 len bl1 r1 h2 _ _ _ bl2 r2 h3 bl3 r3 h4 s sok bl4 r4 h5 _ _ _ h6 u r9 h7 =>
    exact .inr ⟨⟨outer, x1, r0, len, bl1, r1, bl2, r2, bl3, r3, s, sok, bl4, r4, u, r9⟩, h1, h2, h3, h4, h5, h6, h7⟩

theorem parse_full (cfg : Cfg) (inp : Bytes) (h : (parse cfg inp).stop = none) : ∃ p, Full cfg inp p :=
  (parse_cases cfg inp).resolve_left fun hs => hs.1 h

theorem parse_stopped (cfg : Cfg) (inp : Bytes) (h : (parse cfg inp).stop ≠ none) : Open (parse cfg inp).ops := by
  rcases parse_cases cfg inp with hs | ⟨_, R⟩
  · exact hs.2
  · rw [R.parse_eq] at h; exact absurd rfl h

theorem parse_ext (cfg : Cfg) (inp t : Bytes) (h : (parse cfg inp).stop = none) :
    parse cfg (inp ++ t) = { parse cfg inp with rest := (parse cfg inp).rest ++ t } := by
  obtain ⟨p, R⟩ := parse_full cfg inp h
  have hb := (body_reads p.len p.bl1 p.r1 p.bl2 p.r2 R.body).2.2.2 t
  have hr := rcptLoop_ext (p.r4.length + 1) ((p.r4 ++ t).length + 1) p.bl4 p.r4 t (by simp) R.rcpts
  have R' : Full cfg (inp ++ t) ⟨p.outer, p.x1, p.r0 ++ t, p.len, p.bl1, p.r1 ++ t, p.bl2, p.r2 ++ t, p.bl3, p.r3 ++ t,
      p.s, p.sok, p.bl4, p.r4 ++ t, p.u, p.r9 ++ t⟩ :=
    ⟨getlen_ext _ inp _ 0 _ p.r0 t R.outer, getlen_ext _ p.r0 _ 0 _ p.r1 t R.len, by rw [hb],
      getcomma_ext _ p.r2 _ p.r3 t R.comma1, getbuf_ext _ p.r3 _ p.r4 t R.sender, by rw [hr]; exact R.rcpts,
      by rw [hr]; exact getcomma_ext _ _ _ p.r9 t R.comma2⟩
  rw [R.parse_eq, R'.parse_eq, fullRun, fullRun, hb, hr]

/-- **cut, QMQP.**  On a prefix shorter than the bytes `parse` consumed qmail-qmqpd does not get to `qmail_close` -/
theorem parse_prefix (cfg : Cfg) (inp : Bytes) (j : Nat) (hj : j < inp.length - (parse cfg inp).rest.length) :
    (parse cfg (inp.take j)).stop ≠ none :=
  not_done_of_shorter (done := fun p => (parse cfg p).stop = none) (rest := fun p => (parse cfg p).rest)
    (fun p t hp => by rw [parse_ext cfg p t hp]) inp j hj

end Qmqp

end Nq.Netstring
