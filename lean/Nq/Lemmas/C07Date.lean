/-
  date822fmt.c: `fmt_uint` writes the decimal numeral, `fmt_uint0(…,2)` two digits, hence the format of `date822`; and the
  fields of `Nq.Received.datetimeTai`, the restriction of `Nq.Datetime.tai` to `t ≥ 0`, with the calendar statement.
-/
import Nq.Lemmas.Decimal
import Nq.Received
import Nq.Lemmas.Datetime

namespace Nq.Lemmas.C07Date
open Nq Nq.Received Nq.Datetime Nq.Lemmas.Datetime

theorem fmtU_eq (n : Nat) : fmtU n = fmtNat n := by
  have h := fmtLoop_eq (A := digitsAux) (fun f n acc => by
    rw [digitsAux]; split
    · rename_i h; rw [Nat.mod_eq_of_lt h]
    · rfl) (n + 1) n [] (Nat.lt_succ_self n)
  rwa [List.append_nil] at h

theorem fmtU_decimal (n : Nat) : isDecimal n (fmtU n) := by
  rw [fmtU_eq]
  refine ⟨fmtNat_ne_nil n, fmtNat_digits n, decVal_fmtNat n, fun h => ?_⟩
  rw [fmtNat_head_zero n h]; exact fmtNat_lt10 0 (by decide)

theorem fmtU0_two (u : Nat) (h : u < 100) : fmtU0 u 2 = two u := by
  have h2 : ∀ u, u < 100 → fmtU0 u 2 = two u := by decide
  exact h2 u h

/-- for `t ≥ 0` every field `date822fmt` reads is non-negative, so `fmt_uint`'s conversion to `unsigned` is the identity -/
theorem datetimeTai_fields (t : Nat) :
    ((datetimeTai t).hour : Int) = (tai t).hour ∧ ((datetimeTai t).min : Int) = (tai t).min ∧
    ((datetimeTai t).sec : Int) = (tai t).sec ∧ ((datetimeTai t).mday : Int) = (tai t).mday ∧
    ((datetimeTai t).mon : Int) = (tai t).mon ∧ ((datetimeTai t).year : Int) = (tai t).year ∧ 1970 ≤ (tai t).year := by
  obtain ⟨⟨v1, _, v3, _⟩, _, ⟨a1, _, a3, _, a5, _⟩, _, _⟩ := tai_civil (t : Int)
  have hy := (tai_nat t).2.2.2.2
  exact ⟨Int.toNat_of_nonneg a1, Int.toNat_of_nonneg a3, Int.toNat_of_nonneg a5, Int.toNat_of_nonneg (Int.le_trans (by decide) v3),
    Int.toNat_of_nonneg v1, Int.toNat_of_nonneg (Int.le_trans (by decide) hy), hy⟩

theorem datetimeTai_civil (t : Nat) :
    validDate (datetimeTai t).year (datetimeTai t).mon (datetimeTai t).mday ∧
    daysFromCivil (datetimeTai t).year (datetimeTai t).mon (datetimeTai t).mday = ((t / 86400 : Nat) : Int) ∧
    (datetimeTai t).hour < 24 ∧ (datetimeTai t).min < 60 ∧ (datetimeTai t).sec < 60 ∧
    (datetimeTai t).hour * 3600 + (datetimeTai t).min * 60 + (datetimeTai t).sec = t % 86400 ∧
    1970 ≤ (datetimeTai t).year ∧ (datetimeTai t).mon < 12 := by
  obtain ⟨f1, f2, f3, f4, f5, f6, f7⟩ := datetimeTai_fields t
  obtain ⟨hv, hd, ⟨a1, a2, a3, a4, a5, a6⟩, hs, _⟩ := tai_civil (t : Int)
  rw [f4, f5, f6]
  have hv' := hv
  obtain ⟨v1, v2, v3, v4⟩ := hv'
  refine ⟨hv, ?_, ?_, ?_, ?_, ?_, ?_, ?_⟩
  · rw [hd]; omega
  all_goals omega

theorem months_len (m : Nat) (h : m < 12) : (months.getD m []).length = 3 := by
  have h2 : ∀ m, m < 12 → (months.getD m []).length = 3 := by decide
  exact h2 m h

/-- the byte lists spell "D Mon YYYY HH:MM:SS -0000\n" -/
theorem date822_format (dt : Received.DT) (hh : dt.hour < 24) (hm : dt.min < 60) (hs : dt.sec < 60) :
    ∃ D Y : Bytes, isDecimal dt.mday D ∧ isDecimal dt.year Y ∧
      date822 dt = D ++ [SP] ++ months.getD dt.mon [] ++ [SP] ++ Y ++ [SP] ++
        two dt.hour ++ [58] ++ two dt.min ++ [58] ++ two dt.sec ++ [SP, 45, 48, 48, 48, 48, LF] := by
  refine ⟨fmtU dt.mday, fmtU dt.year, fmtU_decimal _, fmtU_decimal _, ?_⟩
  unfold date822
  rw [fmtU0_two _ (by omega), fmtU0_two _ (by omega), fmtU0_two _ (by omega)]
  rfl

end Nq.Lemmas.C07Date
