/-
  For each of the three daemons the calls of a transaction read to the end are a `Closed` (C07Qq.lean) whose `refused` is
  the disjunction of the flags the reply selection looks at (SMTP: size, hops; QMTP: size, `senderok`, "no recipient
  accepted"; QMQP: `flagok`): when one of them says "refuse", a `qmail_fail` is among the calls.  What that means for
  `flagerr` and the envelope is `Closed.outcome`, drawn in `closed_ack` of `Props/C07.lean`.  For qmail-qmtpd also the
  size flag against the number of stored bytes (`bodyOf_overflow`) and the three shapes of a reply (`mem_replies`).
-/
import Nq.Netstring
import Nq.Spec.C07
import Nq.Lemmas.C07Daemons

namespace Nq.Netstring
open Nq Nq.QmailC Nq.Received

namespace Smtp
open Nq.SmtpIn

/-- the size limit and the hop limit are each a `qmail_fail` while the message is copied -/
theorem data_closed (cfg : Cfg) (helo : Option Bytes) (mailfrom : Bytes) (rs : List Bytes) (inp : Bytes)
    (h : (data cfg helo mailfrom (entries rs) inp).stop = none) :
    Closed (data cfg helo mailfrom (entries rs) inp).ops
      (received pSMTP cfg.peer (fakehelo cfg.peer helo) cfg.now ++ (data cfg helo mailfrom (entries rs) inp).stored)
      (cstr mailfrom) rs
      ((data cfg helo mailfrom (entries rs) inp).overflow = true ∨ (data cfg helo mailfrom (entries rs) inp).hopsBad = true) := by
  obtain ⟨b, _, hst, hops, hov⟩ := data_full cfg helo mailfrom (entries rs) inp h
  have hpf : ∀ op ∈ (receivedPieces pSMTP cfg.peer (fakehelo cfg.peer helo) cfg.now).map QOp.put ++
      ovfList (if cfg.databytes = 0 then 0 else cfg.databytes + 1) b ++
      (if (data cfg helo mailfrom (entries rs) inp).hopsBad then [QOp.fail] else []), pf op = true :=
    List.forall_mem_append.mpr ⟨List.forall_mem_append.mpr ⟨pf_map_put _, ovfList_pf _ _⟩,
      all_ite _ _ _ (by simp [pf]) (by simp)⟩
  refine .intro (sbuf := mailfrom) (eops := [.put (entries rs)]) (calls := hops) (msg := hpf) (env := EnvOp.of_rcptto rs)
    (sender_eq := rfl) (rcpts_eq := by simp [stream]) (content_eq := ?_) (fail := ?_)
  · rw [stream_pf _ hpf, putBytes_append, putBytes_append, putBytes_map_put, receivedPieces_flatten, putBytes_ite_fail,
      ovfList_bytes, hst, List.append_nil]
  · rintro (ho | hh)
    · have hb := hov.mp ho
      exact .inl (List.mem_append_left _ (List.mem_append_right _ (ovfList_fail b _ (by rw [if_neg hb.1]; omega)
        (by rw [if_neg hb.1]; omega))))
    · exact .inl (List.mem_append_right _ (if_pos hh ▸ List.mem_singleton.mpr rfl))

end Smtp

namespace Qmtp

theorem bodyOf_overflow (cfg : Cfg) (len : Nat) (c : Byte) (r1 r2 : Bytes) (h2 : (bodyOf cfg len c r1).rest = some r2)
    (hc : c = LF ∨ c = CR) (h0 : cfg.databytes ≠ 0) :
    (btoAfter cfg len c r1 = 0 ↔ (putBytes (bodyOf cfg len c r1).ops).length > cfg.databytes) ∧
    (btoAfter cfg len c r1 = 0 → QOp.fail ∈ (bodyOf cfg len c r1).ops) := by
  unfold btoAfter
  have hb0 : bto0 cfg = cfg.databytes + 1 := by unfold bto0; rw [if_neg h0]
  rcases hc with hc | hc
  · -- LF framing: exactly `len - 1` bytes are stored
    have hne : ¬ c = CR := by rw [hc]; decide
    have B := bodyOf_reads cfg len c r1 r2 h2
    rw [B.stored_eq, if_neg hne, if_neg hne, List.length_take, Nat.min_eq_left B.le, hb0]
    unfold bodyOf
    rw [if_neg hne, pre_ops]
    by_cases hbig : c = LF ∧ cfg.databytes ≠ 0 ∧ len - 1 > cfg.databytes
    · simp only [if_pos hbig]
      exact ⟨⟨fun _ => hbig.2.2, fun _ => trivial⟩, fun _ => List.mem_append_left _ (List.mem_singleton.mpr rfl)⟩
    · simp only [if_neg hbig]
      exact ⟨⟨fun h => by omega, fun h => absurd ⟨hc, h0, h⟩ hbig⟩, fun h => by omega⟩
  · rw [if_pos hc]
    unfold bodyOf
    obtain ⟨b, e1, e2⟩ := dosBody_eq (len - 1) false (bto0 cfg) r1
    rw [if_pos hc, e1, e2, Smtp.ovfList_bytes]
    exact ⟨by omega, fun h => Smtp.ovfList_fail b _ (by omega) (by omega)⟩

theorem mem_replies {m : Msg} {res r : Bytes} (h : r ∈ replies m res) :
    (r = netstring res ∧ m.failure.contains 0 = true) ∨ r = sRcpthosts ∨ r = sCantHandle := by
  obtain ⟨f, hf, rfl⟩ := List.mem_map.mp h
  by_cases h0 : f = 0
  · exact .inl ⟨if_pos h0, by simpa [h0] using hf⟩
  · rw [if_neg h0]
    by_cases hD : f = fD
    · exact .inr (.inl (if_pos hD))
    · exact .inr (.inr (if_neg hD))

/-- the size limit is a `qmail_fail` while the message is copied, an unacceptable sender and "no recipient accepted" one
    each in the envelope part -/
theorem msg_closed (cfg : Cfg) (inp : Bytes) (h : (msg cfg inp).stop = none) :
    Closed (msg cfg inp).ops (received pQMTP cfg.peer none cfg.now ++ (msg cfg inp).stored) (msg cfg inp).sender
      (msg cfg inp).rcpts
      ((msg cfg inp).overflow = true ∨ (msg cfg inp).senderok = false ∨ (msg cfg inp).failure.contains 0 = false) := by
  obtain ⟨p, R⟩ := msg_full cfg inp h
  rw [R.msg_eq]
  simp only [fullMsg, decide_eq_true_eq]
  refine .intro (mops := recvOps cfg ++ (bodyOf cfg p.len p.c p.r1).ops)
    (sbuf := if p.slen ≥ Nq.Gen.C07.qmtpAddrMax then [] else p.sraw)
    (eops := (if (!decide (p.slen ≥ Nq.Gen.C07.qmtpAddrMax) && !p.sraw.contains 0) = true then [] else [QOp.fail]) ++
      (rcptLoop cfg (p.r7.length + 1) p.biglen p.r7).ops ++
      (if (rcptLoop cfg (p.r7.length + 1) p.biglen p.r7).failure.contains 0 = true then [] else [QOp.fail]))
    (calls := by simp only [List.append_assoc]) (msg := recv_body_pf cfg p.len p.c p.r1) (sender_eq := rfl)
    (env := ?_) (content_eq := ?_) (rcpts_eq := ?_) (fail := ?_)
  · exact List.forall_mem_append.mpr ⟨List.forall_mem_append.mpr ⟨EnvOp.of_ite_fail _, rcptLoop_env cfg _ _ _⟩, EnvOp.of_ite_fail _⟩
  · rw [stream_pf _ (recv_body_pf cfg p.len p.c p.r1), putBytes_append, recvOps, putBytes_map_put, receivedPieces_flatten]
  · rw [stream_append, stream_append, rcptLoop_ops, stream_map_to, stream_ite_fail, stream_ite_fail, List.nil_append,
      List.append_nil]
  · rintro (ho | hs | hf)
    · exact .inl (List.mem_append_right _ ((bodyOf_overflow cfg p.len p.c p.r1 p.r2 R.body R.mode ho.1).2 ho.2))
    · exact .inr (List.mem_append_left _ (List.mem_append_left _ (mem_ite_fail hs)))
    · exact .inr (List.mem_append_right _ (mem_ite_fail hf))

end Qmtp

namespace Qmqp

/-- a refused address (`flagok = 0`) is a `qmail_fail` in the envelope part -/
theorem parse_closed (cfg : Cfg) (inp : Bytes) (h : (parse cfg inp).stop = none) :
    Closed (parse cfg inp).ops (received pQMQP cfg.peer none cfg.now ++ (parse cfg inp).stored) (cstr (parse cfg inp).sender)
      (parse cfg inp).rcpts ((parse cfg inp).flagok = false) := by
  obtain ⟨p, R⟩ := parse_full cfg inp h
  obtain ⟨htf, hstr, hfl⟩ := rcptLoop_calls (p.r4.length + 1) p.bl4 p.r4
  rw [R.parse_eq, fullRun]
  refine .intro (mops := recvOps cfg ++ (body p.len p.bl1 p.r1).ops) (sbuf := if p.sok then p.s else [])
    (eops := (if p.sok = true then [] else [QOp.fail]) ++ (rcptLoop (p.r4.length + 1) p.bl4 p.r4).ops)
    (msg := recv_body_pf cfg p.len p.bl1 p.r1) (sender_eq := rfl)
    (calls := ?_) (env := ?_) (content_eq := ?_) (rcpts_eq := ?_) (fail := ?_)
  · cases p.sok <;> simp [List.append_assoc]
  · exact List.forall_mem_append.mpr ⟨EnvOp.of_ite_fail _, htf⟩
  · rw [stream_pf _ (recv_body_pf cfg p.len p.bl1 p.r1), putBytes_append, recvOps, putBytes_map_put, receivedPieces_flatten]
  · rw [stream_append, hstr]
    cases p.sok <;> simp [stream]
  · intro hf
    cases hsok : p.sok
    · exact .inr (List.mem_append_left _ (mem_ite_fail rfl))
    · exact .inr (List.mem_append_right _ (hfl.mpr (by simpa [hsok] using hf)))

end Qmqp
end Nq.Netstring
