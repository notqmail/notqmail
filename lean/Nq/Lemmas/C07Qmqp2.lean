/-
  qmail-qmqpd: what a completely read request is, in terms of the input bytes.

  `Qmqp.parse` reports `flagok`, `sender`, `rcpts`, `stored` as fields of its own result.  Here they are tied to
  the request bytes through the independent strict grammar of Nq/Spec/C07.lean (`ns?`, `nsList`, `qmqpReq`).
  `parse_framing` assembles the framing from the reading steps of `Qmqp.Full`, one `*_reads` lemma each; `parse_strict`,
  `parse_flagok_iff` and `qmqp_good_addresses` are read off it.  `parse_fail_flagok` is about the calls, not the bytes, and
  goes back to `Qmqp.Full` itself.  (The calls on qmail.c: `Qmqp.parse_closed`, Nq/Lemmas/C07Flags.lean.)
-/
import Nq.Netstring
import Nq.Spec.C07
import Nq.Lemmas.C07Daemons

namespace Nq.Lemmas.C07Qmqp2
open Nq Nq.QmailC Nq.Netstring Nq.Spec.C07

theorem body_no_fail (len bl : Nat) (inp : Bytes) : QOp.fail ∉ (Qmqp.body len bl inp).ops := by
  rw [Qmqp.body_ops]
  intro h
  obtain ⟨c, _, hc⟩ := List.mem_map.mp h
  exact nomatch hc

theorem recvOps_no_fail (cfg : Qmqp.Cfg) : QOp.fail ∉ Qmqp.recvOps cfg := by
  unfold Qmqp.recvOps
  intro h
  rw [List.mem_map] at h
  obtain ⟨b, _, hb⟩ := h
  exact absurd hb (by simp)

theorem parse_framing (cfg : Qmqp.Cfg) (inp : Bytes) (h : (Qmqp.parse cfg inp).stop = none) :
    ∃ content sraw rs, ns? inp = some (content, (Qmqp.parse cfg inp).rest) ∧
      nsList content = some ((Qmqp.parse cfg inp).stored :: sraw :: rs) ∧
      (Qmqp.parse cfg inp).flagok = (!badA sraw && rs.all (fun a => !badA a)) ∧
      (Qmqp.parse cfg inp).sender = (if badA sraw then [] else sraw) ∧
      (Qmqp.parse cfg inp).rcpts = rs.filter (fun a => !badA a) := by
  obtain ⟨p, R⟩ := Qmqp.parse_full cfg inp h
  rw [R.parse_eq]
  simp only [Qmqp.fullRun]
  obtain ⟨p0, e0, _, hn0⟩ := Qmqp.getlen_reads _ inp _ 0 p.outer p.x1 p.r0 R.outer
  obtain ⟨pl, e1, l1, hn1⟩ := Qmqp.getlen_reads _ p.r0 p.outer 0 p.len p.bl1 p.r1 R.len
  obtain ⟨e2, l2, l2', _⟩ := Qmqp.body_reads p.len p.bl1 p.r1 p.bl2 p.r2 R.body
  obtain ⟨e3, l3⟩ := (Qmqp.getcomma_iff p.bl2 p.r2 p.bl3 p.r3).mp R.comma1
  obtain ⟨sraw, ps, e4, l4, _, hns4, hsok, hs⟩ := Qmqp.getbuf_reads p.bl3 p.r3 p.s p.sok p.bl4 p.r4 R.sender
  obtain ⟨rs, pr, e5, l5, hall, hfo, hrc, _⟩ := Qmqp.rcptLoop_reads (p.r4.length + 1) p.bl4 p.r4 R.rcpts
  obtain ⟨e6, _⟩ := (Qmqp.getcomma_iff 1 _ p.u p.r9).mp R.comma2
  generalize Qmqp.rcptLoop (p.r4.length + 1) p.bl4 p.r4 = rl at *
  generalize hst : Qmtp.putBytes (Qmqp.body p.len p.bl1 p.r1).ops = stored at *
  -- the content of the outer netstring: the body netstring, then the sender and the recipients
  have hr0 : p.r0 = (pl ++ (stored ++ 44 :: (ps ++ pr))) ++ 44 :: p.r9 := by
    rw [e1, e2, e3, e4, e5, e6]; simp [List.append_assoc]
  refine ⟨pl ++ (stored ++ 44 :: (ps ++ pr)), sraw, rs, ?_, ?_, ?_, ?_, hrc⟩
  · rw [e0]
    exact ns?_intro _ p.outer p.r0 _ p.r9 (hn0 p.r0).2 hr0
      (by simp only [List.length_append, List.length_cons]; omega)
  · rw [nsList_cons _ stored (ps ++ pr) (ns?_intro _ p.len _ stored _ (hn1 _).2 rfl l2),
      nsList_cons _ sraw pr (hns4 pr).2, hall]
    rfl
  · rw [hsok, hfo]
  · cases hk : p.sok with
    | true =>
      have hb : badA sraw = false := by simpa [hk] using hsok
      rw [hb, hs hk]; simp
    | false =>
      have hb : badA sraw = true := by simpa [hk] using hsok
      rw [hb]; simp

theorem parse_strict (cfg : Qmqp.Cfg) (inp : Bytes) (h : (Qmqp.parse cfg inp).stop = none) :
    ∃ sraw rs, Nq.Spec.C07.qmqpReq inp = some ⟨(Qmqp.parse cfg inp).stored, sraw, rs⟩ ∧
      (Qmqp.parse cfg inp).flagok = (!badA sraw && rs.all (fun a => !badA a)) ∧
      (Qmqp.parse cfg inp).sender = (if badA sraw then [] else sraw) ∧
      (Qmqp.parse cfg inp).rcpts = rs.filter (fun a => !badA a) := by
  obtain ⟨content, sraw, rs, h1, h2, h3, h4, h5⟩ := parse_framing cfg inp h
  refine ⟨sraw, rs, ?_, h3, h4, h5⟩
  unfold qmqpReq
  simp only [h1, h2]

theorem parse_flagok_iff (cfg : Qmqp.Cfg) (inp : Bytes) (h : (Qmqp.parse cfg inp).stop = none) :
    ∃ body sraw rs, Nq.Spec.C07.qmqpReq inp = some ⟨body, sraw, rs⟩ ∧
      ((Qmqp.parse cfg inp).flagok = false ↔ ∃ a ∈ sraw :: rs, badA a = true) := by
  obtain ⟨sraw, rs, h1, h2, _, _⟩ := parse_strict cfg inp h
  refine ⟨_, sraw, rs, h1, ?_⟩
  rw [h2]
  cases hb : badA sraw <;> simp [hb]

theorem parse_fail_flagok (cfg : Qmqp.Cfg) (inp : Bytes) (h : (Qmqp.parse cfg inp).stop = none)
    (hf : QOp.fail ∈ (Qmqp.parse cfg inp).ops) : (Qmqp.parse cfg inp).flagok = false := by
  obtain ⟨p, R⟩ := Qmqp.parse_full cfg inp h
  rw [R.parse_eq, Qmqp.fullRun] at hf ⊢
  have hb := body_no_fail p.len p.bl1 p.r1
  have hr := recvOps_no_fail cfg
  cases hk : p.sok
  · rfl
  · rw [hk] at hf
    simpa [hb, hr, (Qmqp.rcptLoop_calls (p.r4.length + 1) p.bl4 p.r4).2.2] using hf

theorem qmqp_good_addresses (cfg : Qmqp.Cfg) (inp : Bytes) (req : Nq.Spec.C07.Req)
    (h : (Qmqp.parse cfg inp).stop = none) (hreq : Nq.Spec.C07.qmqpReq inp = some req)
    (hgood : ∀ a ∈ req.sender :: req.rcpts, badA a = false) :
    (Qmqp.parse cfg inp).flagok = true ∧ (Qmqp.parse cfg inp).stored = req.body ∧
    (Qmqp.parse cfg inp).sender = req.sender ∧ (Qmqp.parse cfg inp).rcpts = req.rcpts := by
  obtain ⟨sraw, rs, h1, h2, h3, h4⟩ := parse_strict cfg inp h
  rw [h1] at hreq
  simp only [Option.some.injEq] at hreq
  subst hreq
  have hs : badA sraw = false := hgood sraw (by simp)
  have hr : ∀ a ∈ rs, (!badA a) = true := fun a ha => by rw [hgood a (by simp [ha])]; rfl
  refine ⟨?_, rfl, ?_, ?_⟩
  · rw [h2, hs, List.all_eq_true.mpr hr]; rfl
  · rw [h3, hs]; rfl
  · rw [h4, List.filter_eq_self.mpr hr]

end Nq.Lemmas.C07Qmqp2
