/-
  Lemmas about `struct qmail` (Nq/QmailC.lean).  One relation says what `put`/`to`/`fail` calls do (`QQ.Sent`: what is on
  the pipe side is a prefix of what was meant, all of it unless `flagerr` is set).  `HasNN` (two consecutive NULs) is what a
  complete envelope must contain and what the bytes `F sender NUL (T recipient NUL)*` never contain; so a run of envelope
  calls that ends with `flagerr` set, or a call sequence without `qmail_close` (`Open`), leaves no complete envelope, and
  while `flagerr` stays clear the two pipes hold exactly the bytes handed in (`QQ.content`).  `Closed` is the interface the
  three daemons meet for a transaction read to the end; `Closed.outcome` is what follows from it for the two pipes.
-/
import Nq.QmailC
import Nq.Lemmas.C07Sub

namespace Nq.QmailC
open Nq

/-- two consecutive NUL bytes somewhere -/
def HasNN : Bytes → Bool
  | a :: b :: r => (a == 0 && b == 0) || HasNN (b :: r)
  | _ => false

theorem HasNN_append_right : ∀ (p t : Bytes), HasNN t = true → HasNN (p ++ t) = true
  | [], t, h => h
  | [a], t, h => by
    cases t with
    | nil => simp [HasNN] at h
    | cons b r => simp [HasNN, h]
  | a :: b :: p, t, h => by
    have := HasNN_append_right (b :: p) t h
    simp only [List.cons_append] at this ⊢
    simp [HasNN, this]

theorem HasNN_append_left : ∀ (p t : Bytes), HasNN p = true → HasNN (p ++ t) = true
  | [], _, h => by simp [HasNN] at h
  | [a], _, h => by simp [HasNN] at h
  | a :: b :: p, t, h => by
    simp only [HasNN, Bool.or_eq_true] at h
    simp only [List.cons_append, HasNN, Bool.or_eq_true]
    cases h with
    | inl h => exact Or.inl h
    | inr h => exact Or.inr (by simpa using HasNN_append_left (b :: p) t h)

theorem HasNN_prefix {p e : Bytes} (h : p <+: e) (hp : HasNN p = true) : HasNN e = true := by
  obtain ⟨t, rfl⟩ := h; exact HasNN_append_left p t hp

theorem HasNN_cons_ne (c : Byte) (z : Bytes) (hc : c ≠ 0) : HasNN (c :: z) = HasNN z := by
  cases z with
  | nil => simp [HasNN]
  | cons b r => simp [HasNN, hc]

theorem HasNN_append_block : ∀ (x : Bytes) (c : Byte) (y : Bytes), c ≠ 0 →
    HasNN (x ++ c :: y) = (HasNN x || HasNN (c :: y))
  | [], c, y, _ => by simp [HasNN]
  | [a], c, y, hc => by
    simp only [List.cons_append, List.nil_append]
    rw [show HasNN [a] = false from rfl]
    simp [HasNN, hc]
  | a :: b :: x, c, y, hc => by
    have ih := HasNN_append_block (b :: x) c y hc
    simp only [List.cons_append] at ih ⊢
    simp only [HasNN, ih, Bool.or_assoc]

theorem cstr_noNN : ∀ (r : Bytes), HasNN (cstr r ++ [0]) = false
  | [] => by simp [cstr, HasNN]
  | c :: r => by
    unfold cstr
    split
    · simp [HasNN]
    · rename_i hc
      simp only [List.cons_append]
      rw [HasNN_cons_ne c _ hc]
      exact cstr_noNN r

/-- one `T`/`F` entry -/
def entry (tag : Byte) (a : Bytes) : Bytes := tag :: (cstr a ++ [0])

theorem entry_noNN (tag : Byte) (a : Bytes) (ht : tag ≠ 0) : HasNN (entry tag a) = false := by
  unfold entry; rw [HasNN_cons_ne _ _ ht]; exact cstr_noNN a

theorem good_append_entry (x : Bytes) (tag : Byte) (a : Bytes) (ht : tag ≠ 0) (hx : HasNN x = false) :
    HasNN (x ++ entry tag a) = false := by
  unfold entry
  rw [HasNN_append_block x tag _ ht, hx]
  simpa [entry] using entry_noNN tag a ht

def entries (rs : List Bytes) : Bytes := (rs.map (entry 84)).flatten

theorem good_append_entries : ∀ (rs : List Bytes) (x : Bytes), HasNN x = false → HasNN (x ++ entries rs) = false
  | [], x, hx => by simpa [entries] using hx
  | r :: rs, x, hx => by
    have h1 := good_append_entry x 84 r (by decide) hx
    have := good_append_entries rs (x ++ entry 84 r) h1
    simpa [entries, List.append_assoc] using this

/-! ### the envelope scanner needs a NUL pair -/

theorem takeZ_eq : ∀ (r a rest : Bytes), takeZ r = some (a, rest) → r = a ++ 0 :: rest
  | [], _, _, h => by simp [takeZ] at h
  | c :: r, a, rest, h => by
    unfold takeZ at h
    split at h
    · rename_i hc; simp at h; obtain ⟨rfl, rfl⟩ := h; simp [hc]
    · cases h2 : takeZ r with
      | none => simp [h2] at h
      | some p =>
        obtain ⟨a', rest'⟩ := p
        simp [h2] at h
        obtain ⟨rfl, rfl⟩ := h
        have := takeZ_eq r a' rest' h2
        simp [this]

theorem envRcpts_NN : ∀ (fuel : Nat) (rest : Bytes) (rs : List Bytes),
    envRcpts fuel rest = some rs → HasNN (0 :: rest) = true
  | 0, _, _, h => by simp [envRcpts] at h
  | _ + 1, [], _, h => by simp [envRcpts] at h
  | fuel + 1, c :: r, rs, h => by
    unfold envRcpts at h
    split at h
    · rename_i hc; simp [HasNN, hc]
    · split at h
      · cases h2 : takeZ r with
        | none => simp [h2] at h
        | some p =>
          obtain ⟨a, rest'⟩ := p
          simp only [h2] at h
          cases h3 : envRcpts fuel rest' with
          | none => simp [h3] at h
          | some rs' =>
            have ih := envRcpts_NN fuel rest' rs' h3
            have he := takeZ_eq r a rest' h2
            rw [he]
            have := HasNN_append_right (0 :: c :: a) (0 :: rest') ih
            simpa using this
      · simp at h

theorem envComplete_NN (e : Bytes) (h : envComplete e = true) : HasNN e = true := by
  unfold envComplete envParse at h
  cases e with
  | nil => simp at h
  | cons c r =>
    simp only at h
    split at h
    · cases h2 : takeZ r with
      | none => simp [h2] at h
      | some p =>
        obtain ⟨s, rest⟩ := p
        simp only [h2] at h
        cases h3 : envRcpts (rest.length + 1) rest with
        | none => simp [h3] at h
        | some rs =>
          have := envRcpts_NN _ rest rs h3
          rw [takeZ_eq r s rest h2]
          have := HasNN_append_right (c :: s) (0 :: rest) this
          simpa using this
    · simp at h

/-! ### qmail_put and friends -/

theorem QQ.put_flagerr (q : QQ) (bs : Bytes) (h : q.flagerr = true) : q.put bs = q := by
  unfold QQ.put; simp [h]

/-- `q'` comes from `q` by calls that meant to send `X` on the pipe in use: what is there (written ++ buffered) is a
    prefix of what was meant, and all of it unless a failure is flagged; once one is flagged nothing more is taken -/
structure QQ.Sent (q q' : QQ) (X : Bytes) : Prop where
  pre : q'.ss.all <+: q.ss.all ++ X
  inEnv : q'.inEnv = q.inEnv
  msgDone : q'.msgDone = q.msgDone
  ok : q'.flagerr = false → q.flagerr = false ∧ q'.ss.all = q.ss.all ++ X
  dead : q.flagerr = true → q'.ss.all = q.ss.all

theorem QQ.Sent.refl (q : QQ) : q.Sent q [] :=
  ⟨by simp, rfl, rfl, fun h => ⟨h, by simp⟩, fun _ => rfl⟩

theorem QQ.Sent.mono {q q' : QQ} {X : Bytes} (a : q.Sent q' X) (h : q.flagerr = true) : q'.flagerr = true :=
  eq_true_of_ne_false fun hq => absurd ((a.ok hq).1.symm.trans h) (by decide)

theorem QQ.Sent.trans {q q' q'' : QQ} {X Y : Bytes} (a : q.Sent q' X) (b : q'.Sent q'' Y) : q.Sent q'' (X ++ Y) := by
  refine ⟨?_, b.inEnv.trans a.inEnv, b.msgDone.trans a.msgDone, fun h => ?_, fun h => ?_⟩
  · cases hf : q'.flagerr
    · rw [← List.append_assoc, ← (a.ok hf).2]; exact b.pre
    · rw [b.dead hf, ← List.append_assoc]; exact a.pre.trans (List.prefix_append _ _)
  · obtain ⟨h1, h2⟩ := b.ok h
    obtain ⟨h3, h4⟩ := a.ok h1
    exact ⟨h3, by rw [h2, h4, List.append_assoc]⟩
  · rw [b.dead (a.mono h), a.dead h]

theorem QQ.sent_put (q : QQ) (bs : Bytes) : q.Sent (q.put bs) bs := by
  cases hf : q.flagerr
  · have e : q.put bs = { q with ss := (q.ss.put bs).1, flagerr := !(q.ss.put bs).2 } := by unfold QQ.put; simp [hf]
    rw [e]
    exact ⟨(Sub.sends_put _ _).pre, rfl, rfl, fun h => ⟨hf, (Sub.sends_put _ _).ok (by simpa using h)⟩,
      fun h => absurd (hf.symm.trans h) (by decide)⟩
  · rw [QQ.put_flagerr q bs hf]
    exact ⟨List.prefix_append _ _, rfl, rfl, fun h => absurd (hf.symm.trans h) (by decide), fun _ => rfl⟩

theorem QQ.put_inEnv' (q : QQ) (bs : Bytes) : (q.put bs).inEnv = q.inEnv := (QQ.sent_put q bs).inEnv

def QQ.puts (q : QQ) (l : List Bytes) : QQ := l.foldl QQ.put q

theorem QQ.sent_puts : ∀ (l : List Bytes) (q : QQ), q.Sent (q.puts l) l.flatten
  | [], q => QQ.Sent.refl q
  | b :: l, q => (QQ.sent_put q b).trans (QQ.sent_puts l (q.put b))

theorem QQ.to_eq (q : QQ) (r : Bytes) : q.to r = q.puts [[84], cstr r, [0]] := rfl

theorem QQ.sent_to (q : QQ) (r : Bytes) : q.Sent (q.to r) (entry 84 r) := by
  rw [QQ.to_eq]
  simpa [entry] using QQ.sent_puts [[84], cstr r, [0]] q

/-- the state `qmail_from` switches to before it writes `F` -/
def QQ.switch (q : QQ) : QQ :=
  { q with flagerr := q.flagerr || !(q.ss.flush).2, inEnv := true, msgDone := (q.ss.flush).1.out,
           ss := { (q.ss.flush).1 with buf := [], out := [] } }

theorem QQ.from_eq (q : QQ) (s : Bytes) : q.from_ s = q.switch.puts [[70], cstr s, [0]] := rfl

theorem QQ.sent_from (q : QQ) (s : Bytes) : q.switch.Sent (q.from_ s) (entry 70 s) := by
  rw [QQ.from_eq]
  simpa [entry] using QQ.sent_puts [[70], cstr s, [0]] q.switch

/-- `put` / `to` / `fail`: the calls that do not switch pipes -/
def QOp.plain : QOp → Bool
  | .put _ => true
  | .to _ => true
  | .fail => true
  | _ => false

/-- the bytes a plain call sequence means to send -/
def stream : List QOp → Bytes
  | [] => []
  | .put bs :: r => bs ++ stream r
  | .to a :: r => entry 84 a ++ stream r
  | _ :: r => stream r

theorem stream_append (a b : List QOp) : stream (a ++ b) = stream a ++ stream b := by
  induction a with
  | nil => rfl
  | cons op a ih => cases op <;> simp [stream, ih, List.append_assoc]

theorem QQ.run_append (q : QQ) (a b : List QOp) : q.run (a ++ b) = (q.run a).run b := by
  simp [QQ.run, List.foldl_append]

theorem QQ.run_closed (q : QQ) (a eops : List QOp) (s : Bytes) :
    q.run (a ++ [.from_ s] ++ eops ++ [.close]) = (((q.run a).from_ s).run eops).close := by
  simp [QQ.run, QQ.apply]

theorem QQ.sent_plain (q : QQ) {op : QOp} (h : op.plain = true) : q.Sent (q.apply op) (stream [op]) := by
  cases op with
  | put bs => show q.Sent (q.put bs) _; simpa [stream] using QQ.sent_put q bs
  | to a => show q.Sent (q.to a) _; simpa [stream] using QQ.sent_to q a
  | fail => exact ⟨List.prefix_append _ _, rfl, rfl, fun h => (nomatch h), fun _ => rfl⟩
  | from_ s => exact nomatch h
  | close => exact nomatch h

theorem QQ.sent_run : ∀ (ops : List QOp) (q : QQ), (∀ op ∈ ops, op.plain = true) → q.Sent (q.run ops) (stream ops)
  | [], q, _ => QQ.Sent.refl q
  | op :: ops, q, h => by
    have := (QQ.sent_plain q (h op (by simp))).trans (QQ.sent_run ops (q.apply op) (fun o ho => h o (by simp [ho])))
    rwa [← stream_append] at this

/-! ### the envelope phase: no NUL pair on the envelope side before `qmail_close` -/

/-- the calls a daemon makes between `qmail_from` and `qmail_close` -/
inductive EnvOp : QOp → Prop
  | to (r : Bytes) : EnvOp (.to r)
  | fail : EnvOp .fail
  | rcptto (rs : List Bytes) : EnvOp (.put (entries rs))     -- qmail-smtpd: the whole `rcptto` stralloc at once

theorem EnvOp.of_rcptto (rs : List Bytes) : ∀ op ∈ [QOp.put (entries rs)], EnvOp op :=
  fun _ h => List.mem_singleton.mp h ▸ .rcptto rs

theorem EnvOp.plain {op : QOp} (h : EnvOp op) : op.plain = true := by
  cases h <;> rfl

theorem stream_good : ∀ (eops : List QOp) (x : Bytes), (∀ op ∈ eops, EnvOp op) → HasNN x = false →
    HasNN (x ++ stream eops) = false
  | [], x, _, hx => by simpa [stream] using hx
  | op :: eops, x, h, hx => by
    rw [show stream (op :: eops) = stream [op] ++ stream eops from stream_append [op] eops, ← List.append_assoc]
    apply stream_good eops _ (fun o ho => h o (by simp [ho]))
    cases h op (by simp) with
    | to r => simpa [stream] using good_append_entry x 84 r (by decide) hx
    | fail => simpa [stream] using hx
    | rcptto rs => simpa [stream] using good_append_entries rs x hx

/-- invariant of the envelope phase: on the envelope pipe side (written ++ buffered) there is no NUL pair -/
def QQ.EnvGood (q : QQ) : Prop := q.inEnv = true ∧ HasNN q.ss.all = false

theorem QQ.env_good (q : QQ) (s : Bytes) (eops : List QOp) (he : ∀ op ∈ eops, EnvOp op) :
    ((q.from_ s).run eops).EnvGood := by
  have a := (QQ.sent_from q s).trans (QQ.sent_run eops _ (fun op ho => (he op ho).plain))
  have hg := stream_good eops _ he (entry_noNN 70 s (by decide))
  exact ⟨a.inEnv, eq_false_of_ne_true fun h => absurd (hg.symm.trans (HasNN_prefix a.pre h)) (by decide)⟩

theorem prefix_of_snoc {p x : Bytes} {b : Byte} (h : p <+: x ++ [b]) (hl : p.length ≤ x.length) : p <+: x := by
  have h2 : x <+: x ++ [b] := List.prefix_append x [b]
  exact (List.prefix_of_prefix_length_le h h2 hl)

theorem incomplete_of_prefix {e x : Bytes} (hp : e <+: x) (hx : HasNN x = false) : envComplete e = false := by
  cases hc : envComplete e
  · rfl
  · rw [HasNN_prefix hp (envComplete_NN e hc)] at hx; exact absurd hx (by simp)

theorem envPipe_good (q : QQ) (h : q.EnvGood) : envComplete q.envPipe = false := by
  unfold QQ.envPipe
  rw [h.1, if_pos rfl]
  exact incomplete_of_prefix (List.prefix_append q.ss.out q.ss.buf) h.2

/-- qmail_close with a failure flagged: the terminator and the flush are one attempt to send `[0]` that failed, so what
    reached the envelope pipe is a prefix of what was there before -/
theorem QQ.close_fail (q : QQ) (h : q.close.flagerr = true) : q.close.ss.out <+: q.ss.all ∧ q.close.inEnv = q.inEnv := by
  have key : ∀ r : Sub × Bool, q.ss.Sends r [0] → r.2 = false → r.1.out <+: q.ss.all := fun r a hr =>
    (List.prefix_append _ _).trans (prefix_of_snoc a.pre (by
      have := (a.lost hr).1; simp only [Sub.all, List.length_append, List.length_singleton] at this ⊢; omega))
  have a := Sub.sends_put q.ss [0]
  unfold QQ.close QQ.put at h ⊢
  cases hf : q.flagerr
  · rcases hp : q.ss.put [0] with ⟨s1, ok1⟩
    rw [hp] at a
    cases ok1
    · simp only [hf, hp, Bool.false_eq_true, ↓reduceIte, Bool.not_false] at h ⊢
      exact ⟨key _ a rfl, trivial⟩
    · simp only [hf, hp, Bool.false_eq_true, ↓reduceIte, Bool.not_true] at h ⊢
      exact ⟨key _ (a.trans (Sub.sends_flush s1).1) (by simpa using h), trivial⟩
  · simp only [hf, ↓reduceIte] at h ⊢
    exact ⟨List.prefix_append _ _, trivial⟩

theorem QQ.close_fail_good (q : QQ) (hg : q.EnvGood) (h : q.close.flagerr = true) : envComplete q.close.envPipe = false := by
  have hc := QQ.close_fail q h
  unfold QQ.envPipe
  rw [hc.2, hg.1, if_pos rfl]
  exact incomplete_of_prefix hc.1 hg.2

/-! ### whole call sequences: `flagerr` is monotone, `QQ.content`, `Open`, `Closed` -/

theorem QQ.apply_mono (q : QQ) (op : QOp) (h : q.flagerr = true) : (q.apply op).flagerr = true := by
  cases op with
  | put bs => exact (QQ.sent_put q bs).mono h
  | fail => rfl
  | from_ s => exact (QQ.sent_from q s).mono (by simp [QQ.switch, h])
  | to r => exact (QQ.sent_to q r).mono h
  | close =>
    show q.close.flagerr = true
    unfold QQ.close
    rw [QQ.put_flagerr q [0] h]; simp [h]

theorem QQ.run_mono : ∀ (ops : List QOp) (q : QQ), q.flagerr = true → (q.run ops).flagerr = true
  | [], _, h => h
  | op :: ops, q, h => by
    simp only [QQ.run, List.foldl_cons]
    exact QQ.run_mono ops _ (QQ.apply_mono q op h)

theorem QQ.from_ok (q : QQ) (s : Bytes) (h : (q.from_ s).flagerr = false) :
    (q.from_ s).msgDone = q.ss.all ∧ (q.from_ s).ss.all = entry 70 s ∧ (q.from_ s).inEnv = true ∧ q.flagerr = false := by
  have a := QQ.sent_from q s
  obtain ⟨hsw, hall⟩ := a.ok h
  have hsw' : (q.flagerr || !(q.ss.flush).2) = false := hsw
  have hq : q.flagerr = false := by cases hh : q.flagerr <;> simp [hh] at hsw' ⊢
  have hfl : (q.ss.flush).2 = true := by cases hh : (q.ss.flush).2 <;> simp [hh, hq] at hsw' ⊢
  exact ⟨a.msgDone.trans (Sub.flush_ok q.ss hfl), hall, a.inEnv, hq⟩

theorem QQ.close_ok (q : QQ) (h : q.close.flagerr = false) :
    q.close.ss.out = q.ss.all ++ [0] ∧ q.close.inEnv = q.inEnv ∧ q.close.msgDone = q.msgDone ∧ q.flagerr = false := by
  have a := QQ.sent_put q [0]
  unfold QQ.close at h ⊢
  cases hp : (q.put [0]).flagerr
  · simp only [hp, Bool.false_eq_true, ↓reduceIte] at h ⊢
    have hfl : ((q.put [0]).ss.flush).2 = true := by
      cases hh : ((q.put [0]).ss.flush).2 <;> simp [hh] at h ⊢
    exact ⟨by rw [Sub.flush_ok _ hfl, (a.ok hp).2], a.inEnv, a.msgDone, (a.ok hp).1⟩
  · simp [hp] at h

theorem QQ.content (q0 : QQ) (mops eops : List QOp) (s : Bytes)
    (h0 : q0.ss.all = []) (hin : q0.inEnv = false)
    (hm : ∀ op ∈ mops, op.plain = true) (he : ∀ op ∈ eops, op.plain = true)
    (hf : (q0.run (mops ++ [.from_ s] ++ eops ++ [.close])).flagerr = false) :
    (q0.run (mops ++ [.from_ s] ++ eops ++ [.close])).msgPipe = stream mops ∧
    (q0.run (mops ++ [.from_ s] ++ eops ++ [.close])).envPipe = entry 70 s ++ stream eops ++ [0] := by
  rw [QQ.run_closed] at hf ⊢
  -- walk backwards: no failure at the end means no failure anywhere
  obtain ⟨c1, c2, c3, h3⟩ := QQ.close_ok _ hf
  have e := QQ.sent_run eops ((q0.run mops).from_ s) he
  obtain ⟨h2, e2⟩ := e.ok h3
  obtain ⟨f1, f2, f3, h1⟩ := QQ.from_ok (q0.run mops) s h2
  obtain ⟨_, m2⟩ := (QQ.sent_run mops q0 hm).ok h1
  unfold QQ.msgPipe QQ.envPipe
  rw [c2, e.inEnv, f3]
  simp only [↓reduceIte]
  exact ⟨by rw [c3, e.msgDone, f1, m2, h0]; rfl, by rw [c1, e2, f2]⟩

/-- `put` or `fail`: the calls a daemon makes while it copies the message -/
def pf : QOp → Bool
  | .put _ => true
  | .fail => true
  | _ => false

theorem pf_plain {op : QOp} (h : pf op = true) : op.plain = true := by
  cases op <;> simp_all [pf, QOp.plain]

/-- the calls of a transaction the daemon leaves half-way: `put`/`fail` while the message is copied, then possibly
    `qmail_from` and envelope calls; no `qmail_close` -/
inductive Open : List QOp → Prop
  | msg {mops : List QOp} (hm : ∀ op ∈ mops, pf op = true) : Open mops
  | env {mops eops : List QOp} (s : Bytes) (hm : ∀ op ∈ mops, pf op = true) (he : ∀ op ∈ eops, EnvOp op) :
      Open (mops ++ [.from_ s] ++ eops)

theorem Open.no_envelope {ops : List QOp} (h : Open ops) (w : Option Nat) :
    envComplete ((QQ.opened w).run ops).envPipe = false := by
  cases h with
  | msg hm =>
    have hi : ((QQ.opened w).run ops).inEnv = false := (QQ.sent_run _ _ (fun op ho => pf_plain (hm op ho))).inEnv
    simp [QQ.envPipe, hi, envComplete, envParse]
  | env s hm he =>
    rw [QQ.run_append, QQ.run_append]
    exact envPipe_good _ (QQ.env_good _ s _ he)

theorem all_ite {α : Type} {P : α → Prop} (c : Prop) [Decidable c] (x y : List α) (hx : ∀ op ∈ x, P op) (hy : ∀ op ∈ y, P op) :
    ∀ op ∈ (if c then x else y), P op := by
  split <;> assumption

theorem EnvOp.of_ite_fail (c : Prop) [Decidable c] : ∀ op ∈ (if c then [] else [QOp.fail]), EnvOp op :=
  all_ite c _ _ nofun fun _ h => List.mem_singleton.mp h ▸ .fail

theorem mem_ite_fail {b : Bool} (h : b = false) : QOp.fail ∈ (if b = true then [] else [QOp.fail]) :=
  h ▸ List.mem_singleton.mpr rfl

theorem QQ.run_fail_mem : ∀ (ops : List QOp) (q : QQ), QOp.fail ∈ ops → (q.run ops).flagerr = true
  | [], _, h => by simp at h
  | op :: ops, q, h => by
    simp only [QQ.run, List.foldl_cons]
    rcases List.mem_cons.mp h with h | h
    · subst h
      exact QQ.run_mono ops _ rfl
    · exact QQ.run_fail_mem ops _ h

theorem QQ.refused_of_flagerr (q : QQ) (s : Bytes) (eops : List QOp) (he : ∀ op ∈ eops, EnvOp op)
    (hf : ((q.from_ s).run eops).close.flagerr = true) : envComplete ((q.from_ s).run eops).close.envPipe = false :=
  QQ.close_fail_good _ (QQ.env_good q s eops he) hf

theorem envelope_eq (sbuf : Bytes) (rs : List Bytes) :
    entry 70 sbuf ++ entries rs ++ [0] = envelope (cstr sbuf) (rs.map cstr) := by
  have h : (fun x => entry 84 x) = (fun x : Bytes => 84 :: (cstr x ++ [0])) := by funext x; rfl
  unfold envelope entries
  simp [List.map_map, Function.comp_def, entry, List.append_assoc]
  exact congrArg (fun f => (List.map f rs).flatten) h

/-- What a daemon hands to qmail.c for a transaction it has read to the end, and what it says about it: the calls are
    `put`/`fail` while the message `content` is copied, `qmail_from`, envelope calls for `rcpts`, `qmail_close`; and when
    the daemon is going to refuse (`refused`), a `qmail_fail` is among them. -/
inductive Closed (ops : List QOp) (content sender : Bytes) (rcpts : List Bytes) (refused : Prop) : Prop
  | intro (mops : List QOp) (sbuf : Bytes) (eops : List QOp) (calls : ops = mops ++ [.from_ sbuf] ++ eops ++ [.close])
      (msg : ∀ op ∈ mops, pf op = true) (env : ∀ op ∈ eops, EnvOp op) (content_eq : stream mops = content)
      (sender_eq : cstr sbuf = sender) (rcpts_eq : stream eops = entries rcpts)
      (fail : refused → QOp.fail ∈ mops ∨ QOp.fail ∈ eops)

theorem Closed.outcome {ops : List QOp} {content sender : Bytes} {rcpts : List Bytes} {refused : Prop}
    (t : Closed ops content sender rcpts refused) (w : Option Nat) :
    (((QQ.opened w).run ops).flagerr = false → ((QQ.opened w).run ops).msgPipe = content ∧
      ((QQ.opened w).run ops).envPipe = envelope sender (rcpts.map cstr)) ∧
    (((QQ.opened w).run ops).flagerr = true → envComplete ((QQ.opened w).run ops).envPipe = false) ∧
    (refused → ((QQ.opened w).run ops).flagerr = true) := by
  obtain ⟨mops, sbuf, eops, rfl, hm, he, rfl, rfl, hs, hfail⟩ := t
  refine ⟨fun hf => ?_, fun hf => ?_, fun hr => QQ.run_fail_mem _ (QQ.opened w) <| (hfail hr).elim
    (fun h => List.mem_append_left _ (List.mem_append_left _ (List.mem_append_left _ h)))
    (fun h => List.mem_append_left _ (List.mem_append_right _ h))⟩
  · have hc := QQ.content (QQ.opened w) mops eops sbuf rfl rfl (fun op ho => pf_plain (hm op ho))
      (fun op ho => (he op ho).plain) hf
    exact ⟨hc.1, by rw [hc.2, hs, envelope_eq]⟩
  · rw [QQ.run_closed] at hf ⊢
    exact QQ.refused_of_flagerr _ sbuf eops he hf

end Nq.QmailC
