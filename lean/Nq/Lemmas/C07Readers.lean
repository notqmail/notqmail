/-
  The reading steps of qmail-qmtpd and qmail-qmqpd, one `*_reads` lemma each.  A step that succeeds on `p` and leaves `r`
  has consumed a prefix `d` (`p = d ++ r`), it does the same whatever follows `d`, and the strict grammar of
  Nq/Spec/C07.lean (`nsLen`, `ns?`, `nsList`) reads `d` the same way.  "More input changes only the remainder", "the
  remainder is not longer" and "accepted ⇒ strictly framed" are all read off these lemmas.  In front of them stand the
  facts about that grammar they use (`nsLen_split`, `ns?_intro`, `ns?_elim`, `nsList_cons`).
  Also here: the `databytes` countdown (`ovfOps`, `Smtp.ovfList`, `Smtp.decN`: which bytes are sent and where the
  `qmail_fail` falls); qmail-qmtpd's CR-mode body loop as one `dosStep` per byte (`dosBody_cons`) and its CR LF → LF
  decoding (`dosStep_undos`); `badA`, the addresses qmail-qmqpd refuses.
-/
import Nq.Netstring
import Nq.Spec.C07

namespace Nq.Spec.C07
open Nq

theorem nsLen_split : ∀ (p : Bytes) (acc n : Nat) (r : Bytes), nsLen acc p = some (n, r) →
    ∃ d, p = d ++ r ∧ d ≠ [] ∧ ∀ t, nsLen acc (d ++ t) = some (n, t)
  | [], _, _, _, h => by simp [nsLen] at h
  | c :: p, acc, n, r, h => by
    unfold nsLen at h
    by_cases h1 : c = 58
    · rw [if_pos h1] at h
      simp only [Option.some.injEq, Prod.mk.injEq] at h
      obtain ⟨rfl, rfl⟩ := h
      exact ⟨[c], rfl, by simp, fun t => by simp [nsLen, h1]⟩
    · rw [if_neg h1] at h
      by_cases h2 : 48 ≤ c ∧ c ≤ 57
      · rw [if_pos h2] at h
        obtain ⟨d, hd, _, hext⟩ := nsLen_split p _ n r h
        refine ⟨c :: d, by simp [hd], by simp, fun t => ?_⟩
        rw [List.cons_append, nsLen, if_neg h1, if_pos h2]
        exact hext t
      · rw [if_neg h2] at h; simp at h

theorem ns?_intro (p : Bytes) (n : Nat) (r a t : Bytes) (h : nsLen 0 p = some (n, r)) (hr : r = a ++ 44 :: t)
    (ha : a.length = n) : ns? p = some (a, t) := by
  unfold ns?
  rw [h]
  subst hr; subst ha
  have h1 : ¬ (a ++ 44 :: t).length < a.length + 1 := by simp
  have h2 : (a ++ 44 :: t).getD a.length 0 = 44 := by
    simp [List.getD_eq_getElem?_getD]
  simp only [h1, ↓reduceIte, h2]
  have e : a ++ 44 :: t = (a ++ [44]) ++ t := by simp
  rw [List.take_left' rfl, e, List.drop_left' (by simp)]

theorem ns?_elim (p a t : Bytes) (h : ns? p = some (a, t)) :
    ∃ n r, nsLen 0 p = some (n, r) ∧ r = a ++ 44 :: t ∧ a.length = n := by
  unfold ns? at h
  cases hn : nsLen 0 p with
  | none => simp [hn] at h
  | some v =>
    obtain ⟨n, r⟩ := v
    simp only [hn] at h
    by_cases h1 : r.length < n + 1
    · simp [h1] at h
    · simp only [h1, ↓reduceIte] at h
      by_cases h2 : r.getD n 0 = 44
      · simp only [h2, ↓reduceIte, Option.some.injEq, Prod.mk.injEq] at h
        obtain ⟨rfl, rfl⟩ := h
        refine ⟨n, r, rfl, ?_, by simp; omega⟩
        have hn' : n < r.length := by omega
        have hg : r[n] = 44 := by
          rw [List.getD_eq_getElem?_getD, List.getElem?_eq_getElem hn'] at h2
          simpa using h2
        conv => lhs; rw [← List.take_append_drop n r]
        rw [List.drop_eq_getElem_cons hn', hg]
      · rw [if_neg h2] at h; exact absurd h (by simp)

/-- a netstring consumes at least its colon and its comma -/
theorem ns?_shorter (p a t : Bytes) (h : ns? p = some (a, t)) : t.length + 2 ≤ p.length := by
  obtain ⟨n, r, hn, hr, _⟩ := ns?_elim p a t h
  obtain ⟨d, hd, hne, _⟩ := nsLen_split p 0 n r hn
  have : 1 ≤ d.length := by cases d with | nil => exact absurd rfl hne | cons _ _ => simp
  rw [hd, hr]; simp; omega

theorem nsAll_fuel : ∀ (f1 f2 : Nat) (p : Bytes), p.length < f1 → p.length < f2 → nsAll f1 p = nsAll f2 p
  | 0, _, _, h, _ => by omega
  | _ + 1, 0, _, _, h => by omega
  | f1 + 1, f2 + 1, [], _, _ => by simp [nsAll]
  | f1 + 1, f2 + 1, c :: p, h1, h2 => by
    simp only [nsAll]
    cases hn : ns? (c :: p) with
    | none => rfl
    | some v =>
      obtain ⟨a, r⟩ := v
      simp only
      have := ns?_shorter _ a r hn
      simp only [List.length_cons] at this h1 h2
      rw [nsAll_fuel f1 f2 r (by omega) (by omega)]

theorem nsList_nil : nsList [] = some [] := by simp [nsList, nsAll]

theorem nsList_cons (p a r : Bytes) (h : ns? p = some (a, r)) : nsList p = (nsList r).map (a :: ·) := by
  have hs := ns?_shorter p a r h
  unfold nsList
  cases p with
  | nil => simp at hs
  | cons c p =>
    simp only [nsAll, h]
    simp only [List.length_cons] at hs
    rw [nsAll_fuel (c :: p).length (r.length + 1) r (by simp; omega) (by omega)]

end Nq.Spec.C07

namespace Nq.Netstring
open Nq Nq.QmailC
open Nq.Spec.C07 (nsLen ns? nsList undos)

theorem digit_iff (c : Byte) : ¬ (c < 48 ∨ c > 57) ↔ (48 ≤ c ∧ c ≤ 57) := by
  simp only [not_or, UInt8.not_lt, gt_iff_lt]

theorem getlen_reads (max : Nat) : ∀ (p : Bytes) (acc n : Nat) (r : Bytes), getlen max acc p = .ok n r →
    ∃ d, p = d ++ r ∧ ∀ t, getlen max acc (d ++ t) = .ok n t ∧ nsLen acc (d ++ t) = some (n, t)
  | [], _, _, _, h => by simp [getlen] at h
  | c :: p, acc, n, r, h => by
    unfold getlen at h
    by_cases h1 : c = COLON
    · rw [if_pos h1] at h
      simp only [R.ok.injEq] at h
      obtain ⟨rfl, rfl⟩ := h
      exact ⟨[c], rfl, fun t => by simp [getlen, nsLen, h1, COLON]⟩
    · rw [if_neg h1] at h
      by_cases h2 : acc > max
      · rw [if_pos h2] at h; simp at h
      · rw [if_neg h2] at h
        by_cases h3 : c < 48 ∨ c > 57
        · rw [if_pos h3] at h; simp at h
        · rw [if_neg h3] at h
          obtain ⟨d, hd, hext⟩ := getlen_reads max p _ n r h
          refine ⟨c :: d, by simp [hd], fun t => ?_⟩
          have h1' : ¬ c = 58 := h1
          rw [List.cons_append, getlen, nsLen, if_neg h1, if_neg h2, if_neg h3, if_neg h1',
            if_pos ((digit_iff c).mp h3), Nat.mul_comm acc 10]
          exact hext t

theorem getlen_ext (max : Nat) (p : Bytes) (acc n : Nat) (r t : Bytes) (h : getlen max acc p = .ok n r) :
    getlen max acc (p ++ t) = .ok n (r ++ t) := by
  obtain ⟨d, rfl, hd⟩ := getlen_reads max p acc n r h
  rw [List.append_assoc]; exact (hd _).1

theorem getlen_le (max : Nat) (p : Bytes) (acc n : Nat) (r : Bytes) (h : getlen max acc p = .ok n r) :
    r.length ≤ p.length := by
  obtain ⟨d, rfl, _⟩ := getlen_reads max p acc n r h
  simp

theorem getlen_nsLen (max : Nat) (p : Bytes) (acc n : Nat) (r : Bytes) (h : getlen max acc p = .ok n r) :
    nsLen acc p = some (n, r) := by
  obtain ⟨d, rfl, hd⟩ := getlen_reads max p acc n r h
  exact (hd r).2

theorem getcomma_iff (p : Bytes) (u : Unit) (r : Bytes) : getcomma p = .ok u r ↔ p = 44 :: r := by
  cases p with
  | nil => simp [getcomma]
  | cons c p =>
    simp only [getcomma, COMMA]
    by_cases hc : c = 44 <;> simp [hc]

theorem getbytes_iff (n : Nat) (p a r : Bytes) : getbytes n p = .ok a r ↔ a = p.take n ∧ r = p.drop n ∧ n ≤ p.length := by
  unfold getbytes
  by_cases hl : p.length < n
  · rw [if_pos hl]; simp; omega
  · rw [if_neg hl]
    simp only [R.ok.injEq]
    constructor
    · intro h; exact ⟨h.1.symm, h.2.symm, by omega⟩
    · intro h; exact ⟨h.1.symm, h.2.1.symm⟩

theorem getcomma_ext (p : Bytes) (u : Unit) (r t : Bytes) (h : getcomma p = .ok u r) :
    getcomma (p ++ t) = .ok u (r ++ t) := by
  rw [getcomma_iff] at h ⊢
  rw [h]; rfl

theorem getbytes_ext (n : Nat) (p a r t : Bytes) (h : getbytes n p = .ok a r) :
    getbytes n (p ++ t) = .ok a (r ++ t) := by
  rw [getbytes_iff] at h ⊢
  obtain ⟨rfl, rfl, hn⟩ := h
  exact ⟨(List.take_append_of_le_length hn).symm, (List.drop_append_of_le_length hn).symm, by simp; omega⟩

theorem ns?_of_reads (max : Nat) (p : Bytes) (n : Nat) (r a r' t : Bytes) (u : Unit)
    (h1 : getlen max 0 p = .ok n r) (h2 : getbytes n r = .ok a r') (h3 : getcomma r' = .ok u t) :
    ns? p = some (a, t) := by
  obtain ⟨ha, hr', hn⟩ := (getbytes_iff n r a r').mp h2
  have hc := (getcomma_iff r' u t).mp h3
  apply Nq.Spec.C07.ns?_intro p n r a t (getlen_nsLen max p 0 n r h1)
  · rw [← hc, ha, hr', List.take_append_drop]
  · rw [ha]; simp; omega

theorem putBytes_append (a b : List QOp) : Qmtp.putBytes (a ++ b) = Qmtp.putBytes a ++ Qmtp.putBytes b := by
  induction a with
  | nil => rfl
  | cons op a ih => cases op <;> simp [Qmtp.putBytes, ih, List.append_assoc]

theorem ovfOps_bytes (bto : Nat) (c : Byte) : Qmtp.putBytes (ovfOps bto c) = [c] := by
  unfold ovfOps; split <;> simp [Qmtp.putBytes]

theorem ovfOps_fail (bto : Nat) (c : Byte) : QOp.fail ∈ ovfOps bto c ↔ bto = 1 := by
  unfold ovfOps; split <;> simp_all

namespace Smtp

theorem ovfList_bytes : ∀ (bs : Bytes) (bto : Nat), Qmtp.putBytes (ovfList bto bs) = bs
  | [], _ => rfl
  | c :: r, bto => by simp [ovfList, putBytes_append, ovfOps_bytes, ovfList_bytes r]

theorem decN_eq : ∀ (n b : Nat), decN b n = b - n
  | 0, b => rfl
  | k + 1, b => by simp only [decN, ovfDec]; rw [decN_eq k]; omega

theorem ovfList_fail : ∀ (bs : Bytes) (bto : Nat), 1 ≤ bto → bto ≤ bs.length → QOp.fail ∈ ovfList bto bs
  | [], bto, h1, h2 => by simp at h2; omega
  | c :: r, bto, h1, h2 => by
    simp only [ovfList, List.mem_append]
    by_cases hb : bto = 1
    · exact Or.inl ((ovfOps_fail bto c).mpr hb)
    · right
      apply ovfList_fail r (ovfDec bto)
      · unfold ovfDec; omega
      · unfold ovfDec; simp at h2; omega

end Smtp

namespace Qmtp

theorem pre_ops (o : List QOp) (r : BodyRes) : (r.pre o).ops = o ++ r.ops := rfl
theorem pre_rest (o : List QOp) (r : BodyRes) : (r.pre o).rest = r.rest := rfl
theorem pre_bto (o : List QOp) (r : BodyRes) : (r.pre o).bto = r.bto := rfl

theorem unixBody_eq : ∀ (len : Nat) (p : Bytes), unixBody len p =
    ⟨(p.take len).map (fun c => .put [c]), 0, if len ≤ p.length then some (p.drop len) else none⟩
  | 0, p => by simp [unixBody]
  | _ + 1, [] => by simp [unixBody]
  | len + 1, c :: p => by simp [unixBody, unixBody_eq len p, BodyRes.pre]

theorem putBytes_map_put1 (l : Bytes) : putBytes (l.map (fun c => .put [c])) = l := by
  induction l with
  | nil => rfl
  | cons c l ih => simp [putBytes, ih]

/-- the body loop `f` came to its end on `p`: it took `len` bytes and left `r`, what it handed to `put()` is `stored`,
    and it does the same whatever follows -/
structure BodyRead (f : Bytes → BodyRes) (len : Nat) (p r stored : Bytes) : Prop where
  le : len ≤ p.length
  rest_eq : r = p.drop len
  stored_eq : putBytes (f p).ops = stored
  ext : ∀ t, f (p ++ t) = { f p with rest := some (r ++ t) }

theorem unixBody_reads (len : Nat) (p r : Bytes) (h : (unixBody len p).rest = some r) :
    BodyRead (unixBody len) len p r (p.take len) := by
  rw [unixBody_eq] at h
  by_cases hl : len ≤ p.length
  · simp only [hl, ↓reduceIte, Option.some.injEq] at h
    refine ⟨hl, h.symm, by rw [unixBody_eq]; exact putBytes_map_put1 _, fun t => ?_⟩
    rw [unixBody_eq, unixBody_eq, List.take_append_of_le_length hl, List.drop_append_of_le_length hl,
      if_pos (by simp; omega), ← h]
  · simp [hl] at h

/-- one byte of the CR-mode loop: whether a CR is now held back, and the bytes handed to `put()` -/
def dosStep (len : Nat) (pend : Bool) (c : Byte) : Bool × Bytes :=
  if pend then (if c = LF then (false, [LF]) else if c = CR ∧ len > 0 then (true, [CR]) else (false, [CR, c]))
  else if c = CR ∧ len > 0 then (true, []) else (false, [c])

/-- the branches of `dosBody` as one equation: the bytes of `dosStep` through the countdown, which is written with
    `Smtp.ovfList` / `Smtp.decN` so that the countdown lemmas of qmail-smtpd apply here too -/
theorem dosBody_cons (len : Nat) (pend : Bool) (bto : Nat) (c : Byte) (p : Bytes) :
    dosBody (len + 1) pend bto (c :: p) =
      (dosBody len (dosStep len pend c).1 (Smtp.decN bto (dosStep len pend c).2.length) p).pre
        (Smtp.ovfList bto (dosStep len pend c).2) := by
  cases pend
  · rw [dosBody, dosStep]
    split <;> simp [Smtp.ovfList, Smtp.decN, BodyRes.pre]
  · rw [dosBody, dosStep]
    split
    · simp [Smtp.ovfList, Smtp.decN]
    · split <;> simp [Smtp.ovfList, Smtp.decN]

theorem dosStep_pend (len : Nat) (pend : Bool) (c : Byte) (h : (dosStep len pend c).1 = true) : len > 0 := by
  unfold dosStep at h
  cases pend
  · by_cases h1 : c = CR ∧ len > 0
    · exact h1.2
    · simp [h1] at h
  · by_cases h0 : c = LF
    · simp [h0] at h
    · by_cases h1 : c = CR ∧ len > 0
      · exact h1.2
      · simp [h0, h1] at h

theorem undos_cons (c : Byte) (l : Bytes) (h : c ≠ CR ∨ l = []) : undos (c :: l) = c :: undos l := by
  cases l with
  | nil => simp [undos]
  | cons d r =>
    rcases h with h | h
    · have : ¬ (c = 13 ∧ d = 10) := fun hh => h hh.1
      simp [undos, this]
    · simp at h

/-- what one step hands to `put()` is the CR LF → LF decoding of the byte it read, with the CR held back in front.
    `l` stands for the bytes of the frame still to come, `len` of them: a CR that is the last byte of the frame
    (`len = 0`) is not held back, and `undos` agrees only because nothing follows it (`hl`). -/
theorem dosStep_undos (len : Nat) (pend : Bool) (c : Byte) (l : Bytes) (hl : len = 0 → l = []) :
    (dosStep len pend c).2 ++ undos ((if (dosStep len pend c).1 then [CR] else []) ++ l) =
      undos ((if pend then [CR] else []) ++ c :: l) := by
  have hcr : ¬ (c = CR ∧ len > 0) → c ≠ CR ∨ l = [] := fun h => by
    by_cases h1 : c = CR
    · exact Or.inr (hl (Nat.eq_zero_of_not_pos fun h2 => h ⟨h1, h2⟩))
    · exact Or.inl h1
  unfold dosStep
  cases pend
  · by_cases h1 : c = CR ∧ len > 0
    · simp [h1]
    · simp only [Bool.false_eq_true, ↓reduceIte, h1, List.nil_append, List.cons_append]
      rw [undos_cons c l (hcr h1)]
  · by_cases h0 : c = LF
    · simp [h0, undos, CR, LF]
    · by_cases h1 : c = CR ∧ len > 0
      · simp [h1, undos, CR, LF]
      · have h0' : ¬ c = 10 := h0
        simp only [↓reduceIte, h0, h1, Bool.false_eq_true, List.nil_append, List.cons_append]
        rw [show undos (CR :: c :: l) = CR :: undos (c :: l) by simp [undos, h0'], undos_cons c l (hcr h1)]

/-- `pend`: the inner loop holds a CR back; it goes in front of the `len` bytes still to be read -/
theorem dosBody_reads : ∀ (len : Nat) (pend : Bool) (bto : Nat) (p r : Bytes), (pend = true → len > 0) →
    (dosBody len pend bto p).rest = some r →
    BodyRead (dosBody len pend bto) len p r (undos ((if pend then [CR] else []) ++ p.take len))
  | 0, pend, _, p, r, hp, h => by
    cases pend
    · simp only [dosBody, Option.some.injEq] at h
      exact ⟨by simp, by simp [h], by simp [dosBody, putBytes, undos], fun t => by simp [dosBody, h]⟩
    · exact absurd (hp rfl) (by omega)
  | _ + 1, _, _, [], r, _, h => by simp [dosBody] at h
  | len + 1, pend, bto, c :: p, r, _, h => by
    rw [dosBody_cons, pre_rest] at h
    obtain ⟨h1, h2, h3, h4⟩ := dosBody_reads len _ _ p r (dosStep_pend len pend c) h
    refine ⟨by simp; omega, by simpa using h2, ?_, fun t => ?_⟩
    · rw [dosBody_cons, pre_ops, putBytes_append, Smtp.ovfList_bytes, h3, List.take_succ_cons]
      exact dosStep_undos len pend c _ (fun h0 => by simp [h0])
    · rw [List.cons_append, dosBody_cons, dosBody_cons, h4 t]; rfl

/-- `qmtpRcptDigitCheck = 1` is read off the source.  The bound `10 * max + 9 < 2^64`: `wrapLen` computes in C's
    `unsigned long`, the loop goes on only while `acc ≤ max`, so below the bound no step wraps. -/
theorem rcptLen_reads (max : Nat) : ∀ (p : Bytes) (big acc n big1 : Nat) (r : Bytes),
    rcptLen max big acc p = .ok (n, big1) r →
    ∃ d, p = d ++ r ∧ big1 + d.length = big ∧ (∀ t, rcptLen max big acc (d ++ t) = .ok (n, big1) t) ∧
      (Nq.Gen.C07.qmtpRcptDigitCheck = 1 → 10 * max + 9 < 18446744073709551616 →
        ∀ t, nsLen acc (d ++ t) = some (n, t))
  | [], big, _, _, _, _, h => by cases big <;> simp [rcptLen] at h
  | c :: p, 0, _, _, _, _, h => by simp [rcptLen] at h
  | c :: p, big + 1, acc, n, big1, r, h => by
    unfold rcptLen at h
    by_cases h1 : c = COLON
    · rw [if_pos h1] at h
      simp only [R.ok.injEq, Prod.mk.injEq] at h
      obtain ⟨⟨rfl, rfl⟩, rfl⟩ := h
      exact ⟨[c], rfl, rfl, fun t => by simp [rcptLen, h1], fun _ _ t => by simp [nsLen, h1, COLON]⟩
    · rw [if_neg h1] at h
      by_cases h2 : acc > max
      · rw [if_pos h2] at h; simp at h
      · rw [if_neg h2] at h
        by_cases h3 : Nq.Gen.C07.qmtpRcptDigitCheck = 1 ∧ (c < 48 ∨ c > 57)
        · rw [if_pos h3] at h; simp at h
        · rw [if_neg h3] at h
          obtain ⟨d, hd, hb, hext, hns⟩ := rcptLen_reads max p big _ n big1 r h
          refine ⟨c :: d, by simp [hd], by simp; omega, fun t => ?_, fun hchk hmax t => ?_⟩
          · rw [List.cons_append, rcptLen, if_neg h1, if_neg h2, if_neg h3]
            exact hext t
          · have hdig := (digit_iff c).mp fun hh => h3 ⟨hchk, hh⟩
            have hn : 48 ≤ c.toNat ∧ c.toNat ≤ 57 := by
              have := hdig
              simp only [UInt8.le_iff_toNat_le] at this
              exact this
            have hw : wrapLen acc c = acc * 10 + (c.toNat - 48) := by
              have h128 : ¬ c ≥ 128 := by
                simp only [ge_iff_le, UInt8.le_iff_toNat_le]
                have : (128 : UInt8).toNat = 128 := rfl
                omega
              unfold wrapLen
              rw [if_neg h128]
              omega
            have h1' : ¬ c = 58 := h1
            rw [List.cons_append, nsLen, if_neg h1', if_pos hdig, ← hw]
            exact hns hchk hmax t

theorem RL.pre_ops (o : List QOp) (f : Byte) (a : List Bytes) (r : RL) : (r.pre o f a).ops = o ++ r.ops := rfl
theorem RL.pre_rcpts (o : List QOp) (f : Byte) (a : List Bytes) (r : RL) : (r.pre o f a).rcpts = a ++ r.rcpts := rfl
theorem RL.pre_stop (o : List QOp) (f : Byte) (a : List Bytes) (r : RL) : (r.pre o f a).stop = r.stop := rfl

theorem rcptLoop_round (cfg : Cfg) (fuel big : Nat) (p r1 a r3 : Bytes) (len big1 : Nat)
    (h1 : rcptLen Nq.Gen.C07.qmtpLenMax (big + 1) 0 p = .ok (len, big1) r1) (hl : len < big1)
    (hr : r1 = a ++ 44 :: r3) (ha : a.length = len) :
    rcptLoop cfg (fuel + 1) (big + 1) p =
      (rcptLoop cfg fuel (big1 - (len + 1)) r3).pre (if rcptFail cfg a = 0 then [.to (a ++ cfg.relay.getD [])] else [])
        (rcptFail cfg a) (if rcptFail cfg a = 0 then [a ++ cfg.relay.getD []] else []) := by
  have h2 : getbytes len r1 = .ok a (44 :: r3) := by
    rw [getbytes_iff, hr, ← ha]; simp
  have h3 : getcomma (44 :: r3) = .ok () r3 := (getcomma_iff _ _ _).mpr rfl
  simp only [rcptLoop, h1, if_neg (Nat.not_le.mpr hl), h2, h3]

theorem rcptLoop_round_inv (cfg : Cfg) (fuel big : Nat) (p : Bytes) (h : (rcptLoop cfg (fuel + 1) (big + 1) p).stop = none) :
    ∃ len big1 r1 a r3, rcptLen Nq.Gen.C07.qmtpLenMax (big + 1) 0 p = .ok (len, big1) r1 ∧ len < big1 ∧
      r1 = a ++ 44 :: r3 ∧ a.length = len ∧ (rcptLoop cfg fuel (big1 - (len + 1)) r3).stop = none := by
  simp only [rcptLoop] at h
  cases h1 : rcptLen Nq.Gen.C07.qmtpLenMax (big + 1) 0 p with
  | stop e r => simp [h1] at h
  | ok v r1 =>
    obtain ⟨len, big1⟩ := v
    simp only [h1] at h
    by_cases hl : len ≥ big1
    · simp [hl] at h
    · simp only [hl, ↓reduceIte] at h
      cases h2 : getbytes len r1 with
      | stop e r => simp [h2] at h
      | ok a r2 =>
        simp only [h2] at h
        cases h3 : getcomma r2 with
        | stop e r => simp [h3] at h
        | ok u r3 =>
          simp only [h3, RL.pre_stop] at h
          obtain ⟨ha, hr2, hn⟩ := (getbytes_iff len r1 a r2).mp h2
          refine ⟨len, big1, r1, a, r3, rfl, by omega, ?_, by rw [ha]; simp; omega, h⟩
          rw [← (getcomma_iff r2 u r3).mp h3, ha, hr2, List.take_append_drop]

theorem rcptLoop_reads (cfg : Cfg) : ∀ (fuel big : Nat) (p : Bytes), (rcptLoop cfg fuel big p).stop = none →
    ∃ d, p = d ++ (rcptLoop cfg fuel big p).rest ∧ d.length = big ∧
      (∀ fuel' t, fuel ≤ fuel' → rcptLoop cfg fuel' big (d ++ t) = { rcptLoop cfg fuel big p with rest := t }) ∧
      (Nq.Gen.C07.qmtpRcptDigitCheck = 1 → ∃ as, nsList d = some as ∧
        (rcptLoop cfg fuel big p).failure = as.map (rcptFail cfg) ∧
        (rcptLoop cfg fuel big p).rcpts = (as.filter (fun a => rcptFail cfg a = 0)).map (· ++ cfg.relay.getD []))
  | 0, _, _, h => by simp [rcptLoop] at h
  | fuel + 1, 0, p, _ => by
    refine ⟨[], rfl, rfl, fun fuel' t hf => ?_, fun _ => ⟨[], Nq.Spec.C07.nsList_nil, rfl, rfl⟩⟩
    obtain ⟨f, rfl⟩ : ∃ f, fuel' = f + 1 := ⟨fuel' - 1, by omega⟩
    rfl
  | fuel + 1, big + 1, p, h => by
    obtain ⟨len, big1, r1, a, r3, h1, hl, hr, ha, hs⟩ := rcptLoop_round_inv cfg fuel big p h
    obtain ⟨d1, e1, hb1, hx1, hn1⟩ := rcptLen_reads _ p _ 0 len big1 r1 h1
    obtain ⟨d', e', hl', hx', hs'⟩ := rcptLoop_reads cfg fuel (big1 - (len + 1)) r3 hs
    rw [rcptLoop_round cfg fuel big p r1 a r3 len big1 h1 hl hr ha]
    refine ⟨d1 ++ (a ++ 44 :: d'), ?_, by simp; omega, fun fuel' t hf => ?_, fun hchk => ?_⟩
    · rw [e1, hr, List.append_assoc, List.append_assoc]
      exact congrArg (fun x => d1 ++ (a ++ 44 :: x)) e'
    · obtain ⟨f, rfl⟩ : ∃ f, fuel' = f + 1 := ⟨fuel' - 1, by omega⟩
      rw [List.append_assoc, rcptLoop_round cfg f big _ _ a (d' ++ t) len big1 (hx1 _) hl (by simp) ha,
        hx' f t (by omega)]
      rfl
    · obtain ⟨as, hns, hf, hrc⟩ := hs' hchk
      refine ⟨a :: as, ?_, ?_, ?_⟩
      · rw [Nq.Spec.C07.nsList_cons _ a d' (Nq.Spec.C07.ns?_intro _ len _ a d' (hn1 hchk (by decide) _) rfl ha), hns]
        rfl
      · show rcptFail cfg a :: _ = _
        rw [hf]; rfl
      · rw [RL.pre_rcpts, hrc]
        by_cases hz : rcptFail cfg a = 0 <;> simp [hz]

theorem rcptLoop_ext (cfg : Cfg) (fuel fuel' big : Nat) (p t : Bytes) (hle : fuel ≤ fuel')
    (h : (rcptLoop cfg fuel big p).stop = none) :
    rcptLoop cfg fuel' big (p ++ t) = { rcptLoop cfg fuel big p with rest := (rcptLoop cfg fuel big p).rest ++ t } := by
  obtain ⟨d, e, _, hx, _⟩ := rcptLoop_reads cfg fuel big p h
  have := hx fuel' ((rcptLoop cfg fuel big p).rest ++ t) hle
  rwa [← List.append_assoc, ← e] at this

theorem rcptLoop_le (cfg : Cfg) (fuel big : Nat) (p : Bytes) (h : (rcptLoop cfg fuel big p).stop = none) :
    (rcptLoop cfg fuel big p).rest.length ≤ p.length := by
  obtain ⟨d, e, _⟩ := rcptLoop_reads cfg fuel big p h
  have := congrArg List.length e
  simp only [List.length_append] at this
  omega

end Qmtp

end Nq.Netstring

/-- an address qmail-qmqpd refuses: `getbuf()` returns 0 for it (too long for the 1000-byte buffer, or a NUL inside) -/
def Nq.Lemmas.C07Qmqp2.badA (a : Nq.Bytes) : Bool := decide (a.length ≥ Nq.Gen.C07.qmqpAddrMax) || a.contains 0

namespace Nq.Netstring.Qmqp
open Nq Nq.QmailC Nq.Lemmas.C07Qmqp2
open Nq.Spec.C07 (nsLen ns? nsList)

theorem getlen_reads (max : Nat) : ∀ (inp : Bytes) (bl acc n bl' : Nat) (r : Bytes),
    getlen max bl acc inp = .ok (n, bl') r →
    ∃ p, inp = p ++ r ∧ p.length + bl' = bl ∧
      ∀ t, getlen max bl acc (p ++ t) = .ok (n, bl') t ∧ nsLen acc (p ++ t) = some (n, t)
  | [], bl, acc, n, bl', r, h => by cases bl <;> simp [getlen] at h
  | c :: rest, 0, acc, n, bl', r, h => by simp [getlen] at h
  | c :: rest, bl + 1, acc, n, bl', r, h => by
    unfold getlen at h
    by_cases h1 : c = COLON
    · rw [if_pos h1] at h
      simp only [R.ok.injEq, Prod.mk.injEq] at h
      obtain ⟨⟨rfl, rfl⟩, rfl⟩ := h
      exact ⟨[c], rfl, by simp; omega, fun t => by simp [getlen, nsLen, h1, COLON]⟩
    · rw [if_neg h1] at h
      by_cases h2 : acc > max
      · rw [if_pos h2] at h; simp at h
      · rw [if_neg h2] at h
        by_cases h3 : c < 48 ∨ c > 57
        · rw [if_pos h3] at h; simp at h
        · rw [if_neg h3] at h
          obtain ⟨p, hp, hl, hext⟩ := getlen_reads max rest bl _ n bl' r h
          refine ⟨c :: p, by simp [hp], by simp; omega, fun t => ?_⟩
          have h1' : ¬ c = 58 := h1
          rw [List.cons_append, getlen, nsLen, if_neg h1, if_neg h2, if_neg h3, if_neg h1',
            if_pos ((digit_iff c).mp h3), Nat.mul_comm acc 10]
          exact hext t

theorem getlen_ext (max : Nat) (inp : Bytes) (bl acc : Nat) (v : Nat × Nat) (r t : Bytes)
    (h : getlen max bl acc inp = .ok v r) : getlen max bl acc (inp ++ t) = .ok v (r ++ t) := by
  obtain ⟨p, rfl, _, hp⟩ := getlen_reads max inp bl acc v.1 v.2 r h
  rw [List.append_assoc]; exact (hp _).1

theorem getn_append : ∀ (bs : Bytes) (bl' : Nat) (t : Bytes), getn bs.length (bs.length + bl') (bs ++ t) = .ok (bs, bl') t
  | [], bl', t => by simp [getn]
  | c :: bs, bl', t => by
    rw [List.length_cons, Nat.add_right_comm, List.cons_append, getn, getn_append bs bl' t]

theorem getn_inv : ∀ (n bl : Nat) (inp bs : Bytes) (bl' : Nat) (r : Bytes),
    getn n bl inp = .ok (bs, bl') r → inp = bs ++ r ∧ bs.length = n ∧ n + bl' = bl
  | 0, bl, inp, bs, bl', r, h => by
    simp only [getn, R.ok.injEq, Prod.mk.injEq] at h
    obtain ⟨⟨rfl, rfl⟩, rfl⟩ := h
    simp
  | n + 1, 0, inp, bs, bl', r, h => by simp [getn] at h
  | n + 1, bl + 1, [], bs, bl', r, h => by simp [getn] at h
  | n + 1, bl + 1, c :: rest, bs, bl', r, h => by
    unfold getn at h
    cases h2 : getn n bl rest with
    | stop e r' => simp [h2] at h
    | ok v2 r2 =>
      obtain ⟨bs2, bl2⟩ := v2
      simp only [h2, R.ok.injEq, Prod.mk.injEq] at h
      obtain ⟨⟨rfl, rfl⟩, rfl⟩ := h
      obtain ⟨e1, e2, e3⟩ := getn_inv n bl rest bs2 bl2 r2 h2
      refine ⟨by simp [e1], by simp [e2], by omega⟩

theorem getcomma_iff (bl : Nat) (inp : Bytes) (bl' : Nat) (r : Bytes) :
    getcomma bl inp = .ok bl' r ↔ inp = 44 :: r ∧ bl' + 1 = bl := by
  cases bl with
  | zero => simp [getcomma]
  | succ bl =>
    cases inp with
    | nil => simp [getcomma]
    | cons c p =>
      simp only [getcomma, COMMA]
      by_cases hc : c = 44
      · simp only [hc, ↓reduceIte, R.ok.injEq, List.cons.injEq, true_and, Nat.add_right_cancel_iff]
        exact ⟨fun h => ⟨h.2, h.1.symm⟩, fun h => ⟨h.2.symm, h.1⟩⟩
      · simp [hc]

theorem getcomma_ext (bl : Nat) (inp : Bytes) (bl' : Nat) (r t : Bytes) (h : getcomma bl inp = .ok bl' r) :
    getcomma bl (inp ++ t) = .ok bl' (r ++ t) := by
  rw [getcomma_iff] at h ⊢
  exact ⟨by rw [h.1]; rfl, h.2⟩

theorem getbuf_reads (bl : Nat) (inp a : Bytes) (ok : Bool) (bl' : Nat) (r : Bytes)
    (h : getbuf bl inp = .ok (a, ok, bl') r) :
    ∃ raw p, inp = p ++ r ∧ p.length + bl' = bl ∧ p ≠ [] ∧
      (∀ t, getbuf bl (p ++ t) = .ok (a, ok, bl') t ∧ ns? (p ++ t) = some (raw, t)) ∧
      ok = !badA raw ∧ (ok = true → a = raw) := by
  unfold getbuf at h
  cases h1 : getlen Nq.Gen.C07.qmqpLenMax bl 0 inp with
  | stop e r' => simp [h1] at h
  | ok v1 r1 =>
    obtain ⟨len, bl1⟩ := v1
    simp only [h1] at h
    cases h2 : getn len bl1 r1 with
    | stop e r' => simp [h2] at h
    | ok v2 r2 =>
      obtain ⟨bs, bl2⟩ := v2
      simp only [h2] at h
      cases h3 : getcomma bl2 r2 with
      | stop e r' => simp [h3] at h
      | ok bl3 r3 =>
        simp only [h3] at h
        obtain ⟨pl, e1, l1, hx1⟩ := getlen_reads _ inp bl 0 len bl1 r1 h1
        obtain ⟨e2, l2, l2'⟩ := getn_inv len bl1 r1 bs bl2 r2 h2
        obtain ⟨e3, l3⟩ := (getcomma_iff bl2 r2 bl3 r3).mp h3
        -- both branches of the length test leave the same `bytesleft` and the same remainder
        rw [← apply_ite (fun v => R.ok v r3)] at h
        simp only [R.ok.injEq] at h
        obtain ⟨hv, rfl⟩ := h
        have hok : ok = !badA bs ∧ (ok = true → a = bs) ∧ bl' = bl3 := by
          unfold badA
          rw [l2]
          by_cases hlen : len ≥ Nq.Gen.C07.qmqpAddrMax
          · rw [if_pos hlen] at hv
            simp only [Prod.mk.injEq] at hv
            obtain ⟨rfl, rfl, rfl⟩ := hv
            simp [hlen]
          · rw [if_neg hlen] at hv
            simp only [Prod.mk.injEq] at hv
            obtain ⟨rfl, rfl, rfl⟩ := hv
            simp [hlen]
        have e : ∀ t, pl ++ (bs ++ [44]) ++ t = pl ++ (bs ++ 44 :: t) := fun t => by simp
        refine ⟨bs, pl ++ (bs ++ [44]), by rw [e1, e2, e3, e], by simp; omega, by simp, fun t => ⟨?_, ?_⟩, hok.1, hok.2.1⟩
        · subst l2
          rw [e, getbuf, (hx1 _).1, show bl1 = bs.length + bl2 by omega]
          simp only [getn_append, (getcomma_iff bl2 (44 :: t) bl3 t).mpr ⟨rfl, l3⟩]
          rw [← apply_ite (fun v => R.ok v t), hv]
        · rw [e]; exact Nq.Spec.C07.ns?_intro _ len _ bs t (hx1 _).2 rfl l2

theorem getbuf_ext (bl : Nat) (inp : Bytes) (v : Bytes × Bool × Nat) (r t : Bytes) (h : getbuf bl inp = .ok v r) :
    getbuf bl (inp ++ t) = .ok v (r ++ t) := by
  obtain ⟨_, p, rfl, _, _, hp, _⟩ := getbuf_reads bl inp v.1 v.2.1 v.2.2 r h
  rw [List.append_assoc]; exact (hp _).1

theorem body_ops : ∀ (len bl : Nat) (inp : Bytes),
    (body len bl inp).ops = (inp.take (min len bl)).map (fun c => .put [c])
  | 0, _, _ => by simp [body]
  | _ + 1, 0, _ => by simp [body]
  | _ + 1, _ + 1, [] => by simp [body]
  | len + 1, bl + 1, c :: rest => by simp [body, body_ops len bl rest, Nat.succ_min_succ]

theorem body_reads : ∀ (len bl : Nat) (inp : Bytes) (bl' : Nat) (r : Bytes), (body len bl inp).res = .ok bl' r →
    inp = Qmtp.putBytes (body len bl inp).ops ++ r ∧ (Qmtp.putBytes (body len bl inp).ops).length = len ∧
    len + bl' = bl ∧ ∀ t, body len bl (inp ++ t) = ⟨(body len bl inp).ops, .ok bl' (r ++ t)⟩
  | 0, bl, inp, bl', r, h => by
    simp only [body, R.ok.injEq] at h
    obtain ⟨rfl, rfl⟩ := h
    simp [body, Qmtp.putBytes]
  | len + 1, 0, inp, bl', r, h => by simp [body] at h
  | len + 1, bl + 1, [], bl', r, h => by simp [body] at h
  | len + 1, bl + 1, c :: rest, bl', r, h => by
    simp only [body] at h ⊢
    obtain ⟨e1, e2, e3, e4⟩ := body_reads len bl rest bl' r h
    refine ⟨?_, ?_, by omega, fun t => ?_⟩
    · simp only [Qmtp.putBytes, List.cons_append, List.nil_append]; rw [← e1]
    · simp only [Qmtp.putBytes, List.cons_append, List.nil_append, List.length_cons]; omega
    · simp only [List.cons_append, body, e4 t]

theorem rcptLoop_reads : ∀ (fuel bl : Nat) (inp : Bytes), (rcptLoop fuel bl inp).stop = none →
    ∃ rs p, inp = p ++ (rcptLoop fuel bl inp).rest ∧ p.length = bl ∧ nsList p = some rs ∧
      (rcptLoop fuel bl inp).flagok = rs.all (fun a => !badA a) ∧
      (rcptLoop fuel bl inp).rcpts = rs.filter (fun a => !badA a) ∧
      ∀ fuel' t, fuel ≤ fuel' → rcptLoop fuel' bl (p ++ t) = { rcptLoop fuel bl inp with rest := t }
  | 0, _, _, h => by simp [rcptLoop] at h
  | fuel + 1, 0, inp, _ => by
    refine ⟨[], [], rfl, rfl, Nq.Spec.C07.nsList_nil, rfl, rfl, fun fuel' t hf => ?_⟩
    obtain ⟨f, rfl⟩ : ∃ f, fuel' = f + 1 := ⟨fuel' - 1, by omega⟩
    rfl
  | fuel + 1, bl + 1, inp, h => by
    simp only [rcptLoop] at h
    cases h1 : getbuf (bl + 1) inp with
    | stop e r => simp [h1] at h
    | ok v r1 =>
      obtain ⟨a, ok, bl1⟩ := v
      simp only [h1] at h
      have hs : (rcptLoop fuel bl1 r1).stop = none := by
        split at h <;> simpa using h
      obtain ⟨rs, p, e1, l1, hall, hfo, hrc, hx⟩ := rcptLoop_reads fuel bl1 r1 hs
      obtain ⟨raw, p1, e2, l2, hne, hx1, hok, ha⟩ := getbuf_reads (bl + 1) inp a ok bl1 r1 h1
      have hns : nsList (p1 ++ p) = some (raw :: rs) := by
        rw [Nq.Spec.C07.nsList_cons _ raw p (hx1 p).2, hall]; rfl
      have hext : ∀ f t, fuel ≤ f → rcptLoop (f + 1) (bl + 1) (p1 ++ p ++ t) =
          { rcptLoop (fuel + 1) (bl + 1) inp with rest := t } := by
        intro f t hf
        rw [List.append_assoc]
        simp only [rcptLoop, h1, (hx1 _).1, hx f t hf]
        split <;> rfl
      refine ⟨raw :: rs, p1 ++ p, ?_, by simp only [List.length_append]; omega, hns, ?_, ?_, fun fuel' t hf => ?_⟩
      · have hr : (rcptLoop (fuel + 1) (bl + 1) inp).rest = (rcptLoop fuel bl1 r1).rest := by
          simp only [rcptLoop, h1]; split <;> rfl
        rw [hr, List.append_assoc, ← e1, ← e2]
      · simp only [rcptLoop, h1, List.all_cons]
        cases ok
        · simp only [Bool.false_eq_true, ↓reduceIte]
          rw [show badA raw = true by simpa using hok]; rfl
        · simp only [↓reduceIte]
          rw [show badA raw = false by simpa using hok]; exact hfo
      · simp only [rcptLoop, h1, List.filter_cons]
        cases ok
        · simp only [Bool.false_eq_true, ↓reduceIte]
          rw [show badA raw = true by simpa using hok]; exact hrc
        · simp only [↓reduceIte]
          rw [show badA raw = false by simpa using hok, ha rfl, hrc]; rfl
      · obtain ⟨f, rfl⟩ : ∃ f, fuel' = f + 1 := ⟨fuel' - 1, by omega⟩
        exact hext f t (by omega)

theorem rcptLoop_ext (fuel fuel' bl : Nat) (inp t : Bytes) (hle : fuel ≤ fuel') (h : (rcptLoop fuel bl inp).stop = none) :
    rcptLoop fuel' bl (inp ++ t) = { rcptLoop fuel bl inp with rest := (rcptLoop fuel bl inp).rest ++ t } := by
  obtain ⟨_, p, e, _, _, _, _, hx⟩ := rcptLoop_reads fuel bl inp h
  have := hx fuel' ((rcptLoop fuel bl inp).rest ++ t) hle
  rwa [← List.append_assoc, ← e] at this

end Nq.Netstring.Qmqp
