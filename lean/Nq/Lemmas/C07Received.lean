/-
  received.c: the `issafe()` table generated from the source is the documented set `Spec.C07.safeSpec`, hence the byte
  range of a safe byte; `sanitize` keeps a safe byte and makes `?` of any other.  Also a case principle for the month
  names of date822fmt.c (`months_forall`) and `Spec.C07.wfPlain` as byte bounds.
-/
import Nq.Lemmas.Basic
import Nq.Received
import Nq.Spec.C07

namespace Nq.Received
open Nq

theorem issafe_table : ∀ n : Fin 256, issafe (UInt8.ofNat n.val) = Nq.Spec.C07.safeSpec (UInt8.ofNat n.val) := by
  decide +kernel

theorem issafe_spec (c : Byte) : issafe c = Nq.Spec.C07.safeSpec c :=
  byte_forall (fun c => issafe c = Nq.Spec.C07.safeSpec c) issafe_table c

theorem issafe_range (c : Byte) (h : issafe c = true) : 32 < c ∧ c < 127 ∧ c ≠ 40 ∧ c ≠ 41 ∧ c ≠ 92 ∧ c ≠ 34 := by
  rw [issafe_spec] at h
  simp only [Nq.Spec.C07.safeSpec, Bool.or_eq_true, Bool.and_eq_true, decide_eq_true_eq, beq_iff_eq,
    UInt8.le_iff_toNat_le, ← UInt8.toNat_inj] at h
  simp only [UInt8.lt_iff_toNat_lt, ne_eq, ← UInt8.toNat_inj]
  simp only [UInt8.toNat_ofNat] at h ⊢
  omega

theorem sanitize_cases (c : Byte) : (issafe c = true ∧ sanitize c = c) ∨ sanitize c = QMARK := by
  unfold sanitize
  cases issafe c <;> simp

theorem months_forall {P : Bytes → Prop} (h : ∀ k, k < 12 → P (months.getD k [])) (hnil : P []) (m : Nat) :
    P (months.getD m []) := by
  by_cases hm : m < 12
  · exact h m hm
  · have h2 : months[m]? = none := List.getElem?_eq_none (by simp [months]; omega)
    have : months.getD m [] = [] := by simp [List.getD, h2]
    rw [this]; exact hnil

end Nq.Received

theorem Nq.Spec.C07.wfPlain_iff (c : Nq.Byte) :
    wfPlain c = true ↔ 32 ≤ c ∧ c < 127 ∧ c ≠ 92 ∧ c ≠ 34 ∧ c ≠ 40 ∧ c ≠ 41 := by
  simp [wfPlain, and_assoc]

theorem Nq.Spec.C07.count_lf_of_plain {l : Nq.Bytes} (h : ∀ c ∈ l, wfPlain c = true) : l.count Nq.LF = 0 :=
  List.count_eq_zero.mpr fun hl => absurd (h Nq.LF hl) (by decide)
