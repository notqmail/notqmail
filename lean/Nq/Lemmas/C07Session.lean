/-
  Session-level lemmas for qmail-qmtpd (`Qmtp.session` / `Qmtp.run`, Nq/Netstring.lean).

  The device: the records a connection produces (`Sess.msgs`) are a function of the input alone (`recs`: message k is
  `msg cfg` of what message k-1 left unread, on a fresh qmail.c state whose write-fault counter is what message k-1
  left).  `session` differs from `recs` only in when it flushes the reply buffer, and a flush changes neither the
  records nor the order of the reply bytes (`session_step`, `session_recs`); so the refill positions of `session`
  never enter an argument.

  On `recs`: the shape of the record list (`Chain`, `run_chain_nonempty`); what the client has received is a prefix of the
  replies of the completely read messages (`SInv`, `run_out_acked`); the connection behind `k` complete messages
  (`Complete`, `recs_append`) and a cut inside message k+1 (`run_cut_later`).
-/
import Nq.Netstring
import Nq.Lemmas.C07Daemons

namespace Nq.Lemmas.C07Session
open Nq Nq.QmailC Nq.Netstring

/-! ## the reply buffer: what reached the descriptor is a prefix of what was put

  `out.all <+: X` alone is not an inductive invariant (after a failed flush the buffer is thrown away and later puts
  are appended to a shorter string).  The invariant is: either nothing was lost so far, or the descriptor is dead
  (`wleft = some 0`, every later write fails) and what it received is a prefix. -/

def SInv (s : Sub) (X : Bytes) : Prop := s.all = X ∨ (s.wleft = some 0 ∧ s.out <+: X)

theorem SInv.out {s : Sub} {X : Bytes} (h : SInv s X) : s.out <+: X := by
  rcases h with h | h
  · rw [← h]; exact List.prefix_append _ _
  · exact h.2

theorem SInv.step {s : Sub} {X : Bytes} (h : SInv s X) {r : Sub × Bool} {Y : Bytes} (a : s.Sends r Y) : SInv r.1 (X ++ Y) := by
  rcases h with h | h
  · cases hr : r.2
    · exact .inr ⟨(a.lost hr).2, (List.prefix_append _ _).trans (h ▸ a.pre)⟩
    · exact .inl (by rw [a.ok hr, h])
  · exact .inr ⟨(a.dead h.1).1, (a.dead h.1).2 ▸ h.2.trans (List.prefix_append _ _)⟩

theorem SInv.flush {s : Sub} {X : Bytes} (h : SInv s X) : SInv (s.flush).1 X := by
  simpa using h.step (Sub.sends_flush s).1

theorem SInv.put {s : Sub} {X : Bytes} (h : SInv s X) (bs : Bytes) : SInv (s.put bs).1 (X ++ bs) :=
  h.step (Sub.sends_put s bs)

theorem SInv.putAll : ∀ (l : List Bytes) {s : Sub} {X : Bytes}, SInv s X → SInv (Qmtp.putAll s l) (X ++ l.flatten)
  | [], s, X, h => by simpa [Qmtp.putAll] using h
  | b :: l, s, X, h => by
    have := SInv.putAll l (h.put b)
    simpa [Qmtp.putAll, List.append_assoc] using this

/-- strict because of the three commas; it is what makes `inp.length + 1` fuel enough in `Qmtp.run` (`session_recs`) -/
theorem msg_consumes (cfg : Qmtp.Cfg) (inp : Bytes) (h : (Qmtp.msg cfg inp).stop = none) :
    (Qmtp.msg cfg inp).rest.length < inp.length := by
  obtain ⟨p, R⟩ := Qmtp.msg_full cfg inp h
  have l1 := getlen_le _ inp 0 p.len _ R.len
  have l2 : p.r2.length ≤ p.r1.length := by rw [(Qmtp.bodyOf_reads cfg p.len p.c p.r1 p.r2 R.body).rest_eq]; simp
  have l3 := congrArg List.length ((getcomma_iff p.r2 () p.r3).mp R.comma1)
  have l4 := getlen_le _ p.r3 0 p.slen p.r4 R.slen
  have l5 : p.r5.length ≤ p.r4.length := by rw [((getbytes_iff p.slen p.r4 p.sraw p.r5).mp R.sender).2.1]; simp
  have l6 := congrArg List.length ((getcomma_iff p.r5 () p.r6).mp R.comma2)
  have l7 := getlen_le _ p.r6 0 p.biglen p.r7 R.biglen
  have l8 := Qmtp.rcptLoop_le cfg _ _ _ R.rcpts
  have l9 := congrArg List.length ((getcomma_iff _ () p.r8).mp R.comma3)
  rw [R.msg_eq]
  simp only [Qmtp.fullMsg, List.length_cons] at l1 l3 l6 l9 ⊢
  omega

theorem msg_nil (cfg : Qmtp.Cfg) : (Qmtp.msg cfg []).stop = some .eof := by
  simp [Qmtp.msg, Netstring.getlen]

def qqOf (cfg : Qmtp.Cfg) (inp : Bytes) (w : Option Nat) : QQ := (QQ.opened w).run (Qmtp.msg cfg inp).ops

/-- the record of a completely read first message of `inp`: the status string comes from the verdict of ITS queue run -/
def doneOf (cfg : Qmtp.Cfg) (inp : Bytes) (w : Option Nat) (ends : List QEnd) (pids : List Nat) : Qmtp.Done :=
  ⟨Qmtp.msg cfg inp, qqOf cfg inp w, Qmtp.result (Qmtp.msg cfg inp) ((qqOf cfg inp w).verdict (ends.headD {})) cfg.now (pids.headD 0)⟩

/-- the scripted ends of the queue program left for the next message (the last entry repeats) -/
def restEnds (ends : List QEnd) : List QEnd := if ends.length > 1 then ends.tail else ends

/-- `Sess.msgs` as a function of the input alone (the reply buffer, the refill positions and the accumulator play
    no role) -/
def recs (cfg : Qmtp.Cfg) : Nat → Bytes → Option Nat → List QEnd → List Nat → List Qmtp.Done
  | 0, _, _, _, _ => []
  | fuel + 1, inp, w, ends, pids =>
    match (Qmtp.msg cfg inp).stop with
    | some _ => [⟨Qmtp.msg cfg inp, qqOf cfg inp w, []⟩]
    | none =>
      doneOf cfg inp w ends pids ::
      recs cfg fuel (Qmtp.msg cfg inp).rest (qqOf cfg inp w).ss.wleft
        (restEnds ends) pids.tail

/-- one step of `session`, with the refill arithmetic hidden: the reply buffer is flushed or not -/
theorem session_step (cfg : Qmtp.Cfg) (total fuel start : Nat) (inp : Bytes) (out : Sub) (w : Option Nat)
    (ends : List QEnd) (pids : List Nat) (acc : List Qmtp.Done) :
    ∃ out1 : Sub, (out1 = out.flush.1 ∨ out1 = out) ∧
      Qmtp.session cfg total (fuel + 1) start inp out w ends pids acc =
        match (Qmtp.msg cfg inp).stop with
        | some ex => ⟨out1.out, ex, (⟨Qmtp.msg cfg inp, qqOf cfg inp w, []⟩ :: acc).reverse⟩
        | none =>
          Qmtp.session cfg total fuel (start + (inp.length - (Qmtp.msg cfg inp).rest.length)) (Qmtp.msg cfg inp).rest
            (Qmtp.putAll out1 (Qmtp.replies (Qmtp.msg cfg inp) ((doneOf cfg inp w ends pids).res)))
            (qqOf cfg inp w).ss.wleft (restEnds ends) pids.tail
            (doneOf cfg inp w ends pids :: acc) := by
  rw [Qmtp.session]
  simp only []
  refine ⟨_, ?_, rfl⟩
  have hite : ∀ (c : Prop) [Decidable c] (a b : Sub), (if c then a else b) = a ∨ (if c then a else b) = b := by
    intro c _ a b; split <;> simp
  exact hite _ _ _

/-- the records a connection produces, as a relation (threaded like `recs`): every record but the last is a completely
    read message with the status string computed from ITS verdict; the last record is a message inside which the daemon
    exits (or the list ends because the fuel ran out) -/
inductive Chain (cfg : Qmtp.Cfg) : Bytes → Option Nat → List QEnd → List Nat → List Qmtp.Done → Prop
  | nil (inp w ends pids) : Chain cfg inp w ends pids []          -- only reachable when the fuel is exhausted
  | last (inp w ends pids) (h : (Qmtp.msg cfg inp).stop ≠ none) :
      Chain cfg inp w ends pids [⟨Qmtp.msg cfg inp, (QQ.opened w).run (Qmtp.msg cfg inp).ops, []⟩]
  | cons (inp w ends pids rest) (h : (Qmtp.msg cfg inp).stop = none)
      (t : Chain cfg (Qmtp.msg cfg inp).rest ((QQ.opened w).run (Qmtp.msg cfg inp).ops).ss.wleft
        (if ends.length > 1 then ends.tail else ends) pids.tail rest) :
      Chain cfg inp w ends pids (⟨Qmtp.msg cfg inp, (QQ.opened w).run (Qmtp.msg cfg inp).ops,
        Qmtp.result (Qmtp.msg cfg inp) (((QQ.opened w).run (Qmtp.msg cfg inp).ops).verdict (ends.headD {})) cfg.now
          (pids.headD 0)⟩ :: rest)

theorem recs_chain (cfg : Qmtp.Cfg) : ∀ (fuel : Nat) (inp : Bytes) (w : Option Nat) (ends : List QEnd) (pids : List Nat),
    Chain cfg inp w ends pids (recs cfg fuel inp w ends pids)
  | 0, inp, w, ends, pids => Chain.nil inp w ends pids
  | fuel + 1, inp, w, ends, pids => by
    rw [recs]
    cases hst : (Qmtp.msg cfg inp).stop with
    | some ex => exact Chain.last inp w ends pids (by simp [hst])
    | none => exact Chain.cons inp w ends pids _ hst (recs_chain cfg fuel _ _ _ _)

/-- the records `l` of a connection that ended with `exit`: completely read messages `init`, then the message `d` inside
    which the daemon exits -/
structure Ended (l : List Qmtp.Done) (exit : Exit) (init : List Qmtp.Done) (d : Qmtp.Done) : Prop where
  split : l = init ++ [d]
  complete : ∀ x ∈ init, x.m.stop = none
  exit_eq : d.m.stop = some exit
  res : d.res = []

theorem Ended.stopped {l : List Qmtp.Done} {exit : Exit} {init : List Qmtp.Done} {d : Qmtp.Done} (E : Ended l exit init d) :
    d.m.stop ≠ none := by
  rw [E.exit_eq]; simp

/-- the reply bytes of the completely read messages among `l`, in order -/
def acked (l : List Qmtp.Done) : Bytes :=
  ((l.filter (fun d => d.m.stop.isNone)).map (fun d => (Qmtp.replies d.m d.res).flatten)).flatten

theorem acked_append (a b : List Qmtp.Done) : acked (a ++ b) = acked a ++ acked b := by
  simp [acked, List.filter_append]

theorem acked_complete (l : List Qmtp.Done) (h : ∀ x ∈ l, x.m.stop = none) :
    acked l = (l.map (fun d => (Qmtp.replies d.m d.res).flatten)).flatten := by
  unfold acked
  rw [List.filter_eq_self.mpr]
  intro x hx; simp [h x hx]

theorem acked_stopped (d : Qmtp.Done) (h : d.m.stop ≠ none) : acked [d] = [] := by
  cases hs : d.m.stop with
  | none => exact absurd hs h
  | some e => simp [acked, hs]

theorem acked_cons_complete (d : Qmtp.Done) (l : List Qmtp.Done) (h : d.m.stop = none) :
    acked (d :: l) = (Qmtp.replies d.m d.res).flatten ++ acked l := by
  simp [acked, h]

/-- `session` in terms of `recs`: the records; what the client has received; and, with more fuel than input bytes, the
    connection ends inside a message, never by running out of fuel -/
theorem session_recs (cfg : Qmtp.Cfg) (total : Nat) : ∀ (fuel start : Nat) (inp : Bytes) (out : Sub) (w : Option Nat)
    (ends : List QEnd) (pids : List Nat) (acc : List Qmtp.Done) (X : Bytes), SInv out X →
    (Qmtp.session cfg total fuel start inp out w ends pids acc).msgs = acc.reverse ++ recs cfg fuel inp w ends pids ∧
    (Qmtp.session cfg total fuel start inp out w ends pids acc).out <+: X ++ acked (recs cfg fuel inp w ends pids) ∧
    (inp.length < fuel → ∃ init d, Ended (recs cfg fuel inp w ends pids)
      (Qmtp.session cfg total fuel start inp out w ends pids acc).exit init d)
  | 0, _, _, _, _, _, _, _, X, h => ⟨by simp [Qmtp.session, recs], by simpa [Qmtp.session, recs, acked] using h.out, by omega⟩
  | fuel + 1, start, inp, out, w, ends, pids, acc, X, h => by
    obtain ⟨out1, ho, he⟩ := session_step cfg total fuel start inp out w ends pids acc
    have h1 : SInv out1 X := by
      rcases ho with ho | ho
      · rw [ho]; exact h.flush
      · rw [ho]; exact h
    rw [he, recs]
    cases hst : (Qmtp.msg cfg inp).stop with
    | some ex =>
      simp only []
      rw [acked_stopped _ (by simp [hst]), List.append_nil]
      exact ⟨by simp, h1.out, fun _ => ⟨[], _, rfl, by simp, hst, rfl⟩⟩
    | none =>
      simp only []
      obtain ⟨im, io, ie⟩ := session_recs cfg total fuel (start + (inp.length - (Qmtp.msg cfg inp).rest.length))
        (Qmtp.msg cfg inp).rest _ (qqOf cfg inp w).ss.wleft (restEnds ends) pids.tail
        (doneOf cfg inp w ends pids :: acc) _
        (SInv.putAll (Qmtp.replies (Qmtp.msg cfg inp) ((doneOf cfg inp w ends pids).res)) h1)
      rw [acked_cons_complete _ _ hst, ← List.append_assoc]
      refine ⟨by rw [im]; simp, io, fun hf => ?_⟩
      have hl := msg_consumes cfg inp hst
      obtain ⟨init, d, E⟩ := ie (by omega)
      refine ⟨_ :: init, d, by rw [E.split]; rfl, ?_, E.exit_eq, E.res⟩
      intro x hx
      rcases List.mem_cons.mp hx with hx | hx
      · rw [hx]; exact hst
      · exact E.complete x hx

theorem session_chain (cfg : Qmtp.Cfg) (total fuel start : Nat) (inp : Bytes) (out : Sub) (w : Option Nat)
    (ends : List QEnd) (pids : List Nat) (acc : List Qmtp.Done) :
    ∃ l, (Qmtp.session cfg total fuel start inp out w ends pids acc).msgs = acc.reverse ++ l ∧
      Chain cfg inp w ends pids l :=
  ⟨_, (session_recs cfg total fuel start inp out w ends pids acc _ (Or.inl rfl)).1, recs_chain cfg fuel inp w ends pids⟩

theorem run_msgs (cfg : Qmtp.Cfg) (w : Option Nat) (ends : List QEnd) (pids : List Nat) (inp : Bytes) :
    (Qmtp.run cfg w ends pids inp).msgs = recs cfg (inp.length + 1) inp w ends pids := by
  unfold Qmtp.run; rw [(session_recs _ _ _ _ _ _ _ _ _ _ _ (Or.inl rfl)).1]; simp

theorem run_chain (cfg : Qmtp.Cfg) (w : Option Nat) (ends : List QEnd) (pids : List Nat) (inp : Bytes) :
    Chain cfg inp w ends pids (Qmtp.run cfg w ends pids inp).msgs := by
  rw [run_msgs]; exact recs_chain cfg _ inp w ends pids

/-- the whole shape of the record list of `run`: complete messages, then one message inside which the daemon exits,
    and the exit status of the connection is the exit of that message -/
theorem run_chain_nonempty (cfg : Qmtp.Cfg) (w : Option Nat) (ends : List QEnd) (pids : List Nat) (inp : Bytes) :
    ∃ init d, Ended (Qmtp.run cfg w ends pids inp).msgs (Qmtp.run cfg w ends pids inp).exit init d := by
  rw [run_msgs]
  unfold Qmtp.run
  exact (session_recs cfg inp.length (inp.length + 1) 0 inp { cap := Nq.Gen.C07.qmtpOutBuf } w ends pids [] _
    (Or.inl rfl)).2.2 (by omega)

theorem session_out_prefix (cfg : Qmtp.Cfg) (total fuel start : Nat) (inp : Bytes) (out : Sub) (w : Option Nat)
    (ends : List QEnd) (pids : List Nat) (acc : List Qmtp.Done) :
    ∃ l, (Qmtp.session cfg total fuel start inp out w ends pids acc).msgs = acc.reverse ++ l ∧
      Chain cfg inp w ends pids l ∧
      (Qmtp.session cfg total fuel start inp out w ends pids acc).out <+: out.all ++ acked l := by
  have h := session_recs cfg total fuel start inp out w ends pids acc _ (Or.inl rfl)
  exact ⟨_, h.1, recs_chain cfg fuel inp w ends pids, h.2.1⟩

theorem run_out_acked (cfg : Qmtp.Cfg) (w : Option Nat) (ends : List QEnd) (pids : List Nat) (inp : Bytes) :
    (Qmtp.run cfg w ends pids inp).out <+: acked (Qmtp.run cfg w ends pids inp).msgs := by
  rw [run_msgs]
  unfold Qmtp.run
  have := (session_recs cfg inp.length (inp.length + 1) 0 inp { cap := Nq.Gen.C07.qmtpOutBuf } w ends pids [] []
    (Or.inl rfl)).2.1
  simpa using this

theorem run_out_init (cfg : Qmtp.Cfg) (w : Option Nat) (ends : List QEnd) (pids : List Nat) (inp : Bytes) :
    ∃ init d, (Qmtp.run cfg w ends pids inp).msgs = init ++ [d] ∧ (∀ x ∈ init, x.m.stop = none) ∧
      d.m.stop ≠ none ∧
      (Qmtp.run cfg w ends pids inp).out <+: (init.map (fun d => (Qmtp.replies d.m d.res).flatten)).flatten := by
  obtain ⟨init, d, E⟩ := run_chain_nonempty cfg w ends pids inp
  refine ⟨init, d, E.split, E.complete, E.stopped, ?_⟩
  have := run_out_acked cfg w ends pids inp
  rw [E.split, acked_append, acked_stopped d E.stopped, List.append_nil, acked_complete init E.complete] at this
  exact this

theorem run_out_prefix (cfg : Qmtp.Cfg) (w : Option Nat) (ends : List QEnd) (pids : List Nat) (inp : Bytes) :
    (Qmtp.run cfg w ends pids inp).out <+:
      ((Qmtp.run cfg w ends pids inp).msgs.map (fun d => (Qmtp.replies d.m d.res).flatten)).flatten := by
  obtain ⟨init, d, h1, -, -, h4⟩ := run_out_init cfg w ends pids inp
  rw [h1, List.map_append, List.flatten_append]
  exact List.IsPrefix.trans h4 (List.prefix_append _ _)

/-- `p` is exactly `k` complete messages, one after the other, nothing left over -/
inductive Complete (cfg : Qmtp.Cfg) : Nat → Bytes → Prop
  | zero : Complete cfg 0 []
  | succ {k : Nat} {m1 p : Bytes} (h : (Qmtp.msg cfg m1).stop = none) (hr : (Qmtp.msg cfg m1).rest = [])
      (t : Complete cfg k p) : Complete cfg (k + 1) (m1 ++ p)

/-- the same record when `t` follows on the connection: only the unread remainder differs -/
def addRest (t : Bytes) (d : Qmtp.Done) : Qmtp.Done := { d with m := { d.m with rest := d.m.rest ++ t } }

theorem addRest_nil (d : Qmtp.Done) : addRest [] d = d := by
  obtain ⟨m, q, res⟩ := d
  cases m
  simp [addRest]

theorem map_addRest_nil (l : List Qmtp.Done) : l.map (addRest []) = l := by
  induction l with
  | nil => rfl
  | cons d l ih => rw [List.map_cons, ih, addRest_nil]

theorem acked_map_addRest (t : Bytes) : ∀ (l : List Qmtp.Done), acked (l.map (addRest t)) = acked l
  | [] => rfl
  | d :: l => by
    have ih := acked_map_addRest t l
    rw [List.map_cons, ← List.singleton_append, acked_append, ih, ← List.singleton_append (l := l), acked_append]
    congr 1
    cases hs : d.m.stop <;> simp [acked, addRest, hs, Qmtp.replies]

theorem Complete.le_length {cfg : Qmtp.Cfg} {k : Nat} {p : Bytes} (h : Complete cfg k p) : k ≤ p.length := by
  induction h with
  | zero => simp
  | succ h _ _ ih =>
    have := msg_consumes cfg _ h
    simp only [List.length_append]; omega

theorem recs_stopped (cfg : Qmtp.Cfg) (f : Nat) (inp : Bytes) (w : Option Nat) (ends : List QEnd) (pids : List Nat)
    (hs : (Qmtp.msg cfg inp).stop ≠ none) :
    recs cfg (f + 1) inp w ends pids = [⟨Qmtp.msg cfg inp, qqOf cfg inp w, []⟩] := by
  rw [recs]
  cases hst : (Qmtp.msg cfg inp).stop with
  | none => exact absurd hst hs
  | some ex => rfl

theorem recs_succ_complete (cfg : Qmtp.Cfg) (fuel : Nat) (m1 t : Bytes) (w : Option Nat) (ends : List QEnd)
    (pids : List Nat) (h : (Qmtp.msg cfg m1).stop = none) (hr : (Qmtp.msg cfg m1).rest = []) :
    recs cfg (fuel + 1) (m1 ++ t) w ends pids =
      ⟨{ Qmtp.msg cfg m1 with rest := t }, qqOf cfg m1 w,
        (doneOf cfg m1 w ends pids).res⟩ ::
      recs cfg fuel t (qqOf cfg m1 w).ss.wleft
        (restEnds ends) pids.tail := by
  have e := Qmtp.msg_ext cfg m1 t h
  rw [hr, List.nil_append] at e
  rw [recs]
  simp only [doneOf, qqOf, e, h]
  rfl

theorem chain_append (cfg : Qmtp.Cfg) (m1 t : Bytes) (w : Option Nat) (ends : List QEnd) (pids : List Nat)
    (l : List Qmtp.Done) (h : (Qmtp.msg cfg m1).stop = none) (hr : (Qmtp.msg cfg m1).rest = [])
    (hl : Chain cfg t ((QQ.opened w).run (Qmtp.msg cfg m1).ops).ss.wleft
      (if ends.length > 1 then ends.tail else ends) pids.tail l) :
    Chain cfg (m1 ++ t) w ends pids
      (⟨{ Qmtp.msg cfg m1 with rest := t }, (QQ.opened w).run (Qmtp.msg cfg m1).ops,
        Qmtp.result (Qmtp.msg cfg m1) (((QQ.opened w).run (Qmtp.msg cfg m1).ops).verdict (ends.headD {})) cfg.now
          (pids.headD 0)⟩ :: l) := by
  have e := Qmtp.msg_ext cfg m1 t h
  rw [hr, List.nil_append] at e
  have := Chain.cons (m1 ++ t) w ends pids l (by rw [e]; exact h) (by rw [e]; exact hl)
  rw [e] at this
  exact this

/-- the order of the quantifiers is the point: the state (`w'`, `ends'`, `pids'`) from which what follows the `k`
    complete messages is processed depends on these messages only -/
theorem recs_append (cfg : Qmtp.Cfg) {k : Nat} {p : Bytes} (hp : Complete cfg k p) :
    ∀ (w : Option Nat) (ends : List QEnd) (pids : List Nat),
    (recs cfg k p w ends pids).length = k ∧ (∀ x ∈ recs cfg k p w ends pids, x.m.stop = none) ∧
    ∃ (w' : Option Nat) (ends' : List QEnd) (pids' : List Nat), ∀ (f : Nat) (t : Bytes),
      recs cfg (k + f) (p ++ t) w ends pids =
        (recs cfg k p w ends pids).map (addRest t) ++ recs cfg f t w' ends' pids' := by
  induction hp with
  | zero =>
    intro w ends pids
    exact ⟨rfl, by simp [recs], w, ends, pids, by intro f t; simp [recs]⟩
  | @succ k m1 p h hr _ ih =>
    intro w ends pids
    obtain ⟨i1, i2, w', ends', pids', i3⟩ := ih (qqOf cfg m1 w).ss.wleft
      (restEnds ends) pids.tail
    rw [recs_succ_complete cfg k m1 p w ends pids h hr]
    refine ⟨by simp [i1], ?_, w', ends', pids', ?_⟩
    · intro x hx
      rcases List.mem_cons.mp hx with hx | hx
      · rw [hx]; exact h
      · exact i2 x hx
    · intro f t
      have e1 : k + 1 + f = (k + f) + 1 := by omega
      rw [e1, List.append_assoc, recs_succ_complete cfg (k + f) m1 (p ++ t) w ends pids h hr, i3 f t]
      simp [addRest]

theorem run_complete_take (cfg : Qmtp.Cfg) {k : Nat} {p : Bytes} (hp : Complete cfg k p) (w : Option Nat)
    (ends : List QEnd) (pids : List Nat) :
    (Qmtp.run cfg w ends pids p).msgs.take k = recs cfg k p w ends pids := by
  obtain ⟨i1, -, w', ends', pids', i3⟩ := recs_append cfg hp w ends pids
  have hk := hp.le_length
  have := i3 (p.length + 1 - k) []
  rw [List.append_nil, map_addRest_nil, show k + (p.length + 1 - k) = p.length + 1 by omega] at this
  rw [run_msgs, this, List.take_left' i1]

/-- **cut inside message k+1.**  The client sends the `k` complete messages `p` and then `j` bytes of `inp'`, fewer than
    `msg` consumes of `inp'` (which need not begin with a complete message).  Then the records are those of the
    connection `p`, but for the unread remainder, followed by ONE record `d`, the truncated message, inside which the
    daemon exits; `d` ran on some write-fault counter `w'` (the proof takes the one the `k` messages left) and leaves no
    complete envelope on descriptor 1; the client has received at most a prefix of the replies of the `k` complete
    messages. -/
theorem run_cut_later (cfg : Qmtp.Cfg) (w : Option Nat) (ends : List QEnd) (pids : List Nat) {k : Nat} {p : Bytes}
    (hp : Complete cfg k p) (inp' : Bytes) (j : Nat)
    (hj : j < inp'.length - (Qmtp.msg cfg inp').rest.length) :
    ((Qmtp.run cfg w ends pids p).msgs.take k).length = k ∧
    (∀ x ∈ (Qmtp.run cfg w ends pids p).msgs.take k, x.m.stop = none) ∧
    ∃ (w' : Option Nat) (d : Qmtp.Done),
      (Qmtp.run cfg w ends pids (p ++ inp'.take j)).msgs =
        ((Qmtp.run cfg w ends pids p).msgs.take k).map (addRest (inp'.take j)) ++ [d] ∧
      d.m = Qmtp.msg cfg (inp'.take j) ∧ d.m.stop ≠ none ∧ d.res = [] ∧
      d.q = (QQ.opened w').run d.m.ops ∧ envComplete d.q.envPipe = false ∧
      d.m.stop = some (Qmtp.run cfg w ends pids (p ++ inp'.take j)).exit ∧
      (Qmtp.run cfg w ends pids (p ++ inp'.take j)).out <+:
        (((Qmtp.run cfg w ends pids p).msgs.take k).map (fun d => (Qmtp.replies d.m d.res).flatten)).flatten := by
  rw [run_complete_take cfg hp]
  obtain ⟨i1, i2, w', ends', pids', i3⟩ := recs_append cfg hp w ends pids
  have hk := hp.le_length
  have hs := Qmtp.msg_prefix cfg inp' j hj
  have hm : (Qmtp.run cfg w ends pids (p ++ inp'.take j)).msgs =
      (recs cfg k p w ends pids).map (addRest (inp'.take j)) ++
        [⟨Qmtp.msg cfg (inp'.take j), qqOf cfg (inp'.take j) w', []⟩] := by
    have := i3 ((p ++ inp'.take j).length - k + 1) (inp'.take j)
    rw [recs_stopped cfg _ _ w' ends' pids' hs] at this
    rw [run_msgs, ← this]
    congr 1
    simp only [List.length_append] at hk ⊢; omega
  refine ⟨i1, i2, w', ⟨Qmtp.msg cfg (inp'.take j), qqOf cfg (inp'.take j) w', []⟩, hm, rfl, hs,
    rfl, rfl, (Qmtp.msg_stopped cfg _ hs).no_envelope w', ?_, ?_⟩
  · obtain ⟨init0, d0, E⟩ := run_chain_nonempty cfg w ends pids (p ++ inp'.take j)
    have g1 := E.split
    rw [hm] at g1
    have := (List.append_inj' g1 rfl).2
    simp only [List.cons.injEq, and_true] at this
    rw [this]; exact E.exit_eq
  · have := run_out_acked cfg w ends pids (p ++ inp'.take j)
    rw [hm, acked_append, acked_stopped _ hs, List.append_nil, acked_map_addRest, acked_complete _ i2] at this
    exact this

end Nq.Lemmas.C07Session
