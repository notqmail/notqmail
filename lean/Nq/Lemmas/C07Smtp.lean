/-
  The composed SMTP connection `Nq.SmtpC07.run` (C08's command loop + C07's smtp_data): the event list is a
  `SmtpSession.trace`; every step is `sstep` applied in a state that satisfies C08's transaction invariant `Inv` with
  respect to the events before it, a queue run works on a suffix of the client's stream, and a step whose outcome halts
  is the last one (`runFuel_split`).  Then what one `sstep` gives for a line that starts no queue run and for a DATA that
  was or was not terminated.
-/
import Nq.SmtpC07
import Nq.Lemmas.SmtpSession
import Nq.Lemmas.C07Daemons

namespace Nq.SmtpC07
open Nq Nq.SmtpSession Nq.SmtpPolicy Nq.Lemmas.Smtp

section loop
open Nq.Netstring Nq.SmtpIn

theorem readLine_suffix (inp l r : Bytes) (h : readLine inp = some (l, r)) : r <:+ inp :=
  ⟨l ++ [LF], by simp [(Nq.Lemmas.SmtpCmd.readLine_some inp l r h).1]⟩

theorem data_rest_suffix (cfg : Smtp.Cfg) (helo : Option Bytes) (mf rt inp : Bytes) :
    (Smtp.data cfg helo mf rt inp).rest <:+ inp := by
  cases hs : (Smtp.data cfg helo mf rt inp).stop with
  | none =>
    obtain ⟨m, e, _⟩ := Nq.Lemmas.SmtpCmd.dblast_accept_rest inp _ _ (Smtp.data_dblast cfg helo mf rt inp hs)
    exact ⟨m, e.symm⟩
  | some ex =>
    unfold Smtp.data at hs ⊢
    simp only at hs ⊢
    split at hs
    · exact List.nil_suffix
    · exact List.nil_suffix
    · exact nomatch hs

/-- the step `st` was taken in command-loop state `s`; `P` is what is assumed of every scripted end of the queue program -/
structure StepAt (cfg : Cfg) (P : QmailC.QEnd → Prop) (s : Sess) (st : Step) : Prop where
  plain : st.txn = none →
    ∃ v arg, ¬ (v = Verb.data ∧ dataGate s = true) ∧ st.ev = (plainCmd v arg, (sstep cfg.pol s (plainCmd v arg)).2)
  txn : ∀ {t}, st.txn = some t → P t.e ∧ dataGate s = true ∧ t.mailfrom = s.mailfrom ∧ t.rcpts = s.rcptto ∧
    st.ev = (t.cmd cfg, (sstep cfg.pol s (t.cmd cfg)).2)

theorem P_nextEnds {P : QmailC.QEnd → Prop} {ends : List QmailC.QEnd} (h : ∀ e ∈ ends, P e) : ∀ e ∈ nextEnds ends, P e := by
  intro e he
  unfold nextEnds at he
  split at he
  · exact h e (List.mem_of_mem_tail he)
  · exact h e he

theorem P_headD {P : QmailC.QEnd → Prop} {ends : List QmailC.QEnd} (h0 : P {}) (h : ∀ e ∈ ends, P e) : P (ends.headD {}) := by
  cases ends with
  | nil => exact h0
  | cons e es => exact h e (by simp)

theorem runFuel_succ (cfg : Cfg) (P : QmailC.QEnd → Prop) (h0 : P {}) (n : Nat) (s : Sess) (helo : Option Bytes)
    (w : Option Nat) (ends : List QmailC.QEnd) (pids : List Nat) (inp : Bytes) (hP : ∀ e ∈ ends, P e) :
    runFuel cfg (n + 1) s helo w ends pids inp = [] ∨
    ∃ st helo' w' ends' pids' inp',
      runFuel cfg (n + 1) s helo w ends pids inp =
        st :: (if st.ev.2.halt then [] else runFuel cfg n (sstep cfg.pol s st.ev.1).1 helo' w' ends' pids' inp') ∧
      st.ev.2 = (sstep cfg.pol s st.ev.1).2 ∧ StepAt cfg P s st ∧ (∀ e ∈ ends', P e) ∧ inp' <:+ inp ∧
      ∀ t, st.txn = some t → t.stream <:+ inp := by
  simp only [runFuel]
  cases h : readLine inp with
  | none => exact .inl rfl
  | some lr =>
    obtain ⟨l, rest⟩ := lr
    have hsuf := readLine_suffix inp l rest h
    right
    by_cases hg : (parseLine l).1 = .data ∧ dataGate s = true
    · simp only [if_pos hg]
      refine ⟨_, _, _, _, _, _, rfl, ?_, ?_, P_nextEnds hP, (data_rest_suffix _ _ _ _ _).trans hsuf, fun t ht => ?_⟩
      · rfl
      · exact ⟨nofun, fun ht => by cases ht; exact ⟨P_headD h0 hP, hg.2, rfl, rfl, rfl⟩⟩
      · cases ht; exact hsuf
    · simp only [if_neg hg]
      refine ⟨_, _, _, _, _, _, rfl, ?_, ?_, hP, hsuf, fun t ht => ?_⟩
      · rfl
      · exact ⟨fun _ => ⟨_, _, hg, rfl⟩, nofun⟩
      · exact nomatch ht

theorem runFuel_is_trace (cfg : Cfg) : ∀ (n : Nat) (s : Sess) (helo : Option Bytes) (w : Option Nat) (ends : List QmailC.QEnd)
    (pids : List Nat) (inp : Bytes),
    (runFuel cfg n s helo w ends pids inp).map (·.ev) =
      trace cfg.pol s ((runFuel cfg n s helo w ends pids inp).map (·.ev.1))
  | 0, _, _, _, _, _, _ => by simp [runFuel, trace]
  | n + 1, s, helo, w, ends, pids, inp => by
    rcases runFuel_succ cfg (fun _ => True) trivial n s helo w ends pids inp (fun _ _ => trivial) with
      he | ⟨st, helo', w', ends', pids', inp', he, hev, -⟩
    · rw [he]; rfl
    · rw [he]
      simp only [List.map_cons, trace, ← hev]
      split
      · rfl
      · congr 1
        exact runFuel_is_trace cfg n _ _ _ _ _ _

/-- What the session theorems of `Props/C07.lean` know of a step `st` anywhere in a run: induction on `pre`, one
    `runFuel_succ` and one `inv_step` per step passed.  `h0 : P {}` because a queue run takes `ends.headD {}`, which is `{}` when
    the script `ends` is empty. -/
theorem runFuel_split (cfg : Cfg) (P : QmailC.QEnd → Prop) (h0 : P {}) :
    ∀ (pre : List Step) (n : Nat) (s : Sess) (hist : List Ev) (helo : Option Bytes) (w : Option Nat) (ends : List QmailC.QEnd)
      (pids : List Nat) (inp : Bytes) (st : Step) (post : List Step),
      (∀ e ∈ ends, P e) → Inv cfg.pol hist s → runFuel cfg n s helo w ends pids inp = pre ++ st :: post →
      (∃ s', Inv cfg.pol (hist ++ pre.map (·.ev)) s' ∧ StepAt cfg P s' st) ∧
      (∀ t, st.txn = some t → t.stream <:+ inp) ∧ (st.ev.2.halt = true → post = [])
  | _, 0, _, _, _, _, _, _, _, _, _, _, _, hr => by simp [runFuel] at hr
  | pre, n + 1, s, hist, helo, w, ends, pids, inp, st, post, hP, hi, hr => by
    rcases runFuel_succ cfg P h0 n s helo w ends pids inp hP with
      he | ⟨st0, helo', w', ends', pids', inp', he, hev, hat, hP', hsuf, hstream⟩
    · rw [he] at hr; simp at hr
    · rw [he] at hr
      cases pre with
      | nil =>
        simp only [List.nil_append, List.cons.injEq] at hr
        obtain ⟨rfl, hrest⟩ := hr
        exact ⟨⟨s, by simpa using hi, hat⟩, hstream, fun hh => by rw [if_pos hh] at hrest; exact hrest.symm⟩
      | cons p pre =>
        simp only [List.cons_append, List.cons.injEq] at hr
        obtain ⟨rfl, hrest⟩ := hr
        split at hrest
        · exact absurd hrest (by simp)
        · obtain ⟨h1, h2, h3⟩ := runFuel_split cfg P h0 pre n _ (hist ++ [st0.ev]) _ _ _ _ _ st post hP'
            (by rw [show st0.ev = (st0.ev.1, st0.ev.2) from rfl, hev]; exact inv_step cfg.pol hist s _ hi) hrest
          exact ⟨by simpa [List.append_assoc] using h1, fun t ht => (h2 t ht).trans hsuf, h3⟩

theorem run_split (cfg : Cfg) (P : QmailC.QEnd → Prop) (h0 : P {}) {w ends pids inp pre st post} (hP : ∀ e ∈ ends, P e)
    (hr : run cfg w ends pids inp = pre ++ st :: post) :
    (∃ s', Inv cfg.pol (pre.map (·.ev)) s' ∧ StepAt cfg P s' st) ∧
    (∀ t, st.txn = some t → t.stream <:+ inp) ∧ (st.ev.2.halt = true → post = []) :=
  runFuel_split cfg P h0 pre _ {} [] none w ends pids inp st post hP (inv_init cfg.pol) hr

end loop

theorem plain_step (pol : SmtpSession.Cfg) (s : Sess) (v : Verb) (arg : Bytes) (h : ¬ (v = Verb.data ∧ dataGate s = true)) :
    (sstep pol s (plainCmd v arg)).2.submit = none ∧
    ∃ r, (sstep pol s (plainCmd v arg)).2.replies = [r] ∧ r ≠ .accepted ∧ ∀ t, r ≠ .qqfail t := by
  rcases nondata_step pol s (plainCmd v arg) with ⟨env, he⟩ | ⟨h0, r, hr, _, h1, h2⟩
  · -- only the verb DATA gives a DATA command, and then one of its gates is closed
    cases v with
    | data =>
      have hg : dataGate s = false := by simpa using h
      have e : sstep pol s (plainCmd .data arg) = _ := sstep_data_shut hg
      rw [e]
      exact ⟨rfl, _, rfl, by split <;> simp, by split <;> simp⟩
    | _ => exact nomatch he
  · exact ⟨h0, r, hr, h1, h2⟩

theorem txn_step_done (cfg : Cfg) (s : Sess) (t : Txn) (hg : dataGate s = true) (hs : (t.d cfg).stop = none) :
    (sstep cfg.pol s (t.cmd cfg)).2 =
      { replies := [.go, closeReply (t.qqx cfg)], submit := some ⟨s.mailfrom, s.rcptto, t.qqx cfg⟩, halt := false } := by
  rw [Txn.cmd, sstep_data_open hg]
  simp [Txn.blast, hs]

theorem txn_step_stopped (cfg : Cfg) (s : Sess) (t : Txn) (hg : dataGate s = true) (hs : (t.d cfg).stop ≠ none) :
    (sstep cfg.pol s (t.cmd cfg)).2.submit = none ∧ (sstep cfg.pol s (t.cmd cfg)).2.halt = true ∧
    Reply.accepted ∉ (sstep cfg.pol s (t.cmd cfg)).2.replies := by
  rw [Txn.cmd, sstep_data_open hg]
  cases hst : (t.d cfg).stop with
  | none => exact absurd hst hs
  | some ex => by_cases hy : (t.d cfg).stray = true <;> simp [Txn.blast, hst, hy]

theorem inv_open (pol : SmtpSession.Cfg) (hist : List Ev) (s : Sess) (hi : Inv pol hist s) (hg : dataGate s = true) :
    ∃ mid, OpenTxn pol hist s.mailfrom mid ∧ s.rcptto = mid.filterMap (acceptedRcpt pol) ∧ s.rcptto ≠ [] := by
  obtain ⟨h1, he⟩ := (dataGate_true s).mp hg
  obtain ⟨mid, ho, hr, _⟩ := hi.open_of_seen h1
  exact ⟨mid, (openTxnB_iff pol hist _ mid).1 ho, hr, he⟩

end Nq.SmtpC07
