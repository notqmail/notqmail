/-
  The replies of the composed SMTP connection as bytes: given a greeting that is one line not beginning `ok `, only the
  acknowledgement itself and the relayed text of the queue program can contain a line beginning `250 ok `.
-/
import Nq.Lemmas.C07Smtp

namespace Nq.SmtpC07
open Nq Nq.SmtpSession

/-- "250 ok " -/
def ackPrefix : Bytes := [50, 53, 48, 32, 111, 107, 32]

def startsAck (l : Bytes) : Bool := l.take 7 == ackPrefix

/-- some line of `b` (the pieces between LFs) begins with `250 ok ` -/
def hasAckLine (b : Bytes) : Bool := (splitOnB LF b).any startsAck

/-- the greeting (control/smtpgreeting, default control/me) is one line that does not begin with `ok ` -/
def GreetOK (g : Bytes) : Prop := LF ∉ g ∧ g.take 3 ≠ [111, 107, 32]

/-- the replies whose text does not depend on the configuration or on the queue program -/
def fixedReply : Reply → Bool
  | .helo | .ehlo | .quit | .accepted | .qqfail _ => false
  | _ => true

theorem fixed_no_ack (pol : SmtpSession.Cfg) (r : Reply) (h : fixedReply r = true) : hasAckLine (render pol r) = false := by
  cases r <;> simp [fixedReply] at h <;> simp only [render] <;> decide

theorem splitOnB_append_free (sep : Byte) (a b : Bytes) (h : sep ∉ a) :
    splitOnB sep (a ++ b) = (a ++ (splitOnB sep b).headD []) :: (splitOnB sep b).tail := by
  simp only [Nq.Lemmas.Smtp.splitOnB_eq]
  by_cases hm : sep ∈ b
  · obtain ⟨p, r, rfl, hn⟩ := List.eq_append_cons_of_mem hm
    rw [← List.append_assoc, splitSep_append sep r _ (by simp [h, hn]), splitSep_append sep r p hn]; rfl
  · rw [splitSep_nosep sep _ (by simp [h, hm]), splitSep_nosep sep b hm]; rfl

theorem greet_no_ack (pre g tail : Bytes) (hpre : LF ∉ pre) (h : GreetOK g)
    (h1 : startsAck (pre ++ g ++ (splitOnB LF tail).headD []) = false) (h2 : (splitOnB LF tail).tail.any startsAck = false) :
    hasAckLine (pre ++ g ++ tail) = false := by
  have hfree : LF ∉ pre ++ g := fun hm => (List.mem_append.mp hm).elim hpre h.1
  unfold hasAckLine
  rw [splitOnB_append_free LF _ _ hfree, List.any_cons, h1, h2]
  rfl

theorem greet_helo (g : Bytes) (h : GreetOK g) : hasAckLine (Gen.txt_helo_pre ++ g ++ Gen.txt_helo_tail) = false := by
  refine greet_no_ack _ g _ (by decide) h ?_ (by decide)
  show startsAck (Gen.txt_helo_pre ++ g ++ [13]) = false
  unfold startsAck ackPrefix Gen.txt_helo_pre
  rcases g with _ | ⟨a, _ | ⟨b, _ | ⟨c, g⟩⟩⟩
  · decide
  · simp
  · simp
  · have := h.2
    simp at this ⊢
    exact this

theorem greet_ehlo (g : Bytes) (h : GreetOK g) : hasAckLine (Gen.txt_ehlo_pre ++ g ++ Gen.txt_ehlo_tail) = false :=
  greet_no_ack _ g _ (by decide) h (by simp [startsAck, ackPrefix, Gen.txt_ehlo_pre]) (by decide)

theorem greet_quit (g : Bytes) (h : GreetOK g) : hasAckLine (Gen.txt_quit_pre ++ g ++ Gen.txt_quit_tail) = false :=
  greet_no_ack _ g _ (by decide) h (by simp [startsAck, ackPrefix, Gen.txt_quit_pre]) (by decide)

theorem render_no_ack (pol : SmtpSession.Cfg) (hg : GreetOK pol.greeting) (r : Reply) (h1 : r ≠ .accepted) (h2 : ∀ t, r ≠ .qqfail t) :
    hasAckLine (render pol r) = false := by
  cases r with
  | helo => exact greet_helo _ hg
  | ehlo => exact greet_ehlo _ hg
  | quit => exact greet_quit _ hg
  | accepted => exact absurd rfl h1
  | qqfail t => exact absurd rfl (h2 t)
  | _ => exact fixed_no_ack pol _ rfl

end Nq.SmtpC07
