/-
  qmail-qmtpd: a message read to the end is a message of the strict grammar `Spec.C07.qmtpNext`.  `msg_full` gives the
  reading steps, each `*_reads` lemma turns one into a grammar fact, `ns?_intro` assembles the three netstrings.
  The property is stated, in notqmail's terms, at `C07_qmtp_strict` in `Props/C07.lean`; `hd` (the digit check of the
  recipient-length loop, a generated constant) is discharged there by `decide`.
-/
import Nq.Lemmas.C07Daemons

namespace Nq.Netstring
open Nq Nq.QmailC Nq.Received
open Nq.Spec.C07 (nsLen ns? nsList nsAll)

namespace Qmtp

open Nq.Spec.C07 (qmtpNext undos) in
theorem msg_strict (cfg : Cfg) (inp : Bytes) (hd : Nq.Gen.C07.qmtpRcptDigitCheck = 1) (h : (msg cfg inp).stop = none) :
    ∃ sraw as, qmtpNext inp = some (⟨(msg cfg inp).stored, sraw, as⟩, (msg cfg inp).rest) ∧
      (msg cfg inp).senderok = (decide (sraw.length < Nq.Gen.C07.qmtpAddrMax) && !sraw.contains 0) ∧
      (msg cfg inp).sender = cstr (if sraw.length ≥ Nq.Gen.C07.qmtpAddrMax then [] else sraw) ∧
      (msg cfg inp).failure = as.map (rcptFail cfg) ∧
      (msg cfg inp).rcpts = (as.filter (fun a => rcptFail cfg a = 0)).map (· ++ cfg.relay.getD []) := by
  obtain ⟨p, R⟩ := msg_full cfg inp h
  have B := bodyOf_reads cfg p.len p.c p.r1 p.r2 R.body
  obtain ⟨d, e7, hdl, _, hgr⟩ := rcptLoop_reads cfg (p.r7.length + 1) p.biglen p.r7 R.rcpts
  obtain ⟨as, hns, hfa, hrc⟩ := hgr hd
  have hslen : p.sraw.length = p.slen := by
    obtain ⟨hsa, _, hsl⟩ := (getbytes_iff p.slen p.r4 p.sraw p.r5).mp R.sender
    rw [hsa]; simp; omega
  have n1 : ns? inp = some (p.c :: p.r1.take (p.len - 1), p.r3) := by
    apply Nq.Spec.C07.ns?_intro inp p.len (p.c :: p.r1) _ p.r3 (getlen_nsLen _ inp 0 p.len _ R.len)
    · rw [← (getcomma_iff p.r2 () p.r3).mp R.comma1, B.rest_eq]; simp
    · simp; have := R.len_ne; have := B.le; omega
  have n2 : ns? p.r3 = some (p.sraw, p.r6) := ns?_of_reads _ p.r3 p.slen p.r4 p.sraw p.r5 p.r6 () R.slen R.sender R.comma2
  have n3 : ns? p.r6 = some (d, p.r8) :=
    Nq.Spec.C07.ns?_intro p.r6 p.biglen p.r7 d p.r8 (getlen_nsLen _ p.r6 0 p.biglen _ R.biglen)
      (by rw [← (getcomma_iff _ () p.r8).mp R.comma3]; exact e7) hdl
  have hk : ¬ (p.c ≠ 10 ∧ p.c ≠ 13) := by
    rcases R.mode with hc | hc <;> simp [hc, LF, CR]
  rw [R.msg_eq]
  simp only [fullMsg, ← hslen]
  refine ⟨p.sraw, as, ?_, ?_, rfl, hfa, hrc⟩
  · unfold qmtpNext
    simp only [n1, if_neg hk, n2, n3, hns, B.stored_eq]
  · by_cases hh : p.sraw.length < Nq.Gen.C07.qmtpAddrMax
    · simp [hh, Nat.not_le.mpr hh]
    · simp [hh, Nat.not_lt.mp hh]

end Qmtp
end Nq.Netstring
