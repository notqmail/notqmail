/-
  The substdio output buffer of Nq/QmailC.lean.  One relation, `Sub.Sends`, says what an operation does; `write`,
  `substdio_flush`, the direct-write loop and `substdio_put` each satisfy it.
-/
import Nq.QmailC

namespace Nq.QmailC
open Nq

/-- everything handed to the substdio that is not known to be lost: written ++ buffered -/
def Sub.all (s : Sub) : Bytes := s.out ++ s.buf

/-- `r` is what an operation returns that was asked to send `X` through `s`: nothing is invented or reordered; a success
    loses nothing; a failure loses something and leaves the descriptor dead (`wleft = some 0`); on a dead descriptor
    nothing more is written -/
structure Sub.Sends (s : Sub) (r : Sub × Bool) (X : Bytes) : Prop where
  cap : r.1.cap = s.cap
  pre : r.1.all <+: s.all ++ X
  ok : r.2 = true → r.1.all = s.all ++ X
  lost : r.2 = false → r.1.all.length < (s.all ++ X).length ∧ r.1.wleft = some 0
  dead : s.wleft = some 0 → r.1.wleft = some 0 ∧ r.1.out = s.out

theorem Sub.Sends.cut {s s' : Sub} {X : Bytes} (a : s.Sends (s', false) X) (Y : Bytes) : s.Sends (s', false) (X ++ Y) :=
  ⟨a.cap, by rw [← List.append_assoc]; exact a.pre.trans (List.prefix_append _ _), nofun,
    fun h => ⟨by have := (a.lost h).1; simp only [List.length_append] at this ⊢; omega, (a.lost h).2⟩, a.dead⟩

theorem Sub.Sends.trans {s s' : Sub} {r : Sub × Bool} {X Y : Bytes} (a : s.Sends (s', true) X) (b : s'.Sends r Y) :
    s.Sends r (X ++ Y) := by
  have e := a.ok rfl
  simp only at e
  refine ⟨b.cap.trans a.cap, ?_, fun h => ?_, fun h => ?_, fun h => ?_⟩
  · rw [← List.append_assoc, ← e]; exact b.pre
  · rw [b.ok h, e, List.append_assoc]
  · rw [← List.append_assoc, ← e]; exact b.lost h
  · exact ⟨(b.dead (a.dead h).1).1, (b.dead (a.dead h).1).2.trans (a.dead h).2⟩

theorem Sub.sends_wr (s : Sub) (bs : Bytes) (hb : s.buf = []) (hne : bs ≠ []) :
    s.Sends (s.wr bs) bs ∧ (s.wr bs).1.buf = [] := by
  have hl : 0 < bs.length := List.length_pos_iff.mpr hne
  unfold Sub.wr
  split
  · next h =>
    exact ⟨⟨rfl, List.prefix_append _ _, nofun, fun _ => ⟨by simp only [List.length_append]; omega, h⟩, fun _ => ⟨h, rfl⟩⟩, hb⟩
  · next k h =>
    exact ⟨⟨rfl, by simp [Sub.all, hb], fun _ => by simp [Sub.all, hb], nofun, fun h0 => by simp [h] at h0⟩, hb⟩
  · next h =>
    exact ⟨⟨rfl, by simp [Sub.all, hb], fun _ => by simp [Sub.all, hb], nofun, fun h0 => by simp [h] at h0⟩, hb⟩

theorem Sub.sends_flush (s : Sub) : s.Sends s.flush [] ∧ s.flush.1.buf = [] := by
  unfold Sub.flush
  split
  · next he =>
    exact ⟨⟨rfl, by simp, fun _ => by simp, nofun, fun h => ⟨h, rfl⟩⟩, by simpa using he⟩
  · next he =>
    obtain ⟨a, hb⟩ := Sub.sends_wr { s with buf := [] } s.buf rfl (by simpa using he)
    have e : Sub.all { s with buf := [] } ++ s.buf = s.all ++ [] := by simp [Sub.all]
    exact ⟨⟨a.cap, e ▸ a.pre, fun h => e ▸ a.ok h, fun h => e ▸ a.lost h, a.dead⟩, hb⟩

/-- the direct-write loop followed by what `substdio_put` does with its outcome -/
theorem Sub.sends_direct : ∀ (fuel : Nat) (s : Sub) (bs : Bytes), s.buf = [] →
    s.Sends (if (Sub.direct fuel s bs).ok then
        ({ (Sub.direct fuel s bs).s with buf := (Sub.direct fuel s bs).s.buf ++ (Sub.direct fuel s bs).rest }, true)
      else ((Sub.direct fuel s bs).s, false)) bs
  | 0, s, bs, _ => ⟨rfl, by simp [Sub.all, Sub.direct], fun _ => by simp [Sub.all, Sub.direct], nofun, fun h => ⟨h, rfl⟩⟩
  | fuel + 1, s, bs, hb => by
    unfold Sub.direct
    split
    · next hlen =>
      have h0 : 0 < Nq.Gen.C07.substdioOutsize := by decide
      generalize hn : min (max s.cap Nq.Gen.C07.substdioOutsize) bs.length = n
      obtain ⟨a, hb1⟩ := Sub.sends_wr s (bs.take n) hb
        (by intro h; have := congrArg List.length h; simp only [List.length_take, List.length_nil] at this; omega)
      rcases hw : s.wr (bs.take n) with ⟨s1, ok1⟩
      rw [hw] at a hb1
      simp only [hw]
      cases ok1
      · have := a.cut (bs.drop n)
        rwa [List.take_append_drop] at this
      · have := a.trans (Sub.sends_direct fuel s1 (bs.drop n) hb1)
        rwa [List.take_append_drop] at this
    · exact ⟨rfl, by simp [Sub.all], fun _ => by simp [Sub.all], nofun, fun h => ⟨h, rfl⟩⟩

theorem Sub.sends_put (s : Sub) (bs : Bytes) : s.Sends (s.put bs) bs := by
  unfold Sub.put
  split
  · obtain ⟨a, hb⟩ := Sub.sends_flush s
    rcases hf : s.flush with ⟨s1, ok1⟩
    rw [hf] at a hb
    cases ok1
    · exact a.cut bs
    · exact a.trans (Sub.sends_direct bs.length s1 bs hb)
  · exact ⟨rfl, by simp [Sub.all], fun _ => by simp [Sub.all], nofun, fun h => ⟨h, rfl⟩⟩

theorem Sub.flush_cap (s : Sub) : (s.flush).1.cap = s.cap := (Sub.sends_flush s).1.cap

theorem Sub.flush_ok (s : Sub) (h : (s.flush).2 = true) : (s.flush).1.out = s.all := by
  have := (Sub.sends_flush s).1.ok h
  rwa [Sub.all, (Sub.sends_flush s).2, List.append_nil, List.append_nil] at this

end Nq.QmailC
