/-
  C17 lemmas: the right-to-left address-list parser `token822_addrlist`.  Inside one mailbox (plain with comments,
  `phrase <…>`); `taout` is a log, so comment tokens change nothing but `taout`; run on a flat list of mailboxes, commas
  (present, repeated or — where RFC 822 text stays unambiguous — missing) and groups `phrase : … ;` that the grammar
  automaton `elNext` accepts, it hands the listed mailboxes to the callback (`fold_els`); an address list given as a tree
  (`Addr`) flattens to such a list with the same mailboxes; with a callback that keeps good addresses clean, `taout` stays
  clean (`addrlist_clean`).
-/
import Nq.Lemmas.C17Write

namespace Nq.Lemmas.C17
open Nq Nq.Token822 Nq.Inject
open Nq.Spec.Lex822 (cleanTok)

/-- the reversed body of a field whose mailboxes are listed right to left: commas between the mailboxes, none
after the last (hence the case of a single mailbox) -/
def bodyRev : List (List Tok) → List Tok
  | [] => []
  | [m] => m
  | m :: m' :: rest => m ++ .comma :: bodyRev (m' :: rest)

/-! ### items with comments and angle addresses -/

def notComment : Tok → Bool
  | .comment _ => false
  | _ => true

theorem notComment_of_word {t : Tok} (h : isWordTok t = true) : notComment t = true := by
  cases t <;> simp [isWordTok] at h <;> rfl

/-- like `sepOk`, with comments allowed anywhere between the tokens -/
def sepOkC : Bool → List Tok → Bool
  | _, [] => true
  | w, t :: r =>
    if notComment t then (if isWordTok t then w && sepOkC false r else isSepTok t && sepOkC true r)
    else sepOkC w r

theorem sepOkC_filter (m : List Tok) : ∀ w, sepOkC w m = sepOk w (m.filter notComment) := by
  induction m with
  | nil => intro _; rfl
  | cons t r ih =>
    intro w
    cases hc : notComment t
    · simp only [sepOkC, hc, Bool.false_eq_true, if_false, List.filter_cons, ih]
    · simp only [sepOkC, hc, if_true, List.filter_cons, sepOk, ih]

theorem sepOkC_of_sepOk (m : List Tok) : ∀ w, sepOk w m = true → sepOkC w m = true ∧ m.filter notComment = m := by
  intro w h
  -- `sepOk` admits words and separators only
  have hf : m.filter notComment = m := by
    induction m generalizing w with
    | nil => rfl
    | cons t r ih =>
      have hc : notComment t = true := by cases t <;> simp [sepOk, isWordTok, isSepTok] at h <;> rfl
      simp only [sepOk] at h
      rw [List.filter_cons, if_pos hc]
      split at h <;> simp only [Bool.and_eq_true] at h <;> rw [ih _ h.2]
  exact ⟨by rw [sepOkC_filter, hf]; exact h, hf⟩

theorem astep_normal (cb : List Tok → List Tok) (a : ASt) (t : Tok) (hm : a.mode = .normal) (hf : a.failed = false) :
    astep cb a t = astepNormal cb a t := by
  simp only [astep, hf, hm, if_false, Bool.false_eq_true]

theorem astep_colon (cb : List Tok → List Tok) (a : ASt) (t : Tok) (hm : a.mode = .colon) (hf : a.failed = false) :
    astep cb a t = if t = .comma then outLeft t { a with mode := .normal, wordok := true } else outLeft t a := by
  simp only [astep, hf, hm, if_false, Bool.false_eq_true]

theorem astep_phrase (cb : List Tok → List Tok) (a : ASt) (t : Tok) (hm : a.mode = .phrase) (hf : a.failed = false) :
    astep cb a t
      = if isPhraseTok t then outLeft t a else astepNormal cb { a with mode := .normal, wordok := false } t := by
  simp only [astep, hf, hm, if_false, Bool.false_eq_true]

/-- a word; right after a word the comma is understood, the pending address is complete -/
theorem astepNormal_word (cb : List Tok → List Tok) (a : ASt) (t : Tok) (ht : isWordTok t = true) :
    astepNormal cb a t = addrLeft t { (if !a.wordok then flushComma cb a else a) with wordok := false } := by
  cases t <;> simp [isWordTok] at ht <;> rfl

theorem astepNormal_sep (cb : List Tok → List Tok) (a : ASt) (t : Tok) (ht : isSepTok t = true) :
    astepNormal cb a t = addrLeft t { a with wordok := true } := by
  cases t <;> simp [isSepTok] at ht <;> rfl

theorem astep_angle (cb : List Tok → List Tok) (a : ASt) (t : Tok) (hm : a.mode = .angle) (hf : a.failed = false)
    (ht : t ≠ .left) : astep cb a t = if notComment t then addrLeft t a else outLeft t a := by
  simp only [astep, hf, hm, ht, if_false, Bool.false_eq_true]
  cases t <;> rfl

theorem astep_angle_left (cb : List Tok → List Tok) (a : ASt) (hm : a.mode = .angle) (hf : a.failed = false) :
    astep cb a .left = outLeft .left { (gotaddr cb a) with mode := .phrase } := by
  simp only [astep, hf, hm, if_true, if_false, Bool.false_eq_true]

/-- the parser state `z`, `taout` and `wordok` apart: it has not failed, and its other fields -/
structure Reached (z : ASt) (m : AMode) (g : Bool) (addr : List Tok) (got : List (List Tok)) : Prop where
  mode : z.mode = m
  failed : z.failed = false
  ingroup : z.ingroup = g
  addr : z.addr = addr
  got : z.got = got

theorem reached_iff {z : ASt} {m : AMode} {g : Bool} {addr : List Tok} {got : List (List Tok)} :
    Reached z m g addr got ↔ z.mode = m ∧ z.failed = false ∧ z.ingroup = g ∧ z.addr = addr ∧ z.got = got :=
  ⟨fun h => ⟨h.mode, h.failed, h.ingroup, h.addr, h.got⟩, fun ⟨h1, h2, h3, h4, h5⟩ => ⟨h1, h2, h3, h4, h5⟩⟩

theorem filter_none {α : Type} (l : List α) : l.filter (fun _ => false) = [] := by simp

/-- a stretch of tokens that the mode `m` takes one by one, those with `k` into the address, the others to `taout`
only (between `<` and `>`: all but comments go into the address; the display name to the left of `<` and the display
name of a group: none does): the mode stays -/
theorem fold_copy (cb : List Tok → List Tok) (m : AMode) (p : Tok → Prop) (k : Tok → Bool)
    (hstep : ∀ (a : ASt) t, a.mode = m → a.failed = false → p t →
      astep cb a t = if k t then addrLeft t a else outLeft t a) (ph : List Tok) {g : Bool} {got : List (List Tok)} :
    ∀ (a : ASt) (addr : List Tok), Reached a m g addr got → (∀ t ∈ ph, p t) →
      Reached (ph.foldl (astep cb) a) m g (addr ++ ph.filter k) got := by
  induction ph with
  | nil => intro a addr h _; simpa using h
  | cons t r ih =>
    intro a addr h hp
    have hr : ∀ t' ∈ r, p t' := fun t' h => hp t' (List.mem_cons_of_mem _ h)
    rw [List.foldl_cons, hstep a t h.mode h.failed (hp t List.mem_cons_self)]
    by_cases hk : k t = true
    · simpa [hk] using ih (addrLeft t a) (addr ++ [t]) { h with addr := by simp [addrLeft, h.addr] } hr
    · simpa [hk] using ih (outLeft t a) addr { h with } hr

/-- one item of an address list, tokens in the order the parser meets them (right to left) -/
inductive Item
  | plain (m : List Tok)                      -- addr-spec, comments allowed
  | angle (inner : List Tok) (phrase : List Tok)   -- `phrase <inner>`: `>` inner `<` phrase

def Item.toks : Item → List Tok
  | .plain m => m
  | .angle inner ph => .right :: inner ++ .left :: ph

/-- the address the callback must be given -/
def Item.addr : Item → List Tok
  | .plain m => m.filter notComment
  | .angle inner _ => inner.filter notComment

def Item.ok : Item → Prop
  | .plain m => m.filter notComment ≠ [] ∧ sepOkC true m = true
  | .angle inner ph => Tok.left ∉ inner ∧ ph.all isPhraseTok = true

def bodyRevI : List Item → List Tok
  | [] => []
  | [it] => it.toks
  | it :: it' :: rest => it.toks ++ .comma :: bodyRevI (it' :: rest)

theorem bodyRevI_plain (rs : List (List Tok)) : bodyRevI (rs.map .plain) = bodyRev rs := by
  induction rs with
  | nil => rfl
  | cons m r ih =>
    cases r with
    | nil => rfl
    | cons m' r' =>
      simp only [List.map_cons, bodyRevI, bodyRev, Item.toks] at ih ⊢
      rw [ih]

/-! ### comment tokens only ever reach `taout` -/

def SameButOut (a b : ASt) : Prop :=
  a.mode = b.mode ∧ a.ingroup = b.ingroup ∧ a.wordok = b.wordok ∧ a.addr = b.addr ∧ a.got = b.got ∧ a.failed = b.failed

theorem SameButOut.refl (a : ASt) : SameButOut a a := ⟨rfl, rfl, rfl, rfl, rfl, rfl⟩

theorem SameButOut.trans {a b c : ASt} (h1 : SameButOut a b) (h2 : SameButOut b c) : SameButOut a c := by
  obtain ⟨a1, a2, a3, a4, a5, a6⟩ := h1
  obtain ⟨b1, b2, b3, b4, b5, b6⟩ := h2
  exact ⟨a1.trans b1, a2.trans b2, a3.trans b3, a4.trans b4, a5.trans b5, a6.trans b6⟩

theorem SameButOut.wordok {a b : ASt} (h : SameButOut a b) : a.wordok = b.wordok := h.2.2.1

theorem SameButOut.reached {z z' : ASt} {m : AMode} {g : Bool} {addr : List Tok} {got : List (List Tok)}
    (h : SameButOut z z') (r : Reached z' m g addr got) : Reached z m g addr got := by
  obtain ⟨h1, h2, _, h4, h5, h6⟩ := h
  exact ⟨h1.trans r.mode, h6.trans r.failed, h2.trans r.ingroup, h4.trans r.addr, h5.trans r.got⟩

/-- `taout` with `o` appended: the parser only ever writes in front of `taout` -/
def app (o : List Tok) (a : ASt) : ASt := { a with out := a.out ++ o }

theorem gotaddr_app (cb : List Tok → List Tok) (o : List Tok) (a : ASt) : gotaddr cb (app o a) = app o (gotaddr cb a) := by
  simp [gotaddr, app]

theorem flush_app (cb : List Tok → List Tok) (o : List Tok) (a : ASt) : flush cb (app o a) = app o (flush cb a) := by
  unfold flush
  rw [gotaddr_app, apply_ite (app o)]
  rfl

theorem flushComma_app (cb : List Tok → List Tok) (o : List Tok) (a : ASt) :
    flushComma cb (app o a) = app o (flushComma cb a) := by
  unfold flushComma
  simp only [gotaddr_app]
  rw [apply_ite (app o)]
  rfl

theorem astepNormal_app (cb : List Tok → List Tok) (o : List Tok) (a : ASt) (t : Tok) :
    astepNormal cb (app o a) t = app o (astepNormal cb a t) := by
  cases t with
  | atom _ | quote _ | literal _ =>
    show addrLeft _ { (if !a.wordok then flushComma cb (app o a) else app o a) with wordok := false } = _
    rw [flushComma_app, ← apply_ite (app o)]
    rfl
  | _ => simp only [astepNormal, flush_app, flushComma_app] <;> (try rw [apply_ite (app o)]) <;> rfl

/-- **`taout` is a log**: no decision of a step reads it, and a step only writes in front of it -/
theorem astep_app (cb : List Tok → List Tok) (o : List Tok) (a : ASt) (t : Tok) :
    astep cb (app o a) t = app o (astep cb a t) := by
  cases hf : a.failed with
  | true => simp only [astep, show (app o a).failed = true from hf, hf, if_true]
  | false =>
    have hf' : (app o a).failed = false := hf
    cases hm : a.mode with
    | normal => rw [astep_normal cb (app o a) t hm hf', astep_normal cb a t hm hf]; exact astepNormal_app cb o a t
    | colon => rw [astep_colon cb (app o a) t hm hf', astep_colon cb a t hm hf, apply_ite (app o)]; rfl
    | phrase =>
      rw [astep_phrase cb (app o a) t hm hf', astep_phrase cb a t hm hf, apply_ite (app o), ← astepNormal_app]; rfl
    | angle =>
      by_cases ht : t = .left
      · subst ht
        rw [astep_angle_left cb (app o a) hm hf', astep_angle_left cb a hm hf, gotaddr_app]; rfl
      · rw [astep_angle cb (app o a) t hm hf' ht, astep_angle cb a t hm hf ht, apply_ite (app o)]; rfl

theorem afinish_app (cb : List Tok → List Tok) (o : List Tok) (a : ASt) :
    afinish cb (app o a) = app o (afinish cb a) := by
  cases hf : a.failed with
  | true => simp only [afinish, show (app o a).failed = true from hf, hf, if_true]
  | false =>
    have hf' : (app o a).failed = false := hf
    cases hm : a.mode <;>
      simp only [afinish, hf, hf', hm, show (app o a).mode = _ from hm, if_false, Bool.false_eq_true, flush_app, gotaddr_app] <;>
      rfl

/-- states that agree on everything but `taout` are one state with two logs -/
theorem SameButOut.eq_app {a b : ASt} (h : SameButOut a b) :
    a = app a.out { a with out := [] } ∧ b = app b.out { a with out := [] } := by
  obtain ⟨mode, ingroup, wordok, addr, out, got, failed⟩ := a
  obtain ⟨mode', ingroup', wordok', addr', out', got', failed'⟩ := b
  simp only [SameButOut] at h
  obtain ⟨rfl, rfl, rfl, rfl, rfl, rfl⟩ := h
  exact ⟨rfl, rfl⟩

theorem sameButOut_app (o o' : List Tok) (a : ASt) : SameButOut (app o a) (app o' a) := ⟨rfl, rfl, rfl, rfl, rfl, rfl⟩

theorem sameButOut_of_app {f : ASt → ASt} (hf : ∀ o a, f (app o a) = app o (f a)) {a b : ASt} (h : SameButOut a b) :
    SameButOut (f a) (f b) := by
  obtain ⟨ha, hb⟩ := h.eq_app
  rw [ha, hb, hf, hf]
  exact sameButOut_app _ _ _

theorem astep_sameButOut (cb : List Tok → List Tok) (a b : ASt) (t : Tok) (h : SameButOut a b) :
    SameButOut (astep cb a t) (astep cb b t) :=
  sameButOut_of_app (f := (astep cb · t)) (fun o a => astep_app cb o a t) h

theorem astep_comment (cb : List Tok → List Tok) (a : ASt) (s : Bytes) :
    SameButOut (astep cb a (.comment s)) a := by
  obtain ⟨mode, ingroup, wordok, addr, out, got, failed⟩ := a
  cases failed <;> cases mode <;>
    simp [SameButOut, astep, astepNormal, outLeft, isPhraseTok]

theorem afinish_sameButOut (cb : List Tok → List Tok) (a b : ASt) (h : SameButOut a b) :
    SameButOut (afinish cb a) (afinish cb b) :=
  sameButOut_of_app (afinish_app cb) h

theorem foldl_sameButOut (cb : List Tok → List Tok) (ts : List Tok) :
    ∀ (a b : ASt), SameButOut a b → SameButOut (ts.foldl (astep cb) a) (ts.foldl (astep cb) b) := by
  induction ts with
  | nil => intro a b h; exact h
  | cons t ts ih => intro a b h; exact ih _ _ (astep_sameButOut cb a b t h)

theorem foldl_filter_comments (cb : List Tok → List Tok) (ts : List Tok) :
    ∀ (a b : ASt), SameButOut a b →
      SameButOut (ts.foldl (astep cb) a) ((ts.filter notComment).foldl (astep cb) b) := by
  induction ts with
  | nil => intro a b h; exact h
  | cons t ts ih =>
    intro a b h
    cases t with
    | comment s =>
      have : SameButOut (astep cb a (.comment s)) b := (astep_comment cb a s).trans h
      simpa [notComment] using ih _ _ this
    | _ =>
      simp only [List.filter, notComment, List.foldl_cons]
      exact ih _ _ (astep_sameButOut cb a b _ h)

/-! ### groups, repeated and missing commas -/

/-- one element of an address list, right to left as the parser meets it -/

inductive El
  | mbox (it : Item)          -- a mailbox: addr-spec, or `phrase <route-addr>`
  | comma
  | gclose                    -- `;`
  | gopen (ph : List Tok)     -- `:` and, to its left, the group's display name

def El.toks : El → List Tok
  | .mbox it => it.toks
  | .comma => [.comma]
  | .gclose => [.semi]
  | .gopen ph => .colon :: ph

def El.ok : El → Prop
  | .mbox it => it.ok
  | .gopen ph => Tok.comma ∉ ph
  | _ => True

/-- what lies immediately to the right of the next element -/
inductive Edge
  | fresh       -- nothing pending: start of the list, after a comma, after `;`
  | pendW       -- an addr-spec whose leftmost token is a word (a missing comma before it is understood)
  | pendS       -- an addr-spec whose leftmost token is `@` or `.` (degenerate; needs a real separator)
  | phrase      -- the display name of a `phrase <…>`
  | colon       -- the display name of a group
  deriving DecidableEq, Repr

/-- the value of `wordok` after the tokens (comments are transparent) -/
def endW : Bool → List Tok → Bool
  | w, [] => w
  | w, t :: r => if notComment t then (if isWordTok t then endW false r else endW true r) else endW w r

theorem endW_filter (m : List Tok) : ∀ w, endW w m = endB w (m.filter notComment) := by
  induction m with
  | nil => intro _; rfl
  | cons t r ih =>
    intro w
    cases hc : notComment t
    · simp only [endW, hc, Bool.false_eq_true, if_false, List.filter_cons, ih]
    · cases ht : isWordTok t <;> simp [endW, hc, ht, endB, ih]

def startsWord : List Tok → Bool
  | t :: _ => isWordTok t
  | [] => false

/-- the grammar, as an automaton on elements: `g` = inside a group.  A plain mailbox may follow (stand to the
left of) its neighbour WITHOUT a comma only when that neighbour is an addr-spec beginning with a word and the
mailbox ends with a word (edge `.pendW`).  An angle mailbox `phrase <…>`, a `;` and a group opening `: name` are
accepted at every edge but `.colon`, so also without a comma: directly left of any addr-spec, and directly left of
`phrase <…>` (edge `.phrase`; for `: name` with `g = true` this is the ordinary `g: J <a@b>;`).  A plain mailbox
directly left of `phrase <…>` is refused (it would be read as part of the display name); to the left of a group a
comma is always needed (edge `.colon`: everything up to the next comma is the group's display name) -/
def elNext (g : Bool) (e : Edge) : El → Option (Bool × Edge)
  | .comma => some (g, .fresh)
  | .mbox (.plain m) =>
    match e with
    | .fresh => some (g, if endW true m then .pendS else .pendW)
    | .pendW => if startsWord m then some (g, if endW false m then .pendS else .pendW) else none
    | _ => none
  | .mbox (.angle _ _) => if e = .colon then none else some (g, .phrase)
  | .gclose => if e = .colon ∨ g = true then none else some (true, .fresh)
  | .gopen _ => if e = .colon ∨ g = false then none else some (false, .colon)

def validEls : Bool → Edge → List El → Bool
  | g, _, [] => !g
  | g, e, el :: r =>
    match elNext g e el with
    | some (g', e') => validEls g' e' r
    | none => false

/-- the listed mailboxes (each reversed, comments removed), right to left -/
def mboxes : List El → List (List Tok)
  | [] => []
  | .mbox it :: r => it.addr :: mboxes r
  | _ :: r => mboxes r

/-- the parser state that corresponds to an edge -/
def Abs (a : ASt) (g : Bool) (e : Edge) : Prop :=
  a.failed = false ∧ a.ingroup = g ∧
  match e with
  | .fresh => a.mode = .normal ∧ a.addr = [] ∧ a.wordok = true
  | .pendW => a.mode = .normal ∧ a.addr ≠ [] ∧ a.wordok = false
  | .pendS => a.mode = .normal ∧ a.addr ≠ [] ∧ a.wordok = true
  | .phrase => a.mode = .phrase ∧ a.addr = []
  | .colon => a.mode = .colon ∧ a.addr = []

/-- the callback invocation still owed for the pending address -/
def owed (cb : List Tok → List Tok) (a : ASt) : List (List Tok) :=
  if a.addr.isEmpty then [] else [cb a.addr]

theorem owed_nil (cb : List Tok → List Tok) {a : ASt} (h : a.addr = []) : owed cb a = [] := by
  rw [owed, h]; rfl

theorem owed_pending (cb : List Tok → List Tok) {a : ASt} (h : a.addr ≠ []) : owed cb a = [cb a.addr] := by
  rw [owed, if_neg (by simpa using h)]

theorem owed_congr {a b : ASt} (h : a.addr = b.addr) (cb : List Tok → List Tok) : owed cb a = owed cb b := by
  unfold owed; rw [h]

/-- `FLUSHCOMMA` is `FLUSH` with one more entry in the log -/
theorem flushComma_same (cb : List Tok → List Tok) (a : ASt) : SameButOut (flushComma cb a) (flush cb a) := by
  unfold flushComma flush
  split
  · exact SameButOut.refl a
  · exact ⟨rfl, rfl, rfl, rfl, rfl, rfl⟩

/-- after `FLUSH` (or, `taout` apart, `FLUSHCOMMA`): the pending address has gone to the callback -/
theorem flush_frame (cb : List Tok → List Tok) {z a : ASt} (h : SameButOut z (flush cb a)) :
    z.mode = a.mode ∧ z.ingroup = a.ingroup ∧ z.wordok = a.wordok ∧
    z.failed = a.failed ∧ z.addr = [] ∧ z.got = a.got ++ owed cb a := by
  obtain ⟨h1, h2, h3, h4, h5, h6⟩ := h
  rw [h1, h2, h3, h4, h5, h6]
  unfold flush owed
  split
  · rename_i h; simp [List.isEmpty_iff.mp h]
  · simp [gotaddr]

/-- one plain mailbox without comments: every token goes into the address -/
theorem fold_mailbox (cb : List Tok → List Tok) (r : List Tok) {g : Bool} {got : List (List Tok)} :
    ∀ (w : Bool) (a : ASt) (addr : List Tok), Reached a .normal g addr got → a.wordok = w → sepOk w r = true →
      let z := r.foldl (astep cb) a
      Reached z .normal g (addr ++ r) got ∧ z.wordok = endB w r := by
  induction r with
  | nil => intro w a addr h hw _; exact ⟨by simpa using h, hw⟩
  | cons t r ih =>
    intro w a addr h hw hs
    rw [List.foldl_cons, astep_normal cb a t h.mode h.failed]
    simp only [sepOk] at hs
    -- a word is taken only when `wordok` is set, so nothing is flushed
    have hstep : astepNormal cb a t = addrLeft t { a with wordok := !isWordTok t } ∧ sepOk (!isWordTok t) r = true := by
      by_cases ht : isWordTok t = true
      · simp only [ht, if_true, Bool.and_eq_true] at hs
        rw [astepNormal_word cb a t ht, hw, hs.1, ht]
        exact ⟨rfl, hs.2⟩
      · simp only [ht, if_false, Bool.false_eq_true, Bool.and_eq_true] at hs
        rw [astepNormal_sep cb a t hs.1, (Bool.not_eq_true _).mp ht]
        exact ⟨rfl, hs.2⟩
    rw [hstep.1]
    simpa [endB] using ih (!isWordTok t) (addrLeft t { a with wordok := !isWordTok t }) (addr ++ [t])
      { h with addr := by simp [addrLeft, h.addr] } rfl hstep.2

/-- the same with comments anywhere: they change nothing but `taout` (`foldl_filter_comments`) -/
theorem fold_mailboxW (cb : List Tok → List Tok) (r : List Tok) {g : Bool} {got : List (List Tok)} (w : Bool) (a : ASt)
    (addr : List Tok) (h : Reached a .normal g addr got) (hw : a.wordok = w) (hs : sepOkC w r = true) :
    let z := r.foldl (astep cb) a
    Reached z .normal g (addr ++ r.filter notComment) got ∧ z.wordok = endW w r := by
  have hc := foldl_filter_comments cb r a a (.refl a)
  obtain ⟨hz, hw'⟩ := fold_mailbox cb (r.filter notComment) w a addr h hw (by rw [← sepOkC_filter]; exact hs)
  exact ⟨hc.reached hz, by rw [endW_filter, ← hw']; exact hc.wordok⟩

theorem fold_angle_item (cb : List Tok → List Tok) (inner ph : List Tok) (b : ASt) {g : Bool} {got : List (List Tok)}
    (h : Reached b .angle g [] got) (hl : Tok.left ∉ inner) (hp : ph.all isPhraseTok = true) :
    Reached ((inner ++ .left :: ph).foldl (astep cb) b) .phrase g [] (got ++ [cb (inner.filter notComment)]) := by
  simp only [List.foldl_append, List.foldl_cons]
  have hc := fold_copy cb .angle (· ≠ .left) notComment (astep_angle cb) inner b [] h (fun t ht e => hl (e ▸ ht))
  generalize List.foldl (astep cb) b inner = c at hc
  rw [astep_angle_left cb c hc.mode hc.failed]
  -- the `<`: the address goes to the callback
  have hd : Reached (outLeft .left { (gotaddr cb c) with mode := .phrase }) .phrase g []
      (got ++ [cb (inner.filter notComment)]) := by
    simp [reached_iff, outLeft, gotaddr, hc.failed, hc.ingroup, hc.got, hc.addr]
  simpa [filter_none] using fold_copy cb .phrase (isPhraseTok · = true) (fun _ => false)
    (fun a t hm hf ht => by rw [astep_phrase cb a t hm hf, if_pos ht]; rfl) ph _ [] hd (List.all_eq_true.mp hp)

/-- At every edge but `.colon` a token that cannot belong to a display name goes through the main `switch`
(`astepNormal`): in normal mode directly, in phrase mode because such a token ends the inner loop that copies the
display name and the main loop takes it with `wordok = 0`.  `a'` is `a` up to `mode` and `wordok`. -/
theorem astep_at_edge (cb : List Tok → List Tok) {a : ASt} {g : Bool} {e : Edge} (hA : Abs a g e) (he : e ≠ .colon)
    (t : Tok) (ht : isPhraseTok t = false) :
    ∃ a', astep cb a t = astepNormal cb a' t ∧ Reached a' .normal g a.addr a.got := by
  obtain ⟨hf, hg, hE⟩ := hA
  cases e with
  | colon => exact absurd rfl he
  | phrase =>
    exact ⟨{ a with mode := .normal, wordok := false },
      by rw [astep_phrase cb a t hE.1 hf, ht, if_neg Bool.false_ne_true], rfl, hf, hg, rfl, rfl⟩
  | fresh | pendW | pendS => exact ⟨a, astep_normal cb a t hE.1 hf, hE.1, hf, hg, rfl, rfl⟩

/-- a plain mailbox has been read: it is pending (edge `pendS` or `pendW`, by `wordok`) and the call for it is owed -/
theorem Reached.pending (cb : List Tok → List Tok) {z : ASt} {g : Bool} {addr : List Tok} {got : List (List Tok)}
    (h : Reached z .normal g addr got) (hne : addr ≠ []) :
    Abs z g (if z.wordok then .pendS else .pendW) ∧ z.got ++ owed cb z = got ++ [cb addr] := by
  have hza : z.addr ≠ [] := by rw [h.addr]; exact hne
  refine ⟨⟨h.failed, h.ingroup, ?_⟩, by rw [h.got, owed_pending cb hza, h.addr]⟩
  cases z.wordok
  · exact ⟨h.mode, hza, rfl⟩
  · exact ⟨h.mode, hza, rfl⟩

/-- **one element**: from the state of an edge at which the grammar allows it, the parser reaches the
state of the next edge, and the callback has been (or is still owed to be) invoked for exactly the
pending address and the element's own mailbox -/
theorem fold_el (cb : List Tok → List Tok) (el : El) (a : ASt) (g g' : Bool) (e e' : Edge)
    (hA : Abs a g e) (hn : elNext g e el = some (g', e')) (hok : el.ok) :
    let z := el.toks.foldl (astep cb) a
    Abs z g' e' ∧ z.got ++ owed cb z = a.got ++ owed cb a ++ (mboxes [el]).map cb := by
  cases el with
  | comma =>
    simp only [elNext, Option.some.injEq, Prod.mk.injEq] at hn
    obtain ⟨rfl, rfl⟩ := hn
    simp only [El.toks, List.foldl_cons, List.foldl_nil]
    by_cases he : e = .colon
    · subst he
      obtain ⟨hf, hg, hm, ha⟩ := hA
      rw [astep_colon cb a .comma hm hf, if_pos rfl]
      simp [Abs, outLeft, owed_nil, mboxes, hf, hg, ha]
    · obtain ⟨a', hs, ha'⟩ := astep_at_edge cb hA he .comma rfl
      have hb : astepNormal cb a' .comma = outLeft .comma { flush cb a' with wordok := true } := rfl
      rw [hs, hb]
      -- every separator first pays the call owed for the pending address (`flush_frame`): `got` grows by `owed cb a`
      -- and `addr` is empty again, so `got ++ owed` stays what it was; a mailbox then adds its own address to it, at
      -- once (`<`, `fold_angle_item`) or as the next pending address (`Reached.pending`)
      simp [Abs, outLeft, owed_nil, mboxes, flush_frame cb (.refl (flush cb a')), ha'.mode, ha'.failed, ha'.ingroup,
        ha'.got, owed_congr ha'.addr]
  | gclose =>
    simp only [elNext] at hn
    split at hn
    · simp at hn
    · rename_i hcond
      simp only [Option.some.injEq, Prod.mk.injEq] at hn
      obtain ⟨rfl, rfl⟩ := hn
      simp only [not_or, Bool.not_eq_true] at hcond
      obtain ⟨a', hs, ha'⟩ := astep_at_edge cb hA hcond.1 .semi rfl
      simp only [El.toks, List.foldl_cons, List.foldl_nil]
      have hb : astepNormal cb a' .semi = outLeft .semi { flushComma cb a' with ingroup := true, wordok := true } := by
        simp [astepNormal, flush_frame cb (flushComma_same cb a'), ha'.ingroup, hcond.2]
      rw [hs, hb]
      simp [Abs, outLeft, owed_nil, mboxes, flush_frame cb (flushComma_same cb a'), ha'.mode, ha'.failed, ha'.got,
        owed_congr ha'.addr]
  | gopen ph =>
    simp only [elNext] at hn
    split at hn
    · simp at hn
    · rename_i hcond
      simp only [Option.some.injEq, Prod.mk.injEq] at hn
      obtain ⟨rfl, rfl⟩ := hn
      simp only [not_or, Bool.not_eq_false] at hcond
      obtain ⟨a', hs, ha'⟩ := astep_at_edge cb hA hcond.1 .colon rfl
      -- the colon itself
      have hb : Reached (astepNormal cb a' .colon) .colon false [] (a.got ++ owed cb a) := by
        simp [reached_iff, astepNormal, outLeft, flush_frame cb (.refl (flush cb a')), ha'.failed, ha'.ingroup, hcond.2,
          ha'.got, owed_congr ha'.addr]
      simp only [El.toks, List.foldl_cons]
      rw [hs]
      -- the group's display name: everything up to the next comma is copied
      have hz : Reached (ph.foldl (astep cb) (astepNormal cb a' .colon)) .colon false [] (a.got ++ owed cb a) := by
        simpa [filter_none] using fold_copy cb .colon (· ≠ .comma) (fun _ => false)
          (fun a t hm hf ht => by rw [astep_colon cb a t hm hf, if_neg ht]; rfl) ph _ [] hb (fun t ht e => hok (e ▸ ht))
      exact ⟨⟨hz.failed, hz.ingroup, hz.mode, hz.addr⟩, by rw [hz.got, owed_nil cb hz.addr]; simp [mboxes]⟩
  | mbox it =>
    cases it with
    | plain m =>
      obtain ⟨hne, hs⟩ := hok
      obtain ⟨hf, hg, hE⟩ := hA
      simp only [elNext] at hn
      -- `elNext` takes a plain mailbox at the edges `fresh` and `pendW` only: at `pendS`, `phrase` and `colon`
      -- `hn` reads `none = some _` and the second `simp` closes the case
      cases e <;> simp only [] at hE <;> simp only [reduceCtorEq] at hn
      · -- fresh
        obtain ⟨hm, ha, hw⟩ := hE
        simp only [Option.some.injEq, Prod.mk.injEq] at hn
        obtain ⟨rfl, rfl⟩ := hn
        obtain ⟨hz, hzw⟩ := fold_mailboxW cb m true a [] ⟨hm, hf, hg, ha, rfl⟩ hw hs
        simp only [El.toks, Item.toks]
        rw [List.nil_append] at hz
        obtain ⟨hA', hgot⟩ := hz.pending cb hne
        rw [hzw] at hA'
        exact ⟨hA', by rw [hgot, owed_nil cb ha]; simp [mboxes, Item.addr]⟩
      · -- pendW: the missing comma
        obtain ⟨hm, ha, hw⟩ := hE
        split at hn
        · rename_i hsw
          simp only [Option.some.injEq, Prod.mk.injEq] at hn
          obtain ⟨rfl, rfl⟩ := hn
          cases m with
          | nil => simp [startsWord] at hsw
          | cons t r =>
            simp only [startsWord] at hsw
            have hnc := notComment_of_word hsw
            simp only [sepOkC, hnc, hsw, if_true, Bool.true_and] at hs
            -- the word `t` completes the pending address and begins the next
            have hb : Reached (astepNormal cb a t) .normal g [t] (a.got ++ owed cb a) ∧
                (astepNormal cb a t).wordok = false := by
              rw [astepNormal_word cb a t hsw]
              refine ⟨?_, rfl⟩
              simp [reached_iff, addrLeft, hw, flush_frame cb (flushComma_same cb a), hm, hf, hg]
            simp only [El.toks, Item.toks, List.foldl_cons]
            rw [astep_normal cb a t hm hf]
            obtain ⟨hz, hzw⟩ := fold_mailboxW cb r false _ [t] hb.1 hb.2 hs
            obtain ⟨hA', hgot⟩ := hz.pending cb (by simp)
            have hend : endW false (t :: r) = endW false r := by simp [endW, hnc, hsw]
            rw [hzw, ← hend] at hA'
            exact ⟨hA', by rw [hgot]; simp [mboxes, Item.addr, hnc]⟩
        · simp at hn
    | angle inner ph =>
      obtain ⟨hl, hp⟩ := hok
      simp only [elNext] at hn
      split at hn
      · simp at hn
      · rename_i hcond
        simp only [Option.some.injEq, Prod.mk.injEq] at hn
        obtain ⟨rfl, rfl⟩ := hn
        obtain ⟨a', hs, ha'⟩ := astep_at_edge cb hA hcond .right rfl
        -- the `>`
        have hb : Reached (astepNormal cb a' .right) .angle g [] (a.got ++ owed cb a) := by
          simp [reached_iff, astepNormal, outLeft, flush_frame cb (flushComma_same cb a'), ha'.failed, ha'.ingroup,
            ha'.got, owed_congr ha'.addr]
        simp only [El.toks, Item.toks, List.cons_append, List.foldl_cons]
        rw [hs]
        have hc := fold_angle_item cb inner ph _ hb hl hp
        exact ⟨⟨hc.failed, hc.ingroup, hc.mode, hc.addr⟩, by rw [hc.got, owed_nil cb hc.addr]; simp [mboxes, Item.addr]⟩

theorem fold_els (cb : List Tok → List Tok) (els : List El) :
    ∀ (a : ASt) (g : Bool) (e : Edge), Abs a g e → validEls g e els = true → (∀ el ∈ els, el.ok) →
      let z := afinish cb ((els.flatMap El.toks).foldl (astep cb) a)
      z.failed = false ∧ z.got = a.got ++ owed cb a ++ (mboxes els).map cb := by
  induction els with
  | nil =>
    intro a g e hA _ _
    obtain ⟨hf, hg, hE⟩ := hA
    -- no edge is in angle mode: leaving the loop is `flush`
    have hfin : afinish cb a = flush cb a := by
      cases e <;> simp [afinish, hf, hE.1]
    obtain ⟨_, _, _, f4, _, f6⟩ := flush_frame cb (.refl (flush cb a))
    simp only [List.flatMap_nil, List.foldl_nil, mboxes, List.map_nil, List.append_nil, hfin]
    exact ⟨f4.trans hf, f6⟩
  | cons el els ih =>
    intro a g e hA hv hok
    simp only [validEls] at hv
    cases hn : elNext g e el with
    | none => simp [hn] at hv
    | some p =>
      obtain ⟨g', e'⟩ := p
      simp only [hn] at hv
      obtain ⟨hA', hgot⟩ := fold_el cb el a g g' e e' hA hn (hok el (by simp))
      have := ih _ g' e' hA' hv (fun x hx => hok x (by simp [hx]))
      simp only [List.flatMap_cons, List.foldl_append]
      refine ⟨this.1, ?_⟩
      rw [this.2, hgot]
      have hm : mboxes (el :: els) = mboxes [el] ++ mboxes els := by
        cases el <;> simp [mboxes]
      rw [hm]
      simp

/-- an address (token lists right to left, as everywhere here) -/
inductive Addr
  | mbox (it : Item)
  | group (name : List Tok) (members : List Item)    -- `name : m₁, …, mₖ ;` — members listed right to left

def Addr.ok : Addr → Prop
  | .mbox it => it.ok
  | .group name members => Tok.comma ∉ name ∧ ∀ m ∈ members, m.ok

/-- the mailboxes an address stands for -/
def Addr.mailboxes : Addr → List (List Tok)
  | .mbox it => [it.addr]
  | .group _ members => members.map Item.addr

def flatItems : List Item → List El
  | [] => []
  | [i] => [.mbox i]
  | i :: j :: r => .mbox i :: .comma :: flatItems (j :: r)

def Addr.els : Addr → List El
  | .mbox it => [.mbox it]
  | .group name members => .gclose :: (flatItems members ++ [.gopen name])

/-- the elements of a comma-separated address list (listed right to left) -/
def flatAddrs : List Addr → List El
  | [] => []
  | [a] => a.els
  | a :: b :: r => a.els ++ .comma :: flatAddrs (b :: r)

/-- `validEls` with the state after the elements returned, so that runs compose (`runEls_append`) -/
def runEls : Bool → Edge → List El → Option (Bool × Edge)
  | g, e, [] => some (g, e)
  | g, e, el :: r =>
    match elNext g e el with
    | some (g', e') => runEls g' e' r
    | none => none

theorem validEls_run (els : List El) : ∀ (g : Bool) (e : Edge),
    validEls g e els = (match runEls g e els with | some (g', _) => !g' | none => false) := by
  induction els with
  | nil => intro g e; simp [validEls, runEls]
  | cons el r ih =>
    intro g e
    simp only [validEls, runEls]
    cases elNext g e el with
    | none => rfl
    | some p => obtain ⟨g', e'⟩ := p; exact ih g' e'

theorem runEls_append (x y : List El) : ∀ (g : Bool) (e : Edge),
    runEls g e (x ++ y) = (match runEls g e x with | some (g', e') => runEls g' e' y | none => none) := by
  induction x with
  | nil => intro g e; simp [runEls]
  | cons el r ih =>
    intro g e
    simp only [List.cons_append, runEls]
    cases elNext g e el with
    | none => rfl
    | some p => obtain ⟨g', e'⟩ := p; exact ih g' e'

theorem elNext_mbox_fresh (g : Bool) (it : Item) : ∃ e', elNext g .fresh (.mbox it) = some (g, e') ∧ e' ≠ .colon := by
  cases it with
  | plain m =>
    cases h : endW true m <;> simp [elNext, h]
  | angle inner ph => simp [elNext]

theorem runEls_items (g : Bool) (items : List Item) :
    ∃ e', runEls g .fresh (flatItems items) = some (g, e') ∧ e' ≠ .colon := by
  induction items with
  | nil => exact ⟨.fresh, rfl, by simp⟩
  | cons i r ih =>
    obtain ⟨e1, h1, hne⟩ := elNext_mbox_fresh g i
    cases r with
    | nil => exact ⟨e1, by simp [flatItems, runEls, h1], hne⟩
    | cons j r' =>
      obtain ⟨e2, h2, hne2⟩ := ih
      have hc : ∀ e, elNext g e .comma = some (g, .fresh) := fun e => rfl
      exact ⟨e2, by simp only [flatItems, runEls, h1, hc, h2], hne2⟩

theorem validEls_items (items : List Item) : validEls false .fresh (flatItems items) = true := by
  obtain ⟨e', h, _⟩ := runEls_items false items
  rw [validEls_run, h]
  rfl

theorem flatItems_toks (items : List Item) : (flatItems items).flatMap El.toks = bodyRevI items := by
  induction items with
  | nil => rfl
  | cons i r ih =>
    cases r with
    | nil => simp [flatItems, bodyRevI, El.toks]
    | cons j r' =>
      simp only [flatItems, bodyRevI, List.flatMap_cons, El.toks] at ih ⊢
      rw [ih]
      simp

theorem runEls_addr (a : Addr) : ∃ e', runEls false .fresh a.els = some (false, e') := by
  cases a with
  | mbox it =>
    obtain ⟨e1, h1, _⟩ := elNext_mbox_fresh false it
    exact ⟨e1, by simp [Addr.els, runEls, h1]⟩
  | group name members =>
    obtain ⟨e1, h1, hne⟩ := runEls_items true members
    refine ⟨.colon, ?_⟩
    simp only [Addr.els, runEls, elNext]
    simp only [reduceCtorEq, Bool.false_eq_true, or_self, if_false]
    rw [runEls_append, h1]
    simp [runEls, elNext, hne]

theorem runEls_addrs (L : List Addr) : ∃ e', runEls false .fresh (flatAddrs L) = some (false, e') := by
  induction L with
  | nil => exact ⟨.fresh, rfl⟩
  | cons a r ih =>
    obtain ⟨e1, h1⟩ := runEls_addr a
    cases r with
    | nil => exact ⟨e1, by simpa [flatAddrs] using h1⟩
    | cons b r' =>
      obtain ⟨e2, h2⟩ := ih
      refine ⟨e2, ?_⟩
      have hc : ∀ e, elNext false e .comma = some (false, .fresh) := fun e => rfl
      simp only [flatAddrs]
      rw [runEls_append, h1]
      simp only [runEls, hc, h2]

theorem validEls_addrs (L : List Addr) : validEls false .fresh (flatAddrs L) = true := by
  obtain ⟨e', h⟩ := runEls_addrs L
  rw [validEls_run, h]
  rfl

theorem mboxes_append (x y : List El) : mboxes (x ++ y) = mboxes x ++ mboxes y := by
  induction x with
  | nil => rfl
  | cons el r ih => cases el <;> simp [mboxes, ih]

theorem mboxes_items (items : List Item) : mboxes (flatItems items) = items.map Item.addr := by
  induction items with
  | nil => rfl
  | cons i r ih =>
    cases r with
    | nil => simp [flatItems, mboxes]
    | cons j r' => simp only [flatItems, mboxes, ih, List.map_cons]

theorem mboxes_addr (a : Addr) : mboxes a.els = a.mailboxes := by
  cases a with
  | mbox it => simp [Addr.els, mboxes, Addr.mailboxes]
  | group name members =>
    simp only [Addr.els, mboxes, mboxes_append, mboxes_items, Addr.mailboxes]
    simp [mboxes]

theorem mboxes_addrs (L : List Addr) : mboxes (flatAddrs L) = L.flatMap Addr.mailboxes := by
  induction L with
  | nil => rfl
  | cons a r ih =>
    cases r with
    | nil => simp [flatAddrs, mboxes_addr]
    | cons b r' =>
      simp only [flatAddrs, mboxes_append, mboxes, mboxes_addr, ih, List.flatMap_cons]

theorem ok_items (items : List Item) (h : ∀ m ∈ items, m.ok) : ∀ el ∈ flatItems items, el.ok := by
  induction items with
  | nil => intro el hel; simp [flatItems] at hel
  | cons i r ih =>
    cases r with
    | nil =>
      intro el hel
      simp only [flatItems, List.mem_cons, List.not_mem_nil, or_false] at hel
      subst hel; exact h i (by simp)
    | cons j r' =>
      intro el hel
      simp only [flatItems, List.mem_cons] at hel
      rcases hel with rfl | rfl | hel
      · exact h i (by simp)
      · trivial
      · exact ih (fun m hm => h m (by simp [hm])) el (by simpa [flatItems] using hel)

theorem ok_addr (a : Addr) (h : a.ok) : ∀ el ∈ a.els, el.ok := by
  cases a with
  | mbox it =>
    intro el hel
    simp only [Addr.els, List.mem_cons, List.not_mem_nil, or_false] at hel
    subst hel; exact h
  | group name members =>
    obtain ⟨h1, h2⟩ := h
    intro el hel
    simp only [Addr.els, List.mem_cons, List.mem_append, List.not_mem_nil, or_false] at hel
    rcases hel with rfl | hel | rfl
    · trivial
    · exact ok_items members h2 el hel
    · exact h1

theorem ok_addrs (L : List Addr) (h : ∀ a ∈ L, a.ok) : ∀ el ∈ flatAddrs L, el.ok := by
  induction L with
  | nil => intro el hel; simp [flatAddrs] at hel
  | cons a r ih =>
    cases r with
    | nil =>
      intro el hel
      exact ok_addr a (h a (by simp)) el (by simpa [flatAddrs] using hel)
    | cons b r' =>
      intro el hel
      simp only [flatAddrs, List.mem_append, List.mem_cons] at hel
      rcases hel with hel | rfl | hel
      · exact ok_addr a (h a (by simp)) el hel
      · trivial
      · exact ih (fun x hx => h x (by simp [hx])) el hel

/-- a token that stays clean under qmail-inject's rewriting: clean, and not the atom `+` alone (from which
`rwplus` would make an EMPTY atom) -/
def goodTok (t : Tok) : Bool := cleanTok t && t != Tok.atom [43]

theorem goodTok_clean {t : Tok} (h : goodTok t = true) : cleanTok t = true := by
  simp only [goodTok, Bool.and_eq_true] at h; exact h.1

theorem all_good_clean {l : List Tok} (h : l.all goodTok = true) : l.all cleanTok = true := by
  rw [List.all_eq_true] at h ⊢
  intro t ht; exact goodTok_clean (h t ht)

structure CleanSt (a : ASt) : Prop where
  out : a.out.all cleanTok = true
  addr : a.addr.all goodTok = true

theorem gotaddr_clean (cb : List Tok → List Tok) (hcb : ∀ x, x.all goodTok = true → (cb x).all cleanTok = true)
    (a : ASt) (h : CleanSt a) : CleanSt (gotaddr cb a) := by
  obtain ⟨h1, h2⟩ := h
  constructor
  · simp [gotaddr, List.all_append, h1, List.all_reverse, hcb a.addr h2]
  · simp [gotaddr]

theorem flush_clean (cb : List Tok → List Tok) (hcb : ∀ x, x.all goodTok = true → (cb x).all cleanTok = true)
    (a : ASt) (h : CleanSt a) : CleanSt (flush cb a) := by
  unfold flush; split
  · exact h
  · exact gotaddr_clean cb hcb a h

theorem flushComma_clean (cb : List Tok → List Tok) (hcb : ∀ x, x.all goodTok = true → (cb x).all cleanTok = true)
    (a : ASt) (h : CleanSt a) : CleanSt (flushComma cb a) := by
  unfold flushComma; split
  · exact h
  · obtain ⟨h1, h2⟩ := gotaddr_clean cb hcb a h
    exact ⟨by simp [h1, cleanTok], by simpa using h2⟩

theorem outLeft_clean (t : Tok) (a : ASt) (h : CleanSt a) (ht : cleanTok t = true) : CleanSt (outLeft t a) :=
  ⟨by simp [outLeft, ht, h.out], by simpa [outLeft] using h.addr⟩

theorem addrLeft_clean (t : Tok) (a : ASt) (h : CleanSt a) (ht : goodTok t = true) : CleanSt (addrLeft t a) :=
  ⟨by simpa [addrLeft] using h.out, by simp [addrLeft, List.all_append, ht, h.addr]⟩

theorem CleanSt.upd {a b : ASt} (h : CleanSt a) (ho : b.out = a.out) (ha : b.addr = a.addr) : CleanSt b :=
  ⟨by rw [ho]; exact h.out, by rw [ha]; exact h.addr⟩

theorem astepNormal_clean (cb : List Tok → List Tok) (hcb : ∀ x, x.all goodTok = true → (cb x).all cleanTok = true)
    (a : ASt) (t : Tok) (h : CleanSt a) (ht : goodTok t = true) : CleanSt (astepNormal cb a t) := by
  have htc := goodTok_clean ht
  have hfc := flushComma_clean cb hcb a h
  have hf := flush_clean cb hcb a h
  unfold astepNormal
  cases t with
  | semi =>
    simp only []
    split
    · exact hfc.upd rfl rfl
    · exact outLeft_clean _ _ (hfc.upd rfl rfl) htc
  | colon =>
    simp only []
    split
    · exact hf.upd rfl rfl
    · exact outLeft_clean _ _ (hf.upd rfl rfl) htc
  | right => exact outLeft_clean _ _ (hfc.upd rfl rfl) htc
  | atom s | quote s | literal s =>
    simp only []
    refine addrLeft_clean _ _ (CleanSt.upd (a := if !a.wordok then flushComma cb a else a) ?_ rfl rfl) ht
    split
    · exact hfc
    · exact h
  | comment s => exact outLeft_clean _ _ h htc
  | comma => exact outLeft_clean _ _ (hf.upd rfl rfl) htc
  | left | «at» | dot => exact addrLeft_clean _ _ (h.upd rfl rfl) ht

theorem astep_clean (cb : List Tok → List Tok) (hcb : ∀ x, x.all goodTok = true → (cb x).all cleanTok = true)
    (a : ASt) (t : Tok) (h : CleanSt a) (ht : goodTok t = true) : CleanSt (astep cb a t) := by
  have htc := goodTok_clean ht
  fun_cases astep cb a t
  · exact h
  · exact astepNormal_clean cb hcb a t h ht
  · exact outLeft_clean _ _ (h.upd rfl rfl) htc
  · exact outLeft_clean _ _ h htc
  · exact outLeft_clean _ _ ((gotaddr_clean cb hcb a h).upd rfl rfl) htc
  · exact outLeft_clean _ _ h htc
  · exact addrLeft_clean _ _ h ht
  · exact outLeft_clean _ _ h htc
  · exact astepNormal_clean cb hcb _ t (h.upd rfl rfl) ht

theorem afinish_clean (cb : List Tok → List Tok) (hcb : ∀ x, x.all goodTok = true → (cb x).all cleanTok = true)
    (a : ASt) (h : CleanSt a) : CleanSt (afinish cb a) := by
  unfold afinish
  split
  · exact h
  · split
    · exact (gotaddr_clean cb hcb a h).upd rfl rfl
    · exact flush_clean cb hcb a h

theorem foldl_clean (cb : List Tok → List Tok) (hcb : ∀ x, x.all goodTok = true → (cb x).all cleanTok = true)
    (ts : List Tok) : ∀ (a : ASt), CleanSt a → ts.all goodTok = true → CleanSt (ts.foldl (astep cb) a) := by
  induction ts with
  | nil => intro a h _; exact h
  | cons t ts ih =>
    intro a h hts
    simp only [List.all_cons, Bool.and_eq_true] at hts
    exact ih _ (astep_clean cb hcb a t h hts.1) hts.2

theorem addrlist_clean (cb : List Tok → List Tok) (hcb : ∀ x, x.all goodTok = true → (cb x).all cleanTok = true)
    (ts : List Tok) (hts : ts.all goodTok = true) : (addrlist cb ts).out.all cleanTok = true := by
  have h1 : (ts.take 2).all cleanTok = true := by
    apply all_good_clean
    rw [List.all_eq_true] at hts ⊢
    intro t ht; exact hts t (List.mem_of_mem_take ht)
  have h2 : (ts.drop 2).reverse.all goodTok = true := by
    rw [List.all_eq_true] at hts ⊢
    intro t ht; exact hts t (List.mem_of_mem_drop (by simpa using ht))
  have := afinish_clean cb hcb _ (foldl_clean cb hcb _ {} ⟨rfl, rfl⟩ h2)
  unfold addrlist
  simp only [List.all_append, Bool.and_eq_true]
  exact ⟨h1, this.out⟩

end Nq.Lemmas.C17
