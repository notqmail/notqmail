/-
  Lemmas for C17: Bcc removal on the final TEXT.  From "every piece of the header is safe" to "the independent reader
  finds no hidden field name in the message" (`fieldNames_safe`); a field kept verbatim by qmail-inject is a safe piece
  (`verbatim_safe`); and the LINE structure of what `token822_unparse` writes, read off its closed form `unparse_weave`:
  if no token holds a LF the output is one logical line (`unparse_logical`) whose first line begins with the text of the
  first token (`unparse_prefix`), so for tokens `name : …` with a name that is not hidden it is a safe piece
  (`unparse_safe_pre`).
-/
import Nq.Lemmas.C17HeaderBody
import Nq.Lemmas.C17Inject
import Nq.Lemmas.C17Write
import Nq.Spec.Hidden

namespace Nq.Lemmas.C17Hid
open Nq Nq.Inject Nq.Spec.Addr Nq.Spec.Hidden Nq.Spec.HeaderBody Nq.Lemmas.C17HB

/-! ### the reader's line splitter on concatenations -/

theorem go_lf (r cur : Bytes) : splitLF.go (LF :: r) cur = cur :: splitLF.go r [] := by
  rw [splitLF.go]; simp

theorem go_nlf (c : Byte) (r cur : Bytes) (hc : c ≠ LF) : splitLF.go (c :: r) cur = splitLF.go r (cur ++ [c]) := by
  rw [splitLF.go]; simp [hc]

theorem go_eq (r cur : Bytes) : splitLF.go r cur = (splitLinesAux r cur).map List.dropLast := by
  induction r generalizing cur with
  | nil => simp only [splitLF.go, splitLinesAux]; split <;> simp
  | cons c r ih =>
    by_cases hc : c = LF
    · subst hc; rw [go_lf, ih]; simp [splitLinesAux]
    · rw [go_nlf c r cur hc, ih]; simp [splitLinesAux, hc]

/-- the reader's lines are headerbody's lines without their LF: what is known of `linesOf` carries over -/
theorem splitLF_eq (p : Bytes) : splitLF p = (linesOf p).map List.dropLast := by
  rw [← splitLines_eq]; exact go_eq p []

theorem splitLF_append (p q : Bytes) (h : p = [] ∨ p.getLast? = some LF) :
    splitLF (p ++ q) = splitLF p ++ splitLF q := by
  rw [splitLF_eq, linesOf_append p q h, List.map_append, splitLF_eq, splitLF_eq]

theorem splitLF_pieces (ps : List Bytes) (q : Bytes) (h : ∀ p ∈ ps, p = [] ∨ p.getLast? = some LF) :
    splitLF (ps.flatten ++ q) = ps.flatMap splitLF ++ splitLF q := by
  induction ps with
  | nil => simp
  | cons p ps ih =>
    simp only [List.flatten_cons, List.append_assoc, List.flatMap_cons]
    rw [splitLF_append p _ (h p List.mem_cons_self), ih (fun p' hp' => h p' (List.mem_cons_of_mem _ hp'))]

theorem splitLF_lf (b : Bytes) : splitLF (LF :: b) = [] :: splitLF b := by
  simp [splitLF, splitLF.go]

theorem headerLines_sub (L1 L2 : List Bytes) (h2 : L2 = [] ∨ L2.head? = some []) :
    ∀ l ∈ headerLines (L1 ++ L2), l ∈ L1 := by
  induction L1 with
  | nil =>
    intro l hl
    rcases h2 with h2 | h2
    · subst h2; simp [headerLines] at hl
    · cases L2 with
      | nil => simp [headerLines] at hl
      | cons x r =>
        simp only [List.head?_cons, Option.some.injEq] at h2
        subst h2
        simp [headerLines] at hl
  | cons x L1 ih =>
    intro l hl
    simp only [List.cons_append, headerLines] at hl
    split at hl
    · simp at hl
    · split at hl
      · simp only [List.mem_cons] at hl
        rcases hl with hl | hl
        · exact hl ▸ List.mem_cons_self
        · exact List.mem_cons_of_mem _ (ih l hl)
      · split at hl
        · simp only [List.mem_cons] at hl
          rcases hl with hl | hl
          · exact hl ▸ List.mem_cons_self
          · exact List.mem_cons_of_mem _ (ih l hl)
        · simp at hl

theorem pieceSafe_iff (p : Bytes) :
    pieceSafe p = true ↔ p = [] ∨ (p.getLast? = some LF ∧ ∀ l ∈ splitLF p, lineSafe l = true) := by
  simp [pieceSafe]

theorem fieldNames_safe (ps : List Bytes) (b : Bytes) (hps : ∀ p ∈ ps, pieceSafe p = true)
    (hb : b = [] ∨ ∃ b', b = LF :: b') :
    ∀ n ∈ fieldNames (ps.flatten ++ b), n ∉ hiddenFields := by
  intro n hn
  unfold fieldNames at hn
  have hsplit : splitLF (ps.flatten ++ b) = ps.flatMap splitLF ++ splitLF b := by
    apply splitLF_pieces
    exact fun p hp => ((pieceSafe_iff p).mp (hps p hp)).imp_right And.left
  rw [hsplit] at hn
  simp only [List.mem_filterMap] at hn
  obtain ⟨l, hl, hln⟩ := hn
  have hl1 : l ∈ ps.flatMap splitLF := by
    apply headerLines_sub _ _ ?_ l hl
    rcases hb with hb | ⟨b', hb⟩
    · subst hb; left; rfl
    · subst hb; right; rw [splitLF_lf]; rfl
  simp only [List.mem_flatMap] at hl1
  obtain ⟨p, hp, hlp⟩ := hl1
  rcases (pieceSafe_iff p).mp (hps p hp) with h | h
  · subst h; simp [splitLF, splitLF.go] at hlp
  · have hls := h.2 l hlp
    split at hln
    · simp at hln
    · rename_i hc
      unfold lineSafe at hls
      have hc' : isContLine l = false := by simpa [isContLine] using hc
      simp only [hc', Bool.false_or, Bool.not_eq_true', nameIn, hln] at hls
      intro hmem
      have : hiddenFields.contains n = true := by simpa using hmem
      rw [this] at hls
      exact absurd hls (by simp)

/-! ### a field kept verbatim is a safe piece -/

theorem splitLF_logicalLine (f : Bytes) (hl : logicalLine f = true) :
    ∃ rest, splitLF f = f.takeWhile (· ≠ LF) :: rest ∧ ∀ l ∈ rest, isContLine l = true := by
  obtain ⟨s, cs, e, hcs, hflat⟩ := logicalLine_lines f hl
  have hsh := linesOf_shape f
  rw [e] at hsh
  obtain ⟨b, rfl, hb⟩ := hsh s List.mem_cons_self
  refine ⟨cs.map List.dropLast, ?_, fun l hl => ?_⟩
  · rw [splitLF_eq, e, ← hflat, List.append_assoc, List.singleton_append, takeWhile_stop (· ≠ LF) b _ LF (fun a ha => by simpa using fun (e : a = LF) => hb (e ▸ ha)) (by simp)]
    simp
  · obtain ⟨c, hc, rfl⟩ := List.mem_map.mp hl
    obtain ⟨b', rfl, _⟩ := hsh c (List.mem_cons_of_mem _ hc)
    have := hcs _ hc
    cases b' with
    | nil => exact absurd this (by decide)
    | cons d r => rw [List.dropLast_concat]; simpa [isCont, isContLine] using this

/-- only the first physical line of a logical line can show the reader a field name: the others are continuation
lines (`splitLF_logicalLine`) -/
theorem logical_firstLine_safe (f : Bytes) (hl : logicalLine f = true)
    (hn : nameIn hiddenFields (f.takeWhile (· ≠ LF)) = false) : pieceSafe f = true := by
  obtain ⟨h1, _⟩ := logicalLine_lf f hl
  obtain ⟨rest, e, hr⟩ := splitLF_logicalLine f hl
  refine (pieceSafe_iff f).mpr (.inr ⟨h1, fun l hlm => ?_⟩)
  rw [e, List.mem_cons] at hlm
  rcases hlm with hlm | hlm
  · subst hlm
    unfold lineSafe
    rw [hn]
    simp
  · unfold lineSafe
    simp [hr l hlm]

theorem fieldName_cut (X R : Bytes) : fieldName (X ++ 58 :: R) = fieldName (X ++ [58]) := by
  obtain ⟨pre, r, e, hnot⟩ := List.eq_append_cons_of_mem (List.mem_concat_self (xs := X) (a := (58 : Byte)))
  rw [List.append_cons, e, List.append_assoc, List.cons_append, C17.fieldName_colon pre _ hnot, C17.fieldName_colon pre r hnot]

theorem logical_safe (f X R : Bytes) (hl : logicalLine f = true) (hf : f = X ++ 58 :: R) (hX : LF ∉ X)
    (hn : nameIn hiddenFields (X ++ [58]) = false) : pieceSafe f = true := by
  apply logical_firstLine_safe f hl
  rw [hf, List.takeWhile_append_of_pos (by simpa using fun c hc (h' : c = LF) => hX (h' ▸ hc)),
    List.takeWhile_cons_of_pos (by decide)]
  unfold nameIn at hn ⊢
  rw [fieldName_cut]
  exact hn

theorem verbatim_safe (h : Bytes) (hv : hfieldValid h = true) (hl : logicalLine h = true)
    (hn : nameIn hiddenFields h = false) : pieceSafe h = true := by
  obtain ⟨hc, hlf⟩ := valid_name_bytes h hv
  -- cut at the first colon: `X` is what `valid_name_bytes` speaks of
  obtain ⟨X, R, hsplit, hnot⟩ := List.eq_append_cons_of_mem hc
  rw [hsplit, takeWhile_stop (· ≠ 58) X R 58 (by simpa using fun c hcm (e : c = 58) => hnot (e ▸ hcm)) (by simp)] at hlf
  refine logical_safe h X R hl hsplit (fun hm => hlf LF hm rfl) ?_
  unfold nameIn at hn ⊢
  rw [← fieldName_cut X R, ← hsplit]
  exact hn

theorem pieceSafe_nil : pieceSafe [] = true := rfl

theorem cc_safe : pieceSafe (str "Cc: recipient list not shown: ;\n") = true ∧
    pieceSafe (str "Resent-Cc: recipient list not shown: ;\n") = true :=
  ⟨by decide +kernel, by decide +kernel⟩

end Nq.Lemmas.C17Hid

namespace Nq.Lemmas.C17UL
open Nq Nq.Token822 Nq.Lemmas.C17 Nq.Spec.HeaderBody Nq.Spec.Addr Nq.Spec.Hidden Nq.Lemmas.C17Hid

/-- every LF is followed by SP (in particular the text does not end in LF) -/
def lfsp : Bytes → Bool
  | [] => true
  | [c] => c != LF
  | c :: d :: r => (c != LF || d == SP) && lfsp (d :: r)

theorem lfsp_nolf : ∀ (x : Bytes), LF ∉ x → lfsp x = true
  | [], _ => rfl
  | [c], h => by simp only [lfsp, bne_iff_ne, ne_eq]; intro hc; exact h (by simp [hc])
  | c :: d :: r, h => by
    have hc : c ≠ LF := fun hc => h (by simp [hc])
    have := lfsp_nolf (d :: r) (fun hm => h (List.mem_cons_of_mem _ hm))
    simp [lfsp, hc, this]

theorem lfsp_append : ∀ (a b : Bytes), lfsp a = true → lfsp b = true → lfsp (a ++ b) = true
  | [], b, _, hb => hb
  | [c], b, ha, hb => by
    simp only [lfsp, bne_iff_ne, ne_eq] at ha
    cases b with
    | nil => simp [lfsp, ha]
    | cons d r => simp [lfsp, ha, hb]
  | c :: d :: r, b, ha, hb => by
    simp only [lfsp, Bool.and_eq_true] at ha
    have := lfsp_append (d :: r) b ha.2 hb
    simp only [List.cons_append] at this ⊢
    simp [lfsp, ha.1, this]

/-- the shape in which `token822_unparse` ends: a last fold `LF SP` (the final `NSUW`) whose `SP` is dropped (`--s`) -/
theorem lfsp_logical : ∀ (o : Bytes), lfsp (o ++ [LF, SP]) = true → logicalLine (o ++ [LF]) = true
  | [], _ => by decide
  | [c], h => by
    simp only [List.cons_append, List.nil_append, lfsp, Bool.and_eq_true, Bool.or_eq_true, bne_iff_ne, ne_eq, beq_iff_eq] at h
    have hc : c ≠ LF := by
      rcases h.1 with h1 | h1
      · exact h1
      · exact absurd h1 (by decide)
    simp [logicalLine, hc]
  | c :: d :: r, h => by
    simp only [List.cons_append, lfsp, Bool.and_eq_true] at h
    have := lfsp_logical (d :: r) (by simpa using h.2)
    simp only [List.cons_append] at this ⊢
    simp only [logicalLine, Bool.and_eq_true, this, and_true]
    have h1 := h.1
    simp only [Bool.or_eq_true, bne_iff_ne, ne_eq, beq_iff_eq] at h1 ⊢
    rcases h1 with h1 | h1
    · exact Or.inl (Or.inl h1)
    · exact Or.inl (Or.inr h1)

/-! ### the text of a token -/

theorem uesc_nolf (s : Bytes) (h : LF ∉ s) : LF ∉ uesc s :=
  uesc_encQP s ▸ not_mem_encQP (by decide) _ s h

theorem tokText_nolf (t : Tok) (h : lfFree t = true) : LF ∉ tokText t := by
  cases t with
  | atom s =>
    simp only [lfFree, Bool.not_eq_true', List.contains_eq_mem, decide_eq_false_iff_not] at h
    exact uesc_nolf s h
  | quote s | literal s | comment s =>
    simp only [lfFree, Bool.not_eq_true', List.contains_eq_mem, decide_eq_false_iff_not] at h
    have := uesc_nolf s h
    simp only [tokText, List.mem_cons, List.mem_append, List.not_mem_nil, or_false, not_or]
    exact ⟨by decide, this, by decide⟩
  | _ => simp [tokText] <;> decide

/-! ### read off the closed form -/

theorem lfsp_weave (items : List (Bool × Tok)) (h : (items.map (·.2)).all lfFree = true) :
    ∀ l, lfsp (weave l items) = true := by
  induction items with
  | nil => intro l; rfl
  | cons p r ih =>
    intro l
    obtain ⟨b, t⟩ := p
    simp only [List.map_cons, List.all_cons, Bool.and_eq_true] at h
    exact lfsp_append _ _ (by cases b <;> decide) (lfsp_append _ _ (by unfold sepOf; split <;> decide)
      (lfsp_append _ _ (lfsp_nolf _ (tokText_nolf t h.1)) (ih h.2 _)))

theorem unparse_logical (n : Nat) (ts : List Tok) (hts : ts.all lfFree = true) :
    logicalLine (unparse n ts) = true := by
  obtain ⟨items, b, hi, _, e⟩ := unparse_weave n ts
  rw [e, ← List.append_assoc]
  exact lfsp_logical _ (lfsp_append _ _ (lfsp_append _ _ (lfsp_weave items (hi ▸ hts) none) (by cases b <;> decide)) (by decide))

theorem unparse_prefix (n : Nat) (nm : Bytes) (rest : List Tok) :
    ∃ R, unparse n (.atom nm :: .colon :: rest) = uesc nm ++ 58 :: R := by
  obtain ⟨items, b, hi, hok, e⟩ := unparse_weave n (.atom nm :: .colon :: rest)
  match items, hi, hok with
  | (b1, _) :: (b2, _) :: r, hi, hok =>
    simp only [List.map_cons, List.cons.injEq] at hi
    obtain ⟨rfl, rfl, _⟩ := hi
    -- no fold stands in front of the first two tokens: neither follows a comma
    have hb : b1 = false ∧ b2 = false := by
      cases b1 <;> cases b2 <;> simp [foldsOk] at hok ⊢
    obtain ⟨rfl, rfl⟩ := hb
    exact ⟨weave (some .colon) r ++ (foldOf b ++ [LF]), by rw [e]; simp [weave, foldOf, sepOf, needspace, isWord, tokText]⟩

/-! ### from the token-level conditions to safe pieces -/

theorem unparse_safe_pre (pre : Bytes) (hpre : LF ∉ pre) (n : Nat) (ts : List Tok) (h : toksSafe pre ts = true) :
    pieceSafe (pre ++ unparse n ts) = true := by
  unfold toksSafe at h
  split at h
  · rename_i nm rest
    simp only [Bool.and_eq_true, Bool.not_eq_true', List.contains_eq_mem, decide_eq_false_iff_not] at h
    obtain ⟨⟨hnm, hts⟩, hn⟩ := h
    obtain ⟨R, hR⟩ := unparse_prefix n nm rest
    have hall : (Tok.atom nm :: Tok.colon :: rest).all lfFree = true := by simp [lfFree, hnm, hts]
    have hl := unparse_logical n _ hall
    have hne : unparse n (Tok.atom nm :: Tok.colon :: rest) ≠ [] := by rw [hR]; simp
    have hl' : logicalLine (pre ++ unparse n (Tok.atom nm :: Tok.colon :: rest)) = true := by
      rw [Nq.Lemmas.C17HB.logicalLine_prefix pre _ hpre hne]; exact hl
    refine logical_safe _ (pre ++ uesc nm) R hl' (by rw [hR]; simp) ?_ (by simpa using hn)
    simp only [List.mem_append, not_or]
    exact ⟨hpre, uesc_nolf nm hnm⟩
  · simp at h

theorem unparse_safe (n : Nat) (nm : Bytes) (rest : List Tok) (hnm : LF ∉ nm) (hts : rest.all lfFree = true)
    (hn : nameIn hiddenFields (uesc nm ++ [58]) = false) :
    pieceSafe (unparse n (.atom nm :: .colon :: rest)) = true := by
  have h : toksSafe [] (.atom nm :: .colon :: rest) = true := by
    simp [toksSafe, hnm, hts, hn]
  simpa using unparse_safe_pre [] (by simp) n _ h

theorem rewriteField_safe (c : Inject.RwCfg) (mayfail : Bool) (h : Bytes) (hv : Inject.hfieldValid h = true)
    (hl : logicalLine h = true) (hn : nameIn hiddenFields h = false) (hok : rewrittenOk c h = true) :
    pieceSafe (Inject.rewriteField c mayfail h).1 = true := by
  unfold rewrittenOk at hok
  unfold Inject.rewriteField
  cases hp : parse h with
  | none => exact verbatim_safe h hv hl hn
  | some ts =>
    simp only [hp] at hok ⊢
    split
    · rename_i hrok
      simp only [hrok, Bool.not_true, Bool.false_or] at hok
      have := unparse_safe_pre [] (by simp) Gen.LINELEN _ hok
      simpa using this
    · exact verbatim_safe h hv hl hn

theorem defaultFrom_eq (e : Inject.Env) (c : Inject.RwCfg) :
    Inject.defaultFrom e c = (defaultFromOut e c).map (unparse Gen.LINELEN) := by
  unfold Inject.defaultFrom defaultFromOut
  simp only []
  generalize parse _ = p
  cases p with
  | none => rfl
  | some ts =>
    simp only []
    split <;> rfl

theorem defaultFrom_safe (e : Inject.Env) (c : Inject.RwCfg) (hok : fromOk e c = true) (t : Bytes)
    (ht : Inject.defaultFrom e c = some t) : pieceSafe t = true ∧ pieceSafe (str "Resent-" ++ t) = true := by
  rw [defaultFrom_eq] at ht
  unfold fromOk at hok
  cases ho : defaultFromOut e c with
  | none => rw [ho] at ht; simp at ht
  | some out =>
    rw [ho] at ht hok
    simp only [Option.map_some, Option.some.injEq] at ht
    simp only [Bool.and_eq_true] at hok
    subst ht
    refine ⟨by simpa using unparse_safe_pre [] (by simp) Gen.LINELEN out hok.1,
      unparse_safe_pre (str "Resent-") (by decide +kernel) Gen.LINELEN out hok.2⟩

end Nq.Lemmas.C17UL
