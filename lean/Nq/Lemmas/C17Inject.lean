/-
  C17 lemmas: qmail-inject over the whole header.  How the per-field callback results accumulate into the recipient lists
  and into the saved header `savedh` (`doheaderfield` folded over the fields `headerbody` delivers: `header_fold`); what
  the generated fields can be (`generatedFields_shape`); what a run that exits 0 went through (`inject_exit0`); and
  hfield.c's `hmatch` / `hfield_known` against the independent field-name matcher `Spec.Addr.fieldName` plus a table lookup
  (`hmatch_iff`, `hfieldKnown_spec`), so that a test on `hfield_known`'s number is a test on the field's name (`types_name`).
-/
import Nq.Inject
import Nq.Spec.Addr
import Nq.Spec.Lex822
import Nq.Lemmas.C17Tables

namespace Nq.Lemmas.C17
open Nq Nq.Token822 Nq.Inject

/-- what a header field contributes to `hrlist` (`cls = 1`: To, Cc, Bcc, Apparently-To) or to `hrrlist`
(`cls = 2`: Resent-To, Resent-Cc, Resent-Bcc): the unquoted addresses its callback returned -/
def hrContribution (c : RwCfg) (cls : Nat) (h : Bytes) : List Bytes :=
  if (fieldClass (hfieldKnown h)).1 = cls then (rewriteField c true h).2.1.map addrString else []

theorem hrContribution_eq (c : RwCfg) {k : Nat} {h : Bytes} (hk : (fieldClass (hfieldKnown h)).1 = k) :
    hrContribution c k h = (rewriteField c true h).2.1.map addrString := if_pos hk

theorem hrContribution_ne (c : RwCfg) {k : Nat} {h : Bytes} (hk : (fieldClass (hfieldKnown h)).1 ≠ k) :
    hrContribution c k h = [] := if_neg hk

/-- the header types that make a message "resent" (`flagresent` in `finishheader` / `exitnicely`) -/
def resentTypes : List Nat :=
  [Gen.H_R_SENDER, Gen.H_R_FROM, Gen.H_R_REPLYTO, Gen.H_R_TO, Gen.H_R_CC, Gen.H_R_BCC, Gen.H_R_DATE, Gen.H_R_MESSAGEID]

/-- the field is one of the eight Resent- fields `hfield_known` recognises -/
def isResentField (h : Bytes) : Bool := resentTypes.contains (hfieldKnown h)

/-- what a header field contributes to the saved header (`savedh_append`): nothing if it is deleted by a
QMAILINJECT letter (`f` From, `i` Message-ID, `s` Return-Path) or is one of the four dropped types (Bcc,
Resent-Bcc, Return-Path, Content-Length); its own text if it carries no addresses; else the rewritten text
`rewriteField` returns (the unparsed `taout`, or the original text when a `rwmayfail` field does not parse) -/
def savedContribution (e : Env) (c : RwCfg) (h : Bytes) : List Bytes :=
  let k := hfieldKnown h
  if (hasFlag e 'f' && k = Gen.H_FROM) || (hasFlag e 'i' && k = Gen.H_MESSAGEID) || (hasFlag e 's' && k = Gen.H_RETURNPATH) then []
  else if fieldDropped k then []
  else if (fieldClass k).1 = 0 then [h]
  else [(rewriteField c (fieldClass k).2 h).1]

/-- the `if` chain of `fieldClass` walked once: the value with the tests that selected it -/
theorem fieldClass_cases (n : Nat) :
    ([Gen.H_TO, Gen.H_CC, Gen.H_BCC, Gen.H_APPARENTLYTO].contains n = true ∧ fieldClass n = (1, true)) ∨
    ([Gen.H_TO, Gen.H_CC, Gen.H_BCC, Gen.H_APPARENTLYTO].contains n = false ∧
      (([Gen.H_R_TO, Gen.H_R_CC, Gen.H_R_BCC].contains n = true ∧ fieldClass n = (2, true)) ∨
       ([Gen.H_R_TO, Gen.H_R_CC, Gen.H_R_BCC].contains n = false ∧
         (fieldClass n = (3, false) ∨ fieldClass n = (4, false) ∨ fieldClass n = (0, false))))) := by
  unfold fieldClass
  split
  · rename_i h; exact .inl ⟨by simpa using h, rfl⟩
  · rename_i h1
    refine .inr ⟨by simpa using h1, ?_⟩
    split
    · rename_i h; exact .inl ⟨by simpa using h, rfl⟩
    · rename_i h2
      refine .inr ⟨by simpa using h2, ?_⟩
      split
      · exact .inl rfl
      · split
        · exact .inr (.inl rfl)
        · exact .inr (.inr rfl)

theorem setReturn_frame (e : Env) (st : ISt) (got : List (List Tok)) :
    (setReturn e st got).hrlist = st.hrlist ∧ (setReturn e st got).hrrlist = st.hrrlist ∧
    (setReturn e st got).seen = st.seen ∧ (setReturn e st got).savedh = st.savedh ∧
    (setReturn e st got).dead = st.dead := by
  unfold setReturn
  split <;> simp

theorem defaultReturnPath_frame (e : Env) (c : RwCfg) (st : ISt) :
    (defaultReturnPath e c st).hrlist = st.hrlist ∧ (defaultReturnPath e c st).hrrlist = st.hrrlist ∧
    (defaultReturnPath e c st).seen = st.seen ∧ (defaultReturnPath e c st).savedh = st.savedh ∧
    ((defaultReturnPath e c st).dead = st.dead ∨ (defaultReturnPath e c st).dead = some 100) := by
  have h := setReturn_frame e
  unfold defaultReturnPath
  simp only []
  split
  · simp
  · split <;> simp [h]

theorem isResent_eq (st : ISt) : isResent st = resentTypes.any (fun k => st.seen.contains k) := rfl

theorem isResent_seen {s t : ISt} (h : s.seen = t.seen) : isResent s = isResent t := by
  simp [isResent_eq, h]

theorem any_contains_cons (l s : List Nat) (x : Nat) :
    l.any (fun k => (x :: s).contains k) = (l.contains x || l.any (fun k => s.contains k)) := by
  induction l with
  | nil => simp
  | cons a l ih =>
    rw [List.any_cons, ih, List.any_cons, List.contains_cons, List.contains_cons]
    have : (a == x) = (x == a) := BEq.comm
    rw [this]
    cases (x == a) <;> cases s.contains a <;> cases l.contains x <;> simp

theorem isResent_cons (st st' : ISt) (k : Nat) (h : st'.seen = k :: st.seen) :
    isResent st' = (resentTypes.contains k || isResent st) := by
  rw [isResent_eq, isResent_eq, h, any_contains_cons]

def fieldSkipped (e : Env) (k : Nat) : Bool :=
  (hasFlag e 'f' && k = Gen.H_FROM) || (hasFlag e 'i' && k = Gen.H_MESSAGEID) || (hasFlag e 's' && k = Gen.H_RETURNPATH)

/-- the callback stage of `doheaderfield`, reached by a field that is neither deleted nor malformed.  A verbatim copy
of the last `else` branch of `Inject.doheaderfield`, tied to it by `rfl` in `doheaderfield_eq`: it must follow the model. -/
def fieldRun (e : Env) (c : RwCfg) (st : ISt) (h : Bytes) : ISt :=
  let htype := hfieldKnown h
  let st1 : ISt := if htype ≠ 0 then { st with seen := htype :: st.seen } else st
  let cls := fieldClass htype
  if cls.1 = 0 then
    (if fieldDropped htype then st1 else { st1 with savedh := st1.savedh ++ [h] })
  else
    let r := rewriteField c cls.2 h
    let got := r.2.1
    let st2 : ISt :=
      if cls.1 = 1 then { st1 with hrlist := st1.hrlist ++ got.map addrString }
      else if cls.1 = 2 then { st1 with hrrlist := st1.hrrlist ++ got.map addrString }
      else if cls.1 = 3 then setReturn e st1 got
      else st1
    if r.2.2 then { st2 with dead := some 100 }
    else if fieldDropped htype then st2
    else { st2 with savedh := st2.savedh ++ [r.1] }

theorem doheaderfield_eq (e : Env) (c : RwCfg) (st : ISt) (h : Bytes) :
    doheaderfield e c st h =
      if st.dead.isSome then st
      else if fieldSkipped e (hfieldKnown h) then st
      else if hfieldKnown h = 0 && !hfieldValid h then { st with dead := some 100 }
      else fieldRun e c st h := by
  unfold doheaderfield fieldSkipped fieldRun
  dsimp only
  generalize (hasFlag e 'f' && decide (hfieldKnown h = Gen.H_FROM)) = f
  generalize (hasFlag e 'i' && decide (hfieldKnown h = Gen.H_MESSAGEID)) = i
  generalize (hasFlag e 's' && decide (hfieldKnown h = Gen.H_RETURNPATH)) = s
  cases f <;> cases i <;> cases s <;> rfl

theorem fieldSkipped_facts {e : Env} {k : Nat} (h : fieldSkipped e k = true) :
    (fieldClass k).1 ≠ 1 ∧ (fieldClass k).1 ≠ 2 ∧ resentTypes.contains k = false := by
  have hk : k ∈ [Gen.H_FROM, Gen.H_MESSAGEID, Gen.H_RETURNPATH] := by
    simp only [fieldSkipped, Bool.or_eq_true, Bool.and_eq_true, decide_eq_true_eq] at h
    rcases h with (h | h) | h <;> simp [h.2]
  have : ∀ k ∈ [Gen.H_FROM, Gen.H_MESSAGEID, Gen.H_RETURNPATH],
      (fieldClass k).1 ≠ 1 ∧ (fieldClass k).1 ≠ 2 ∧ resentTypes.contains k = false := by decide
  exact this k hk

theorem doheaderfield_rcpt (e : Env) (c : RwCfg) (st : ISt) (h : Bytes) (hd : st.dead = none)
    (hc : (fieldClass (hfieldKnown h)).1 = 1 ∨ (fieldClass (hfieldKnown h)).1 = 2) :
    doheaderfield e c st h = fieldRun e c st h := by
  have hs : fieldSkipped e (hfieldKnown h) = false := by
    cases hs : fieldSkipped e (hfieldKnown h) with
    | false => rfl
    | true =>
      obtain ⟨h1, h2, _⟩ := fieldSkipped_facts hs
      rcases hc with hc | hc <;> contradiction
  have h0 : hfieldKnown h ≠ 0 := by
    intro e0; rw [e0] at hc; revert hc; decide
  rw [doheaderfield_eq]
  simp [hd, hs, h0]

theorem rewriteField_ok {c : RwCfg} {h : Bytes} {ts : List Tok} (hp : parse h = some ts)
    (hok : (addrlist (rwgeneric c) ts).ok = true) (mf : Bool) :
    rewriteField c mf h
      = (unparse Gen.LINELEN (addrlist (rwgeneric c) ts).out, (addrlist (rwgeneric c) ts).got, false) := by
  simp [rewriteField, hp, hok]

/-! Each component of the state after the callback stage: push the projection through the `if`s; every branch
but one leaves it alone. -/

theorem fieldRun_lists (e : Env) (c : RwCfg) (st : ISt) (h : Bytes) :
    (fieldRun e c st h).hrlist = st.hrlist ++ hrContribution c 1 h ∧
    (fieldRun e c st h).hrrlist = st.hrrlist ++ hrContribution c 2 h := by
  unfold fieldRun hrContribution
  simp only [apply_ite ISt.hrlist, apply_ite ISt.hrrlist, setReturn_frame, ite_self]
  rcases fieldClass_cases (hfieldKnown h) with ⟨_, hc⟩ | ⟨_, ⟨_, hc⟩ | ⟨_, hc | hc | hc⟩⟩ <;> simp [hc]

theorem fieldRun_seen (e : Env) (c : RwCfg) (st : ISt) (h : Bytes) :
    (fieldRun e c st h).seen = if hfieldKnown h ≠ 0 then hfieldKnown h :: st.seen else st.seen := by
  unfold fieldRun
  simp only [apply_ite ISt.seen, setReturn_frame, ite_self]

theorem fieldRun_dead (e : Env) (c : RwCfg) (st : ISt) (h : Bytes) :
    (fieldRun e c st h).dead =
      if (fieldClass (hfieldKnown h)).1 = 0 then st.dead
      else if (rewriteField c (fieldClass (hfieldKnown h)).2 h).2.2 then some 100 else st.dead := by
  unfold fieldRun
  simp only [apply_ite ISt.dead, setReturn_frame, ite_self]

theorem fieldRun_savedh (e : Env) (c : RwCfg) (st : ISt) (h : Bytes) :
    (fieldRun e c st h).savedh = st.savedh ++
      (if fieldDropped (hfieldKnown h) then []
       else if (fieldClass (hfieldKnown h)).1 = 0 then [h]
       else if (rewriteField c (fieldClass (hfieldKnown h)).2 h).2.2 then []
       else [(rewriteField c (fieldClass (hfieldKnown h)).2 h).1]) := by
  unfold fieldRun
  simp only [apply_ite ISt.savedh, setReturn_frame, ite_self]
  cases fieldDropped (hfieldKnown h) <;> simp [apply_ite (st.savedh ++ ·)]

/-- a `rwmayfail` field never makes qmail-inject die -/
theorem rewriteField_mayfail (c : RwCfg) (h : Bytes) : (rewriteField c true h).2.2 = false := by
  unfold rewriteField
  split
  · rfl
  · dsimp only
    split <;> rfl

/-- a recipient field (callback class `k` = 1 or 2; these are `rwmayfail`) met alive: the state after it -/
theorem doheaderfield_rcpt_state (e : Env) (c : RwCfg) (st : ISt) (h : Bytes) (hd : st.dead = none) {k : Nat}
    (hc : fieldClass (hfieldKnown h) = (k, true)) (hk : k = 1 ∨ k = 2) :
    (doheaderfield e c st h).hrlist = st.hrlist ++ hrContribution c 1 h ∧
    (doheaderfield e c st h).hrrlist = st.hrrlist ++ hrContribution c 2 h ∧
    (doheaderfield e c st h).dead = none ∧
    (doheaderfield e c st h).savedh =
      st.savedh ++ (if fieldDropped (hfieldKnown h) then [] else [(rewriteField c true h).1]) := by
  have h0 : k ≠ 0 := by rcases hk with rfl | rfl <;> decide
  rw [doheaderfield_rcpt e c st h hd (by rw [hc]; exact hk), fieldRun_dead, fieldRun_savedh, hc]
  refine ⟨(fieldRun_lists e c st h).1, (fieldRun_lists e c st h).2, ?_, ?_⟩
  · simp only [h0, if_false, rewriteField_mayfail, Bool.false_eq_true, hd]
  · simp only [h0, if_false, rewriteField_mayfail, Bool.false_eq_true]

theorem savedContribution_eq {e : Env} {h : Bytes} (hs : fieldSkipped e (hfieldKnown h) = false) (c : RwCfg) :
    savedContribution e c h =
      if fieldDropped (hfieldKnown h) then []
      else if (fieldClass (hfieldKnown h)).1 = 0 then [h]
      else [(rewriteField c (fieldClass (hfieldKnown h)).2 h).1] := by
  unfold fieldSkipped at hs
  simp only [savedContribution, hs, Bool.false_eq_true, if_false]

theorem fieldRun_resent (e : Env) (c : RwCfg) (st : ISt) (h : Bytes) :
    isResent (fieldRun e c st h) = (isResent st || isResentField h) := by
  have hs := fieldRun_seen e c st h
  unfold isResentField
  by_cases hk : hfieldKnown h = 0
  · rw [hk] at hs ⊢
    rw [isResent_seen hs]
    exact (Bool.or_false _).symm
  · rw [if_pos hk] at hs
    rw [isResent_cons st _ _ hs, Bool.or_comm]

theorem doheaderfield_dead (e : Env) (c : RwCfg) (st : ISt) (h : Bytes) (hd : (doheaderfield e c st h).dead = none) :
    st.dead = none := by
  cases hs : st.dead with
  | none => rfl
  | some x =>
    have : doheaderfield e c st h = st := by simp [doheaderfield, hs]
    rw [this, hs] at hd
    exact absurd hd (by simp)

/-- a field dies through `die_invalid` or `doordie`, both `perm()`: exit 100 (the `temp()` deaths, exit 111, are not
modelled) -/
theorem doheaderfield_dead_cases (e : Env) (c : RwCfg) (st : ISt) (h : Bytes) :
    (doheaderfield e c st h).dead = st.dead ∨ (doheaderfield e c st h).dead = some 100 := by
  rw [doheaderfield_eq]
  split
  · exact Or.inl rfl
  · split
    · exact Or.inl rfl
    · split
      · exact Or.inr rfl
      · rw [fieldRun_dead]
        split
        · exact Or.inl rfl
        · split
          · exact Or.inr rfl
          · exact Or.inl rfl

theorem header_dead (e : Env) (c : RwCfg) (fields : List Bytes) :
    ∀ (st : ISt), (st.dead = none ∨ st.dead = some 100) →
      ((fields.foldl (doheaderfield e c) st).dead = none ∨ (fields.foldl (doheaderfield e c) st).dead = some 100) := by
  induction fields with
  | nil => intro st h; exact h
  | cons f r ih =>
    intro st h
    simp only [List.foldl_cons]
    apply ih
    rcases doheaderfield_dead_cases e c st f with h1 | h1
    · rw [h1]; exact h
    · exact Or.inr h1

theorem doheaderfield_step (e : Env) (c : RwCfg) (st : ISt) (h : Bytes) (hd : st.dead = none)
    (hd' : (doheaderfield e c st h).dead = none) :
    (doheaderfield e c st h).hrlist = st.hrlist ++ hrContribution c 1 h ∧
    (doheaderfield e c st h).hrrlist = st.hrrlist ++ hrContribution c 2 h ∧
    isResent (doheaderfield e c st h) = (isResent st || isResentField h) ∧
    (doheaderfield e c st h).savedh = st.savedh ++ savedContribution e c h := by
  rw [doheaderfield_eq] at hd' ⊢
  simp only [hd, Option.isSome_none, Bool.false_eq_true, if_false] at hd' ⊢
  cases hs : fieldSkipped e (hfieldKnown h) with
  | true =>
    obtain ⟨h1, h2, h3⟩ := fieldSkipped_facts hs
    have h4 : savedContribution e c h = [] := by
      unfold fieldSkipped at hs
      simp only [savedContribution, hs, if_true]
    unfold isResentField
    rw [if_pos rfl, hrContribution_ne c h1, hrContribution_ne c h2, h3, h4]
    simp
  | false =>
    simp only [hs, Bool.false_eq_true, if_false] at hd' ⊢
    by_cases hv : (decide (hfieldKnown h = 0) && !hfieldValid h) = true
    · rw [if_pos hv] at hd'
      exact absurd hd' (by simp)
    · rw [if_neg hv] at hd' ⊢
      refine ⟨(fieldRun_lists e c st h).1, (fieldRun_lists e c st h).2, fieldRun_resent e c st h, ?_⟩
      -- the field was survived, so `doordie` did not fire
      rw [fieldRun_dead, hd] at hd'
      rw [fieldRun_savedh, savedContribution_eq hs]
      by_cases h0 : (fieldClass (hfieldKnown h)).1 = 0
      · simp only [h0, if_true]
      · have hr : (rewriteField c (fieldClass (hfieldKnown h)).2 h).2.2 = false := by simpa [h0] using hd'
        simp only [h0, hr, if_false, Bool.false_eq_true]

theorem header_fold (e : Env) (c : RwCfg) (fields : List Bytes) :
    ∀ (st : ISt), (fields.foldl (doheaderfield e c) st).dead = none →
      st.dead = none ∧
      (fields.foldl (doheaderfield e c) st).hrlist = st.hrlist ++ fields.flatMap (hrContribution c 1) ∧
      (fields.foldl (doheaderfield e c) st).hrrlist = st.hrrlist ++ fields.flatMap (hrContribution c 2) ∧
      isResent (fields.foldl (doheaderfield e c) st) = (isResent st || fields.any isResentField) ∧
      (fields.foldl (doheaderfield e c) st).savedh = st.savedh ++ fields.flatMap (savedContribution e c) := by
  induction fields with
  | nil => intro st hd; simpa using hd
  | cons h r ih =>
    intro st hd
    simp only [List.foldl_cons] at hd ⊢
    obtain ⟨d1, l1, l2, l3, l4⟩ := ih _ hd
    have d0 := doheaderfield_dead e c st h d1
    obtain ⟨f1, f2, f3, f4⟩ := doheaderfield_step e c st h d0 d1
    rw [l1, l2, l3, l4, f1, f2, f3, f4]
    simp [d0, Bool.or_assoc]

theorem mapOpt_some (f : Bytes → Option Bytes) (l : List Bytes) :
    ∀ ys, mapOpt f l = some ys → ys = l.filterMap f ∧ ∀ x ∈ l, (f x).isSome = true := by
  induction l with
  | nil => intro ys h; simp [mapOpt] at h; subst h; simp
  | cons x r ih =>
    intro ys h
    unfold mapOpt at h
    cases hx : f x with
    | none => simp [hx] at h
    | some y =>
      cases hr : mapOpt f r with
      | none => simp [hx, hr] at h
      | some zs =>
        simp only [hx, hr, Option.some.injEq] at h
        obtain ⟨e1, e2⟩ := ih zs hr
        subst h
        refine ⟨by simp [hx, e1], ?_⟩
        intro z hz
        simp only [List.mem_cons] at hz
        rcases hz with rfl | hz
        · simp [hx]
        · exact e2 z hz

theorem generatedFields_shape {e : Env} {c : RwCfg} {st : ISt} {gen : Bytes} (hg : generatedFields e c st = some gen) :
    ∃ d m f cc, gen = d ++ m ++ f ++ cc ∧
      (d = [] ∨ d = e.date ∨ d = str "Resent-" ++ e.date) ∧
      (m = [] ∨ m = msgid e ∨ m = str "Resent-" ++ msgid e) ∧
      (f = [] ∨ ∃ t, defaultFrom e c = some t ∧ (f = t ∨ f = str "Resent-" ++ t)) ∧
      (cc = [] ∨ cc = str "Cc: recipient list not shown: ;\n" ∨ cc = str "Resent-Cc: recipient list not shown: ;\n") := by
  unfold generatedFields at hg
  split at hg
  · obtain ⟨f, hf, rfl⟩ := Option.map_eq_some_iff.mp hg
    refine ⟨_, _, f, _, rfl, ?_, ?_, ?_, ?_⟩
    · split <;> simp
    · split <;> simp
    · split at hf
      · obtain ⟨t, ht, rfl⟩ := Option.map_eq_some_iff.mp hf
        exact Or.inr ⟨t, ht, Or.inr rfl⟩
      · exact Or.inl (Option.some.inj hf).symm
    · split <;> simp
  · obtain ⟨f, hf, rfl⟩ := Option.map_eq_some_iff.mp hg
    refine ⟨_, _, f, _, rfl, ?_, ?_, ?_, ?_⟩
    · split <;> simp
    · split <;> simp
    · split at hf
      · exact Or.inr ⟨f, hf, Or.inl rfl⟩
      · exact Or.inl (Option.some.inj hf).symm
    · split <;> simp

/-- Exit 0 determines the path through `inject`: the result is its last branch, over a state `st` whose lists,
`isResent` and `savedh` are `header_fold`'s (`dodefaultreturnpath`, in between, changes only the sender). -/
theorem inject_exit0 (e : Env) (a : Args) (inp : Bytes) (dd dh pd : List Tok)
    (hdd : parse ([46] ++ e.defaultdomain) = some dd) (hdh : parse ([AT] ++ e.defaulthost) = some dh)
    (hpd : parse ([46] ++ e.plusdomain) = some pd) (hex : (inject e a inp).exit = 0) :
    ∃ (reciplist : List Bytes) (st : ISt) (gen : Bytes),
      (if effStrategy a ≠ 3 then mapOpt (argAddress ⟨dh, dd, pd⟩) a.recips else some []) = some reciplist ∧
      st.hrlist = (headerbody inp).fields.flatMap (hrContribution ⟨dh, dd, pd⟩ 1) ∧
      st.hrrlist = (headerbody inp).fields.flatMap (hrContribution ⟨dh, dd, pd⟩ 2) ∧
      isResent st = (headerbody inp).fields.any isResentField ∧
      st.savedh = (headerbody inp).fields.flatMap (savedContribution e ⟨dh, dd, pd⟩) ∧
      generatedFields e ⟨dh, dd, pd⟩ st = some gen ∧
      inject e a inp =
        (let sender := st.sender.getD []
         let rp := if a.queue then [] else str "Return-Path: <" ++ Quote.quote2 (cstr sender) ++ str ">\n"
         let msg := rp ++ gen ++ st.savedh.flatten ++ (headerbody inp).body.flatten
         if a.queue then
           { exit := 0, sender := cstr sender, recips := (envelopeRecips (effStrategy a) reciplist st).map cstr, msg := msg }
         else { exit := 0, msg := msg }) := by
  unfold inject at hex ⊢
  simp only [hdd, hdh, hpd] at hex ⊢
  generalize ({ defaulthost := dh, defaultdomain := dd, plusdomain := pd } : RwCfg) = c at hex ⊢
  split at hex
  · simp at hex
  · rename_i sender0 _
    generalize (if effStrategy a ≠ 3 then mapOpt (argAddress c) a.recips else some []) = rl at hex ⊢
    cases rl with
    | none => simp at hex
    | some reciplist =>
      simp only [] at hex ⊢
      have hdead0 := header_dead e c (headerbody inp).fields { sender := sender0 } (Or.inl rfl)
      have hf := header_fold e c (headerbody inp).fields { sender := sender0 }
      generalize List.foldl (doheaderfield e c) { sender := sender0 } (headerbody inp).fields = st0 at hex hdead0 hf ⊢
      -- `dead = some x` makes `x` the exit code, and `x` is 100 (`header_dead`), which `hex` excludes
      have hd0 : st0.dead = none := by
        rcases hdead0 with h | h
        · exact h
        · rw [h] at hex; simp at hex
      obtain ⟨_, l1, l2, l3, l4⟩ := hf hd0
      simp only [hd0] at hex ⊢
      have hdr := defaultReturnPath_frame e c st0
      rw [hd0] at hdr
      generalize hst1 : (if st0.sender.isNone = true then defaultReturnPath e c st0 else st0) = st1 at hex ⊢
      have f1 : st1.hrlist = st0.hrlist ∧ st1.hrrlist = st0.hrrlist ∧ st1.seen = st0.seen ∧ st1.savedh = st0.savedh ∧
          (st1.dead = none ∨ st1.dead = some 100) := by
        rw [← hst1]
        split
        · exact hdr
        · exact ⟨rfl, rfl, rfl, rfl, Or.inl hd0⟩
      obtain ⟨f1, f2, f3, f4, f5⟩ := f1
      have hd1 : st1.dead = none := by
        rcases f5 with h | h
        · exact h
        · rw [h] at hex; simp at hex
      simp only [hd1] at hex ⊢
      cases hg : generatedFields e c st1 with
      | none => rw [hg] at hex; simp at hex
      | some gen =>
        exact ⟨reciplist, st1, gen, rfl, f1.trans l1, f2.trans l2, (isResent_seen f3).trans l3, f4.trans l4, hg, rfl⟩

open Nq.Quote Nq.Spec.Addr

/-- a byte of a table name: lower-case letter or '-' -/
def nameCh (c : Byte) : Bool := (decide (97 ≤ c.toNat) && decide (c.toNat ≤ 122)) || c == 45

def nameOk (t : Bytes) : Bool := !t.isEmpty && t.all nameCh

theorem hname_ok : (Gen.hname.drop 1).all nameOk = true := by decide

def isBlank (c : Byte) : Bool := c == SP || c == TAB

/-! Three facts about single bytes, decided together over the 256 values (58 is ':', 45 is '-', `c - 32` is the
upper-case form of a lower-case letter `c`).  They are what `hmatch`'s comparison of one table byte with one
text byte needs. -/

def nameF1 (c : Byte) : Bool := !nameCh c || (lowerByte c == c && c != 58 && !isBlank c)

def nameF2 (c : Byte) : Bool := !(nameCh c && c != 45) || (lowerByte (c - 32) == c && c - 32 != 58 && !isBlank (c - 32))

def nameF3 (x : Byte) : Bool := !nameCh (lowerByte x) || (lowerByte x == x || (lowerByte x != 45 && lowerByte x - 32 == x))

theorem nameF_all : ∀ c, (nameF1 c && nameF2 c && nameF3 c) = true :=
  byte_forall (fun c => (nameF1 c && nameF2 c && nameF3 c) = true) (by decide +kernel)

theorem nameF1_all (c : Byte) : nameF1 c = true := by
  have h := nameF_all c
  simp only [Bool.and_eq_true] at h
  exact h.1.1

theorem nameF2_all (c : Byte) : nameF2 c = true := by
  have h := nameF_all c
  simp only [Bool.and_eq_true] at h
  exact h.1.2

theorem nameF3_all (c : Byte) : nameF3 c = true := by
  have h := nameF_all c
  simp only [Bool.and_eq_true] at h
  exact h.2

/-- one character of `hmatch`: the table byte `ch` matches the text byte `x` -/
theorem match_lower {ch x : Byte} (hc : nameCh ch = true) (hm : ch = x ∨ (ch ≠ 45 ∧ ch - 32 = x)) :
    lowerByte x = ch ∧ x ≠ 58 ∧ isBlank x = false := by
  rcases hm with rfl | ⟨h1, rfl⟩
  · have := nameF1_all ch
    simp only [nameF1, hc, Bool.not_true, Bool.false_or, Bool.and_eq_true, beq_iff_eq, bne_iff_ne, ne_eq,
      Bool.not_eq_true'] at this
    exact ⟨this.1.1, this.1.2, this.2⟩
  · have := nameF2_all ch
    have h1' : (ch != 45) = true := by simpa using h1
    simp only [nameF2, hc, h1', Bool.and_self, Bool.not_true, Bool.false_or, Bool.and_eq_true, beq_iff_eq, bne_iff_ne, ne_eq,
      Bool.not_eq_true'] at this
    exact ⟨this.1.1, this.1.2, this.2⟩

theorem lower_match {ch x : Byte} (hc : nameCh ch = true) (hl : lowerByte x = ch) : ch = x ∨ (ch ≠ 45 ∧ ch - 32 = x) := by
  subst hl
  have := nameF3_all x
  simp only [nameF3, hc, Bool.not_true, Bool.false_or, Bool.or_eq_true, Bool.and_eq_true, beq_iff_eq, bne_iff_ne, ne_eq] at this
  exact this

theorem hmatchName_split (t : Bytes) (ht : t.all nameCh = true) :
    ∀ s rest, hmatchName s t = some rest → ∃ nm, s = nm ++ rest ∧ lower nm = t ∧ (∀ x ∈ nm, x ≠ 58 ∧ isBlank x = false) := by
  induction t with
  | nil => intro s rest h; simp [hmatchName] at h; exact ⟨[], by simp [h], rfl, by simp⟩
  | cons ch t ih =>
    intro s rest h
    simp only [List.all_cons, Bool.and_eq_true] at ht
    cases s with
    | nil => simp [hmatchName] at h
    | cons x s =>
      simp only [hmatchName] at h
      split at h
      · rename_i hm
        obtain ⟨nm, e1, e2, e3⟩ := ih ht.2 s rest h
        obtain ⟨m1, m2, m3⟩ := match_lower ht.1 hm
        refine ⟨x :: nm, by simp [e1], by simp [lower, m1] at e2 ⊢; exact e2, ?_⟩
        intro y hy
        simp only [List.mem_cons] at hy
        rcases hy with rfl | hy
        · exact ⟨m2, m3⟩
        · exact e3 y hy
      · simp at h

theorem hmatchName_of_lower (t : Bytes) (ht : t.all nameCh = true) :
    ∀ nm rest, lower nm = t → hmatchName (nm ++ rest) t = some rest := by
  induction t with
  | nil => intro nm rest h; cases nm <;> simp_all [lower, hmatchName]
  | cons ch t ih =>
    intro nm rest h
    simp only [List.all_cons, Bool.and_eq_true] at ht
    cases nm with
    | nil => simp [lower] at h
    | cons x nm =>
      simp only [lower, List.map_cons, List.cons.injEq] at h
      have hm := lower_match ht.1 h.1
      simp only [List.cons_append, hmatchName, hm, if_true]
      exact ih ht.2 nm rest h.2

theorem hmatchTail_split : ∀ rest, hmatchTail rest = true → ∃ ws r, rest = ws ++ 58 :: r ∧ ws.all isBlank = true := by
  intro rest
  induction rest with
  | nil => intro h; simp [hmatchTail] at h
  | cons c r ih =>
    intro h
    simp only [hmatchTail] at h
    split at h
    · rename_i hc; exact ⟨[], r, by simp [hc], rfl⟩
    · split at h
      · rename_i hb
        obtain ⟨ws, r', e, hw⟩ := ih h
        refine ⟨c :: ws, r', by simp [e], ?_⟩
        simp only [List.all_cons, hw, Bool.and_true, isBlank]
        rcases hb with hb | hb <;> simp [hb]
      · simp at h

theorem hmatchTail_of (ws r : Bytes) (hw : ws.all isBlank = true) : hmatchTail (ws ++ 58 :: r) = true := by
  induction ws with
  | nil => simp [hmatchTail]
  | cons c ws ih =>
    simp only [List.all_cons, Bool.and_eq_true] at hw
    have hb : c = SP ∨ c = TAB := by simpa [isBlank] using hw.1
    have hc : c ≠ 58 := by rcases hb with rfl | rfl <;> decide
    simp only [List.cons_append, hmatchTail, hc, if_false, hb, if_true]
    exact ih hw.2

theorem colon_mem_of_fieldName {s t : Bytes} (h : fieldName s = some t) : (58 : Byte) ∈ s := by
  unfold fieldName at h
  split at h
  · rename_i hc
    simpa using hc
  · cases h

theorem fieldName_colon (pre r : Bytes) (hp : (58 : Byte) ∉ pre) :
    fieldName (pre ++ 58 :: r) = some (lower ((pre.reverse.dropWhile (fun c => c == SP || c == TAB)).reverse)) := by
  unfold fieldName
  have : (pre ++ 58 :: r).contains 58 = true := by simp
  rw [if_pos this, takeWhile_stop (· != 58) pre r 58 (fun c hc => by simpa using fun (e : c = 58) => hp (e ▸ hc)) rfl]

theorem fieldName_of (nm ws r : Bytes) (hnm : ∀ x ∈ nm, x ≠ 58 ∧ isBlank x = false) (hw : ws.all isBlank = true) :
    fieldName (nm ++ ws ++ 58 :: r) = some (lower nm) := by
  have hw' := List.all_eq_true.mp hw
  have hp : (58 : Byte) ∉ nm ++ ws := by
    intro hx
    rcases List.mem_append.mp hx with hx | hx
    · exact (hnm 58 hx).1 rfl
    · exact absurd (hw' 58 hx) (by decide)
  rw [fieldName_colon _ r hp, dropWhile_reverse_append (fun c => c == SP || c == TAB) nm ws (fun x hx => (hnm x hx).2) hw']

theorem hmatch_iff (s t : Bytes) (ht : nameOk t = true) : hmatch s t = true ↔ fieldName s = some t := by
  simp only [nameOk, Bool.and_eq_true, Bool.not_eq_true', List.isEmpty_eq_false_iff] at ht
  obtain ⟨hne, hall⟩ := ht
  constructor
  · intro h
    unfold hmatch at h
    split at h
    · rename_i rest hr
      obtain ⟨nm, e1, e2, e3⟩ := hmatchName_split t hall s rest hr
      obtain ⟨ws, r, e4, hw⟩ := hmatchTail_split rest h
      rw [e1, e4, ← List.append_assoc, fieldName_of nm ws r e3 hw, e2]
    · simp at h
  · intro h
    -- cut the line at its first colon, and what stands before it at its trailing blanks
    obtain ⟨pre, r, rfl, hnot⟩ := List.eq_append_cons_of_mem (colon_mem_of_fieldName h)
    rw [fieldName_colon pre r hnot, Option.some.injEq] at h
    obtain ⟨ws, e, hws⟩ := dropWhile_reverse_split (fun c => c == SP || c == TAB) pre
    generalize (pre.reverse.dropWhile (fun c => c == SP || c == TAB)).reverse = nm at h e
    subst e
    unfold hmatch
    rw [List.append_assoc, hmatchName_of_lower t hall nm (ws ++ 58 :: r) h]
    exact hmatchTail_of ws r (List.all_eq_true.mpr hws)

theorem hfieldKnown_spec (s : Bytes) : hfieldKnown s = knownField s := by
  unfold hfieldKnown knownField
  have key : ∀ (tbl : List Bytes) (i : Nat), tbl.all nameOk = true →
      hfieldKnownFrom s i tbl = (match fieldName s with | some n => knownIndexFrom n i tbl | none => 0) := by
    intro tbl
    induction tbl with
    | nil => intro i _; cases fieldName s <;> simp [hfieldKnownFrom, knownIndexFrom]
    | cons t ts ih =>
      intro i hall
      simp only [List.all_cons, Bool.and_eq_true] at hall
      have hiff := hmatch_iff s t hall.1
      unfold hfieldKnownFrom
      by_cases hm : hmatch s t = true
      · rw [if_pos hm, hiff.mp hm]; simp [knownIndexFrom]
      · rw [if_neg hm, ih (i + 1) hall.2]
        cases hf : fieldName s with
        | none => rfl
        | some n =>
          have : n ≠ t := by
            intro e; subst e; exact hm (hiff.mpr hf)
          simp [knownIndexFrom, this]
  exact key _ 1 hname_ok

/-! ### header types by NAME -/

theorem knownIndexFrom_spec (tbl : List Bytes) (x : Bytes) :
    ∀ i, knownIndexFrom x i tbl = 0 ∨ ∃ k, knownIndexFrom x i tbl = i + k ∧ tbl[k]? = some x := by
  induction tbl with
  | nil => intro i; exact Or.inl rfl
  | cons t ts ih =>
    intro i
    unfold knownIndexFrom
    split
    · rename_i h; exact Or.inr ⟨0, rfl, by simp [h]⟩
    · rcases ih (i + 1) with h | ⟨k, h1, h2⟩
      · exact Or.inl h
      · exact Or.inr ⟨k + 1, by omega, by simpa using h2⟩

theorem knownIndexFrom_inj {tbl : List Bytes} {i : Nat} {x y : Bytes} (hx : knownIndexFrom x i tbl ≠ 0)
    (h : knownIndexFrom x i tbl = knownIndexFrom y i tbl) : x = y := by
  rcases knownIndexFrom_spec tbl x i with h0 | ⟨k, h1, h2⟩
  · exact absurd h0 hx
  · rcases knownIndexFrom_spec tbl y i with h0' | ⟨k', h1', h2'⟩
    · exact absurd (h.trans h0') hx
    · have : k = k' := by omega
      subst this
      exact Option.some.inj (h2.symm.trans h2')

theorem index_contains (tbl : List Bytes) (names : List Bytes) (n : Bytes) (i : Nat)
    (h0 : (names.map (fun x => knownIndexFrom x i tbl)).contains 0 = false) :
    (names.map (fun x => knownIndexFrom x i tbl)).contains (knownIndexFrom n i tbl) = names.contains n := by
  induction names with
  | nil => rfl
  | cons a r ih =>
    simp only [List.map_cons, List.contains_cons, Bool.or_eq_false_iff, beq_eq_false_iff_ne] at h0 ⊢
    have e : (knownIndexFrom n i tbl == knownIndexFrom a i tbl) = (n == a) := by
      by_cases hna : n = a
      · subst hna; simp
      · rw [beq_eq_false_iff_ne.mpr (fun e => hna (knownIndexFrom_inj (Ne.symm h0.1) e.symm).symm),
          beq_eq_false_iff_ne.mpr hna]
    rw [ih h0.2, e]

theorem types_name (names : List Bytes) (types : List Nat)
    (hmap : names.map (fun n => knownIndexFrom n 1 (Gen.hname.drop 1)) = types) (h0 : types.contains 0 = false)
    (h : Bytes) : types.contains (hfieldKnown h) = nameIn names h := by
  unfold nameIn
  rw [hfieldKnown_spec, knownField]
  cases hf : fieldName h with
  | none => simpa using h0
  | some n =>
    subst hmap
    exact index_contains _ _ n 1 h0

theorem resentTypes_eq : resentFields.map (fun n => knownIndexFrom n 1 (Gen.hname.drop 1)) = resentTypes := by decide

theorem isResentField_name (h : Bytes) : isResentField h = nameIn resentFields h :=
  types_name resentFields _ resentTypes_eq (by decide) h

theorem class1_iff (k : Nat) : (fieldClass k).1 = 1 ↔ [Gen.H_TO, Gen.H_CC, Gen.H_BCC, Gen.H_APPARENTLYTO].contains k = true := by
  rcases fieldClass_cases k with ⟨h, e⟩ | ⟨h, ⟨_, e⟩ | ⟨_, e | e | e⟩⟩ <;> rw [e, h] <;> simp

theorem class2_iff (k : Nat) : (fieldClass k).1 = 2 ↔ [Gen.H_R_TO, Gen.H_R_CC, Gen.H_R_BCC].contains k = true := by
  -- a field of the first class is none of the second
  have hdis : ∀ n ∈ [Gen.H_TO, Gen.H_CC, Gen.H_BCC, Gen.H_APPARENTLYTO],
      [Gen.H_R_TO, Gen.H_R_CC, Gen.H_R_BCC].contains n = false := by decide
  rcases fieldClass_cases k with ⟨h, e⟩ | ⟨_, ⟨h, e⟩ | ⟨h, e | e | e⟩⟩
  · rw [e, hdis k (by simpa using h)]; simp
  all_goals rw [e, h]; simp

theorem rcptTypes_eq : rcptFields.map (fun n => knownIndexFrom n 1 (Gen.hname.drop 1)) = [Gen.H_TO, Gen.H_CC, Gen.H_BCC, Gen.H_APPARENTLYTO] := by decide

theorem resentRcptTypes_eq : resentRcptFields.map (fun n => knownIndexFrom n 1 (Gen.hname.drop 1)) = [Gen.H_R_TO, Gen.H_R_CC, Gen.H_R_BCC] := by decide

theorem hiddenTypes_eq : hiddenFields.map (fun n => knownIndexFrom n 1 (Gen.hname.drop 1))
    = [Gen.H_BCC, Gen.H_R_BCC, Gen.H_RETURNPATH, Gen.H_CONTENTLENGTH] := by decide

theorem rcpt_class_name (h : Bytes) : (fieldClass (hfieldKnown h)).1 = 1 ↔ nameIn rcptFields h = true := by
  rw [class1_iff, types_name rcptFields _ rcptTypes_eq (by decide)]

theorem resent_class_name (h : Bytes) : (fieldClass (hfieldKnown h)).1 = 2 ↔ nameIn resentRcptFields h = true := by
  rw [class2_iff, types_name resentRcptFields _ resentRcptTypes_eq (by decide)]

theorem dropped_name (h : Bytes) : fieldDropped (hfieldKnown h) = nameIn hiddenFields h := by
  rw [← types_name hiddenFields _ hiddenTypes_eq (by decide)]
  simp [fieldDropped, Bool.or_assoc]

theorem savedContribution_mem {e : Env} {c : RwCfg} {h p : Bytes} (hp : p ∈ savedContribution e c h) :
    nameIn hiddenFields h = false ∧
    (((fieldClass (hfieldKnown h)).1 = 0 ∧ p = h) ∨
     ((fieldClass (hfieldKnown h)).1 ≠ 0 ∧ p = (rewriteField c (fieldClass (hfieldKnown h)).2 h).1)) := by
  unfold savedContribution at hp
  simp only [] at hp
  split at hp
  · simp at hp
  · split at hp
    · simp at hp
    · rename_i hdrop
      refine ⟨by rw [← dropped_name h]; simpa using hdrop, ?_⟩
      split at hp
      · rename_i h0; exact Or.inl ⟨h0, by simpa using hp⟩
      · rename_i h0; exact Or.inr ⟨h0, by simpa using hp⟩

theorem savedContribution_hidden (e : Env) (c : RwCfg) {h : Bytes} (hn : nameIn hiddenFields h = true) :
    savedContribution e c h = [] :=
  List.eq_nil_iff_forall_not_mem.mpr fun _ hp => Bool.noConfusion (hn.symm.trans (savedContribution_mem hp).1)

end Nq.Lemmas.C17
