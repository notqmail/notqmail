/-
  C17 lemmas: qmail-inject's rewriting `rwgeneric` on reversed token lists: closed forms by shape of the address, its
  agreement with the documented string-level rewriting (`Spec.Addr.rewriteMailbox` / `qualifyHost`, written from
  qmail-header(5) / qmail-inject(8)), that it keeps good addresses clean, the bundle of configuration hypotheses of
  the rewriting theorems (`CfgSpec`), and the documented envelope string of a mailbox (`specString`) with the shapes it
  is proved for (`specShape`).
-/
import Nq.Lemmas.C17Addrlist

namespace Nq.Lemmas.C17
open Nq Nq.Token822 Nq.Inject Nq.Spec.Addr Nq.Spec.Lex822

/-! ### rwgeneric on `local@host` (reversed token lists) -/

theorem beforeAt_append (p : Tok → Bool) (x y : List Tok) (hx : ∀ t ∈ x, t ≠ Tok.at) :
    beforeAt p (x ++ y) = (x.any p || beforeAt p y) := by
  induction x with
  | nil => rfl
  | cons t x ih =>
    rw [List.cons_append, beforeAt, if_neg (hx t List.mem_cons_self), ih (fun t' h' => hx t' (List.mem_cons_of_mem _ h')),
      List.any_cons]
    cases p t <;> rfl

theorem not_route (x ls : List Tok) (hne : ls ≠ []) (hroute : ls.head? ≠ some .at) :
    (x ++ .at :: ls.reverse).getLast? ≠ some .at := by
  cases ls with
  | nil => exact absurd rfl hne
  | cons t r =>
    have : x ++ .at :: (t :: r).reverse = (x ++ .at :: r.reverse) ++ [t] := by simp
    rw [this, List.getLast?_concat]
    exact hroute

theorem dropThroughColon_append (x y : List Tok) (hx : Tok.colon ∉ x) : dropThroughColon (x ++ .colon :: y) = y := by
  induction x with
  | nil => simp [dropThroughColon]
  | cons t x ih =>
    have ht : t ≠ .colon := fun e => hx (by simp [e])
    simp [dropThroughColon, ht, ih (fun e => hx (by simp [e]))]

theorem dropThroughColon_suffix (l : List Tok) : ∃ z, l = z ++ dropThroughColon l := by
  induction l with
  | nil => exact ⟨[], rfl⟩
  | cons t r ih =>
    unfold dropThroughColon
    split
    · exact ⟨[t], rfl⟩
    · obtain ⟨z, hz⟩ := ih
      exact ⟨t :: z, by rw [List.cons_append, ← hz]⟩

theorem rwroute_not_route {x : List Tok} (h : x.getLast? ≠ some .at) : rwroute x = x := by
  rw [rwroute, if_neg h]

theorem rwroute_prefix (m : List Tok) : ∃ z, m = rwroute m ++ z := by
  unfold rwroute
  split
  · obtain ⟨z, hz⟩ := dropThroughColon_suffix m.reverse
    exact ⟨z.reverse, by simpa using congrArg List.reverse hz⟩
  · exact ⟨[], by simp⟩

/-- `rwgeneric` after `rwroute`: a copy of the last arm of `Inject.rwgeneric`, which it has to follow word for word
(`rwgeneric_body` ties the two by `rfl`) -/
def rwBody (c : RwCfg) (a1 : List Tok) : List Tok :=
  if a1.isEmpty then a1 else
  let a2 := rwextradot a1
  if a2.isEmpty then a2 else
  let a3 := rwextraat a2
  if a3.isEmpty then a3 else
  rwnodot c (rwplus c (rwnoat c a3))

theorem rwgeneric_body (c : RwCfg) (x : List Tok) (hx : x ≠ []) (hl : ∀ y, x ≠ .literal [] :: .at :: y) :
    rwgeneric c x = rwBody c (rwroute x) := by
  unfold rwgeneric
  split
  · exact absurd rfl hx
  · rename_i y; exact absurd rfl (hl y)
  · rfl

/-- `rwgeneric` sees an address only through `rwroute` (`hnl`: the `…@[]` exception) -/
theorem rwgeneric_rwroute (c : RwCfg) (m : List Tok) (hne : rwroute m ≠ []) (hlast : (rwroute m).getLast? ≠ some .at)
    (hnl : ∀ y, m ≠ .literal [] :: .at :: y) : rwgeneric c m = rwgeneric c (rwroute m) := by
  have hmne : m ≠ [] := by
    intro e; rw [e] at hne; exact hne rfl
  -- `rwroute m` is a prefix of `m`, so it is not the exception either
  have hnl2 : ∀ y, rwroute m ≠ .literal [] :: .at :: y := by
    intro y hy
    obtain ⟨z, hz⟩ := rwroute_prefix m
    rw [hy] at hz
    exact hnl (y ++ z) hz
  rw [rwgeneric_body c m hmne hnl, rwgeneric_body c _ hne hnl2, rwroute_not_route hlast]

theorem rwgeneric_plain (c : RwCfg) (t : Tok) (r : List Tok) (hlast : (t :: r).getLast? ≠ some .at)
    (hd : t ≠ .dot) (ha : t ≠ .at) (hl : ∀ y, t :: r ≠ .literal [] :: .at :: y) :
    rwgeneric c (t :: r) = rwnodot c (rwplus c (rwnoat c (t :: r))) := by
  rw [rwgeneric_body c _ (by simp) hl, rwroute, if_neg hlast]
  cases t with
  | dot => exact absurd rfl hd
  | «at» => exact absurd rfl ha
  | _ => rfl

theorem rwgeneric_atomHost (c : RwCfg) (s : Bytes) (r : List Tok)
    (hat : (Tok.atom s :: r).contains .at = true) (hlast : (Tok.atom s :: r).getLast? ≠ some .at) :
    rwgeneric c (.atom s :: r) = rwnodot c (rwplus c (.atom s :: r)) := by
  rw [rwgeneric_plain c _ r hlast (by simp) (by simp) (by simp), rwnoat, if_pos hat]

theorem hostTok_ne_at {t : Tok} (h : hostTok t = true) : t ≠ .at := by
  intro e; subst e; simp [hostTok] at h

theorem beforeAt_dot_host (hr : List Tok) (X : List Tok) (h : hr.all hostTok = true) :
    beforeAt (· = .dot) (hr ++ .at :: X) = hr.contains .dot := by
  rw [beforeAt_append _ _ _ (fun t ht => hostTok_ne_at (List.all_eq_true.mp h t ht)), Bool.eq_iff_iff]
  simp [beforeAt]

theorem beforeAt_lit_host (hr : List Tok) (X : List Tok) (h : hr.all hostTok = true) :
    beforeAt isLiteral (hr ++ .at :: X) = false := by
  rw [beforeAt_append _ _ _ (fun t ht => hostTok_ne_at (List.all_eq_true.mp h t ht))]
  have : hr.any isLiteral = false := by
    rw [List.any_eq_false]
    intro t ht
    have := List.all_eq_true.mp h t ht
    cases t with
    | literal _ => simp [hostTok] at this
    | _ => exact Bool.false_ne_true
  simp [this, beforeAt, isLiteral]

/-- the last two steps of `rwgeneric` on an address whose rightmost token is an atom (`plusdomain` = DOT followed by
tokens without '@', which is only needed when it is used) -/
theorem rwnodot_rwplus_atom (c : RwCfg) (s : Bytes) (r pt : List Tok)
    (hpd : s.getLast? = some 43 → c.plusdomain = .dot :: pt ∧ ∀ t ∈ pt, t ≠ Tok.at) :
    rwnodot c (rwplus c (.atom s :: r)) =
      if s.getLast? = some 43 then c.plusdomain.reverse ++ (.atom s.dropLast :: r)
      else if beforeAt (· = .dot) (.atom s :: r) || beforeAt isLiteral (.atom s :: r) then .atom s :: r
      else c.defaultdomain.reverse ++ (.atom s :: r) := by
  by_cases hplus : s.getLast? = some 43
  · obtain ⟨e, hpt⟩ := hpd hplus
    -- the dot of `plusdomain` stands before the '@': no default domain
    have hb : beforeAt (· = .dot) (c.plusdomain.reverse ++ (.atom s.dropLast :: r)) = true := by
      rw [e, beforeAt_append _ _ _ (fun t ht => by
        rcases List.mem_reverse.mp ht with _ | ⟨_, h⟩
        · simp
        · exact hpt t h)]
      simp
    simp only [rwplus, hplus, if_true, rwnodot, hb]
  · simp only [rwplus, hplus, if_false, rwnodot]
    cases beforeAt (· = .dot) (.atom s :: r) <;> cases beforeAt isLiteral (.atom s :: r) <;> rfl

theorem unquote_contains_dot (hs : List Tok) (h : hs.all hostTok = true) :
    (unquote hs).contains DOT = hs.contains .dot := by
  induction hs with
  | nil => simp [unquote]
  | cons t hs ih =>
    simp only [List.all_cons, Bool.and_eq_true] at h
    cases t with
    | dot => simp [unquote, unqTok, DOT]
    | atom s =>
      have hs' : s.all atomByte = true := by
        have := h.1; simp only [hostTok, Bool.and_eq_true] at this; exact this.2
      have hnd : s.contains DOT = false := by
        cases hc : s.contains DOT with
        | false => rfl
        | true =>
          have hm : DOT ∈ s := by simpa using hc
          exact absurd rfl (atomByte_facts (List.all_eq_true.mp hs' DOT hm)).dot
      have : (unquote (Tok.atom s :: hs)).contains DOT = (s.contains DOT || (unquote hs).contains DOT) := by
        simp [unquote, unqTok, List.contains_append]
      rw [this, hnd, ih h.2]
      simp [List.contains_cons]
    | _ => simp [hostTok] at h

theorem unquote_head_host (hs : List Tok) (h : hs.all hostTok = true) : (unquote hs).head? ≠ some 91 := by
  cases hs with
  | nil => simp [unquote]
  | cons t hs =>
    simp only [List.all_cons, Bool.and_eq_true] at h
    cases t with
    | dot => simp [unquote, unqTok]
    | atom s =>
      cases s with
      | nil => simp [hostTok] at h
      | cons c s =>
        have hc : atomByte c = true := by
          have := h.1; simp [hostTok] at this; exact this.1
        have := (atomByte_facts hc).lbrk
        simpa [unquote, unqTok] using this
    | _ => simp [hostTok] at h

theorem unquote_reverse_host_append (a b : List Tok) : unquote (a ++ b) = unquote a ++ unquote b := unquote_append a b

/-- **the last two steps of `rwgeneric` on `…@host`** (host a dot-atom ending in the atom `s`), as strings:
exactly `qualifyHost` of the host -/
theorem rw_host_strings (c : RwCfg) (sp : RwSpec) (h0 : List Tok) (s : Bytes) (X pt : List Tok)
    (hh : (h0 ++ [Tok.atom s]).all hostTok = true)
    (hdd : unquote c.defaultdomain = DOT :: sp.defaultdomain)
    (hpd : c.plusdomain = .dot :: pt) (hpt : ∀ t ∈ pt, t ≠ Tok.at) (hpu : unquote c.plusdomain = DOT :: sp.plusdomain) :
    addrString (rwnodot c (rwplus c ((h0 ++ [Tok.atom s]).reverse ++ .at :: X)))
      = unquote X.reverse ++ AT :: qualifyHost sp (unquote (h0 ++ [Tok.atom s])) := by
  have hs : s ≠ [] := by
    have := List.all_eq_true.mp hh (.atom s) (by simp)
    simp only [hostTok, Bool.and_eq_true, Bool.not_eq_true', List.isEmpty_eq_false_iff] at this
    exact this.1
  have hhead := unquote_head_host _ hh
  have hu : unquote (h0 ++ [Tok.atom s]) = unquote h0 ++ s := by
    rw [unquote_append]; simp [unquote, unqTok]
  have hlast : (unquote (h0 ++ [Tok.atom s])).getLast? = s.getLast? := by
    rw [hu]
    cases s with
    | nil => exact absurd rfl hs
    | cons x xs => rw [getLast?_append_cons]
  have hdl : (unquote (h0 ++ [Tok.atom s])).dropLast = unquote h0 ++ s.dropLast := by
    rw [hu]
    exact List.dropLast_append_of_ne_nil hs
  have hr : ((h0 ++ [Tok.atom s]).reverse).all hostTok = true := by rw [List.all_reverse]; exact hh
  have hbd := beforeAt_dot_host _ X hr
  have hbl := beforeAt_lit_host _ X hr
  rw [List.contains_reverse] at hbd
  rw [List.reverse_append, List.reverse_singleton, List.singleton_append, List.cons_append] at hbd hbl ⊢
  rw [rwnodot_rwplus_atom c s _ pt (fun _ => ⟨hpd, hpt⟩), hbd, hbl, Bool.or_false]
  simp only [qualifyHost, if_neg hhead, hlast, unquote_contains_dot _ hh]
  by_cases hplus : s.getLast? = some 43
  · simp only [hplus, if_true, addrString, hdl]
    simp [unquote_append, unquote, unqTok, hpu, AT]
  · simp only [hplus, if_false, addrString]
    by_cases hdot : (h0 ++ [Tok.atom s]).contains .dot = true
    · simp only [hdot, if_true]
      simp [unquote_append, unquote, unqTok, hu, AT]
    · simp only [hdot, if_false]
      simp [unquote_append, unquote, unqTok, hu, hdd, AT]

/-! ### `rwgeneric` keeps addresses clean -/

structure CleanCfg (c : RwCfg) : Prop where
  dh : c.defaulthost.all goodTok = true
  dd : c.defaultdomain.all cleanTok = true
  pd : c.plusdomain.all cleanTok = true

theorem dropThroughColon_all (p : Tok → Bool) (l : List Tok) (h : l.all p = true) : (dropThroughColon l).all p = true := by
  obtain ⟨z, hz⟩ := dropThroughColon_suffix l
  rw [hz, List.all_append, Bool.and_eq_true] at h
  exact h.2

theorem rwroute_good (a : List Tok) (h : a.all goodTok = true) : (rwroute a).all goodTok = true := by
  unfold rwroute
  split
  · rw [List.all_reverse]
    exact dropThroughColon_all _ _ (by rw [List.all_reverse]; exact h)
  · exact h

theorem rwextradot_good (a : List Tok) (h : a.all goodTok = true) : (rwextradot a).all goodTok = true := by
  unfold rwextradot
  split
  · simp only [List.all_cons, Bool.and_eq_true] at h; exact h.2
  · exact h

theorem rwextraat_good (a : List Tok) (h : a.all goodTok = true) : (rwextraat a).all goodTok = true := by
  unfold rwextraat
  split
  · simp only [List.all_cons, Bool.and_eq_true] at h; exact h.2
  · exact h

theorem rwnoat_good (c : RwCfg) (hc : CleanCfg c) (a : List Tok) (h : a.all goodTok = true) : (rwnoat c a).all goodTok = true := by
  unfold rwnoat
  split
  · exact h
  · simp [List.all_append, List.all_reverse, hc.dh, h]

theorem dropLast_atom_clean (s : Bytes) (h : goodTok (.atom s) = true) (hp : s.getLast? = some 43) :
    cleanTok (.atom s.dropLast) = true := by
  simp only [goodTok, cleanTok, Bool.and_eq_true, Bool.not_eq_true', List.isEmpty_eq_false_iff, bne_iff_ne, ne_eq,
    Tok.atom.injEq] at h
  obtain ⟨⟨hne, hall⟩, hnp⟩ := h
  have hs : s = s.dropLast ++ [43] := eq_dropLast_concat hp
  have hd : s.dropLast ≠ [] := by
    intro e; rw [e] at hs; exact hnp (by simpa using hs)
  simp only [cleanTok, Bool.and_eq_true, Bool.not_eq_true', List.isEmpty_eq_false_iff]
  refine ⟨hd, ?_⟩
  rw [List.all_eq_true] at hall ⊢
  intro x hx
  exact hall x ((List.dropLast_sublist s).subset hx)

theorem rwplus_clean (c : RwCfg) (hc : CleanCfg c) (a : List Tok) (h : a.all goodTok = true) : (rwplus c a).all cleanTok = true := by
  unfold rwplus
  split
  · rename_i s r
    simp only [List.all_cons, Bool.and_eq_true] at h
    split
    · rename_i hp
      simp [List.all_append, List.all_reverse, hc.pd, dropLast_atom_clean s h.1 hp, all_good_clean h.2]
    · simp [goodTok_clean h.1, all_good_clean h.2]
  · exact all_good_clean h

theorem rwnodot_clean (c : RwCfg) (hc : CleanCfg c) (a : List Tok) (h : a.all cleanTok = true) : (rwnodot c a).all cleanTok = true := by
  unfold rwnodot
  split
  · exact h
  · split
    · exact h
    · simp [List.all_append, List.all_reverse, hc.dd, h]

theorem rwgeneric_clean (c : RwCfg) (hc : CleanCfg c) (a : List Tok) (h : a.all goodTok = true) :
    (rwgeneric c a).all cleanTok = true := by
  have h1 := rwroute_good a h
  have h2 := rwextradot_good _ h1
  have h3 := rwextraat_good _ h2
  have h4 := rwnoat_good c hc _ h3
  have h5 := rwnodot_clean c hc _ (rwplus_clean c hc _ h4)
  unfold rwgeneric
  split
  · rfl
  · exact all_good_clean h
  · simp only []
    split
    · exact all_good_clean h1
    · split
      · exact all_good_clean h2
      · split
        · exact all_good_clean h3
        · exact h5

/-! ### the documented rewriting: configuration hypotheses (`CfgSpec`), `specString`, `specShape` -/

/-- the token lists `getcontrols` stores are the tokens of sane control values: `defaultdomain`/`plusdomain`
unquote to `.d` (plusdomain: DOT first, no '@'), `defaulthost` is `@` followed by a dot-atom ending in an atom -/

structure CfgSpec (c : RwCfg) (sp : RwSpec) : Prop where
  dd : unquote c.defaultdomain = DOT :: sp.defaultdomain
  pd : ∃ pt, c.plusdomain = .dot :: pt ∧ (∀ t ∈ pt, t ≠ Tok.at) ∧ unquote c.plusdomain = DOT :: sp.plusdomain
  dh : ∃ d0 s, c.defaulthost = .at :: (d0 ++ [Tok.atom s]) ∧ (d0 ++ [Tok.atom s]).all hostTok = true ∧
        unquote (d0 ++ [Tok.atom s]) = sp.defaulthost

theorem splitAtTok_some : ∀ (m a b : List Tok), splitAtTok m = some (a, b) → m = a ++ .at :: b ∧ Tok.at ∉ a := by
  intro m
  induction m with
  | nil => intro a b h; simp [splitAtTok] at h
  | cons t r ih =>
    intro a b h
    simp only [splitAtTok] at h
    split at h
    · rename_i ht
      simp only [Option.some.injEq, Prod.mk.injEq] at h
      obtain ⟨rfl, rfl⟩ := h
      exact ⟨by simp [ht], by simp⟩
    · rename_i ht
      cases hs : splitAtTok r with
      | none => simp [hs] at h
      | some p =>
        obtain ⟨a', b'⟩ := p
        simp only [hs, Option.some.injEq, Prod.mk.injEq] at h
        obtain ⟨rfl, rfl⟩ := h
        obtain ⟨e1, e2⟩ := ih a' b' hs
        refine ⟨by rw [e1]; simp, ?_⟩
        intro hm
        simp only [List.mem_cons] at hm
        rcases hm with hm | hm
        · exact ht hm.symm
        · exact e2 hm

theorem splitAtTok_none : ∀ (m : List Tok), splitAtTok m = none → Tok.at ∉ m := by
  intro m h hm
  obtain ⟨a, b, rfl, ha⟩ := List.eq_append_cons_of_mem hm
  rw [splitAtTok_append a b (fun t ht e => ha (e ▸ ht))] at h
  cases h

/-- **the envelope string the documentation prescribes for a mailbox** given as the reversed token list the
callback sees (`host-reversed @ local-reversed`, split at the first `@` from the right end): `local@host` rewritten by
`Spec.Addr.rewriteMailbox` -/
def specString (sp : RwSpec) (m : List Tok) : Bytes :=
  match splitAtTok m with
  | none => rewriteMailbox sp (unquote m.reverse) none
  | some (hr, lr) => rewriteMailbox sp (unquote lr.reverse) (some (unquote hr.reverse))

/-- the mailboxes `specString` is proved for: a lone box name not ending in a dot; or `local@host` with a non-empty
local part that is not a source route and a host that is one domain literal or a dot-atom of legal atoms ending in an atom -/
def specShape (m : List Tok) : Bool :=
  match splitAtTok m with
  | none => !m.isEmpty && m.head? != some .dot
  | some (hr, lr) => !lr.isEmpty && lr.getLast? != some .at &&
      (match hr with
       | [.literal _] => true
       | .atom _ :: _ => hr.all hostTok
       | _ => false)

theorem specShape_not_route {m : List Tok} (hs : specShape m = true) : m ≠ [] ∧ m.getLast? ≠ some .at := by
  unfold specShape at hs
  cases hsp : splitAtTok m with
  | none =>
    simp only [hsp, Bool.and_eq_true, Bool.not_eq_true', List.isEmpty_eq_false_iff] at hs
    exact ⟨hs.1, fun e => splitAtTok_none m hsp (List.mem_of_getLast? e)⟩
  | some p =>
    obtain ⟨hr, lr⟩ := p
    simp only [hsp, Bool.and_eq_true, Bool.not_eq_true', List.isEmpty_eq_false_iff, bne_iff_ne, ne_eq] at hs
    obtain ⟨e1, _⟩ := splitAtTok_some m hr lr hsp
    rw [e1]
    cases lr with
    | nil => exact absurd rfl hs.1.1
    | cons u v => exact ⟨by simp, by rw [getLast?_append_cons, List.getLast?_cons_cons]; exact hs.1.2⟩

end Nq.Lemmas.C17
