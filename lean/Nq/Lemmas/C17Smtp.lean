/-
  C17 lemmas: qmail-smtpd's addrparse run on what qmail-remote's addrmangle writes (SMTP side),
  and the command line in between.
-/
import Nq.Lemmas.C17Write
import Nq.Lemmas.SmtpBytes

namespace Nq.Lemmas.C17
open Nq Nq.Quote Nq.Token822 Nq.SmtpAddr Nq.Spec.Addr

/-- inside a quoted string written by `doit()` the copy loop of addrparse recovers the box -/
theorem copy_quoted (term : Byte) (box tail : Bytes) :
    copyAddr term false true (escape box ++ Quote.DQ :: tail) = box ++ copyAddr term false false tail := by
  induction box with
  | nil => simp [escape, copyAddr, Quote.DQ, Quote.BSL]
  | cons c box ih =>
    rcases escByte_cases c with ⟨he, _⟩ | ⟨he, _, _, h3, h4⟩
    · simp only [escape, he, List.cons_append, List.nil_append]
      simp [copyAddr, ih]
    · simp only [escape, he, List.cons_append, List.nil_append]
      simp [copyAddr, h3, h4, ih]

/-- bytes the copy loop passes through unchanged outside quotes -/
def smtpPlain (c : Byte) : Bool := c != 62 && c != 92 && c != 34

theorem copy_plain (s tail : Bytes) (h : s.all smtpPlain = true) :
    copyAddr 62 false false (s ++ tail) = s ++ copyAddr 62 false false tail := by
  induction s with
  | nil => simp
  | cons c s ih =>
    simp only [List.all_cons, Bool.and_eq_true, smtpPlain, bne_iff_ne, ne_eq] at h
    obtain ⟨⟨⟨h1, h2⟩, h3⟩, hs⟩ := h
    have h2' : c ≠ Quote.BSL := h2
    have h3' : c ≠ Quote.DQ := h3
    simp [copyAddr, h1, h2', h3', ih (by simpa [smtpPlain] using hs)]

theorem ok_smtpPlain (c : Byte) (h : okChar c = true) : smtpPlain c = true := by
  by_cases hd : c = DOT
  · subst hd; decide
  · have f := atomByte_facts (ok_atomByte h hd)
    have h6 : c ≠ 34 := f.dq
    have h8 : c ≠ 92 := f.bsl
    simp [smtpPlain, h6, h8, f.gt]

theorem afterFirst_skip (c : Byte) (pre r : Bytes) (h : c ∉ pre) : afterFirst c (pre ++ c :: r) = some r := by
  induction pre with
  | nil => simp [afterFirst]
  | cons x pre ih =>
    have hx : x ≠ c := fun e => h (by simp [e])
    simp [afterFirst, hx, ih (fun e => h (by simp [e]))]

/-- the mangled address never begins with '@', so no "source route" is stripped -/
theorem stripRoute_quote (box tail : Bytes) : stripRoute (quote box ++ AT :: tail) = quote box ++ AT :: tail := by
  unfold quote
  by_cases hn : quoteNeed box = true
  · simp [hn, doit, stripRoute, Quote.DQ, AT]
  · have hn' : quoteNeed box = false := by simpa using hn
    obtain ⟨hg, hok⟩ := goodDots_of_noNeed box hn'
    simp only [hn', Bool.false_eq_true, if_false]
    cases box with
    | nil => simp [goodDots] at hg
    | cons x xs =>
      have hx : okChar x = true := by simp at hok; exact hok.1
      have : x ≠ AT := by
        intro e; subst e
        simp [okChar_at] at hx
      simp [stripRoute, this]

theorem copy_mangled (box host : Bytes) (hh : smtpDomain host = true) :
    copyAddr 62 false false (quote box ++ AT :: host ++ [62]) = box ++ AT :: host := by
  have hhost : host.all smtpPlain = true := by
    simp only [smtpDomain, List.all_eq_true] at hh ⊢
    intro c hc
    have := hh c hc
    simp only [Bool.and_eq_true, bne_iff_ne, ne_eq] at this
    simp [smtpPlain, this.1.1.1.1, this.1.1.1.2, this.1.1.2]
  have htail : copyAddr 62 false false (AT :: host ++ [62]) = AT :: host := by
    have := copy_plain (AT :: host) [62] (by simp [hhost]; decide)
    simpa [copyAddr] using this
  unfold quote
  by_cases hn : quoteNeed box = true
  · simp only [hn, if_true, doit]
    have e : Quote.DQ :: (escape box ++ [Quote.DQ]) ++ AT :: host ++ [62]
        = Quote.DQ :: (escape box ++ Quote.DQ :: (AT :: host ++ [62])) := by simp
    rw [e]
    have : copyAddr 62 false false (Quote.DQ :: (escape box ++ Quote.DQ :: (AT :: host ++ [62])))
        = copyAddr 62 false true (escape box ++ Quote.DQ :: (AT :: host ++ [62])) := by
      simp [copyAddr, Quote.DQ, Quote.BSL]
    rw [this, copy_quoted, htail]
  · have hn' : quoteNeed box = false := by simpa using hn
    obtain ⟨_, hok⟩ := goodDots_of_noNeed box hn'
    simp only [hn', Bool.false_eq_true, if_false]
    have hb : box.all smtpPlain = true := by
      rw [List.all_eq_true] at hok ⊢
      exact fun c hc => ok_smtpPlain c (hok c hc)
    have e : box ++ AT :: host ++ [62] = box ++ (AT :: host ++ [62]) := by simp
    rw [e, copy_plain box _ hb, htail]

theorem addrmangle_split (box host : Bytes) (h : AT ∉ host) :
    addrmangle (box ++ AT :: host) = quote box ++ AT :: host := by
  simp [addrmangle, splitLast_append AT box host h]

theorem at_not_in_smtpDomain (host : Bytes) (hh : smtpDomain host = true) : AT ∉ host := by
  intro hmem
  have := List.all_eq_true.mp hh AT hmem
  simp [AT] at this

theorem localIp_id (cfg : Cfg) (box host : Bytes) (hat : AT ∉ host) (hl : isLocalLiteral cfg host = false) :
    localIp cfg (box ++ AT :: host) = box ++ AT :: host := by
  unfold localIp
  cases hlh : cfg.liphost with
  | none => rfl
  | some lh =>
    simp only [splitLast_append AT box host hat, List.drop_succ_cons, List.drop_zero]
    simp only [isLocalLiteral, hlh, Option.isSome_some, Bool.true_and] at hl
    cases hip : ipBracketAll host with
    | none => rfl
    | some ip =>
      simp only [hip] at hl
      have : ip ∉ cfg.ipme := by simpa using hl
      simp [this]

theorem addrparse_mangled (cfg : Cfg) (pre box host : Bytes) (hpre : (60 : Byte) ∉ pre)
    (hh : smtpDomain host = true) (hl : isLocalLiteral cfg host = false) :
    addrparse cfg (pre ++ 60 :: addrmangle (box ++ AT :: host) ++ [62])
      = if (box ++ AT :: host).length + 1 > 900 then none else some (box ++ AT :: host) := by
  have hat := at_not_in_smtpDomain host hh
  have e : pre ++ 60 :: addrmangle (box ++ AT :: host) ++ [62]
      = pre ++ 60 :: (quote box ++ AT :: host ++ [62]) := by
    rw [addrmangle_split box host hat]; simp
  have e2 : quote box ++ AT :: host ++ [62] = quote box ++ AT :: (host ++ [62]) := by simp
  unfold addrparse
  rw [e, afterFirst_skip 60 pre _ hpre]
  simp only []
  rw [e2, stripRoute_quote box (host ++ [62]), ← e2, copy_mangled box host hh, localIp_id cfg box host hat hl]

theorem lf_not_in_escape (box : Bytes) (h : LF ∉ box) : LF ∉ escape box :=
  escape_encQP box ▸ not_mem_encQP (by decide) _ box h

theorem lf_not_in_quote (box : Bytes) (h : LF ∉ box) : LF ∉ quote box := by
  unfold quote
  split
  · simp [doit, lf_not_in_escape box h, LF, Quote.DQ]
  · exact h

theorem lf_not_in_addrmangle (box host : Bytes) (hb : LF ∉ box) (hh : smtpDomain host = true) :
    LF ∉ addrmangle (box ++ AT :: host) := by
  rw [addrmangle_split box host (at_not_in_smtpDomain host hh)]
  have h1 : LF ∉ quote box := lf_not_in_quote box hb
  have h2 : LF ∉ host := by
    intro hmem
    have := List.all_eq_true.mp hh LF hmem
    simp [LF] at this
  simp [h1, h2, LF, AT]

/-- qmail-remote's side and qmail-smtpd's side model the same `commands()` line reader: the lemmas of
Lemmas/SmtpBytes.lean about `SmtpSession.readLine` apply -/
theorem readLine_eq_session : ∀ inp : Bytes, readLine inp = SmtpSession.readLine inp
  | [] => rfl
  | c :: r => by rw [readLine, SmtpSession.readLine, readLine_eq_session r]; rfl

theorem command_line (v arg rest : Bytes) (hv : ∀ c ∈ v, c ≠ SP ∧ c ≠ LF) (ha : LF ∉ arg)
    (hs : arg.head? ≠ some SP) :
    readLine (v ++ SP :: arg ++ [CR, LF] ++ rest) = some (v ++ SP :: arg ++ [CR], rest) ∧
    splitCmd (v ++ SP :: arg ++ [CR]) = (v, arg) := by
  constructor
  · have e : v ++ SP :: arg ++ [CR, LF] ++ rest = (v ++ SP :: arg ++ [CR]) ++ LF :: rest := by simp
    rw [e, readLine_eq_session]
    apply Nq.Lemmas.SmtpCmd.readLine_append
    have : LF ∉ v := fun h => (hv LF h).2 rfl
    simp [this, ha, LF, SP, CR]
  · have hp : ∀ c ∈ v, decide (c ≠ SP) = true := fun c hc => decide_eq_true (hv c hc).1
    simp only [splitCmd, dropLastCR, List.getLast?_concat, if_true, List.dropLast_concat]
    rw [List.takeWhile_append_of_pos hp, List.dropWhile_append_of_pos hp, List.takeWhile_cons_of_neg (by simp),
      List.dropWhile_cons_of_neg (by simp), List.append_nil]
    cases arg with
    | nil => rfl
    | cons c r =>
      have : c ≠ SP := fun h => hs (by rw [h]; rfl)
      simp [dropSpaces, this]

theorem mangled_command_line (v pre box host rest : Bytes) (hv : ∀ c ∈ v, c ≠ SP ∧ c ≠ LF)
    (hp : ∀ c ∈ pre, c ≠ SP ∧ c ≠ LF) (hb : LF ∉ box) (hh : smtpDomain host = true) :
    readLine (v ++ SP :: pre ++ 60 :: addrmangle (box ++ AT :: host) ++ [62, CR, LF] ++ rest)
        = some (v ++ SP :: pre ++ 60 :: addrmangle (box ++ AT :: host) ++ [62, CR], rest) ∧
    splitCmd (v ++ SP :: pre ++ 60 :: addrmangle (box ++ AT :: host) ++ [62, CR])
        = (v, pre ++ 60 :: addrmangle (box ++ AT :: host) ++ [62]) := by
  have hm := lf_not_in_addrmangle box host hb hh
  have hlf : LF ∉ pre := fun h => (hp LF h).2 rfl
  have hs : (pre ++ 60 :: addrmangle (box ++ AT :: host) ++ [62]).head? ≠ some SP := by
    cases pre with
    | nil => simp [SP]
    | cons c r => simpa using (hp c (by simp)).1
  have := command_line v (pre ++ 60 :: addrmangle (box ++ AT :: host) ++ [62]) rest hv (by simp [hlf, hm, LF]) hs
  exact ⟨by simpa using this.1, by simpa using this.2⟩

end Nq.Lemmas.C17
