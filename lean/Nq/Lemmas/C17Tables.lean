/-
  C17: the facts about the character tables regenerated from quote.c / token822.c (`Nq.Gen.quoteOk`, `quoteEsc`,
  `atomNotOk`, `atomcheck*`, `specials`, `unparseEsc`) on which the lemmas about the tokenizer and the writers
  rest: `specialTok` in closed form (`specialTok_spec`), what `atomok` and `atomByte` exclude (the structures `AtomokFacts`, `AtomByteFacts`, with named
  fields), the tokenizer's first step on the delimiters.  The closed form and the one place where two tables have to
  agree (`plainFacts_all`) are decided over all 256 byte values; what a single table says about its own members is read
  off its list.
  These are the "parser and quoter agree on the interface" obligations: if a table changes in the
  source, the generated file changes and these proofs are re-run.
-/
import Nq.Lemmas.Basic
import Nq.Quote
import Nq.Token822
import Nq.SmtpAddr

namespace Nq.Lemmas.C17
open Nq Nq.Quote Nq.Token822

/-- the single-character tokens, spelled out -/
def specialSpec (c : Byte) : Option Tok :=
  if c = 46 then some .dot else if c = 44 then some .comma else if c = 64 then some .at
  else if c = 60 then some .left else if c = 62 then some .right else if c = 58 then some .colon
  else if c = 59 then some .semi else none

theorem specialTok_eq : ∀ c, (specialTok c == specialSpec c) = true :=
  byte_forall (fun c => (specialTok c == specialSpec c) = true) (by decide +kernel)

theorem specialTok_spec (c : Byte) : specialTok c = specialSpec c := eq_of_beq (specialTok_eq c)

theorem specialTok_dot : specialTok DOT = some .dot := specialTok_spec DOT

theorem specialTok_at : specialTok AT = some .at := specialTok_spec AT

/-- what `atomok` excludes (the fourteen bytes of `Gen.atomNotOk`) -/
structure AtomokFacts (c : Byte) : Prop where
  special : specialTok c = none
  ws : isWs c = false
  lpar : c ≠ LPAR
  dq : c ≠ Token822.DQ
  lbrk : c ≠ LBRK
  gt : c ≠ 62
  atSign : c ≠ AT
  dot : c ≠ DOT
  lf : c ≠ LF
  cr : c ≠ CR

theorem atomok_facts {c : Byte} (h : atomok c = true) : AtomokFacts c := by
  have h' : c ∉ Gen.atomNotOk := by simpa [atomok] using h
  simp only [Gen.atomNotOk, List.mem_cons, List.not_mem_nil, or_false, not_or] at h'
  obtain ⟨h32, h9, h13, h10, h40, h91, h34, h60, h62, h59, h58, h64, h44, h46⟩ := h'
  refine ⟨?_, ?_, h40, h34, h91, h62, h64, h46, h10, h13⟩
  · rw [specialTok_spec]
    simp only [specialSpec, h46, h44, h64, h60, h62, h58, h59, if_false]
  · simp [isWs, h32, h9, h13, h10]

/-- an atom byte (`atomByte`): `atomok` accepts it and `atomcheck` does not object, so it is none of `Gen.atomcheckBad` either -/
structure AtomByteFacts (c : Byte) : Prop extends AtomokFacts c where
  rpar : c ≠ RPAR
  rbrk : c ≠ RBRK
  bsl : c ≠ Token822.BSL
  ok : atomok c = true
  notBad : atomBad c = false

theorem atomBad_facts {c : Byte} (h : atomBad c = false) : c ≠ RPAR ∧ c ≠ RBRK ∧ c ≠ Token822.BSL := by
  have h' : c ∉ Gen.atomcheckBad := by
    simp only [atomBad, Bool.or_eq_false_iff] at h
    simpa using h.2
  simpa [Gen.atomcheckBad] using h'

/-- The quoter's table inside the parser's: a byte that `quote_need` leaves unquoted (`ok[]`), other than `.`, is for
token822.c a byte of an atom that `atomcheck` lets stand.  A `Bool`, so that `plainFacts_all` decides it byte by byte. -/
def plainFacts (c : Byte) : Bool :=
  !(okChar c && c != DOT) || (atomok c && !atomBad c)

theorem plainFacts_all : ∀ c, plainFacts c = true :=
  byte_forall (fun c => plainFacts c = true) (by decide +kernel)

theorem special_atomok_false {c : Byte} (h : (specialTok c).isSome = true) : atomok c = false := by
  cases ha : atomok c
  · rfl
  · rw [(atomok_facts ha).special] at h
    exact absurd h (by decide)

theorem ws_facts {c : Byte} (h : isWs c = true) : specialTok c = none ∧ atomok c = false := by
  simp only [isWs, Bool.or_eq_true, beq_iff_eq] at h
  rcases h with ((rfl | rfl) | rfl) | rfl <;> decide

/-- '@' is never left unquoted by `quote_need` -/
theorem okChar_at : okChar AT = false := by decide

/-- the bytes `doit()` escapes are exactly CR LF `"` `\` -/
theorem quoteEsc_spec (c : Byte) :
    Gen.quoteEsc.contains c = (c == CR || c == LF || c == Quote.DQ || c == Quote.BSL) := by
  simp only [Gen.quoteEsc, List.contains_cons, List.contains_nil, Bool.or_false, Bool.or_assoc]

theorem quoteEsc_delims : Token822.DQ ∈ Gen.quoteEsc ∧ Token822.BSL ∈ Gen.quoteEsc := by decide

theorem stepTop_dq : stepTop Token822.DQ = (.quote [] false, []) := by decide
theorem stepTop_lbrk : stepTop LBRK = (.lit [] false, []) := by decide
theorem stepTop_at : stepTop AT = (.top, [.at]) := by decide
theorem stepTop_dot : stepTop DOT = (.top, [.dot]) := by decide
theorem stepTop_lpar : stepTop LPAR = (.comment 0 [] false, []) := by decide

theorem delim_not_atomok : atomok Token822.DQ = false ∧ atomok LBRK = false ∧ atomok LPAR = false := by decide

/-- `token822_unparse` puts a backslash before each of the five delimiters the tokenizer looks for -/
theorem unparseEsc_delims :
    Token822.DQ ∈ Gen.unparseEsc ∧ Token822.BSL ∈ Gen.unparseEsc ∧ RBRK ∈ Gen.unparseEsc ∧ LPAR ∈ Gen.unparseEsc ∧
    RPAR ∈ Gen.unparseEsc := by decide

end Nq.Lemmas.C17
