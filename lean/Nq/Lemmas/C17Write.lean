/-
  C17 lemmas: the writers.  What `quote`/`quote2` write for `local@domain` (header side) and what `token822_unparse`
  writes (in closed form, `unparse_weave`: the token texts, each preceded by an optional fold `LF SP` directly after a
  comma and the space `needspace` asks for, closed by `LF`, in front of which a last fold may stand when the list ends
  in a comma) are legal renderings of their tokens, so the tokenizer reads them back (`parse_glue`, `header_roundtrip_full`; for `token822_unparse` the pieces are `weave_render` and `weaveCts_ok`).
-/
import Nq.Lemmas.C17Lex
import Nq.Inject

namespace Nq.Lemmas.C17
open Nq Nq.Quote Nq.Token822 Nq.Spec.Addr Nq.Spec.Lex822

theorem unquote_append (a b : List Tok) : unquote (a ++ b) = unquote a ++ unquote b := by
  induction a with
  | nil => simp [unquote]
  | cons t a ih => simp [unquote, ih]

theorem unquote_dotAtomsAux (s cur : Bytes) : unquote (dotAtomsAux s cur) = cur ++ s := by
  fun_induction dotAtomsAux s cur with
  | case1 cur h => simp [List.isEmpty_iff.mp h, unquote]
  | case2 cur h => simp [unquote, unqTok]
  | case3 r cur ih => split <;> simp_all [unquote, unqTok]
  | case4 c r cur hd ih => simp [ih]

theorem dotAtomsAux_domainTok (s cur : Bytes) : (dotAtomsAux s cur).all isDomainTok = true := by
  fun_induction dotAtomsAux s cur with
  | case1 cur h => rfl
  | case2 cur h => rfl
  | case3 r cur ih => split <;> simp [isDomainTok, ih]
  | case4 c r cur hd ih => exact ih

theorem dotAtomsAux_noAt (s cur : Bytes) : ∀ t ∈ dotAtomsAux s cur, t ≠ Tok.at := by
  intro t ht h
  have := List.all_eq_true.mp (dotAtomsAux_domainTok s cur) t ht
  subst h
  simp [isDomainTok] at this

/-! ### quoted strings and domain literals -/

theorem escByte_cases (c : Byte) :
    (escByte c = [Quote.BSL, c] ∧ (c = CR ∨ c = LF ∨ c = Quote.DQ ∨ c = Quote.BSL)) ∨
    (escByte c = [c] ∧ c ≠ CR ∧ c ≠ LF ∧ c ≠ Quote.DQ ∧ c ≠ Quote.BSL) := by
  unfold escByte
  rw [quoteEsc_spec c]
  by_cases h1 : c = CR
  · left; simp [h1]
  · by_cases h2 : c = LF
    · left; simp [h2]
    · by_cases h3 : c = Quote.DQ
      · left; simp [h3]
      · by_cases h4 : c = Quote.BSL
        · left; simp [h4]
        · right; simp [h1, h2, h3, h4]

theorem escape_encQP (l : Bytes) : escape l = encQP (l.map (fun c => (c, Gen.quoteEsc.contains c))) :=
  esc_encQP _ rfl (fun _ _ => rfl) l

theorem encQP_plain (l : Bytes) : encQP (l.map (fun c => (c, false))) = l := by
  induction l with
  | nil => rfl
  | cons c l ih => simp [encQP, ih]

/-! ### quote2 splits where the address was put together -/

theorem splitLast_eq (c : Byte) : ∀ s : Bytes, splitLast c s = (splitLastB c s).map fun p => (p.1, c :: p.2)
  | [] => rfl
  | x :: r => by
    simp only [splitLast, splitLastB, splitLast_eq c r]
    cases splitLastB c r with
    | some p => rfl
    | none => by_cases h : x = c <;> simp [h]

theorem splitLast_append (c : Byte) (l d : Bytes) (h : c ∉ d) :
    splitLast c (l ++ c :: d) = some (l, c :: d) := by
  rw [splitLast_eq, splitLastB_append c d h l]; rfl

theorem quote2_split (l d : Bytes) (h : AT ∉ d) : quote2 (l ++ AT :: d) = quote l ++ AT :: d := by
  unfold quote2
  cases hl : l ++ AT :: d with
  | nil => simp at hl
  | cons x xs => rw [← hl]; simp [splitLast_append AT l d h]

/-! ### the shape of an unquoted local part -/

theorem after_last_dot {cur s : Bytes} (h : (cur ++ DOT :: s).getLast? ≠ some DOT) : s ≠ [] ∧ s.getLast? ≠ some DOT := by
  cases s with
  | nil => simp at h
  | cons b s => exact ⟨by simp, by rwa [getLast?_append_cons, List.getLast?_cons_cons] at h⟩

/-- the invariant of `dotAtomsAux s cur`, where `cur` is the word collected so far and `s` what is still to be
read: the next byte is a dot only after a non-empty word, `cur ++ s` is not empty and does not end with a dot,
and `s` has no two dots in a row; so every dot met stands between two non-empty words.  With `cur = []` it is
what `quote_need` checks. -/

def goodDots (s cur : Bytes) : Prop :=
  (cur ≠ [] ∨ s.head? ≠ some DOT) ∧ (cur ++ s ≠ []) ∧ (cur ++ s).getLast? ≠ some DOT ∧ hasDotDot s = false

theorem hasDotDot_tail (c : Byte) (s : Bytes) (h : hasDotDot (c :: s) = false) : hasDotDot s = false := by
  cases s with
  | nil => rfl
  | cons b s => simp [hasDotDot] at h ⊢; exact h.2

theorem dotAtoms_shape (s cur : Bytes) (h : goodDots s cur) : isDotAtomToks (dotAtomsAux s cur) = true := by
  fun_induction dotAtomsAux s cur with
  | case1 cur hc => exact absurd (by simpa using hc) h.2.1
  | case2 cur hc => rfl
  | case3 r cur ih =>
    obtain ⟨h1, h2, h3, h4⟩ := h
    have hcur : cur ≠ [] := by
      rcases h1 with h1 | h1
      · exact h1
      · simp at h1
    obtain ⟨hs, hl⟩ := after_last_dot h3
    have hg : goodDots r [] := by
      refine ⟨Or.inr ?_, hs, hl, hasDotDot_tail _ _ h4⟩
      cases r with
      | nil => simp
      | cons b s => simp [hasDotDot] at h4; simpa using h4.1
    simpa [hcur, isDotAtomToks] using ih hg
  | case4 c r cur hd ih =>
    obtain ⟨h1, h2, h3, h4⟩ := h
    exact ih ⟨Or.inl (by simp), by simp, by simpa using h3, hasDotDot_tail _ _ h4⟩

theorem goodDots_of_noNeed (l : Bytes) (h : quoteNeed l = false) : goodDots l [] ∧ l.all okChar = true := by
  simp only [quoteNeed, Bool.or_eq_false_iff, Bool.not_eq_false', beq_eq_false_iff_ne, ne_eq] at h
  obtain ⟨⟨⟨⟨h1, h2⟩, h3⟩, h4⟩, h5⟩ := h
  refine ⟨⟨Or.inr h3, ?_, by simpa using h4, h5⟩, h2⟩
  cases l <;> simp_all

theorem isLocalToks_of_dotAtom (loc : List Tok) (h : isDotAtomToks loc = true) : isLocalToks loc = true := by
  unfold isLocalToks
  split
  · rfl
  · exact h

theorem splitAtTok_append (a b : List Tok) (h : ∀ t ∈ a, t ≠ Tok.at) : splitAtTok (a ++ .at :: b) = some (a, b) := by
  induction a with
  | nil => simp [splitAtTok]
  | cons t a ih =>
    have ht : t ≠ .at := h t (by simp)
    have := ih (fun t' ht' => h t' (by simp [ht']))
    simp [splitAtTok, ht, this]

def localToks (l : Bytes) : List Tok := if quoteNeed l then [.quote l] else dotAtomsAux l []

theorem unquote_localToks (l : Bytes) : unquote (localToks l) = l := by
  unfold localToks
  split
  · simp [unquote, unqTok]
  · simpa using unquote_dotAtomsAux l []

theorem localToks_noAt (l : Bytes) : ∀ t ∈ localToks l, t ≠ Tok.at := by
  unfold localToks
  split
  · simp
  · exact dotAtomsAux_noAt l []

theorem isLocalToks_localToks (l : Bytes) : isLocalToks (localToks l) = true := by
  unfold localToks
  split
  · rfl
  · rename_i hn
    exact isLocalToks_of_dotAtom _ (dotAtoms_shape l [] (goodDots_of_noNeed l (by simpa using hn)).1)

theorem localToks_ne_nil (l : Bytes) : localToks l ≠ [] := by
  intro e
  have := isLocalToks_localToks l
  rw [e] at this
  exact absurd this (by decide)

/-! ### domains -/

theorem isDomainLiteral_split {d : Bytes} (h : isDomainLiteral d = true) :
    ∃ x, d = LBRK :: (x ++ [RBRK]) ∧ x.all (fun c => c != 93 && c != 92 && c != 64) = true := by
  unfold isDomainLiteral at h
  split at h
  · rename_i r
    simp only [Bool.and_eq_true, beq_iff_eq] at h
    exact ⟨r.dropLast, congrArg (LBRK :: ·) (eq_dropLast_concat h.1), h.2⟩
  · exact absurd h (by simp)

theorem at_not_in_sane (d : Bytes) (hd : saneDomain d = true) : AT ∉ d := by
  simp only [saneDomain, Bool.or_eq_true] at hd
  intro hmem
  rcases hd with hd | hd
  · have := List.all_eq_true.mp hd AT hmem
    simp [okChar_at] at this
  · obtain ⟨x, rfl, hx⟩ := isDomainLiteral_split hd
    have : AT ∈ x := by simpa [AT, LBRK, RBRK] using hmem
    simpa [AT] using List.all_eq_true.mp hx AT this

/-! ### `sepOk` of a reversed list, read forwards -/

-- `sepOk` is what `token822_addrlist` needs of one mailbox (`C17Addrlist`); it is defined here because
-- `header_roundtrip_full` below proves it of what `quote2` writes
def isWordTok : Tok → Bool
  | .atom _ | .quote _ | .literal _ => true
  | _ => false

def isSepTok : Tok → Bool
  | .at | .dot => true
  | _ => false

/-- tokens of ONE plain mailbox, in the order the parser meets them (right to left): words and
`@`/`.` only, and no two words adjacent (`w` = a word may come next) -/
def sepOk : Bool → List Tok → Bool
  | _, [] => true
  | w, t :: r => if isWordTok t then w && sepOk false r else isSepTok t && sepOk true r

/-- `sepOk true l.reverse`, read left to right: words and `@`/`.` only, a word is never followed by a word -/

def fwdOk : List Tok → Bool
  | [] => true
  | t :: r => (if isWordTok t then (match r with | [] => true | u :: _ => !isWordTok u) else isSepTok t) && fwdOk r

/-- `sepOk`'s flag ("a word may come next") after the list has been read, started with `w`: still `w` for the
empty list, otherwise whether the last token is no word -/
def endB : Bool → List Tok → Bool
  | w, [] => w
  | _, t :: r => endB (!isWordTok t) r

theorem sepOk_snoc (l : List Tok) (t : Tok) : ∀ w, sepOk w (l ++ [t]) = (sepOk w l && (if isWordTok t then endB w l else isSepTok t)) := by
  induction l with
  | nil => intro w; by_cases h : isWordTok t = true <;> simp [sepOk, endB, h]
  | cons u l ih =>
    intro w
    by_cases hu : isWordTok u = true
    · simp [sepOk, endB, hu, ih, Bool.and_assoc]
    · simp [sepOk, endB, hu, ih, Bool.and_assoc]

theorem endB_snoc (l : List Tok) (t : Tok) : ∀ w, endB w (l ++ [t]) = !isWordTok t := by
  induction l with
  | nil => intro w; rfl
  | cons u l ih => intro w; simp [endB, ih]

theorem sepOk_reverse (l : List Tok) (h : fwdOk l = true) : sepOk true l.reverse = true := by
  induction l with
  | nil => rfl
  | cons t r ih =>
    simp only [fwdOk, Bool.and_eq_true] at h
    rw [List.reverse_cons, sepOk_snoc, ih h.2]
    cases r with
    | nil => simpa [endB] using h.1
    | cons u r' =>
      rw [List.reverse_cons, endB_snoc]
      simpa using h.1

theorem fwdOk_word_cons {t : Tok} (hw : isWordTok t = true) {tail : List Tok} (ht : fwdOk tail = true)
    (hh : ∀ u r, tail = u :: r → isWordTok u = false) : fwdOk (t :: tail) = true := by
  cases tail with
  | nil => simp [fwdOk, hw]
  | cons u r =>
    have e : fwdOk (t :: u :: r) = (!isWordTok u && fwdOk (u :: r)) := by simp [fwdOk, hw]
    rw [e, hh u r rfl, ht]; rfl

theorem fwdOk_dotAtoms (s : Bytes) (tail : List Tok) (ht : fwdOk tail = true)
    (hh : ∀ u r, tail = u :: r → isWordTok u = false) (cur : Bytes) :
    fwdOk (dotAtomsAux s cur ++ tail) = true := by
  fun_induction dotAtomsAux s cur with
  | case1 cur hc => exact ht
  | case2 cur hc => exact fwdOk_word_cons (t := .atom cur) rfl ht hh
  | case3 r cur ih => split <;> simpa [fwdOk, isWordTok, isSepTok] using ih
  | case4 c r cur hd ih => exact ih

/-! ### dot-atom hosts -/

/-- tokens of a host name written as a dot-atom: dots and legal atoms -/
def hostTok : Tok → Bool
  | .dot => true
  | .atom s => !s.isEmpty && s.all atomByte
  | _ => false

theorem dotAtomsAux_hostTok (s : Bytes) (hs : s.all okChar = true) (cur : Bytes) (hc : cur.all atomByte = true) :
    (dotAtomsAux s cur).all hostTok = true := by
  fun_induction dotAtomsAux s cur with
  | case1 cur h => rfl
  | case2 cur h => simpa [hostTok, h] using hc
  | case3 r cur ih =>
    simp only [List.all_cons, Bool.and_eq_true] at hs
    have := ih hs.2 rfl
    split
    · simpa [hostTok] using this
    · rename_i h
      simpa [hostTok, h, this] using hc
  | case4 c r cur hd ih =>
    simp only [List.all_cons, Bool.and_eq_true] at hs
    exact ih hs.2 (by simp [hc, ok_atomByte hs.1 hd])

theorem dotAtomsAux_last (s cur : Bytes) (hne : cur ++ s ≠ []) (hl : (cur ++ s).getLast? ≠ some DOT) :
    ∃ h0 a, dotAtomsAux s cur = h0 ++ [Tok.atom a] := by
  fun_induction dotAtomsAux s cur with
  | case1 cur h => exact absurd (by simpa using h) hne
  | case2 cur h => exact ⟨[], cur, rfl⟩
  | case3 r cur ih =>
    obtain ⟨hs, hl'⟩ := after_last_dot hl
    obtain ⟨h0, a, e⟩ := ih hs hl'
    exact ⟨_ ++ h0, a, by rw [e, List.append_assoc]⟩
  | case4 c r cur hd ih => exact ih (by simp) (by simpa using hl)

theorem host_tokens (d : Bytes) (hd : d.all okChar = true) (hne : d ≠ []) (hl : d.getLast? ≠ some DOT) :
    ∃ h0 s, dotAtomsAux d [] = h0 ++ [Tok.atom s] ∧ (h0 ++ [Tok.atom s]).all hostTok = true ∧ unquote (h0 ++ [Tok.atom s]) = d := by
  obtain ⟨h0, s, e⟩ := dotAtomsAux_last d [] (by simpa using hne) (by simpa using hl)
  refine ⟨h0, s, e, ?_, ?_⟩
  · rw [← e]; exact dotAtomsAux_hostTok d hd [] (by simp)
  · rw [← e]; simpa using unquote_dotAtomsAux d []

/-! ### the header round trip, with the token facts `token822_addrlist` needs -/

theorem fwdOk_localToks (l : Bytes) (tail : List Tok) (ht : fwdOk tail = true)
    (hh : ∀ u r, tail = u :: r → isWordTok u = false) : fwdOk (localToks l ++ tail) = true := by
  unfold localToks
  split
  · exact fwdOk_word_cons (t := .quote l) rfl ht hh
  · exact fwdOk_dotAtoms l tail ht hh []

/-- tokens written one after the other, no white space between them -/
def glue (ks : List CTok) : List (Bytes × CTok) := ks.map (([] : Bytes), ·)

theorem render_glue (ks : List CTok) (tr : Bytes) : render (glue ks) tr = ks.flatMap CTok.text ++ tr := by
  induction ks with
  | nil => rfl
  | cons k r ih => simp [glue, render, ← ih]

theorem isAtom_word {k : CTok} (h : k.isAtom = true) : isWordTok k.tok = true := by
  cases k <;> simp [CTok.isAtom] at h <;> rfl

theorem sepsOk_glue (ks : List CTok) (h : fwdOk (ks.map CTok.tok) = true) :
    ∀ pa, (pa = true → ∀ k r, ks = k :: r → isWordTok k.tok = false) → sepsOk pa (glue ks) = true := by
  induction ks with
  | nil => intro _ _; rfl
  | cons k r ih =>
    intro pa hpa
    simp only [List.map_cons, fwdOk, Bool.and_eq_true] at h
    have hr := ih h.2 k.isAtom (fun hk k' r' e => by
      have := h.1
      rw [isAtom_word hk, if_pos rfl, e] at this
      simpa using this)
    cases hp : pa with
    | false => simpa [glue, sepsOk] using hr
    | true =>
      have hk : k.isAtom = false := by
        cases hk : k.isAtom with
        | false => rfl
        | true => have := hpa hp k r rfl; rw [isAtom_word hk] at this; cases this
      simpa [glue, sepsOk, hk] using hr

theorem parse_glue (ks : List CTok) (hok : ks.all CTok.ok = true) (hf : fwdOk (ks.map CTok.tok) = true) :
    parse (ks.flatMap CTok.text) = some (ks.map CTok.tok) := by
  have := parse_render (glue ks) [] rfl (by simpa [glue, List.all_map] using hok)
    (sepsOk_glue ks hf false (fun h => by cases h))
  rw [render_glue, List.append_nil] at this
  simpa [glue, Function.comp_def] using this

/-! ### what `quote` writes -/

theorem hostTok_clean {t : Tok} (h : hostTok t = true) : cleanTok t = true := by
  cases t <;> simp_all [hostTok, cleanTok]

theorem hostTok_text {t : Tok} (h : hostTok t = true) : (canon t).text = unqTok t := by
  cases t <;> simp_all [hostTok, canon, CTok.text, unqTok]

theorem host_glue (ts : List Tok) (h : ts.all hostTok = true) :
    (ts.map canon).all CTok.ok = true ∧ (ts.map canon).map CTok.tok = ts ∧ (ts.map canon).flatMap CTok.text = unquote ts := by
  induction ts with
  | nil => exact ⟨rfl, rfl, rfl⟩
  | cons t r ih =>
    simp only [List.all_cons, Bool.and_eq_true] at h
    obtain ⟨i1, i2, i3⟩ := ih h.2
    exact ⟨by rw [List.map_cons, List.all_cons, canon_ok t (hostTok_clean h.1), i1]; rfl,
      by rw [List.map_cons, List.map_cons, canon_tok, i2],
      by rw [List.map_cons, List.flatMap_cons, hostTok_text h.1, i3]; rfl⟩

/-- `"` and backslash are among the bytes `doit()` escapes -/
theorem quoteEsc_ok (l : Bytes) : (CTok.quote (l.map fun c => (c, Gen.quoteEsc.contains c))).ok = true := by
  simp only [CTok.ok, List.all_map, List.all_eq_true, Function.comp_apply, Bool.or_and_distrib_left, Bool.and_eq_true]
  exact fun c _ => ⟨marked_or_ne quoteEsc_delims.1 c, marked_or_ne quoteEsc_delims.2 c⟩

/-- a string of `ok[]` bytes is a legal rendering of its dot-atom tokens -/
theorem dotAtom_cts (d : Bytes) (hd : d.all okChar = true) :
    ((dotAtomsAux d []).map canon).all CTok.ok = true ∧ ((dotAtomsAux d []).map canon).map CTok.tok = dotAtomsAux d [] ∧
    ((dotAtomsAux d []).map canon).flatMap CTok.text = d ∧ fwdOk (dotAtomsAux d []) = true := by
  obtain ⟨h1, h2, h3⟩ := host_glue _ (dotAtomsAux_hostTok d hd [] rfl)
  exact ⟨h1, h2, by rw [h3]; simpa using unquote_dotAtomsAux d [], by simpa using fwdOk_dotAtoms d [] rfl (by simp) []⟩

/-- the concrete tokens `quote` writes for a local part -/
def localCts (l : Bytes) : List CTok :=
  if quoteNeed l then [.quote (l.map fun c => (c, Gen.quoteEsc.contains c))] else (dotAtomsAux l []).map canon

theorem localCts_spec (l : Bytes) :
    (localCts l).all CTok.ok = true ∧ (localCts l).map CTok.tok = localToks l ∧ (localCts l).flatMap CTok.text = quote l := by
  unfold localCts localToks quote
  by_cases hn : quoteNeed l = true
  · simp only [hn, if_true]
    refine ⟨by rw [List.all_cons, quoteEsc_ok]; rfl, by simp [CTok.tok, Function.comp_def], ?_⟩
    simp [CTok.text, doit, escape_encQP, Quote.DQ, Token822.DQ]
  · simp only [hn, if_false, Bool.false_eq_true]
    obtain ⟨h1, h2, h3, _⟩ := dotAtom_cts l (goodDots_of_noNeed l (by simpa using hn)).2
    exact ⟨h1, h2, h3⟩

theorem domain_cts (d : Bytes) (hd : saneDomain d = true) :
    ∃ ks : List CTok, ks.all CTok.ok = true ∧ ks.flatMap CTok.text = d ∧ unquote (ks.map CTok.tok) = d ∧
      (ks.map CTok.tok).all isDomainTok = true ∧ fwdOk (ks.map CTok.tok) = true := by
  simp only [saneDomain, Bool.or_eq_true] at hd
  rcases hd with hd | hd
  · obtain ⟨h1, h2, h3, h4⟩ := dotAtom_cts d hd
    refine ⟨_, h1, h3, ?_, ?_, ?_⟩ <;> rw [h2]
    · simpa using unquote_dotAtomsAux d []
    · exact dotAtomsAux_domainTok d []
    · exact h4
  · obtain ⟨x, rfl, hx⟩ := isDomainLiteral_split hd
    refine ⟨[.literal (x.map fun c => (c, false))], ?_, ?_, ?_, rfl, rfl⟩
    · simp only [List.all_cons, List.all_nil, Bool.and_true, CTok.ok, List.all_map, List.all_eq_true, Function.comp_apply]
      intro c hc
      have := List.all_eq_true.mp hx c hc
      simp only [Bool.and_eq_true] at this
      simpa using this.1
    · simp [CTok.text, encQP_plain]
    · simp [CTok.tok, unquote, unqTok, Function.comp_def]

/-- `quote l ++ AT :: d` is what `quote2` writes for `l@d` (`quote2_split`); the domain is given as concrete tokens -/
theorem parse_quote_at (l : Bytes) (ks : List CTok) (hok : ks.all CTok.ok = true) (hf : fwdOk (ks.map CTok.tok) = true) :
    parse (quote l ++ AT :: ks.flatMap CTok.text) = some (localToks l ++ .at :: ks.map CTok.tok) ∧
    fwdOk (localToks l ++ .at :: ks.map CTok.tok) = true := by
  obtain ⟨l1, l2, l3⟩ := localCts_spec l
  have hf' : fwdOk (localToks l ++ .at :: ks.map CTok.tok) = true :=
    fwdOk_localToks l _ (by simp [fwdOk, isWordTok, isSepTok, hf]) (by simp [isWordTok])
  have hp := parse_glue (localCts l ++ .special AT :: ks) (by simp [l1, hok]; decide) (by
    simpa [l2, CTok.tok, specialTok_at] using hf')
  exact ⟨by simpa [l2, l3, CTok.text, CTok.tok, specialTok_at] using hp, hf'⟩

theorem parse_quote (s : Bytes) : parse (quote s) = some (localToks s) := by
  obtain ⟨l1, l2, l3⟩ := localCts_spec s
  have := parse_glue (localCts s) l1 (by rw [l2]; simpa using fwdOk_localToks s [] rfl (by simp))
  rwa [l2, l3] at this

/-- the control values as qmail-inject's `getcontrols` parses them: `"." ++ defaultdomain`, `"." ++ plusdomain`, `"@" ++ defaulthost` -/
theorem parse_sep_plain (d : Bytes) (hd : d.all okChar = true) (c : Byte) (t : Tok) (hc : specialTok c = some t)
    (hw : isSepTok t = true) : parse (c :: d) = some (t :: dotAtomsAux d []) := by
  obtain ⟨h1, h2, h3, h4⟩ := dotAtom_cts d hd
  have hw' : isWordTok t = false := by cases t <;> simp_all [isSepTok, isWordTok]
  have := parse_glue (.special c :: (dotAtomsAux d []).map canon) (by simp [CTok.ok, hc, h1]) (by
    simp only [List.map_cons, CTok.tok, hc, Option.getD_some, h2, fwdOk, hw', hw, Bool.false_eq_true, if_false, Bool.true_and]
    exact h4)
  simpa [CTok.text, CTok.tok, hc, h2, h3] using this

theorem header_roundtrip_full (l d : Bytes) (hd : saneDomain d = true) :
    ∃ ts, parse (quote2 (l ++ AT :: d)) = some ts ∧ unquote ts = l ++ AT :: d ∧ mailboxShape ts = true ∧
      ts ≠ [] ∧ sepOk true ts.reverse = true := by
  obtain ⟨ks, k1, k2, k3, k4, k5⟩ := domain_cts d hd
  obtain ⟨hp, hf⟩ := parse_quote_at l ks k1 k5
  rw [quote2_split l d (at_not_in_sane d hd)]
  refine ⟨localToks l ++ .at :: ks.map CTok.tok, by rw [← k2]; exact hp, ?_, ?_, by simp, sepOk_reverse _ hf⟩
  · rw [unquote_append, unquote_localToks]
    simp [unquote, unqTok, k3]
  · simp only [mailboxShape, splitAtTok_append _ _ (localToks_noAt l)]
    simp [isLocalToks_localToks, k4]

/-- a command-line recipient `local@host` as `argAddress` tokenizes it (`quote2`, then `token822_parse`), for a host
of `ok[]` bytes: the local part is one quoted string or a dot-atom, the host a dot-atom ending in an atom -/
theorem arg_tokens (l d : Bytes) (hd : d.all okChar = true) (hne : d ≠ []) (hl : d.getLast? ≠ some DOT) :
    ∃ ls h0 s, parse (quote2 (l ++ AT :: d)) = some (ls ++ .at :: (h0 ++ [Tok.atom s])) ∧ unquote ls = l ∧ ls ≠ [] ∧
      ls.head? ≠ some .at ∧ (h0 ++ [Tok.atom s]).all hostTok = true ∧ unquote (h0 ++ [Tok.atom s]) = d := by
  obtain ⟨h0, s, e, hh, hu⟩ := host_tokens d hd hne hl
  obtain ⟨g1, g2, g3, g4⟩ := dotAtom_cts d hd
  rw [e] at g1 g2 g3 g4
  have hp := (parse_quote_at l _ g1 (by rw [g2]; exact g4)).1
  rw [g2, g3] at hp
  rw [quote2_split l d (at_not_in_sane d (by simp [saneDomain, hd]))]
  refine ⟨localToks l, h0, s, hp, unquote_localToks l, localToks_ne_nil l, ?_, hh, hu⟩
  intro h
  exact localToks_noAt l .at (List.mem_of_mem_head? h) rfl

/-! ### the second pass in closed form -/

/-- the text part of `ustep` (before the comma's `NSUW`) -/

def utext (u : USt) (t : Tok) : USt :=
  { u with out := (if needspace u.last t then u.out ++ [SP] else u.out) ++ tokText t, last := some t }

theorem ustep_eq (n : Nat) (u : USt) (t : Tok) :
    ustep n u t = if t = .comma then nsuw n (utext u t) else utext u t := by
  simp [ustep, utext]

theorem take_drop_two {α : Type} (A B : List α) (x y : α) :
    (A ++ x :: y :: B).take A.length = A ∧ (A ++ x :: y :: B).drop (A.length + 2) = B := by
  constructor
  · simp
  · have h : A ++ x :: y :: B = (A ++ [x, y]) ++ B := by simp
    have hl : A.length + 2 = (A ++ [x, y]).length := by simp
    rw [h, hl, List.drop_left]

theorem nsuw_none (n : Nat) (u : USt) (hle : u.linee = none) :
    (nsuw n u).out = u.out ++ [LF, SP] ∧ (nsuw n u).last = u.last ∧ (nsuw n u).linee = some u.out.length := by
  unfold nsuw
  rw [hle]
  exact ⟨rfl, rfl, rfl⟩

theorem nsuw_some (n : Nat) (u : USt) (e : Nat) (A B : Bytes) (hle : u.linee = some e)
    (h1 : u.out = A ++ LF :: SP :: B) (h2 : A.length = e) :
    ∃ o, (o = A ++ B ∨ o = u.out) ∧ (nsuw n u).out = o ++ [LF, SP] ∧ (nsuw n u).last = u.last ∧
      (nsuw n u).linee = some o.length := by
  unfold nsuw
  rw [hle]
  simp only []
  split
  · obtain ⟨ht, hd⟩ := take_drop_two A B LF SP
    rw [← h1, h2] at ht hd
    refine ⟨A ++ B, Or.inl rfl, by simp [ht, hd], rfl, ?_⟩
    simp only [h1, List.length_append, List.length_cons]
    congr 1
  · exact ⟨u.out, Or.inr rfl, rfl, rfl, rfl⟩

def sepOf (last : Option Tok) (t : Tok) : Bytes := if needspace last t then [SP] else []

def foldOf (b : Bool) : Bytes := if b then [LF, SP] else []

/-- the output for tokens paired with "a fold stands in front of it"; `l` is the token written before -/
def weave : Option Tok → List (Bool × Tok) → Bytes
  | _, [] => []
  | l, (b, t) :: r => foldOf b ++ (sepOf l t ++ (tokText t ++ weave (some t) r))

def lastTok : Option Tok → List (Bool × Tok) → Option Tok
  | l, [] => l
  | _, (_, t) :: r => lastTok (some t) r

/-- a fold stands only directly after a comma -/
def foldsOk : Option Tok → List (Bool × Tok) → Bool
  | _, [] => true
  | l, (b, t) :: r => (!b || l == some .comma) && foldsOk (some t) r

/-- the tokens since the last comma: only the first can get a fold in front -/
def seg (b : Bool) : List Tok → List (Bool × Tok)
  | [] => []
  | t :: r => (b, t) :: r.map (false, ·)

theorem weave_append (a b : List (Bool × Tok)) : ∀ l, weave l (a ++ b) = weave l a ++ weave (lastTok l a) b := by
  induction a with
  | nil => intro l; rfl
  | cons p a ih => intro l; obtain ⟨f, t⟩ := p; simp [weave, lastTok, ih]

theorem lastTok_append (a b : List (Bool × Tok)) : ∀ l, lastTok l (a ++ b) = lastTok (lastTok l a) b := by
  induction a with
  | nil => intro l; rfl
  | cons p a ih => intro l; obtain ⟨f, t⟩ := p; simp [lastTok, ih]

theorem foldsOk_append (a b : List (Bool × Tok)) :
    ∀ l, foldsOk l (a ++ b) = (foldsOk l a && foldsOk (lastTok l a) b) := by
  induction a with
  | nil => intro l; rfl
  | cons p a ih => intro l; obtain ⟨f, t⟩ := p; simp [foldsOk, lastTok, ih, Bool.and_assoc]

theorem seg_snoc (b : Bool) (B : List Tok) (t : Tok) :
    seg b (B ++ [t]) = seg b B ++ [(if B = [] then b else false, t)] := by
  cases B with
  | nil => rfl
  | cons x r => simp [seg]

theorem seg_tokens (b : Bool) (B : List Tok) : (seg b B).map (·.2) = B := by
  cases B with
  | nil => rfl
  | cons x r => simp [seg, Function.comp_def]

theorem lastTok_seg (b : Bool) (B : List Tok) (l : Option Tok) : lastTok l (seg b B) = lastTok l (seg false B) := by
  cases B <;> rfl

theorem weave_seg (b : Bool) (B : List Tok) (hB : B ≠ []) (l : Option Tok) :
    weave l (seg b B) = foldOf b ++ weave l (seg false B) := by
  cases B with
  | nil => exact absurd rfl hB
  | cons x r => simp [seg, weave, foldOf]

theorem foldsOk_seg (b : Bool) (B : List Tok) (l : Option Tok) (h : b = true → l = some .comma) :
    foldsOk l (seg b B) = true := by
  cases B with
  | nil => rfl
  | cons x r =>
    have hr : ∀ l', foldsOk l' (r.map (false, ·)) = true := by
      induction r with
      | nil => intro _; rfl
      | cons y r ih => intro l'; simp [foldsOk, ih]
    cases b with
    | false => simp [seg, foldsOk, hr]
    | true => simp [seg, foldsOk, hr, h rfl]

/-- the state of the second pass after the tokens `done`: `A` are the tokens up to the last comma with their folds
decided, `B` those since, and `f` says whether the tentative fold between them is there -/
structure WovenAs (u : USt) (done : List Tok) (A : List (Bool × Tok)) (B : List Tok) (f : Bool) : Prop where
  toks : A.map (·.2) ++ B = done
  folds : foldsOk none A = true
  out : u.out = weave none A ++ (foldOf f ++ weave (lastTok none A) (seg false B))
  last : u.last = lastTok (lastTok none A) (seg false B)
  comma : f = true → lastTok none A = some .comma
  linee : u.linee = if f then some (weave none A).length else none

def Woven (u : USt) (done : List Tok) : Prop := ∃ A B f, WovenAs u done A B f

/-- `NSUW` on such a state: the tentative fold is kept or deleted, a new one is written at the end -/
theorem nsuw_woven (n : Nat) (u : USt) (A : List (Bool × Tok)) (B : List Tok) (f : Bool)
    (hout : u.out = weave none A ++ (foldOf f ++ weave (lastTok none A) (seg false B)))
    (hle : u.linee = if f then some (weave none A).length else none) :
    ∃ f', (f' = true → f = true) ∧
      (nsuw n u).out = weave none A ++ (foldOf f' ++ weave (lastTok none A) (seg false B)) ++ [LF, SP] ∧
      (nsuw n u).last = u.last ∧
      (nsuw n u).linee = some (weave none A ++ (foldOf f' ++ weave (lastTok none A) (seg false B))).length := by
  cases f with
  | false =>
    obtain ⟨a, b, c⟩ := nsuw_none n u hle
    exact ⟨false, fun h => h, by rw [a, hout], b, by rw [c, hout]⟩
  | true =>
    obtain ⟨o, ho, a, b, c⟩ := nsuw_some n u _ (weave none A) (weave (lastTok none A) (seg false B)) hle hout rfl
    rcases ho with rfl | rfl
    · exact ⟨false, (fun h => by cases h), by rw [a]; rfl, b, by rw [c]; rfl⟩
    · exact ⟨true, fun h => h, by rw [a, hout], b, by rw [c, hout]⟩

theorem ustep_woven (n : Nat) (u : USt) (done : List Tok) (t : Tok) (h : Woven u done) :
    Woven (ustep n u t) (done ++ [t]) := by
  obtain ⟨A, B, f, h⟩ := h
  -- the text part: the token joins `B`
  have hB1 : weave (lastTok none A) (seg false (B ++ [t]))
      = weave (lastTok none A) (seg false B) ++ (sepOf u.last t ++ tokText t) := by
    rw [seg_snoc, weave_append, ← h.last]
    simp [weave, foldOf]
  have hout1 : (utext u t).out = weave none A ++ (foldOf f ++ weave (lastTok none A) (seg false (B ++ [t]))) := by
    rw [hB1]
    simp only [utext, h.out, sepOf]
    split <;> simp
  have hlast1 : (utext u t).last = lastTok (lastTok none A) (seg false (B ++ [t])) := by
    rw [seg_snoc, lastTok_append]; rfl
  rw [ustep_eq]
  split
  · -- a comma: the tokens of `B` are settled
    rename_i htc
    obtain ⟨f', hf', a, b, c⟩ := nsuw_woven n (utext u t) A (B ++ [t]) f hout1 h.linee
    have hne : B ++ [t] ≠ [] := by simp
    have hw : weave none (A ++ seg f' (B ++ [t]))
        = weave none A ++ (foldOf f' ++ weave (lastTok none A) (seg false (B ++ [t]))) := by
      rw [weave_append, weave_seg f' _ hne]
    have hl : lastTok none (A ++ seg f' (B ++ [t])) = some .comma := by
      rw [lastTok_append, lastTok_seg, ← hlast1, ← htc]; rfl
    exact ⟨A ++ seg f' (B ++ [t]), [], true, {
      toks := by simp [seg_tokens, ← h.toks]
      folds := by rw [foldsOk_append, h.folds, foldsOk_seg f' _ _ (fun e => h.comma (hf' e))]; rfl
      out := by rw [a, hw]; simp [seg, weave, foldOf]
      last := by rw [b, hlast1, lastTok_append, lastTok_seg f']; rfl
      comma := fun _ => hl
      linee := by rw [c, hw]; rfl }⟩
  · exact ⟨A, B ++ [t], f, { h with toks := by simp [← h.toks], out := hout1, last := hlast1 }⟩

theorem ufold_woven (n : Nat) (ts : List Tok) :
    ∀ (u : USt) (done : List Tok), Woven u done → Woven (ts.foldl (ustep n) u) (done ++ ts) := by
  induction ts with
  | nil => intro u done h; simpa using h
  | cons t ts ih =>
    intro u done h
    simpa using ih _ _ (ustep_woven n u done t h)

/-- `token822_unparse` in closed form, for every line length.  `b`: the list ends in a comma and the closing `NSUW`
keeps that comma's fold, which then stands in front of the final `LF`. -/
theorem unparse_weave (n : Nat) (ts : List Tok) :
    ∃ items b, items.map (·.2) = ts ∧ foldsOk none items = true ∧
      unparse n ts = weave none items ++ (foldOf b ++ [LF]) := by
  have h0 : Woven {} [] := ⟨[], [], false, rfl, rfl, rfl, rfl, (fun h => by cases h), rfl⟩
  obtain ⟨A, B, f, h⟩ := ufold_woven n ts {} [] h0
  obtain ⟨f', hf', a, _, _⟩ := nsuw_woven n _ A B f h.out h.linee
  have hd : A.map (·.2) ++ B = ts := h.toks
  have hdl : ∀ o : Bytes, (o ++ [LF, SP]).dropLast = o ++ [LF] := fun o => by
    rw [show o ++ [LF, SP] = (o ++ [LF]) ++ [SP] by simp, List.dropLast_concat]
  unfold unparse
  rw [a, hdl]
  -- the fold `f'` left by the last comma goes in front of the first token after it; only if there is none is it `b`
  by_cases hB : B = []
  · subst hB
    exact ⟨A, f', by simpa using hd, h.folds, by simp [seg, weave]⟩
  · refine ⟨A ++ seg f' B, false, by simp [seg_tokens, hd], ?_, ?_⟩
    · rw [foldsOk_append, h.folds, foldsOk_seg f' _ _ (fun e => h.comma (hf' e))]; rfl
    · rw [weave_append, weave_seg f' _ hB]; simp [foldOf]

/-! ### read back by the tokenizer -/

/-- the same text as a rendering in the sense of `Spec.Lex822` -/

def weaveCts : Option Tok → List (Bool × Tok) → List (Bytes × CTok)
  | _, [] => []
  | l, (b, t) :: r => (foldOf b ++ sepOf l t, canon t) :: weaveCts (some t) r

theorem foldOf_ws (b : Bool) : (foldOf b).all isWs = true := by cases b <;> decide

theorem sepOf_ws (l : Option Tok) (t : Tok) : (sepOf l t).all isWs = true := by
  unfold sepOf; split <;> decide

theorem weave_render (items : List (Bool × Tok)) (tr : Bytes) (hc : (items.map (·.2)).all cleanTok = true) :
    ∀ l, weave l items ++ tr = render (weaveCts l items) tr := by
  induction items with
  | nil => intro l; rfl
  | cons p r ih =>
    intro l
    obtain ⟨b, t⟩ := p
    simp only [List.map_cons, List.all_cons, Bool.and_eq_true] at hc
    simp [weave, weaveCts, render, ← ih hc.2, tokText_canon t hc.1]

theorem weaveCts_ok (items : List (Bool × Tok)) (hc : (items.map (·.2)).all cleanTok = true) :
    ∀ l pa, (pa = true → ∃ s, l = some (.atom s)) →
      (weaveCts l items).all (fun p => p.2.ok) = true ∧ (weaveCts l items).map (fun p => p.2.tok) = items.map (·.2) ∧
      sepsOk pa (weaveCts l items) = true := by
  induction items with
  | nil => intro l pa _; exact ⟨rfl, rfl, rfl⟩
  | cons p r ih =>
    intro l pa hpa
    obtain ⟨b, t⟩ := p
    simp only [List.map_cons, List.all_cons, Bool.and_eq_true] at hc
    obtain ⟨i1, i2, i3⟩ := ih hc.2 (some t) (canon t).isAtom (fun h => by
      obtain ⟨s, rfl⟩ := canon_isAtom t h; exact ⟨s, rfl⟩)
    refine ⟨by simp [weaveCts, canon_ok t hc.1, i1], by simp [weaveCts, canon_tok, i2], ?_⟩
    simp only [weaveCts, sepsOk, List.all_append, foldOf_ws, sepOf_ws, Bool.and_self, Bool.true_and, i3, Bool.and_true]
    -- two atoms in a row: `needspace` puts a space between them
    cases hp : pa with
    | false => rfl
    | true =>
      cases hk : (canon t).isAtom with
      | false => rfl
      | true =>
        obtain ⟨s, rfl⟩ := hpa hp
        obtain ⟨s', rfl⟩ := canon_isAtom t hk
        cases b <;> rfl

end Nq.Lemmas.C17
