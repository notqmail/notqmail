/- Lemmas for C20: the netstring length cap of getlen() (models of C07: Nq.Netstring) and the smtptext cap. -/
import Nq.Netstring
import Nq.RemoteSmtp
import Nq.FixedBuf

namespace Nq.Lemmas.C20
open Nq Nq.FixedBuf

theorem digit_step (max acc : Nat) (c : Byte) (h1 : ¬ acc > max) (h2 : ¬ (c < 48 ∨ c > 57)) :
    10 * acc + (c.toNat - 48) ≤ max * 10 + 9 := by
  have hc : c.toNat ≤ 57 := by
    have : ¬ c > 57 := fun h => h2 (Or.inr h)
    simpa [UInt8.lt_iff_toNat_lt] using this
  omega

/-- qmail-qmtpd getlen() -/
theorem qmtp_getlen_le (max : Nat) (inp : Bytes) (acc v : Nat) (rest : Bytes)
    (ha : acc ≤ max * 10 + 9) (h : Nq.Netstring.getlen max acc inp = .ok v rest) : v ≤ max * 10 + 9 := by
  -- the cases of the definition: end of input, the colon (the only `.ok`), the two refusals, one more digit
  fun_induction Nq.Netstring.getlen max acc inp
  case case1 | case3 | case4 => cases h
  case case2 => cases h; exact ha
  case case5 c2 c3 ih => exact ih (digit_step max _ _ c2 c3) h

/-- qmail-qmqpd getlen() (on top of getbyte / bytesleft) -/
theorem qmqp_getlen_le (max : Nat) (bl : Nat) (inp : Bytes) (acc v bl' : Nat) (rest : Bytes)
    (ha : acc ≤ max * 10 + 9) (h : Nq.Netstring.Qmqp.getlen max bl acc inp = .ok (v, bl') rest) : v ≤ max * 10 + 9 := by
  -- as above, after the case "no byte left"
  fun_induction Nq.Netstring.Qmqp.getlen max bl acc inp
  case case1 | case2 | case4 | case5 => cases h
  case case3 => cases h; exact ha
  case case6 c2 c3 ih => exact ih (digit_step max _ _ c2 c3) h

theorem smtptext_fold_eq (cap : Nat) (raw t : Bytes) (h : t.length ≤ cap) :
    raw.foldl (smtptextStep cap) t = (t ++ raw.filter (· ≠ CR)).take cap := by
  induction raw generalizing t with
  | nil => simp [List.take_of_length_le h]
  | cons c r ih =>
    simp only [List.foldl_cons]
    by_cases c1 : c ≠ CR ∧ t.length < cap
    · have hs : smtptextStep cap t c = t ++ [c] := by unfold smtptextStep; rw [if_pos c1]
      rw [hs, ih _ (by simp only [List.length_append, List.length_singleton]; omega)]
      have : (List.filter (fun x => decide (x ≠ CR)) (c :: r)) = c :: List.filter (fun x => decide (x ≠ CR)) r := by
        simp [List.filter_cons, c1.1]
      rw [this]; simp
    · have hs : smtptextStep cap t c = t := by unfold smtptextStep; rw [if_neg c1]
      rw [hs, ih t h]
      by_cases c2 : c = CR
      · have : (List.filter (fun x => decide (x ≠ CR)) (c :: r)) = List.filter (fun x => decide (x ≠ CR)) r := by
          simp [List.filter_cons, c2]
        rw [this]
      · have hl : t.length = cap := by
          have : ¬ t.length < cap := fun hh => c1 ⟨c2, hh⟩
          omega
        rw [List.take_append_of_le_length (by omega), List.take_append_of_le_length (by omega)]

theorem smtptext_fold_le (cap : Nat) (raw t : Bytes) (h : t.length ≤ cap) :
    (raw.foldl (smtptextStep cap) t).length ≤ cap := by
  rw [smtptext_fold_eq cap raw t h]
  exact List.length_take_le _ _

end Nq.Lemmas.C20
