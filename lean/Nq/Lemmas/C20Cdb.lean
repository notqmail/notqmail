/- Lemma for C20 (e): the cdb reader (Nq.Users.cdbSeek, the model of cdb_seek.c tied by C11's and C20's harnesses)
   only ever reports data whose record header and key were read from inside the file: the bounds alone of what
   `cdbSeek_sound` (UsersCdbRobust) says about a hit. -/
import Nq.Lemmas.UsersCdbRobust

namespace Nq.Lemmas.C20
open Nq Nq.Users Nq.Lemmas.Users

theorem cdbSeek_in (f key : Bytes) (dpos dlen : Nat) (h : cdbSeek f key = .found dpos dlen) :
    dpos ≤ f.length ∧ key.length + 8 ≤ dpos := by
  obtain ⟨_, p, _, hhdr, hkey, hd⟩ := cdbSeek_sound f key dpos dlen h
  have hp := read8_le f p _ hhdr
  have hk := congrArg List.length hkey
  simp only [List.length_take, List.length_drop] at hk
  omega

end Nq.Lemmas.C20
