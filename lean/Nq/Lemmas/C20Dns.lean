/- Lemmas for C20 (d): dns.c record walking stays inside the response. -/
import Nq.Dns

namespace Nq.Lemmas.C20
open Nq Nq.Dns

/-- what every return of `find*` after `--numanswers` has to show -/
theorem find_leaf {resp : Bytes} {st : St} (h0 : ¬ st.num = 0) {r : R} {p : Nat} {rd ds : List Nat}
    (hrd : ∀ i ∈ rd, i < resp.length) (hds : ∀ q ∈ ds, q ≤ resp.length) (hp : p ≤ resp.length) :
    StepIn resp ⟨r, ⟨p, st.num - 1⟩, rd, ds⟩ ∧ (r ≠ .done → st.num - 1 < st.num) :=
  ⟨⟨hrd, hds, hp⟩, fun _ => Nat.sub_lt (Nat.pos_of_ne_zero h0) Nat.one_pos⟩

theorem find_in (k : Kind) (resp : Bytes) (dn : Nat → Option Nat) (want : Nat) (st : St)
    (hp : st.pos ≤ resp.length) (hdn : DnOk resp dn) :
    StepIn resp (find k true resp dn want st) ∧
    ((find k true resp dn want st).r ≠ .done → (find k true resp dn want st).st.num < st.num) := by
  generalize hr : find k true resp dn want st = r
  unfold find RRFIXED at hr
  have nil : ∀ i ∈ ([] : List Nat), i < resp.length := fun _ h => nomatch h
  have nil' : ∀ i ∈ ([] : List Nat), i ≤ resp.length := fun _ h => nomatch h
  have ds1 : ∀ q ∈ [st.pos], q ≤ resp.length := by simpa using hp
  by_cases h0 : st.num = 0
  · rw [if_pos h0] at hr
    subst hr; exact ⟨⟨nil, nil', hp⟩, fun h => absurd rfl h⟩
  rw [if_neg h0] at hr
  by_cases h1 : st.pos = resp.length
  · rw [if_pos h1] at hr
    subst hr; exact find_leaf h0 nil nil' hp
  rw [if_neg h1] at hr
  cases hd : dn st.pos with
  | none => rw [hd] at hr; subst hr; exact find_leaf h0 nil ds1 hp
  | some i =>
  rw [hd] at hr
  simp only [] at hr
  have hi := hdn _ _ hd
  by_cases h2 : resp.length < st.pos + i + 10
  · rw [if_pos h2] at hr
    subst hr; exact find_leaf h0 nil ds1 hi
  rw [if_neg h2] at hr
  have hrd : ∀ j ∈ [st.pos + i, st.pos + i + 1, st.pos + i + 8, st.pos + i + 9], j < resp.length := by
    intro j hj; simp only [List.mem_cons, List.not_mem_nil, or_false] at hj; omega
  have hp2 : st.pos + i + 10 ≤ resp.length := by omega
  simp only [Bool.true_and, decide_eq_true_eq] at hr
  by_cases h3 : getshort resp (st.pos + i + 8) > resp.length - (st.pos + i + 10)
  · rw [if_pos h3] at hr
    subst hr; exact find_leaf h0 hrd ds1 hp2
  rw [if_neg h3] at hr
  have hend : st.pos + i + 10 + getshort resp (st.pos + i + 8) ≤ resp.length := by omega
  by_cases h4 : getshort resp (st.pos + i) = want
  · rw [if_pos h4] at hr
    cases k with
    | name =>
      have ds2 : ∀ q ∈ [st.pos, st.pos + i + 10], q ≤ resp.length := by
        intro q hq; simp only [List.mem_cons, List.not_mem_nil, or_false] at hq; omega
      simp only [] at hr
      cases hd2 : dn (st.pos + i + 10) with
      | none => rw [hd2] at hr; subst hr; exact find_leaf h0 hrd ds2 hp2
      | some j => rw [hd2] at hr; subst hr; exact find_leaf h0 hrd ds2 hend
    | ip =>
      simp only [] at hr
      by_cases h5 : getshort resp (st.pos + i + 8) < 4
      · rw [if_pos h5] at hr
        subst hr; exact find_leaf h0 hrd ds1 hp2
      · rw [if_neg h5] at hr
        subst hr
        refine find_leaf h0 (List.forall_mem_append.2 ⟨hrd, ?_⟩) ds1 hend
        intro j hj; simp only [List.mem_cons, List.not_mem_nil, or_false] at hj; omega
    | mx =>
      simp only [] at hr
      by_cases h5 : getshort resp (st.pos + i + 8) < 3
      · rw [if_pos h5] at hr
        subst hr; exact find_leaf h0 hrd ds1 hp2
      · rw [if_neg h5] at hr
        have ds2 : ∀ q ∈ [st.pos, st.pos + i + 10 + 2], q ≤ resp.length := by
          intro q hq; simp only [List.mem_cons, List.not_mem_nil, or_false] at hq; omega
        have hrd2 : ∀ j ∈ [st.pos + i, st.pos + i + 1, st.pos + i + 8, st.pos + i + 9] ++
            [st.pos + i + 10, st.pos + i + 10 + 1], j < resp.length := by
          refine List.forall_mem_append.2 ⟨hrd, ?_⟩
          intro j hj; simp only [List.mem_cons, List.not_mem_nil, or_false] at hj; omega
        cases hd2 : dn (st.pos + i + 10 + 2) with
        | none => rw [hd2] at hr; subst hr; exact find_leaf h0 hrd2 ds2 hp2
        | some j => rw [hd2] at hr; subst hr; exact find_leaf h0 hrd2 ds2 hend
  · rw [if_neg h4] at hr
    subst hr; exact find_leaf h0 hrd ds1 hend

theorem walk_succ (k : Kind) (b : Bool) (resp : Bytes) (dn : Nat → Option Nat) (want fuel : Nat) (st : St) :
    walk k b resp dn want (fuel + 1) st =
      if (find k b resp dn want st).r = .soft ∨ (find k b resp dn want st).r = .done then [find k b resp dn want st]
      else find k b resp dn want st :: walk k b resp dn want fuel (find k b resp dn want st).st := by
  simp only [walk]
  cases hr : (find k b resp dn want st).r <;> simp

theorem walk_in (k : Kind) (resp : Bytes) (dn : Nat → Option Nat) (want : Nat) (fuel : Nat) (st : St)
    (hp : st.pos ≤ resp.length) (hdn : DnOk resp dn) :
    ∀ s ∈ walk k true resp dn want fuel st, StepIn resp s := by
  induction fuel generalizing st with
  | zero => simp [walk]
  | succ fuel ih =>
    have f1 := (find_in k resp dn want st hp hdn).1
    rw [walk_succ]
    intro s hs
    split at hs
    · rw [List.mem_singleton.1 hs]; exact f1
    · rcases List.mem_cons.1 hs with rfl | hs
      · exact f1
      · exact ih _ f1.2.2 s hs

theorem questions_in (resp : Bytes) (dn : Nat → Option Nat) (n pos : Nat)
    (hp : pos ≤ resp.length) (hdn : DnOk resp dn) :
    (questions resp dn n pos).pos ≤ resp.length ∧ ∀ p ∈ (questions resp dn n pos).dns, p ≤ resp.length := by
  induction n generalizing pos with
  | zero => simp [questions, hp]
  | succ n ih =>
    simp only [questions]
    cases hd : dn pos with
    | none => simp [hp]
    | some i =>
      have hi := hdn _ _ hd
      simp only
      by_cases h2 : resp.length < pos + i + QFIXEDSZ
      · rw [if_pos h2]; simp; omega
      · rw [if_neg h2]
        obtain ⟨i1, i2⟩ := ih (pos + i + QFIXEDSZ) (by omega)
        refine ⟨i1, ?_⟩
        intro p hpm; simp only [List.mem_cons] at hpm
        rcases hpm with hpm | hpm
        · subst hpm; exact hp
        · exact i2 p hpm

end Nq.Lemmas.C20
