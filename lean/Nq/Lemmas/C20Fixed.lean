/- Lemmas for C20 (c): the fixed buffers of `Nq.FixedBuf`. -/
import Nq.FixedBuf

namespace Nq.Lemmas.C20
open Nq Nq.FixedBuf

theorem mem_range_append_lt {len i B : Nat} (hB : len < B) (h : i ∈ List.range len ++ [len]) : i < B := by
  simp only [List.mem_append, List.mem_range, List.mem_singleton] at h
  omega

theorem errstrLoop_bound (g avail len : Nat) (hl : len ≤ g) :
    (∀ i ∈ (errstrLoop g avail len).1, i ≤ g) ∧ (errstrLoop g avail len).2 ≤ g := by
  induction avail generalizing len with
  | zero => simp [errstrLoop, hl]
  | succ a ih =>
    simp only [errstrLoop]
    by_cases c : len < g
    · rw [if_pos c]
      obtain ⟨i1, i2⟩ := ih (len + 1) (by omega)
      refine ⟨?_, i2⟩
      intro i hi; simp only [List.mem_cons] at hi
      rcases hi with hi | hi
      · omega
      · exact i1 i hi
    · rw [if_neg c]; simp; omega

end Nq.Lemmas.C20
