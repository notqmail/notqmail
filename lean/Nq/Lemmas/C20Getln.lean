/-
  Lemmas for C20 (getln2 / getln / byte_chr): the invariant `Good` of the getln2 loop (`loop_good`): the substdio
  and stralloc invariants, every read of `byte_chr` inside the substdio buffer, every copy into the line buffer
  inside what stralloc_readyplus just guaranteed. The statements about `cont`/`clen` are drawn from it in Props/C20.
-/
import Nq.Getln
import Nq.Lemmas.C20Substdio
import Nq.Lemmas.C20Stralloc

namespace Nq.Getln
open Nq Nq.Substdio Nq.Stralloc Nq.Lemmas.C20

theorem byteChr_le (b : Bytes) (c : Byte) : byteChr b c ≤ b.length := by
  induction b with
  | nil => simp [byteChr]
  | cons x r ih => simp only [byteChr]; split <;> simp <;> omega

theorem byteChrReads_lt {b : Bytes} {c : Byte} {j : Nat} (h : j ∈ byteChrReads b c) : j < b.length := by
  unfold byteChrReads at h
  have := List.mem_range.1 h
  omega

theorem get_buffered (s : ISt) (len : Nat) (h : s.p > 0) :
    Substdio.get s len = ((getthis s len).1, .got (getthis s len).2) := by
  unfold Substdio.get
  rw [if_pos h]

/-- what the loop keeps and what it promises -/
structure Good (S : Nat) (o : GOut) : Prop where
  iwf : IWF o.st.ss
  size : o.st.ss.size = S
  wf : WF 1 o.st.sa
  rd : ∀ j ∈ o.rd, j < S
  sast : ∀ e ∈ o.sast, e.1 + e.2.1 ≤ e.2.2
  cont : o.ret = true → o.cont + o.clen ≤ S

theorem seek_iwf (s : ISt) (len : Nat) (h : IWF s) (hl : len ≤ s.p) : IWF (seek s len) := by
  obtain ⟨h1, h2⟩ := h
  refine ⟨?_, by rw [seek, List.length_drop, h2]⟩
  rw [seek, Nat.add_assoc, Nat.add_sub_cancel' hl]
  exact h1

/-- `rd` collects the positions `byte_chr` read in the substdio buffer, `sast` the (start, count, allocated size) of
every copy into the line -/
theorem loop_good (grant : Nat → Bool) (sep : Byte) (S : Nat) (hS : S < Stralloc.U32) (fuel : Nat) :
    ∀ (g : GSt) (rd : List Nat) (sast : List (Nat × Nat × Nat)),
      IWF g.ss → g.ss.size = S → WF 1 g.sa →
      (∀ j ∈ rd, j < S) → (∀ e ∈ sast, e.1 + e.2.1 ≤ e.2.2) →
      Good S (loop grant sep fuel g rd sast) := by
  induction fuel with
  | zero =>
    intro g rd sast h1 h2 h3 h5 h6
    exact ⟨h1, h2, h3, h5, h6, nofun⟩
  | succ fuel ih =>
    intro g rd sast h1 h2 h3 h5 h6
    obtain ⟨⟨f1, f2, _⟩, _, f4⟩ := feed_spec g.ss h1
    unfold loop
    generalize feed g.ss = fr at f1 f2 f4
    obtain ⟨s1, rr⟩ := fr
    have hsz : s1.size = S := f2.trans h2
    cases rr with
    | err => exact ⟨f1, hsz, h3, h5, h6, nofun⟩
    | eof => exact ⟨f1, hsz, h3, h5, h6, fun _ => Nat.zero_le _⟩
    | got b =>
      obtain ⟨fb, fne⟩ := f4
      have hbl : b.length = s1.p := fb ▸ f1.2
      have hnp : s1.n + b.length = S := by rw [hbl, ← hsz]; exact f1.1
      have hrd : ∀ j ∈ rd ++ (byteChrReads b sep).map (s1.n + ·), j < S := by
        intro j hj
        rcases List.mem_append.1 hj with hj | hj
        · exact h5 j hj
        · obtain ⟨k, hk, rfl⟩ := List.mem_map.1 hj
          have := byteChrReads_lt hk
          omega
      simp only
      by_cases hi : byteChr b sep < b.length
      · rw [if_pos hi]
        exact ⟨seek_iwf s1 _ f1 (hbl ▸ hi), hsz, h3, hrd, h6, fun _ => (by omega : s1.n + (byteChr b sep + 1) ≤ S)⟩
      rw [if_neg hi]
      generalize ho : readyplus 1 30 grant g.sa b.length = r
      by_cases hr : r.ret = true
      · rw [if_pos hr]
        obtain ⟨w, -, -, ha⟩ := readyplus_ok 1 30 grant g.sa b.length h3 (by omega) ho hr
        have hpos : s1.p > 0 := hbl ▸ List.length_pos_iff.2 fne
        rw [get_buffered s1 b.length hpos]
        obtain ⟨⟨g1, g2, _⟩, g3, _⟩ := getthis_spec s1 b.length f1
        have hlen : r.x.len + (getthis s1 b.length).2.length ≤ r.x.a := Nat.le_trans (Nat.add_le_add_left g3 _) ha
        simp only [Nat.mod_eq_of_lt (Nat.lt_of_le_of_lt hlen w.2.1)]
        refine ih _ _ _ g1 (g2.trans hsz) (wf_setLen w hlen) hrd ?_
        intro e he
        rcases List.mem_append.1 he with he | he
        · exact h6 e he
        · rw [List.mem_singleton.1 he]; exact hlen
      · rw [if_neg hr]
        exact ⟨f1, hsz, (rpi_sound 1 30 grant g.sa b.length g.sa.len h3 (by omega) ho).1, hrd, h6, nofun⟩

end Nq.Getln
