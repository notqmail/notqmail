/-
  Lemmas for C20 (qmail-local.c: the filling pass never stores more recipients than the counting pass counted).
-/
import Nq.LocalPass

namespace Nq.LocalPass
open Nq

theorem count1_add (r : Bytes) : ∀ (first : Option Byte) (n : Nat), count1 first n r = n + count1 first 0 r := by
  induction r with
  | nil => intro first n; simp [count1]
  | cons c r ih =>
    intro first n
    by_cases h : c = LF
    · simp only [count1, if_pos h]
      by_cases hc : counted1 (first.getD LF) = true
      · rw [if_pos hc, if_pos hc, ih none (n + 1), ih none (0 + 1)]; omega
      · rw [if_neg hc, if_neg hc, ih none n]
    · simp only [count1, if_neg h]
      exact ih _ n

theorem trim_head (l : Bytes) : trim l = [] ∨ (trim l).head? = l.head? := by
  cases l with
  | nil => left; rfl
  | cons c r =>
    simp only [trim]
    split
    · by_cases hb : isBlank c = true <;> simp [hb]
    · right; rfl

theorem eff_head {l : Bytes} (he : eff l ≠ 0) : l.head? = some (eff l) := by
  unfold eff at he ⊢
  cases hh : trim l with
  | nil => rw [hh] at he; exact absurd rfl he
  | cons a t =>
    rcases trim_head l with ht | ht
    · rw [hh] at ht; cases ht
    · rw [← ht, hh]; rfl

theorem fwd_counted {atStart : Bool} {cur : Bytes} (h : act atStart cur = .fwd) :
    counted1 ((cur.head?).getD LF) = true := by
  -- only the last case of `act` answers `.fwd`: the first byte is none of the other switch labels, and it is `eff cur`
  revert h
  fun_cases act atStart cur <;> intro h
  case case7 h0 h1 h2 h3 _ =>
    rw [eff_head h0]
    simp only [Option.getD_some, counted1]
    simp only [not_or] at h2
    simp [h1, h2.1, h2.2, h3]
  all_goals cases h

theorem head_snoc (cur : Bytes) (c : Byte) : (cur ++ [c]).head? = some ((cur.head?).getD c) := by
  cases cur <;> simp

/-- the result `x` of pass 2 from `numforward = nf`, `count_forward = cf`, where pass 1 still counts `K`: the stores
are exactly `nf, nf+1, …`, at most `K` of them, and `count_forward` grows by at most `K` -/
structure Bound (nf cf K : Nat) (x : R) : Prop where
  stores : ∃ n, n ≤ K ∧ x.nf = nf + n ∧ x.stores = List.range' nf n
  cf_le : x.cf ≤ cf + K

theorem Bound.stop (nf cf K : Nat) (e : Exit) : Bound nf cf K ⟨[], nf, cf, e⟩ :=
  ⟨⟨0, Nat.zero_le _, rfl, rfl⟩, Nat.le_add_right _ _⟩

theorem Bound.mono {nf cf K K' : Nat} {x : R} (h : Bound nf cf K x) (hK : K ≤ K') : Bound nf cf K' x := by
  obtain ⟨⟨n, hn, e, b⟩, d⟩ := h
  exact ⟨⟨n, Nat.le_trans hn hK, e, b⟩, Nat.le_trans d (Nat.add_le_add_left hK _)⟩

/-- a counted line that is not stored (-n) -/
theorem Bound.count {nf cf K : Nat} {x : R} (h : Bound nf (cf + 1) K x) : Bound nf cf (1 + K) x :=
  ⟨(h.mono (Nat.le_add_left K 1)).stores, Nat.add_assoc cf 1 K ▸ h.cf_le⟩

/-- a counted line that is stored at `recips[nf]` -/
theorem Bound.store {nf cf K : Nat} {x : R} (h : Bound (nf + 1) (cf + 1) K x) :
    Bound nf cf (1 + K) { x with stores := nf :: x.stores } := by
  obtain ⟨⟨n, hn, e, b⟩, d⟩ := h
  exact ⟨⟨n + 1, Nat.add_comm 1 K ▸ Nat.succ_le_succ hn, e.trans (Nat.add_right_comm nf 1 n),
    congrArg (nf :: ·) b⟩, Nat.add_assoc cf 1 K ▸ d⟩

/-- the simulation: pass 1's state is the first byte of pass 2's line in progress `cur` -/
theorem run2_bound (doit : Bool) (env : Nat → Bool) (r : Bytes) :
    ∀ (cur : Bytes) (atStart : Bool) (ln nf cf : Nat) (ffo : Bool),
      Bound nf cf (count1 cur.head? 0 r) (run2 doit env cur atStart ln nf cf ffo r) := by
  induction r with
  | nil => intro cur atStart ln nf cf ffo; exact Bound.stop ..
  | cons c r ih =>
    intro cur atStart ln nf cf ffo
    by_cases h : c = LF
    · simp only [run2, if_pos h, count1]
      have hK : count1 none (if counted1 (cur.head?.getD LF) = true then 0 + 1 else 0) r
          = (if counted1 (cur.head?.getD LF) = true then 1 else 0) + count1 none 0 r := by
        split
        · rw [count1_add]
        · rw [Nat.zero_add]
      rw [hK]
      -- the next line starts afresh; an uncounted line leaves the bound as it is, so it holds a fortiori
      have next : ∀ k ln nf cf ffo, Bound nf cf (k + count1 none 0 r) (run2 doit env [] false ln nf cf ffo r) :=
        fun k ln nf cf ffo => (ih [] false ln nf cf ffo).mono (Nat.le_add_left _ _)
      cases ha : act atStart cur with
      | skip => exact next ..
      | dieBlank => exact Bound.stop ..
      | file | prog =>
        generalize (if counted1 (cur.head?.getD LF) = true then 1 else 0) = k
        simp only []
        split
        · exact Bound.stop ..
        split
        · exact Bound.stop ..
        · exact next ..
      | plus l => exact next ..
      | fwd =>
        rw [if_pos (fwd_counted ha)]
        simp only []
        split
        · exact (ih [] false ..).store
        · exact (ih [] false ..).count
    · simp only [run2, if_neg h, count1]
      have := ih (cur ++ [c]) atStart ln nf cf ffo
      rwa [head_snoc] at this

end Nq.LocalPass
