/- Lemmas for C20 (a): gen_alloc / stralloc / quote length arithmetic. -/
import Nq.Stralloc

namespace Nq.Lemmas.C20
open Nq Nq.Stralloc

theorem rpi_cases (sz base : Nat) (grant : Nat → Bool) (x : GA) (n pluslen : Nat) {o : Out}
    (ho : readyplusInternal sz base grant x n pluslen = o) :
    (∃ q, o = ⟨false, if x.nonnull then x else { x with len := 0 }, q, [], false⟩ ∧ ∀ r, q = some r → r < U32) ∨
    (x.nonnull = true ∧ n + pluslen < U32 ∧ n + pluslen ≤ x.a ∧ o = ⟨true, x, none, [], false⟩) ∨
    (x.nonnull = true ∧ x.a < n + pluslen ∧ ∃ a, n + pluslen ≤ a ∧ a < U32 ∧ a * sz < U32 ∧
      o = ⟨true, { x with a := a, cap := a * sz }, some (a * sz), [], false⟩) ∨
    (x.nonnull = false ∧ n * sz < U32 ∧
      o = ⟨true, { nonnull := true, len := 0, a := n, cap := n * sz }, some (n * sz), [], false⟩) := by
  -- the cases of the definition in its order; the hypotheses of each are the tests passed on the way
  subst ho
  fun_cases readyplusInternal sz base grant x n pluslen
  case case1 hnn _ | case3 hnn _ _ _ _ _ | case4 hnn _ _ _ _ _ _ _ => exact .inl ⟨none, by rw [if_pos hnn], nofun⟩
  case case2 hnn c1 _ c2 => exact .inr (.inl ⟨hnn, Nat.lt_of_not_ge c1, c2, rfl⟩)
  case case5 hnn c1 _ c2 _ c3 _ c4 _ _ =>
    exact .inr (.inr (.inl ⟨hnn, Nat.lt_of_not_ge c2, _, Nat.le_add_right _ _, Nat.lt_of_not_ge c3, Nat.lt_of_not_ge c4, rfl⟩))
  case case6 hnn _ _ _ _ _ _ c4 _ _ =>
    exact .inl ⟨_, by rw [if_pos hnn], fun r hr => by cases hr; exact Nat.lt_of_not_ge c4⟩
  case case7 hnn _ _ => exact .inl ⟨none, by rw [if_neg hnn], nofun⟩
  case case8 hnn c1 _ _ => exact .inr (.inr (.inr ⟨Bool.eq_false_iff.mpr hnn, Nat.lt_of_not_ge c1, rfl⟩))
  case case9 hnn _ c1 _ _ => exact .inl ⟨_, by rw [if_neg hnn], fun r hr => by cases hr; exact Nat.lt_of_not_ge c1⟩
/-- what a successful `readyplusInternal` guarantees -/
structure RPPost (sz : Nat) (x : GA) (n pluslen : Nat) (o : Out) : Prop where
  wf : WF sz o.x
  nonnull : o.x.nonnull = true
  st : o.st = []
  grown : x.nonnull = true → n + pluslen ≤ o.x.a ∧ n + pluslen < U32 ∧ o.x.len = x.len
  fresh : x.nonnull = false → n ≤ o.x.a ∧ o.x.len = 0

theorem rpi_ok (sz base : Nat) (grant : Nat → Bool) (x : GA) (n pluslen : Nat)
    (hx : WF sz x) (hn : n < U32)
    (h : (readyplusInternal sz base grant x n pluslen).ret = true) :
    RPPost sz x n pluslen (readyplusInternal sz base grant x n pluslen) := by
  obtain ⟨h1, h2, h3⟩ := hx
  rcases rpi_cases sz base grant x n pluslen rfl with
    ⟨q, e, _⟩ | ⟨hnn, hs, ha, e⟩ | ⟨hnn, hs, a, ha, ha', _, e⟩ | ⟨hnn, _, e⟩
  · rw [e] at h; cases h
  · rw [e]
    exact ⟨⟨h1, h2, h3⟩, hnn, rfl, fun _ => ⟨ha, hs, rfl⟩, fun hc => by rw [hnn] at hc; cases hc⟩
  · rw [e]
    exact ⟨⟨h1, ha', fun _ => ⟨Nat.le_trans (h3 hnn).1 (Nat.le_of_lt (Nat.lt_of_lt_of_le hs ha)), Nat.le_refl _⟩⟩,
      hnn, rfl, fun _ => ⟨ha, Nat.lt_of_le_of_lt ha ha', rfl⟩, fun hc => by rw [hnn] at hc; cases hc⟩
  · rw [e]
    refine ⟨⟨(by decide : 0 < U32), hn, fun _ => ⟨Nat.zero_le _, Nat.le_refl _⟩⟩, rfl, rfl, ?_, ?_⟩
    · intro hc; rw [hnn] at hc; cases hc
    · exact fun _ => ⟨Nat.le_refl _, rfl⟩

theorem rpi_fail (sz base : Nat) (grant : Nat → Bool) (x : GA) (n pluslen : Nat)
    (hx : WF sz x)
    (h : (readyplusInternal sz base grant x n pluslen).ret = false) :
    WF sz (readyplusInternal sz base grant x n pluslen).x ∧
    (readyplusInternal sz base grant x n pluslen).st = [] ∧
    (readyplusInternal sz base grant x n pluslen).x.nonnull = x.nonnull ∧
    (readyplusInternal sz base grant x n pluslen).x.a = x.a ∧
    (readyplusInternal sz base grant x n pluslen).x.cap = x.cap := by
  rcases rpi_cases sz base grant x n pluslen rfl with ⟨q, e, _⟩ | ⟨_, _, _, e⟩ | ⟨_, _, a, _, _, _, e⟩ | ⟨_, _, e⟩
  · by_cases hnn : x.nonnull = true
    · rw [e, if_pos hnn]; exact ⟨hx, rfl, rfl, rfl, rfl⟩
    · rw [e, if_neg hnn]; exact ⟨⟨(by decide : 0 < U32), hx.2.1, fun hc => absurd hc hnn⟩, rfl, rfl, rfl, rfl⟩
  all_goals rw [e] at h; cases h

/-- the CVE-2005-1513 regime: `n + pluslen` does not fit 32 bits -/
theorem rpi_overflow (sz base : Nat) (grant : Nat → Bool) (x : GA) (n pluslen : Nat)
    (hnn : x.nonnull = true) (h : n + pluslen ≥ U32) :
    readyplusInternal sz base grant x n pluslen = ⟨false, x, none, [], false⟩ := by
  unfold readyplusInternal
  simp [hnn, h]

theorem storesIn_nil {o : Out} (hs : o.st = []) : storesIn o := by
  intro p hp
  rw [hs] at hp
  cases hp

theorem rpi_sound (sz base : Nat) (grant : Nat → Bool) (x : GA) (n pluslen : Nat) (hx : WF sz x) (hn : n < U32)
    {o : Out} (ho : readyplusInternal sz base grant x n pluslen = o) : WF sz o.x ∧ storesIn o := by
  subst ho
  cases h : (readyplusInternal sz base grant x n pluslen).ret
  · have := rpi_fail sz base grant x n pluslen hx h
    exact ⟨this.1, storesIn_nil this.2.1⟩
  · have := rpi_ok sz base grant x n pluslen hx hn h
    exact ⟨this.wf, storesIn_nil this.st⟩

theorem rpi_sound_of_fail {sz base : Nat} {grant : Nat → Bool} {x : GA} {n pluslen : Nat} (hx : WF sz x) (hn : n < U32)
    {o : Out} (ho : readyplusInternal sz base grant x n pluslen = o) (hk : ¬o.ret = true) {P : Prop} :
    WF sz o.x ∧ storesIn o ∧ (o.ret = true → P) :=
  have ⟨w, st⟩ := rpi_sound sz base grant x n pluslen hx hn ho
  ⟨w, st, fun h => absurd h hk⟩

theorem storesIn_one {o : Out} {p : Nat × Nat} (hs : o.st = [p]) (hp : p.1 + p.2 ≤ o.x.a) : storesIn o := by
  intro q hq
  rw [hs, List.mem_singleton] at hq
  rw [hq]; exact hp

theorem storesIn_two {o : Out} {p q : Nat × Nat} (hs : o.st = [p, q]) (hp : p.1 + p.2 ≤ o.x.a)
    (hq : q.1 + q.2 ≤ o.x.a) : storesIn o := by
  intro r hr
  rw [hs, List.mem_cons, List.mem_singleton] at hr
  rcases hr with hr | hr
  · rw [hr]; exact hp
  · rw [hr]; exact hq

theorem ready_ok (sz base : Nat) (grant : Nat → Bool) (x : GA) (n : Nat) (hx : WF sz x) (hn : n < U32) {o : Out}
    (ho : ready sz base grant x n = o) (h : o.ret = true) :
    WF sz o.x ∧ o.x.nonnull = true ∧ n ≤ o.x.a := by
  subst ho
  have p := rpi_ok sz base grant x n 0 hx hn h
  refine ⟨p.wf, p.nonnull, ?_⟩
  cases hxn : x.nonnull
  · exact (p.fresh hxn).1
  · exact (p.grown hxn).1

theorem readyplus_ok (sz base : Nat) (grant : Nat → Bool) (x : GA) (n : Nat) (hx : WF sz x) (hn : n < U32) {o : Out}
    (ho : readyplus sz base grant x n = o) (h : o.ret = true) :
    WF sz o.x ∧ o.x.nonnull = true ∧ o.x.len = (if x.nonnull then x.len else 0) ∧ o.x.len + n ≤ o.x.a := by
  subst ho
  have p := rpi_ok sz base grant x n x.len hx hn h
  refine ⟨p.wf, p.nonnull, ?_⟩
  unfold readyplus
  cases hxn : x.nonnull
  · obtain ⟨q1, q2⟩ := p.fresh hxn
    exact ⟨q2, by omega⟩
  · obtain ⟨q1, -, q3⟩ := p.grown hxn
    exact ⟨q3, by omega⟩

theorem wf_setLen {sz : Nat} {x : GA} (hx : WF sz x) {l : Nat} (hl : l ≤ x.a) :
    WF sz { x with len := l } :=
  ⟨Nat.lt_of_le_of_lt hl hx.2.1, hx.2.1, fun hnn => ⟨hl, (hx.2.2 hnn).2⟩⟩

theorem copyb_spec (grant : Nat → Bool) (x : GA) (n : Nat) (hx : WF 1 x) :
    WF 1 (copyb grant x n).x ∧ storesIn (copyb grant x n) ∧
    ((copyb grant x n).ret = true → (copyb grant x n).x.len = n ∧ n < (copyb grant x n).x.a) := by
  fun_cases copyb grant x n
  case case1 c1 => exact ⟨hx, storesIn_nil rfl, nofun⟩
  case case2 c1 o hk =>
    obtain ⟨w, hnn, ha⟩ := ready_ok 1 30 grant x (n + 1) hx (Nat.lt_of_not_ge c1) rfl hk
    exact ⟨wf_setLen w (Nat.le_of_succ_le ha), storesIn_two rfl (Nat.le_of_succ_le ((Nat.zero_add n).symm ▸ ha)) ha, fun _ => ⟨rfl, ha⟩⟩
  case case3 c1 o hk => exact rpi_sound_of_fail hx (Nat.lt_of_not_ge c1) rfl hk

theorem append_spec (sz base : Nat) (grant : Nat → Bool) (x : GA) (hx : WF sz x) :
    WF sz (append sz base grant x).x ∧ storesIn (append sz base grant x) ∧
    ((append sz base grant x).ret = true → (append sz base grant x).x.len = (if x.nonnull then x.len else 0) + 1) := by
  fun_cases append sz base grant x
  case case1 o hk =>
    obtain ⟨w, hnn, hl, ha⟩ := readyplus_ok sz base grant x 1 hx (by decide) rfl hk
    rw [Nat.mod_eq_of_lt (Nat.lt_of_le_of_lt ha w.2.1)]
    exact ⟨wf_setLen w ha, storesIn_one rfl ha, fun _ => congrArg (· + 1) hl⟩
  case case2 o hk => exact rpi_sound_of_fail hx (by decide) rfl hk

theorem catb_spec (grant : Nat → Bool) (x : GA) (n : Nat) (hx : WF 1 x) :
    WF 1 (catb grant x n).x ∧ storesIn (catb grant x n) ∧
    ((catb grant x n).ret = true → (catb grant x n).x.len = (if x.nonnull then x.len else 0) + n ∧
      (catb grant x n).x.len < (catb grant x n).x.a) := by
  fun_cases catb grant x n
  case case1 hxn =>
    obtain ⟨a1, a2, a3⟩ := copyb_spec grant x n hx
    rw [Bool.not_eq_true'] at hxn
    exact ⟨a1, a2, fun h => ⟨by rw [hxn]; exact (a3 h).1.trans (Nat.zero_add n).symm, by have := a3 h; omega⟩⟩
  case case2 => exact ⟨hx, storesIn_nil rfl, nofun⟩
  case case3 hxn c1 o hk l' =>
    obtain ⟨w, hnn, hl, ha⟩ := readyplus_ok 1 30 grant x (n + 1) hx (Nat.lt_of_not_ge c1) rfl hk
    have ha : o.x.len + n < o.x.a := ha
    have e : l' = o.x.len + n := Nat.mod_eq_of_lt (Nat.lt_trans ha w.2.1)
    rw [e]
    exact ⟨wf_setLen w (Nat.le_of_lt ha), storesIn_two rfl (Nat.le_of_lt ha) ha, fun _ => ⟨congrArg (· + n) hl, ha⟩⟩
  case case4 hxn c1 o hk => exact rpi_sound_of_fail hx (Nat.lt_of_not_ge c1) rfl hk

theorem quoteDoit_ok (sc : Bool) (grant : Nat → Bool) (out : GA) (inLen esc : Nat) (hx : WF 1 out) (he : esc ≤ inLen)
    (h : (quoteDoit sc grant out inLen esc).ret = true) :
    WF 1 (quoteDoit sc grant out inLen esc).x ∧ storesIn (quoteDoit sc grant out inLen esc) ∧
    (quoteDoit sc grant out inLen esc).x.len = inLen + esc + 2 ∧
    ((quoteDoit sc grant out inLen esc).ub = true ↔ (sc = true ∧ inLen + esc + 2 > INT_MAX)) := by
  revert h
  fun_cases quoteDoit sc grant out inLen esc
  case case3 c1 c2 o hk j =>
    obtain ⟨w, hnn, ha⟩ := ready_ok 1 30 grant out (inLen * 2 + 2) hx (Nat.lt_of_not_ge c2) rfl hk
    have ha : inLen + esc + 2 ≤ o.x.a := Nat.le_trans (by omega) ha
    have e : j % U32 = inLen + esc + 2 := Nat.mod_eq_of_lt (Nat.lt_of_le_of_lt ha w.2.1)
    rw [e]
    exact fun _ => ⟨wf_setLen w ha, storesIn_one rfl ((Nat.zero_add _).symm ▸ ha), rfl, by simp [j]⟩
  case case4 hk => exact fun h => absurd h hk
  all_goals nofun

theorem quoteDoit_refused (sc : Bool) (grant : Nat → Bool) (out : GA) (inLen esc : Nat) (h : inLen * 2 + 2 ≥ U32) :
    quoteDoit sc grant out inLen esc = ⟨false, out, none, [], false⟩ := by
  unfold quoteDoit
  rw [if_pos h, ite_self]

theorem quoteNeedReads_in (n : Nat) : ∀ i ∈ quoteNeedReads n, i < n := by
  fun_cases quoteNeedReads n <;> intro i hi
  · cases hi
  · simp only [List.mem_append, List.mem_range, List.mem_cons, List.mem_flatMap, List.not_mem_nil, or_false] at hi
    rcases hi with (hi | hi | hi) | ⟨a, ha, hi | hi⟩ <;> omega

theorem escCount_le (s : Bytes) : escCount s ≤ s.length := by
  unfold escCount
  exact List.length_filter_le _ _

end Nq.Lemmas.C20
