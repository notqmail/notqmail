/- The substdio model (`Nq.Substdio`: substdo.c, substdi.c) in lemma form, for C05, C06, C08, C09 and C20.
Output: each operation is described by `OPost` (the bytes written and buffered are a prefix of what was handed over,
the buffer invariants are kept), and by `OPostW` where failure can only come from the write script.
Input: `get_spec` (`GetPost`); the read script enters through `IPost.rs` and `GetPost.fail`. -/
import Nq.Substdio

namespace Nq.Lemmas.C20
open Nq Nq.Substdio

/-! ## output -/

theorem allwrite_spec (ws : List Nat) (b : Bytes) :
    (∃ t, b = (allwrite ws b).2.1 ++ t) ∧ ((allwrite ws b).2.2 = true → (allwrite ws b).2.1 = b) := by
  fun_induction allwrite ws b with
  | case1 | case2 | case3 | case4 => simp
  | case5 k ws c b _ r ih =>
    obtain ⟨⟨t, ht⟩, h2⟩ := ih
    refine ⟨⟨t, ?_⟩, fun hs => ?_⟩
    · simp only [List.append_assoc]
      rw [← ht, List.take_append_drop]
    · simp only at hs ⊢
      rw [h2 hs, List.take_append_drop]

/-- What an output operation that was handed `d` leaves behind: the bytes the descriptor took followed by those still
buffered are a prefix of what was there before followed by `d`, all of it when the operation succeeded. -/
structure OPost (s : OSt) (d : Bytes) (r : OSt × Bool) : Prop where
  wf : OWF r.1
  cp : cpIn s → cpIn r.1
  n : r.1.n = s.n
  pre : ∃ t, r.1.out ++ r.1.buf ++ t = s.out ++ s.buf ++ d ∧ (r.2 = true → t = [])

theorem OPost.eq {s : OSt} {d : Bytes} {r : OSt × Bool} (h : OPost s d r) (ok : r.2 = true) :
    r.1.out ++ r.1.buf = s.out ++ s.buf ++ d := by
  obtain ⟨t, e, ht⟩ := h.pre
  rw [← e, ht ok, List.append_nil]

theorem OPost.trans {s : OSt} {d d' dd : Bytes} {r r' : OSt × Bool} (h : OPost s d r) (ok : r.2 = true)
    (h' : OPost r.1 d' r') (hd : d ++ d' = dd) : OPost s dd r' := by
  obtain ⟨t, e, ht⟩ := h'.pre
  exact ⟨h'.wf, fun hc => h'.cp (h.cp hc), h'.n.trans h.n, t, by rw [e, h.eq ok, List.append_assoc, hd], ht⟩

theorem OPost.stop {s : OSt} {d d' dd : Bytes} {r : OSt} (h : OPost s d (r, false)) (hd : d ++ d' = dd) :
    OPost s dd (r, false) := by
  obtain ⟨t, e, _⟩ := h.pre
  exact ⟨h.wf, h.cp, h.n, t ++ d', by rw [← List.append_assoc, e, List.append_assoc, hd], nofun⟩

theorem allwrite_ws (ws : List Nat) (b : Bytes) :
    ((allwrite ws b).2.2 = false → 0 ∈ ws) ∧ (0 ∈ (allwrite ws b).1 → 0 ∈ ws) := by
  fun_induction allwrite ws b with
  | case1 | case2 | case3 => simp
  | case4 => exact ⟨nofun, List.mem_cons_of_mem _⟩
  | case5 k ws c b _ r ih => exact ih.imp (List.mem_cons_of_mem _ ∘ ·) (List.mem_cons_of_mem _ ∘ ·)

theorem allwrite_fail (ws : List Nat) (b : Bytes) (h : (allwrite ws b).2.2 = false) :
    (allwrite ws b).2.1.length < b.length := by
  fun_induction allwrite ws b with
  | case1 | case2 | case4 => simp at h
  | case3 => simp
  | case5 k ws c b hl r ih =>
    have := ih h
    simp only [r, List.length_append, List.length_take, List.length_drop] at this ⊢
    omega

/-- `OPost` under the write script: the operation fails only on a failing `write`, and leaves a script with one only
if it was given one.  (`substdio_bput` has the plain `OPost`: its model also gives up when the fuel runs out.) -/
structure OPostW (s : OSt) (d : Bytes) (r : OSt × Bool) : Prop extends OPost s d r where
  fail : r.2 = false → 0 ∈ s.ws
  ws : 0 ∈ r.1.ws → 0 ∈ s.ws

theorem OPostW.trans {s : OSt} {d d' dd : Bytes} {r r' : OSt × Bool} (h : OPostW s d r) (ok : r.2 = true)
    (h' : OPostW r.1 d' r') (hd : d ++ d' = dd) : OPostW s dd r' :=
  ⟨h.toOPost.trans ok h'.toOPost hd, fun hf => h.ws (h'.fail hf), fun h0 => h.ws (h'.ws h0)⟩

theorem OPostW.stop {s : OSt} {d d' dd : Bytes} {r : OSt} (h : OPostW s d (r, false)) (hd : d ++ d' = dd) :
    OPostW s dd (r, false) :=
  ⟨h.toOPost.stop hd, h.fail, h.ws⟩

theorem OPostW.refl {s : OSt} (h : OWF s) : OPostW s [] (s, true) := ⟨⟨h, id, rfl, [], rfl, fun _ => rfl⟩, nofun, id⟩

theorem flush_post (s : OSt) (h : OWF s) :
    OPostW s [] (flush s) ∧ (flush s).1.buf = [] ∧ (flush s).1.cp = s.cp := by
  unfold flush
  by_cases hp : s.p = 0
  · rw [if_pos hp]
    exact ⟨.refl h, List.eq_nil_of_length_eq_zero (h.2.1.trans hp), rfl⟩
  · rw [if_neg hp]
    obtain ⟨⟨t, ht⟩, a2⟩ := allwrite_spec s.ws s.buf
    obtain ⟨w1, w2⟩ := allwrite_ws s.ws s.buf
    refine ⟨⟨⟨⟨Nat.zero_le _, rfl, h.2.2⟩, id, rfl, t, ?_, fun ok => ?_⟩, w1, w2⟩, rfl, rfl⟩
    · show s.out ++ (allwrite s.ws s.buf).2.1 ++ [] ++ t = s.out ++ s.buf ++ []
      rw [List.append_nil, List.append_nil, List.append_assoc, ← ht]
    · exact List.append_cancel_left (ht.symm.trans ((a2 ok).symm ▸ (List.append_nil _).symm))

theorem flush_n (s : OSt) : (flush s).1.n = s.n := by
  unfold flush
  by_cases hp : s.p = 0
  · rw [if_pos hp]
  · rw [if_neg hp]

theorem copyIn_post (s : OSt) (d : Bytes) (h : OWF s) (hfit : s.p + d.length ≤ s.n) :
    OPostW s d (copyIn s d, true) :=
  ⟨⟨⟨hfit, by simp [copyIn, h.2.1], h.2.2⟩, fun hc => List.forall_mem_cons.2 ⟨hfit, hc⟩, rfl, [],
    by simp [copyIn], fun _ => rfl⟩, nofun, id⟩

theorem usub32_of_le (a b : Nat) (h : b ≤ a) : usub32 a b = a - b := by
  unfold usub32; rw [if_pos h]

theorem bputLoop_post (fuel : Nat) (s : OSt) (d : Bytes) (h : OWF s) :
    OPost s d (bputLoop fuel s d) := by
  induction fuel generalizing s d with
  | zero => exact ⟨h, id, rfl, d, rfl, nofun⟩
  | succ fuel ih =>
    rw [bputLoop, usub32_of_le s.n s.p h.1]
    by_cases hl : d.length > s.n - s.p
    · rw [if_pos hl]
      have hfit : s.p + (d.take (s.n - s.p)).length ≤ s.n :=
        Nat.le_trans (Nat.add_le_add_left (List.length_take_le _ _) _) (Nat.le_of_eq (Nat.add_sub_cancel' h.1))
      have c := copyIn_post s (d.take (s.n - s.p)) h hfit
      have f := (c.trans rfl (flush_post _ c.wf).1 (List.append_nil _)).toOPost
      generalize flush (copyIn s (d.take (s.n - s.p))) = fl at f
      obtain ⟨s1, ok⟩ := fl
      cases ok
      · exact f.stop (List.take_append_drop _ d)
      · exact f.trans rfl (ih s1 _ f.wf) (List.take_append_drop _ d)
    · rw [if_neg hl]
      exact (copyIn_post s d h (Nat.add_le_of_le_sub' h.1 (Nat.le_of_not_gt hl))).toOPost

/-- a write that goes past the (empty) buffer, as `substdio_put` and `substdio_putflush` do -/
theorem write_post (s : OSt) (b : Bytes) (h : OWF s) (hb : s.buf = []) :
    OPostW s b ({ s with out := s.out ++ (allwrite s.ws b).2.1, ws := (allwrite s.ws b).1 }, (allwrite s.ws b).2.2) := by
  obtain ⟨⟨t, ht⟩, a2⟩ := allwrite_spec s.ws b
  obtain ⟨w1, w2⟩ := allwrite_ws s.ws b
  refine ⟨⟨h, id, rfl, t, ?_, fun ok => ?_⟩, w1, w2⟩
  · show s.out ++ (allwrite s.ws b).2.1 ++ s.buf ++ t = s.out ++ s.buf ++ b
    rw [hb, List.append_nil, List.append_nil, List.append_assoc, ← ht]
  · exact List.append_cancel_left (ht.symm.trans ((a2 ok).symm ▸ (List.append_nil _).symm))

/-- The direct writes of `substdio_put`; `x` is what is left for the buffer.
Every turn writes at least one byte (`hn`), so the fuel `hf` is never the reason for a failure. -/
theorem putLoop_post (fuel n : Nat) (s : OSt) (d : Bytes) (h : OWF s) (hb : s.buf = []) (hn : 0 < n)
    (hf : d.length < fuel) :
    ∃ a x, a ++ x = d ∧ OPostW s a ((putLoop fuel n s d).1, (putLoop fuel n s d).2.2) ∧
      (putLoop fuel n s d).1.p = s.p ∧ (putLoop fuel n s d).1.buf = [] ∧
      ((putLoop fuel n s d).2.2 = true → x = (putLoop fuel n s d).2.1 ∧ x.length ≤ s.n) := by
  induction fuel generalizing n s d with
  | zero => omega
  | succ fuel ih =>
    rw [putLoop]
    by_cases hl : d.length > s.n
    · rw [if_pos hl]
      simp only []
      generalize hn' : (if n > d.length then d.length else n) = n'
      have hn0 : 0 < n' ∧ n' ≤ d.length := by
        by_cases c : n > d.length
        · rw [if_pos c] at hn'; omega
        · rw [if_neg c] at hn'; omega
      have w := write_post s (d.take n') h hb
      generalize allwrite s.ws (d.take n') = aw at w
      obtain ⟨ws', b, ok⟩ := aw
      cases ok
      · exact ⟨_, _, List.take_append_drop n' d, w, rfl, hb, nofun⟩
      · obtain ⟨a, x, e, i1, i2, i3, i4⟩ := ih n' _ (d.drop n') w.wf hb hn0.1 (by rw [List.length_drop]; omega)
        exact ⟨d.take n' ++ a, x, by rw [List.append_assoc, e, List.take_append_drop], w.trans rfl i1 rfl, i2, i3, i4⟩
    · rw [if_neg hl]
      exact ⟨[], d, rfl, .refl h, rfl, hb, fun _ => ⟨rfl, Nat.le_of_not_gt hl⟩⟩

theorem put_post (s : OSt) (d : Bytes) (h : OWF s) : OPostW s d (put s d) := by
  rw [put, usub32_of_le s.n s.p h.1]
  by_cases hl : d.length > s.n - s.p
  · rw [if_pos hl]
    obtain ⟨f, fb, -⟩ := flush_post s h
    have fp : (flush s).1.p = 0 := by rw [← f.wf.2.1, fb]; rfl
    generalize flush s = fl at f fb fp
    obtain ⟨s1, ok⟩ := fl
    cases ok
    · exact f.stop (List.nil_append d)
    · simp only [if_true]
      have hn0 : 0 < (if s.n < OUTSIZE then OUTSIZE else s.n) := by
        by_cases c : s.n < OUTSIZE
        · rw [if_pos c]; decide
        · rw [if_neg c]; exact h.2.2.1
      generalize (if s.n < OUTSIZE then OUTSIZE else s.n) = n0 at hn0
      obtain ⟨a, x, e, i1, i2, i3, i4⟩ := putLoop_post (d.length + 1) n0 s1 d f.wf fb hn0 (Nat.lt_succ_self _)
      have g := f.trans rfl i1 (List.nil_append a)
      generalize putLoop (d.length + 1) n0 s1 d = pl at g i2 i3 i4
      obtain ⟨s2, rest, ok⟩ := pl
      cases ok
      · exact g.stop e
      · obtain ⟨rfl, hx⟩ := i4 rfl
        have hfit : s2.p + x.length ≤ s2.n := by
          rw [i2, fp, Nat.zero_add, (g.n.trans f.n.symm : s2.n = s1.n)]; exact hx
        exact g.trans rfl (copyIn_post s2 x g.wf hfit) e
  · rw [if_neg hl]
    exact copyIn_post s d h (Nat.add_le_of_le_sub' h.1 (Nat.le_of_not_gt hl))

theorem putflush_post (s : OSt) (d : Bytes) (h : OWF s) : OPostW s d (putflush s d) := by
  rw [putflush]
  obtain ⟨f, fb, -⟩ := flush_post s h
  generalize flush s = fl at f fb
  obtain ⟨s1, ok⟩ := fl
  cases ok
  · exact f.stop (List.nil_append d)
  · exact f.trans rfl (write_post s1 d f.wf fb) (List.nil_append d)

theorem oapply_post (s : OSt) (o : OOp) (h : OWF s) :
    OPost s (match o with | .put d => d | .bput d => d | .flush => [] | .putflush d => d) (oapply s o) := by
  cases o with
  | put d => exact (put_post s d h).toOPost
  | bput d => exact bputLoop_post _ s d h
  | putflush d => exact (putflush_post s d h).toOPost
  | flush => exact (flush_post s h).1.toOPost

/-! ## input -/

theorem chunk_spec (src : Bytes) {m len : Nat} (hm : m ≤ len) (hs : m ≤ src.length) (h0 : m ≠ 0) :
    src.take m ≠ [] ∧ (src.take m).length ≤ len ∧ src.take m ++ src.drop m = src := by
  have hl : (src.take m).length = m := by rw [List.length_take]; exact Nat.min_eq_left hs
  exact ⟨fun hc => h0 (by rw [← hl, hc]; rfl), Nat.le_trans (Nat.le_of_eq hl) hm, List.take_append_drop _ _⟩

theorem min_length_eq_zero {x : Nat} {src : Bytes} (h : min x src.length = 0) : x = 0 ∨ src = [] :=
  (Nat.min_eq_zero_iff.1 h).imp id List.eq_nil_of_length_eq_zero

/-- `0 ∈ rs`: a read fails only where the script says so; the script is used up from the front -/
theorem oneread_spec (src : Bytes) (rs : List Nat) (len : Nat) :
    (match (oneread src rs len).1 with
     | .got b => b ≠ [] ∧ b.length ≤ len ∧ b ++ (oneread src rs len).2.1 = src
     | .eof => (oneread src rs len).2.1 = src ∧ (len = 0 ∨ src = [])
     | .err => (oneread src rs len).2.1 = src ∧ 0 ∈ rs) ∧
    (0 ∉ rs → 0 ∉ (oneread src rs len).2.2) := by
  unfold oneread
  cases rs with
  | nil =>
    simp only
    by_cases hm : min len src.length = 0
    · rw [if_pos hm]; exact ⟨⟨rfl, min_length_eq_zero hm⟩, id⟩
    · rw [if_neg hm]; exact ⟨chunk_spec src (Nat.min_le_left _ _) (Nat.min_le_right _ _) hm, id⟩
  | cons w rs =>
    have hrs : 0 ∉ w :: rs → 0 ∉ rs := List.not_mem_of_not_mem_cons
    cases w with
    | zero => exact ⟨⟨rfl, List.mem_cons_self⟩, hrs⟩
    | succ k =>
      simp only
      by_cases hm : min (min (k + 1) len) src.length = 0
      · rw [if_pos hm]
        refine ⟨⟨rfl, (min_length_eq_zero hm).imp_left fun h => ?_⟩, hrs⟩
        exact (Nat.min_eq_zero_iff.1 h).resolve_left (Nat.succ_ne_zero k)
      · rw [if_neg hm]
        exact ⟨chunk_spec src (Nat.le_trans (Nat.min_le_left _ _) (Nat.min_le_right _ _)) (Nat.min_le_right _ _) hm, hrs⟩

/-- what every input operation keeps; `rs`: it leaves a failing call in the read script only if it was given one -/
structure IPost (s s' : ISt) : Prop where
  wf : IWF s'
  size : s'.size = s.size
  cp : icpIn s → icpIn s'
  rs : 0 ∉ s.rs → 0 ∉ s'.rs

theorem feed_spec (s : ISt) (h : IWF s) :
    IPost s (feed s).1 ∧ (feed s).1.data ++ (feed s).1.src = s.data ++ s.src ∧
    (match (feed s).2 with
     | .got b => b = (feed s).1.data ∧ b ≠ []
     | .eof => (feed s).1.p = 0 ∧ ((feed s).1.n = 0 ∨ (feed s).1.src = [])
     | .err => 0 ∈ s.rs) := by
  obtain ⟨h1, h2⟩ := h
  generalize hr : feed s = r
  unfold feed at hr
  by_cases hp : s.p ≠ 0
  · rw [if_pos hp] at hr
    subst hr
    exact ⟨⟨⟨h1, h2⟩, rfl, id, id⟩, rfl, rfl, fun hc => hp (by rw [← h2, hc]; rfl)⟩
  rw [if_neg hp] at hr
  have hp0 : s.p = 0 := Decidable.not_not.1 hp
  have hns : s.n = s.size := by rw [← h1, hp0]; rfl
  have hn : 0 + s.n ≤ s.size := by rw [Nat.zero_add, hns]; exact Nat.le_refl _
  have hd : s.data = [] := List.eq_nil_of_length_eq_zero (h2.trans hp0)
  obtain ⟨sp, srs⟩ := oneread_spec s.src s.rs s.n
  generalize oneread s.src s.rs s.n = o at sp srs hr
  obtain ⟨rr, src', rs'⟩ := o
  cases rr with
  | err =>
    subst hr
    exact ⟨⟨⟨h1, h2⟩, rfl, fun hc => List.forall_mem_cons.2 ⟨hn, hc⟩, srs⟩, congrArg _ sp.1, sp.2⟩
  | eof =>
    subst hr
    exact ⟨⟨⟨h1, h2⟩, rfl, fun hc => List.forall_mem_cons.2 ⟨hn, hc⟩, srs⟩, congrArg _ sp.1, hp0,
      sp.2.imp_right fun q => sp.1.trans q⟩
  | got b =>
    obtain ⟨b1, b2, b3⟩ := sp
    have hb : s.n - b.length + b.length = s.size := (Nat.sub_add_cancel b2).trans hns
    subst hr
    refine ⟨⟨⟨hb, rfl⟩, rfl, fun hc => ?_, srs⟩, ?_, rfl, b1⟩
    · exact List.forall_mem_cons.2 ⟨Nat.le_of_eq hb, List.forall_mem_cons.2 ⟨hn, hc⟩⟩
    · rw [hd, ← b3]; rfl

theorem getthis_spec (s : ISt) (len : Nat) (h : IWF s) :
    IPost s (getthis s len).1 ∧ (getthis s len).2.length ≤ len ∧
    (getthis s len).2 ++ (getthis s len).1.data = s.data ∧ (getthis s len).1.src = s.src ∧
    (0 < s.p → 0 < len → (getthis s len).2 ≠ []) := by
  obtain ⟨h1, h2⟩ := h
  generalize hr : (if s.p > len then len else s.p) = r
  have hrl : r ≤ len ∧ r ≤ s.p ∧ (0 < s.p → 0 < len → 0 < r) := by
    by_cases c : s.p > len
    · rw [if_pos c] at hr; subst hr; exact ⟨Nat.le_refl _, Nat.le_of_lt c, fun _ q => q⟩
    · rw [if_neg c] at hr; subst hr; exact ⟨Nat.le_of_not_gt c, Nat.le_refl _, fun q _ => q⟩
  have hn : s.n + r + (s.p - r) = s.size ∧ s.n + r ≤ s.size :=
    ⟨by rw [Nat.add_assoc, Nat.add_sub_cancel' hrl.2.1]; exact h1, h1 ▸ Nat.add_le_add_left hrl.2.1 _⟩
  have hl : (s.data.take r).length = r := by rw [List.length_take, h2]; exact Nat.min_eq_left hrl.2.1
  generalize hg : getthis s len = g
  unfold getthis at hg
  rw [hr] at hg
  subst hg
  refine ⟨⟨⟨hn.1, by rw [← h2]; exact List.length_drop⟩, rfl, fun hc => List.forall_mem_cons.2 ⟨hn.2, hc⟩, id⟩,
    Nat.le_trans (Nat.le_of_eq hl) hrl.1, List.take_append_drop _ _, rfl, fun q1 q2 hc => ?_⟩
  have hc : s.data.take r = [] := hc
  have := hrl.2.2 q1 q2
  rw [← hl, hc] at this
  exact absurd this (Nat.lt_irrefl 0)

/-- what `substdio_get(s,buf,len)` leaves, `r` its result; `fail`: it fails only on a failing `read` -/
structure GetPost (s : ISt) (len : Nat) (r : ISt × RR) : Prop where
  post : IPost s r.1
  res : match r.2 with
    | .got b => b.length ≤ len ∧ b ++ (r.1.data ++ r.1.src) = s.data ++ s.src ∧ (0 < len → b ≠ [])
    | .eof => r.1.data ++ r.1.src = s.data ++ s.src ∧ r.1.p = 0 ∧ (0 < len → r.1.src = [])
    | .err => r.1.data ++ r.1.src = s.data ++ s.src
  fail : r.2 = .err → 0 ∈ s.rs

theorem get_spec (s : ISt) (len : Nat) (h : IWF s) : GetPost s len (get s len) := by
  generalize hr : get s len = r
  unfold Substdio.get at hr
  -- the three branches of `substdio_get`: bytes are buffered (`getthis`); the buffer is empty and no larger than the
  -- request (one read straight into the caller's buffer, `ISt` unchanged but for the source); else `feed`, then `getthis`
  by_cases hp : s.p > 0
  · rw [if_pos hp] at hr
    obtain ⟨g1, g2, g3, g4, g5⟩ := getthis_spec s len h
    subst hr
    exact ⟨g1, ⟨g2, by rw [g4, ← List.append_assoc, g3], g5 hp⟩, nofun⟩
  rw [if_neg hp] at hr
  have hp0 : s.p = 0 := Nat.eq_zero_of_not_pos hp
  have hd : s.data = [] := List.eq_nil_of_length_eq_zero (h.2.trans hp0)
  by_cases hn : s.n ≤ len
  · rw [if_pos hn] at hr
    obtain ⟨sp, srs⟩ := oneread_spec s.src s.rs len
    generalize oneread s.src s.rs len = o at sp srs hr
    obtain ⟨rr, src', rs'⟩ := o
    subst hr
    have hI : IPost s { s with src := src', rs := rs' } := ⟨h, rfl, id, srs⟩
    cases rr with
    | err => exact ⟨hI, congrArg _ sp.1, fun _ => sp.2⟩
    | eof => exact ⟨hI, ⟨congrArg _ sp.1, hp0, fun hl => sp.1.trans (sp.2.resolve_left (Nat.ne_of_gt hl))⟩, nofun⟩
    | got b => exact ⟨hI, ⟨sp.2.1, by rw [hd, ← sp.2.2]; rfl, fun _ => sp.1⟩, nofun⟩
  rw [if_neg hn] at hr
  obtain ⟨f1, f4, f5⟩ := feed_spec s h
  generalize feed s = fr at f1 f4 f5 hr
  obtain ⟨s', rr⟩ := fr
  cases rr with
  | err => subst hr; exact ⟨f1, f4, fun _ => f5⟩
  | eof =>
    subst hr
    refine ⟨f1, ⟨f4, f5.1, fun hl => f5.2.resolve_left fun q => hn ?_⟩, nofun⟩
    have := f1.wf.1
    have := f5.1
    have := h.1
    have := f1.size
    omega
  | got b =>
    subst hr
    obtain ⟨g1, g2, g3, g4, g5⟩ := getthis_spec s' len f1.wf
    have hp' : 0 < s'.p := by
      rw [← f1.wf.2, ← f5.1]; exact List.length_pos_iff.2 f5.2
    exact ⟨⟨g1.wf, g1.size.trans f1.size, fun hc => g1.cp (f1.cp hc), fun hc => g1.rs (f1.rs hc)⟩,
      ⟨g2, by rw [g4, ← List.append_assoc, g3, f4], g5 hp'⟩, nofun⟩

end Nq.Lemmas.C20
