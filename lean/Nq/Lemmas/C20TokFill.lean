/-
  Lemmas for C20 (token822_unparse / token822_unquote: the second walk stays inside what the first walk counted).
-/
import Nq.TokFill

namespace Nq.TokFill
open Nq

theorem esc2_eq (c : Byte) : esc2 c = esc1 c := rfl

/-- pointer sanity of the fill walk: `lineb ≤ s`, and a recorded fold lies at least two bytes behind the cursor
(so `s - lineb` is non-negative and `linee -= 2` stays inside the block) -/
def CurOk (c : Cur) : Prop := c.lineb ≤ c.s ∧ ∀ le, c.linee = some le → le + 2 ≤ c.s

/-- a stretch of a fill walk from offset `s`: it stores to `s, s+1, …, s+n-1`, in this order, once each, and ends at `s + n` -/
def Fill (s n : Nat) (o : Nat × List Ix) : Prop := o.1 = s + n ∧ o.2 = (List.range' s n).map .st

theorem Fill.append {s n m : Nat} {o o' : Nat × List Ix} (h : Fill s n o) (h' : Fill o.1 m o') :
    Fill s (n + m) (o'.1, o.2 ++ o'.2) := by
  obtain ⟨e, hm⟩ := h
  obtain ⟨e', hm'⟩ := h'
  exact ⟨by rw [e', e, Nat.add_assoc], by rw [hm, hm', e, ← List.map_append, List.range'_append_1]⟩

theorem Fill.cast {s n m : Nat} {o : Nat × List Ix} (h : Fill s n o) (e : n = m) : Fill s m o := e ▸ h

theorem Fill.range (s n : Nat) : Fill s n (s + n, (List.range' s n).map .st) := ⟨rfl, rfl⟩

theorem Fill.lt {s n : Nat} {o : Nat × List Ix} (h : Fill s n o) : ∀ i ∈ o.2, i.idx < s + n := by
  intro i hi
  rw [h.2] at hi
  obtain ⟨j, hj, rfl⟩ := List.mem_map.1 hi
  exact (List.mem_range'_1.1 hj).2

theorem put1_fill (b : Bool) (s : Nat) : Fill s (if b then 1 else 0) (put1 b s) := by
  cases b <;> exact ⟨rfl, rfl⟩

theorem bytesFill_fill (b : Bytes) : ∀ s, Fill s (bytesLen1 b) (bytesFill s b) := by
  induction b with
  | nil => intro s; exact ⟨rfl, rfl⟩
  | cons c r ih =>
    intro s
    by_cases h : esc1 c = true
    · have h2 : esc2 c = true := h
      simp only [bytesFill, bytesLen1, if_pos h, if_pos h2]
      exact (Fill.range s 2).append (ih (s + 2))
    · have h2 : ¬ esc2 c = true := h
      simp only [bytesFill, bytesLen1, if_neg h, if_neg h2]
      exact (Fill.range s 1).append (ih (s + 1))

theorem CurOk.fill {c : Cur} (hc : CurOk c) {n : Nat} {o : Nat × List Ix} (h : Fill c.s n o) :
    CurOk { c with s := o.1 } ∧ o.1 ≤ c.s + n ∧ ∀ i ∈ o.2, i.idx < c.s + n := by
  have hs : c.s ≤ o.1 := h.1 ▸ Nat.le_add_right _ _
  exact ⟨⟨Nat.le_trans hc.1 hs, fun le h => Nat.le_trans (hc.2 le h) hs⟩, Nat.le_of_eq h.1, h.lt⟩

/-- NSUW stores two bytes at the cursor and either moves on by two (a fold is recorded) or closes the gap of the
recorded fold and stays -/
theorem nsuw_spec (linelen : Nat) (c : Cur) (hc : CurOk c) :
    CurOk (nsuw linelen c).1 ∧ c.s ≤ (nsuw linelen c).1.s ∧ (nsuw linelen c).1.s ≤ c.s + 2 ∧ 2 ≤ (nsuw linelen c).1.s ∧
    ∀ i ∈ (nsuw linelen c).2, i.idx < c.s + 2 := by
  obtain ⟨hb, he⟩ := hc
  have h2 : ∀ i ∈ [Ix.st c.s, .st (c.s + 1)], i.idx < c.s + 2 := (Fill.range c.s 2).lt
  have fresh : ∀ lb, lb ≤ c.s + 2 → CurOk ⟨c.s + 2, lb, some c.s⟩ ∧ c.s ≤ c.s + 2 ∧ c.s + 2 ≤ c.s + 2 ∧ 2 ≤ c.s + 2 :=
    fun lb h => ⟨⟨h, fun le e => by cases e; exact Nat.le_refl _⟩, Nat.le_add_right _ _, Nat.le_refl _, Nat.le_add_left _ _⟩
  unfold nsuw
  split
  · next le hl =>
    have hle := he le hl
    split
    · refine ⟨⟨hb, ?_⟩, Nat.le_refl _, Nat.le_add_right _ _, by simp only []; omega, ?_⟩
      · intro le' h; cases h; simp only []; omega
      · intro i hi
        rcases List.mem_append.1 hi with hi | hi
        · exact h2 i hi
        · -- closing the gap of the fold at `le`: for `le ≤ p < s` it reads `p + 2` and stores to `p`, all `< s + 2`
          obtain ⟨p, hp, hi⟩ := List.mem_flatMap.1 hi
          have := List.mem_range'_1.1 hp
          simp at hi; rcases hi with rfl | rfl <;> simp [Ix.idx] <;> omega
    · obtain ⟨f1, f2, f3, f4⟩ := fresh (le + 1) (by omega)
      exact ⟨f1, f2, f3, f4, h2⟩
  · obtain ⟨f1, f2, f3, f4⟩ := fresh c.lineb (by omega)
    exact ⟨f1, f2, f3, f4, h2⟩

/-- the two delimiters the length walk counts for every word that is not an atom are those the fill walk writes
around a quoted string, a domain literal, a comment (the left side in the shape `tokFill` unfolds to) -/
theorem word_delims (t : Nat) (h : isWord t = true) :
    2 * ((if (t == QUOTE) = true then 1 else 0) + (if (t == LITERAL) = true then 1 else 0) + (if (t == COMMENT) = true then 1 else 0))
      = (if t ≠ ATOM then 2 else 0) := by
  simp [isWord] at h
  rcases h with ((h | h) | h) | h <;> subst h <;> decide

theorem tokFill_spec (linelen last : Nat) (t : Tk) (c : Cur) (hc : CurOk c) :
    CurOk (tokFill linelen last t c).1 ∧ (tokFill linelen last t c).1.s ≤ c.s + tokLen1 last t ∧
    ∀ i ∈ (tokFill linelen last t c).2, i.idx < c.s + tokLen1 last t := by
  generalize hr : tokFill linelen last t c = r
  unfold tokFill at hr
  extract_lets sp n o1 o2 o3 b e1 e2 e3 at hr
  have hsp : Fill c.s _ sp := put1_fill (needspace last t.typ) c.s
  unfold tokLen1
  split at hr
  · next h1 =>
    -- the fold macro may leave the cursor where it is; the length walk counted its two bytes all the same
    subst hr
    rw [if_pos h1]
    obtain ⟨k1, k2, k3⟩ := hc.fill (hsp.append (Fill.range sp.1 1))
    obtain ⟨n1, -, n3, -, n5⟩ : CurOk n.1 ∧ _ ∧ n.1.s ≤ _ ∧ _ ∧ ∀ i ∈ n.2, _ := nsuw_spec linelen _ k1
    refine ⟨n1, by simp only [] at n3 ⊢; omega, ?_⟩
    intro i hi
    rcases List.mem_append.1 hi with hi | hi
    · have := k3 i hi; omega
    · have := n5 i hi; simp only [] at this; omega
  · next h1 =>
    rw [if_neg h1]
    split at hr
    · next h2 =>
      subst hr
      rw [if_pos h2]
      exact hc.fill (hsp.append (Fill.range _ 1))
    · next h2 =>
      rw [if_neg h2]
      split at hr
      · next hw =>
        subst hr
        rw [if_pos hw]
        have h1 : Fill sp.1 _ o1 := put1_fill _ _
        have h2 : Fill o1.1 _ o2 := put1_fill _ _
        have h3 : Fill o2.1 _ o3 := put1_fill _ _
        have hb : Fill o3.1 _ b := bytesFill_fill _ _
        have g1 : Fill b.1 _ e1 := put1_fill _ _
        have g2 : Fill e1.1 _ e2 := put1_fill _ _
        have g3 : Fill e2.1 _ e3 := put1_fill _ _
        have h := ((((((hsp.append h1).append h2).append h3).append hb).append g1).append g2).append g3
        refine hc.fill (h.cast ?_)
        have hd := word_delims t.typ hw
        omega
      · next h3 =>
        subst hr
        rw [if_neg h3]
        exact hc.fill hsp

theorem toksFill_spec (linelen : Nat) (ts : List Tk) : ∀ (last : Nat) (c : Cur), CurOk c → ∀ B, c.s ≤ B →
    CurOk (toksFill linelen last ts c).1 ∧ (toksFill linelen last ts c).1.s ≤ B + toksLen1 last ts ∧
    ∀ i ∈ (toksFill linelen last ts c).2, i.idx < B + toksLen1 last ts := by
  induction ts with
  | nil => intro last c hc B hB; simp [toksFill, toksLen1, hc, hB]
  | cons t r ih =>
    intro last c hc B hB
    obtain ⟨a1, a2, a3⟩ := tokFill_spec linelen last t c hc
    obtain ⟨b1, b2, b3⟩ := ih t.typ (tokFill linelen last t c).1 a1 (B + tokLen1 last t)
      (Nat.le_trans a2 (Nat.add_le_add_right hB _))
    simp only [toksFill, toksLen1]
    rw [← Nat.add_assoc]
    refine ⟨b1, b2, fun i hi => ?_⟩
    rcases List.mem_append.1 hi with hi | hi
    · exact Nat.lt_of_lt_of_le (a3 i hi) (Nat.le_trans (Nat.add_le_add_right hB _) (Nat.le_add_right _ _))
    · exact b3 i hi

/-! ### unquote -/

theorem qTokFill_fill (t : Tk) (s : Nat) : Fill s (qTokLen1 t) (qTokFill t s) := by
  unfold qTokFill qTokLen1
  by_cases h1 : isOne t.typ = true
  · rw [if_pos h1, if_pos h1]; exact Fill.range s 1
  rw [if_neg h1, if_neg h1]
  by_cases h2 : t.typ = LITERAL
  · rw [if_pos h2, if_pos (.inr (.inr h2))]
    exact (((put1_fill _ s).append (Fill.range _ t.s.length)).append (put1_fill _ _)).cast (by rw [h2, if_pos (by decide)]; omega)
  rw [if_neg h2]
  have hf : (t.typ == LITERAL) = false := beq_false_of_ne h2
  by_cases h3 : t.typ = ATOM ∨ t.typ = QUOTE
  · rw [if_pos h3, if_pos (h3.imp_right .inl)]
    exact (((put1_fill _ s).append (Fill.range _ t.s.length)).append (put1_fill _ _)).cast (by rw [hf, if_neg Bool.false_ne_true]; omega)
  · rw [if_neg h3, if_neg (fun h => h.elim (h3 ∘ .inl) (·.elim (h3 ∘ .inr) h2))]
    exact ⟨rfl, rfl⟩

theorem qFill_fill (ts : List Tk) : ∀ s, Fill s (qlen1 ts) (qFill ts s) := by
  induction ts with
  | nil => intro s; exact ⟨rfl, rfl⟩
  | cons t r ih => intro s; exact (qTokFill_fill t s).append (ih _)

end Nq.TokFill
