/-
  Facts about `CMini.run` that hold of every program.  `run_switch`: a `switch` runs the statements between its case
  label and the next unconditional jump, so `Nq.Lemmas.SmtpdSrc.Main` looks at those only.  `run_set`: a statement
  neither reads nor changes a local it never mentions (a property of the embedding; no other proof uses it).
-/
import Nq.CMini

namespace Nq.CMini

theorem getD_set_ne' (env : Env) (v w x : Nat) (h : v ≠ w) : (List.set env v x)[w]?.getD 0 = env[w]?.getD 0 := by
  rw [List.getElem?_set_ne h]

theorem getD_set_ne (env : Env) (v w x : Nat) (h : v ≠ w) : (env.set v x).getD w 0 = env.getD w 0 := by
  simp only [List.getD_eq_getElem?_getD]; exact getD_set_ne' env v w x h

theorem eval_set (env : Env) (v x c : Nat) : ∀ (e : Expr), v ∉ e.vars → eval (env.set v x) c e = eval env c e
  | .ch, _ => rfl
  | .lit _, _ => rfl
  | .var w, h => by
      simp [Expr.vars] at h
      simp [eval, getD_set_ne' env v w x h]
  | .strAt s e, h => by simp [Expr.vars] at h; simp [eval, eval_set env v x c e h]
  | .eq a b, h => by simp [Expr.vars] at h; simp [eval, eval_set env v x c a h.1, eval_set env v x c b h.2]
  | .ne a b, h => by simp [Expr.vars] at h; simp [eval, eval_set env v x c a h.1, eval_set env v x c b h.2]
  | .lt a b, h => by simp [Expr.vars] at h; simp [eval, eval_set env v x c a h.1, eval_set env v x c b h.2]
  | .lnot a, h => by simp [Expr.vars] at h; simp [eval, eval_set env v x c a h]
  | .land a b, h => by simp [Expr.vars] at h; simp [eval, eval_set env v x c a h.1, eval_set env v x c b h.2]
  | .lor a b, h => by simp [Expr.vars] at h; simp [eval, eval_set env v x c a h.1, eval_set env v x c b h.2]

def Res.setv (r : Res) (v x : Nat) : Res := ⟨r.env.set v x, r.evs, r.ctl, r.seek⟩

theorem run_set (v x c : Nat) : ∀ (s : Stmt) (sk : Option Nat) (env : Env), v ∉ s.vars →
    run s sk (env.set v x) c = (run s sk env c).setv v x := by
  intro s
  induction s with
  | skip => intro sk env _; cases sk <;> simp [run, Res.setv]
  | assign w e =>
      intro sk env h
      simp [Stmt.vars] at h
      cases sk with
      | some k => simp [run, Res.setv]
      | none =>
        have hne : w ≠ v := fun hh => h.1 hh.symm
        simp [run, Res.setv, eval_set env v x c e h.2, List.set_comm _ _ hne]
  | incr w =>
      intro sk env h
      simp [Stmt.vars] at h
      cases sk with
      | some k => simp [run, Res.setv]
      | none =>
        have hne : w ≠ v := fun hh => h hh.symm
        simp [run, Res.setv, getD_set_ne' env v w x h, List.set_comm _ _ hne]
  | hop => intro sk env _; cases sk <;> simp [run, Res.setv]
  | put e =>
      intro sk env h
      simp [Stmt.vars] at h
      cases sk <;> simp [run, Res.setv, eval_set env v x c e h]
  | noret f => intro sk env _; cases sk <;> simp [run, Res.setv]
  | ite cnd t e iht ihe =>
      intro sk env h
      simp [Stmt.vars] at h
      cases sk with
      | some k => simp [run, Res.setv]
      | none =>
        simp only [run, eval_set env v x c cnd h.1]
        split
        · exact iht none env h.2.1
        · exact ihe none env h.2.2
  | seq a b iha ihb =>
      intro sk env h
      simp [Stmt.vars] at h
      simp only [run, iha sk env h.1]
      cases hc : (run a sk env c).ctl <;> simp [Res.setv, hc]
      have := ihb (run a sk env c).seek (run a sk env c).env h.2
      simp [this, Res.setv]
  | label k => intro sk env _; simp [run, Res.setv]
  | switch e body ih =>
      intro sk env h
      simp [Stmt.vars] at h
      cases sk with
      | some k => simp [run, Res.setv]
      | none =>
        simp only [run, eval_set env v x c e h.1, ih _ env h.2]
        simp [Res.setv]
  | brk => intro sk env _; cases sk <;> simp [run, Res.setv]
  | cont => intro sk env _; cases sk <;> simp [run, Res.setv]
  | ret => intro sk env _; cases sk <;> simp [run, Res.setv]

/-! ### `switch`: from the case label to the next jump -/

/-- what a `switch` on `k` runs: its body from `case k:` on -/
def Stmt.after (k : Nat) : Stmt → Option Stmt
  | .label j => if j = k then some .skip else none
  | .seq a b => match a.after k with | some a' => some (.seq a' b) | none => b.after k
  | _ => none

def Stmt.jumps : Stmt → Bool
  | .brk | .cont | .ret | .noret _ => true
  | _ => false

/-- a sequence without what follows its first `break`, `continue`, `return` or call that does not return -/
def Stmt.cut : Stmt → Stmt
  | .seq a b => bif a.jumps then a else .seq a b.cut
  | s => s

theorem run_seek (k : Nat) (env : Env) (c : Nat) : ∀ s : Stmt,
    run s (some k) env c =
      match s.after k with | some s' => run s' none env c | none => ⟨env, [], .norm, some k⟩ := by
  intro s
  induction s with
  | label j =>
      simp only [run, Stmt.after, Option.some.injEq]
      by_cases h : j = k
      · simp [h, run]
      · simp [h, Ne.symm h]
  | seq a b iha ihb =>
      simp only [run, Stmt.after, iha]
      cases a.after k with
      | some a' => simp [run]
      | none => simp [ihb]
  | _ => simp [run, Stmt.after]

theorem seek_none (c : Nat) : ∀ (s : Stmt) (env : Env), (run s none env c).seek = none := by
  intro s
  induction s with
  | seq a b iha ihb =>
      intro env
      simp only [run]
      cases (run a none env c).ctl <;> simp [iha env, ihb]
  | ite cnd t e iht ihe => intro env; simp only [run]; split <;> simp [iht, ihe]
  | _ => intro env; simp [run]

theorem run_cut (c : Nat) : ∀ (s : Stmt) (env : Env), run s.cut none env c = run s none env c := by
  intro s
  induction s with
  | seq a b _ ihb =>
      intro env
      simp only [Stmt.cut]
      cases h : a.jumps
      · simp only [cond_false, run, seek_none, ihb]
      · cases a <;> simp [Stmt.jumps] at h <;> rfl
  | _ => intro env; rfl

/-- `s'` is found by evaluating `after` and `cut` on the program text; it is short, where `b` holds every case. -/
theorem run_switch {e : Expr} {b s' : Stmt} {env : Env} {c : Nat}
    (h : (b.after (eval env c e)).map Stmt.cut = some s') :
    run (.switch e b) none env c =
      ⟨(run s' none env c).env, (run s' none env c).evs,
        match (run s' none env c).ctl with | .brk => .norm | x => x, none⟩ := by
  cases hb : b.after (eval env c e) with
  | none => simp [hb] at h
  | some s'' =>
    simp only [hb, Option.map_some, Option.some.injEq] at h
    simp only [run, run_seek, hb, ← h, run_cut]
    rfl

end Nq.CMini
