/-
  Lemmas about qmail-clean with read/write faults (`Nq.CleanIO`): shape of `respond`, the trace with
  faults is the fault-free trace cut at the first failing write, the cut oracle.
-/
import Nq.Spec.CleanIOSpec
import Nq.Lemmas.CleanL

namespace Nq.Lemmas.CleanIOL
open Nq Nq.Clean Nq.CleanIO Nq.Spec.TB Nq.Lemmas.CleanL

/-! ### reads -/

theorem arrived_append (r1 r2 : List Rd) :
    arrived (r1 ++ r2) = arrived r1 ∨ arrived (r1 ++ r2) = arrived r1 ++ arrived r2 := by
  induction r1 with
  | nil => right; rfl
  | cons x r ih =>
    cases x with
    | data bs =>
      by_cases hb : bs = []
      · left; simp [arrived, hb]
      · rcases ih with h | h
        · left; simp [arrived, hb, h]
        · right; simp [arrived, hb, h]
    | eintr => simpa [arrived] using ih
    | err => left; simp [arrived]

theorem arrived_congr (r1 : List Rd) {x y : List Rd} (h : arrived x = arrived y) :
    arrived (r1 ++ x) = arrived (r1 ++ y) := by
  induction r1 with
  | nil => exact h
  | cons a r ih =>
    cases a with
    | data bs => simp only [List.cons_append, arrived, ih]
    | eintr => exact ih
    | err => rfl

theorem splitReqs_tail (cur s tail : Bytes) (h : ∀ c ∈ tail, c ≠ 0) :
    splitReqs cur (s ++ tail) = splitReqs cur s := by
  induction s generalizing cur with
  | nil =>
    induction tail generalizing cur with
    | nil => rfl
    | cons c t ih =>
      have hc : c ≠ 0 := h c (by simp)
      simp only [List.nil_append, splitReqs, hc, if_false] at ih ⊢
      exact ih (fun d hd => h d (by simp [hd])) _
  | cons c s ih =>
    simp only [List.cons_append, splitReqs]
    split
    · rw [ih]
    · rw [ih]

/-! ### `respond` -/

theorem resp_shape (b : Byte) (w : List Nat) :
    ∃ n, (respAlive b w = true ∧ respT b w = List.replicate n (.wintr b) ++ [.ev (.status b)]) ∨
         (respAlive b w = false ∧ respT b w = List.replicate n (.wintr b) ++ [.wfail b]) := by
  induction w with
  | nil => exact ⟨0, .inl ⟨rfl, rfl⟩⟩
  | cons r w ih =>
    by_cases h0 : r = 0
    · exact ⟨0, .inl ⟨by simp [respAlive, h0], by simp [respT, h0]⟩⟩
    · by_cases h1 : r = 1
      · obtain ⟨n, h⟩ := ih
        refine ⟨n + 1, ?_⟩
        rcases h with ⟨a, t⟩ | ⟨a, t⟩
        · left; exact ⟨by simp [respAlive, h1, a], by simp [respT, h1, t, List.replicate_succ]⟩
        · right; exact ⟨by simp [respAlive, h1, a], by simp [respT, h1, t, List.replicate_succ]⟩
      · exact ⟨0, .inr ⟨by simp [respAlive, h0, h1], by simp [respT, h0, h1]⟩⟩

theorem erase_append (a b : List IOEv) : erase (a ++ b) = erase a ++ erase b := by
  induction a with
  | nil => rfl
  | cons x a ih => cases x <;> simp [erase, ih]

theorem erase_wintrs (n : Nat) (b : Byte) : erase (List.replicate n (.wintr b)) = [] := by
  induction n with
  | zero => rfl
  | succ n ih => simp [List.replicate_succ, erase, ih]

theorem attempts_wintrs (n : Nat) (b : Byte) (x : IOEv) (rest : List IOEv) (hx : headAnswers b (x :: rest) = true) :
    attemptsOK (List.replicate n (.wintr b) ++ x :: rest) = attemptsOK (x :: rest) := by
  induction n with
  | zero => rfl
  | succ n ih =>
    rw [List.replicate_succ, List.cons_append, attemptsOK, ih]
    cases n with
    | zero => simp [hx]
    | succ m => simp [List.replicate_succ, headAnswers]

theorem wfail_not_mem_wintrs (n : Nat) (b c : Byte) : IOEv.wfail c ∉ List.replicate n (IOEv.wintr b) := by
  intro h; have := List.eq_of_mem_replicate h; cases this

/-! ### the trace with faults -/

theorem emit_spec (evs : List Ev) (w : List Nat) :
    attemptsOK (emitT evs w) = true ∧
    (emitAlive evs w = true → erase (emitT evs w) = evs ∧ ∀ c, IOEv.wfail c ∉ emitT evs w) ∧
    (emitAlive evs w = false →
      ∃ pre b post tr, evs = pre ++ Ev.status b :: post ∧ emitT evs w = tr ++ [IOEv.wfail b] ∧ erase tr = pre) := by
  induction evs generalizing w with
  | nil => exact ⟨rfl, fun _ => ⟨rfl, by simp [emitT]⟩, fun h => by simp [emitAlive] at h⟩
  | cons e r ih =>
    cases e with
    | status b =>
      obtain ⟨n, ⟨a, t⟩ | ⟨a, t⟩⟩ := resp_shape b w
      · obtain ⟨i1, i2, i3⟩ := ih (respRest b w)
        simp only [emitT, emitAlive, a, if_true, t]
        refine ⟨?_, fun h => ?_, fun h => ?_⟩
        · rw [List.append_assoc, List.singleton_append, attempts_wintrs _ _ _ _ (by simp [headAnswers])]
          simpa [attemptsOK] using i1
        · obtain ⟨h1, h2⟩ := i2 h
          refine ⟨by simp [erase_append, erase_wintrs, erase, h1], fun c hc => ?_⟩
          simp only [List.mem_append, List.mem_singleton] at hc
          rcases hc with (hc | hc) | hc
          · exact wfail_not_mem_wintrs _ _ _ hc
          · cases hc
          · exact h2 c hc
        · obtain ⟨pre, c, post, tr, h1, h2, h3⟩ := i3 h
          exact ⟨Ev.status b :: pre, c, post, List.replicate n (.wintr b) ++ [.ev (.status b)] ++ tr, by simp [h1],
            by simp [h2], by simp [erase_append, erase_wintrs, erase, h3]⟩
      · simp only [emitT, emitAlive, a, t, Bool.false_eq_true, if_false]
        refine ⟨?_, nofun, fun _ => ⟨[], b, r, List.replicate n (.wintr b), by simp, rfl, erase_wintrs n b⟩⟩
        rw [attempts_wintrs _ _ _ _ (by simp [headAnswers])]
        simp [attemptsOK]
    | _ =>
      obtain ⟨i1, i2, i3⟩ := ih w
      refine ⟨by simpa [emitT, attemptsOK] using i1, fun h => by simpa [emitT, erase] using i2 h, fun h => ?_⟩
      obtain ⟨pre, b, post, tr, h1, h2, h3⟩ := i3 h
      exact ⟨_ :: pre, b, post, .ev _ :: tr, congrArg (_ :: ·) h1, congrArg (_ :: ·) h2, congrArg (_ :: ·) h3⟩

theorem runT_cases (rds : List Rd) (plan : List Nat) (scans : List Scan) (wplan : List Nat) :
    (runCode rds plan scans wplan = 0 ∧ erase (runT rds plan scans wplan) = run (arrived rds) plan scans ∧
        ∀ c, IOEv.wfail c ∉ runT rds plan scans wplan) ∨
    (runCode rds plan scans wplan = 100 ∧ ∃ pre b post tr, run (arrived rds) plan scans = pre ++ Ev.status b :: post ∧
        runT rds plan scans wplan = tr ++ [IOEv.wfail b] ∧ erase tr = pre) := by
  unfold runCode runT
  cases ha : emitAlive (run (arrived rds) plan scans) wplan with
  | true => exact .inl ⟨rfl, (emit_spec _ _).2.1 ha⟩
  | false => exact .inr ⟨rfl, (emit_spec _ _).2.2 ha⟩

/-! ### the cut oracle -/

theorem split_first_status (A T pre post : List Ev) (s b : Byte) (hA : statuses A = [])
    (h : A ++ Ev.status s :: T = pre ++ Ev.status b :: post) :
    (pre = A ∧ b = s ∧ post = T) ∨ ∃ pre', pre = A ++ Ev.status s :: pre' ∧ T = pre' ++ Ev.status b :: post := by
  -- `A` and `pre` are taken apart in step: `pre` cannot end inside `A`, whose next event would then be `status b` (`hA`)
  induction A generalizing pre with
  | nil =>
    cases pre with
    | nil =>
      simp only [List.nil_append, List.cons.injEq, Ev.status.injEq] at h
      exact .inl ⟨rfl, h.1.symm, h.2.symm⟩
    | cons x pre' =>
      simp only [List.nil_append, List.cons_append, List.cons.injEq] at h
      exact .inr ⟨pre', by simp [h.1], h.2⟩
  | cons a A ih =>
    cases pre with
    | nil =>
      simp only [List.nil_append, List.cons_append, List.cons.injEq] at h
      rw [h.1] at hA; simp [statuses] at hA
    | cons x pre' =>
      simp only [List.cons_append, List.cons.injEq] at h
      obtain ⟨hax, h⟩ := h
      have hA' : statuses A = [] := by
        cases a <;> simp [statuses] at hA ⊢ <;> exact hA
      rcases ih pre' hA' h with ⟨h1, h2, h3⟩ | ⟨p, h1, h2⟩
      · exact .inl ⟨by rw [h1, hax], h2, h3⟩
      · exact .inr ⟨p, by rw [h1, hax]; rfl, h2⟩

/-- `cleanCut` on a trace that starts with one request's events: the group passes, and the cut is here or later -/
theorem cleanCut_group {q : Bytes} {ps : List Bytes} {s : Byte} (h2 : ∀ p ∈ ps, p ∈ allowed q) (h3 : s = stX → ps = [])
    (qs : List Bytes) (cl : Nat) (scans : List Scan) (rest : List Ev) :
    cleanCut (q :: qs) scans (housekeeping cl scans ++ (ps.map Ev.unlink ++ [Ev.status s] ++ rest)) =
      if rest.isEmpty then true else cleanCut qs (nextScans cl scans) rest := by
  rw [cleanCut, takeScan_group]
  simp only []
  rw [takeGroup_shape]
  simp only [group_ok h2 h3, Bool.true_and]

/-- The run of one request is housekeeping, unlinks, one status byte, then the run of the remaining requests; so a cut
right after a status byte is after this request's (the oracle's group ends the trace) or inside the rest (induction) -/
theorem cleanCut_runReqs (reqs : List Bytes) (cl : Nat) (plan : List Nat) (scans : List Scan)
    (pre post : List Ev) (b : Byte) (h : runReqs cl reqs plan scans = pre ++ Ev.status b :: post) :
    cleanCut reqs scans (pre ++ [Ev.status b]) = true := by
  induction reqs generalizing cl plan scans pre with
  | nil =>
    unfold runReqs at h
    have := congrArg statuses h
    rw [statuses_housekeeping, statuses_append] at this
    simp [statuses] at this
  | cons q qs ih =>
    obtain ⟨ps, s, h1, h2, h3⟩ := handleReq_shape q plan
    unfold runReqs at h
    rw [h1] at h
    have hA : statuses (housekeeping cl scans ++ ps.map Ev.unlink) = [] := by
      rw [statuses_append, statuses_housekeeping, statuses_unlinks]; rfl
    have h' : (housekeeping cl scans ++ ps.map Ev.unlink) ++
        Ev.status s :: runReqs (nextLoop cl) qs (handleReq q plan).2 (nextScans cl scans) = pre ++ Ev.status b :: post := by
      simpa [List.append_assoc] using h
    rcases split_first_status _ _ _ _ _ _ hA h' with ⟨hp, hb, _⟩ | ⟨pre', hp, hT⟩
    · subst hp; subst hb
      have e : (housekeeping cl scans ++ ps.map Ev.unlink) ++ [Ev.status b] =
          housekeeping cl scans ++ (ps.map Ev.unlink ++ [Ev.status b] ++ []) := by simp
      rw [e, cleanCut_group h2 h3]
      rfl
    -- the cut is later: this request's group is checked as in `cleanOK`, the rest by induction
    · have e : pre ++ [Ev.status b] =
          housekeeping cl scans ++ (ps.map Ev.unlink ++ [Ev.status s] ++ (pre' ++ [Ev.status b])) := by
        rw [hp]; simp
      have hne2 : (pre' ++ [Ev.status b]).isEmpty = false := by cases pre' <;> rfl
      rw [e, cleanCut_group h2 h3, hne2]
      exact ih _ _ _ _ hT

end Nq.Lemmas.CleanIOL
