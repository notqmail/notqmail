/-
  Lemmas about the qmail-clean model (`Nq.Clean`): decimal printing/scanning round trip, the shape
  of the event list of one request, what `cleanuppid()` unlinks (only old entries of pid/, no status byte),
  and the stream-level oracle.
-/
import Nq.Clean
import Nq.Lemmas.Decimal
import Nq.Spec.TrustBoundary

namespace Nq.Lemmas.CleanL
open Nq Nq.Clean Nq.Spec.TB

/-! ### digits -/

theorem revDigits_reverse : ∀ (f n : Nat), n < f → (revDigits f n).reverse = fmtNat n
  | 0, _, h => absurd h (Nat.not_lt_zero _)
  | f + 1, n, h => by
    unfold revDigits
    split
    · rename_i h10; rw [fmtNat_lt10 n h10, digitByte, Nat.mod_eq_of_lt h10]; rfl
    · rename_i h10
      rw [List.reverse_cons, revDigits_reverse f (n / 10) (by omega), fmtNat_step n (by omega)]; rfl

theorem fmtUlong_eq (n : Nat) : fmtUlong n = fmtNat n := revDigits_reverse (n + 1) n (Nat.lt_succ_self n)

theorem decVal_fmtUlong (n : Nat) : decVal (fmtUlong n) = n := by
  rw [fmtUlong_eq]; exact decVal_fmtNat n

theorem fmtUlong_digits (n : Nat) : (fmtUlong n).all isDigit = true := by
  rw [fmtUlong_eq]; exact List.all_eq_true.2 (fmtNat_digits n)

theorem fmtUlong_ne_nil (n : Nat) : fmtUlong n ≠ [] := by
  rw [fmtUlong_eq]; exact fmtNat_ne_nil n

/-! ### `scan_ulong` -/

theorem scan_lt (ds : Bytes) (a : Nat) (ha : a < ULONG) :
    ds.foldl (fun acc d => (acc * 10 + (d.toNat - 48)) % ULONG) a < ULONG := by
  induction ds generalizing a with
  | nil => simpa using ha
  | cons d r ih => simp only [List.foldl_cons]; exact ih _ (Nat.mod_lt _ (by decide))

theorem scanUlong_lt (ds : Bytes) : scanUlong ds < ULONG := scan_lt ds 0 (by decide)

theorem scanUlong_eq (ds : Bytes) : scanUlong ds = decVal ds % ULONG := by
  have h := decFold_mod ULONG ds 0 0 rfl
  have h2 := scanUlong_lt ds
  unfold scanUlong at *
  unfold decVal
  rw [← h, Nat.mod_eq_of_lt h2]

/-- the canonical-spelling test of qmail-clean: it holds exactly when no wrap-around happened
and there are no superfluous leading zeros -/
theorem canonical_iff (ds : Bytes) :
    fmtUlong (scanUlong ds) = ds ↔ (decVal ds < ULONG ∧ fmtUlong (decVal ds) = ds) := by
  constructor
  · intro h
    have h1 : decVal ds = scanUlong ds := by
      have := congrArg decVal h
      rw [decVal_fmtUlong] at this; exact this.symm
    have h2 := scanUlong_lt ds
    exact ⟨by omega, by rw [h1]; exact h⟩
  · intro ⟨h1, h2⟩
    rw [scanUlong_eq, Nat.mod_eq_of_lt h1]; exact h2

/-! ### one request -/

theorem unlinks_shape (ps : List Bytes) (plan : List Nat) :
    ∃ (qs : List Bytes) (s : Byte), (unlinks ps plan).1 = qs.map Ev.unlink ++ [Ev.status s] ∧ (∀ q ∈ qs, q ∈ ps) ∧ (s = stOK ∨ s = stERR) := by
  fun_induction unlinks ps plan
  case case1 => exact ⟨[], stOK, rfl, nofun, .inl rfl⟩
  case case2 p ps plan _ _ _ ih =>
    obtain ⟨qs, s, h1, h2, h3⟩ := ih
    exact ⟨p :: qs, s, congrArg (_ :: ·) h1,
      List.forall_mem_cons.2 ⟨List.mem_cons_self, fun q hq => List.mem_cons_of_mem _ (h2 q hq)⟩, h3⟩
  case case3 p _ _ _ _ => exact ⟨[p], stERR, rfl, List.forall_mem_singleton.2 List.mem_cons_self, .inr rfl⟩

theorem unlinks_ok (ps : List Bytes) (plan : List Nat) (h : ∀ r ∈ plan.take ps.length, r = 0 ∨ r = 1) :
    (unlinks ps plan).1 = ps.map Ev.unlink ++ [Ev.status stOK] := by
  fun_induction unlinks ps plan
  case case1 => rfl
  case case2 p ps plan r hr res ih =>
    refine congrArg (_ :: ·) (ih fun r hr => h r ?_)
    cases plan with
    | nil => simp at hr
    | cons a t => exact List.mem_cons_of_mem _ hr
  case case3 p ps plan r hr =>
    -- the plan's first entry is 0 (also when the plan is empty) or, by `h`, 0 or 1
    cases plan with
    | nil => exact absurd (.inl rfl) hr
    | cons a t => exact absurd (h a (List.mem_cons_self ..)) hr

/-- a request that passes every test of qmail-clean's loop body (`handleReq`) -/
structure Accepted (line ds : Bytes) (pfx : Bytes) : Prop where
  shape : line = pfx ++ ds ++ [0]
  pfx_ok : pfx = FOOP ∨ pfx = TODO
  nonempty : ds ≠ []
  digits : ds.all isDigit = true
  len_lo : 7 ≤ line.length
  len_hi : line.length ≤ 100
  nowrap : decVal ds < ULONG
  canonical : fmtUlong (decVal ds) = ds

theorem Accepted.pfx_length {line ds pfx : Bytes} (ha : Accepted line ds pfx) : pfx.length = 5 := by
  rcases ha.pfx_ok with h | h <;> rw [h] <;> rfl

theorem Accepted.last {line ds pfx : Bytes} (ha : Accepted line ds pfx) : line.getLast? = some 0 := by
  rw [ha.shape, List.getLast?_concat]

theorem handleReq_cases (line : Bytes) (plan : List Nat) :
    handleReq line plan = ([.status stX], plan) ∨
    ∃ ds pfx ps, Accepted line ds pfx ∧ targets pfx (decVal ds) = some ps ∧ handleReq line plan = unlinks ps plan := by
  -- every case of the definition but the last answers `x`; the last has passed every test
  fun_cases handleReq line plan
  case case6 h1 h2 h3 ds h4n id h5 ps ht =>
    right
    have h4 : ds.all isDigit = true := by
      rw [Bool.not_eq_true', Bool.not_eq_false] at h4n; exact h4n
    obtain ⟨hnw, hcan⟩ := (canonical_iff _).mp (Decidable.not_not.1 h5)
    have hid : id = decVal ds := by rw [show id = scanUlong ds from rfl, scanUlong_eq, Nat.mod_eq_of_lt hnw]
    rw [hid] at ht
    have h3' : line.getLast? = some 0 := Decidable.not_not.1 h3
    have hd : (line.drop 5).getLast? = some 0 := by
      rw [List.getLast?_drop, if_neg (by omega), h3']
    obtain ⟨ys, hys⟩ := List.getLast?_eq_some_iff.mp hd
    have hds : ds = ys := by rw [show ds = (line.drop 5).dropLast from rfl, hys, List.dropLast_concat]
    have hpfx : line.take 5 = FOOP ∨ line.take 5 = TODO := by
      unfold targets at ht
      by_cases a : line.take 5 = FOOP
      · exact Or.inl a
      · by_cases b : line.take 5 = TODO
        · exact Or.inr b
        · rw [if_neg a, if_neg b] at ht; cases ht
    refine ⟨ds, line.take 5, ps, ⟨?_, hpfx, ?_, h4, Nat.le_of_not_lt h1, Nat.le_of_not_gt h2, hnw, hcan⟩, ht, rfl⟩
    · rw [hds, List.append_assoc, ← hys, List.take_append_drop]
    · rw [hds]; intro hy
      have : (line.drop 5).length = 1 := by rw [hys, hy]; rfl
      rw [List.length_drop] at this; omega
  all_goals exact .inl rfl
theorem handleReq_accepted {line ds pfx : Bytes} {ps : List Bytes} (ha : Accepted line ds pfx)
    (ht : targets pfx (decVal ds) = some ps) (plan : List Nat) : handleReq line plan = unlinks ps plan := by
  have hline : line = pfx ++ (ds ++ [0]) := by rw [ha.shape, List.append_assoc]
  have e2 : (line.drop 5).dropLast = ds := by rw [hline, ← ha.pfx_length, List.drop_left, List.dropLast_concat]
  have e3 : line.take 5 = pfx := by rw [hline, ← ha.pfx_length, List.take_left]
  have e4 : scanUlong ds = decVal ds := by rw [scanUlong_eq, Nat.mod_eq_of_lt ha.nowrap]
  unfold handleReq
  rw [if_neg (Nat.not_lt.mpr ha.len_lo), if_neg (Nat.not_lt.mpr ha.len_hi), if_neg (not_not_intro ha.last)]
  simp only [e2, e3, e4, ha.digits, ha.canonical, ht, ne_eq, not_true_eq_false, Bool.not_true, Bool.false_eq_true, if_false]

theorem targets_allowed (line ds pfx : Bytes) (ps : List Bytes) (ha : Accepted line ds pfx)
    (ht : targets pfx (decVal ds) = some ps) : allowed line = ps := by
  have hbody : line.dropLast = pfx ++ ds := by rw [ha.shape, List.dropLast_concat]
  have h2 : (pfx ++ ds).drop 5 = ds := by rw [← ha.pfx_length]; exact List.drop_left
  have h3 : (pfx ++ ds).take 5 = pfx := by rw [← ha.pfx_length]; exact List.take_left
  unfold allowed
  simp only [hbody, ha.last, h2, h3, ha.nonempty, ha.digits, ne_eq, not_false_eq_true, and_self, if_true]
  unfold targets at ht
  rcases ha.pfx_ok with h | h
  · subst h; simpa using ht
  · subst h
    have : TODO ≠ FOOP := by decide
    simpa [this] using ht

theorem handleReq_shape (line : Bytes) (plan : List Nat) :
    ∃ (qs : List Bytes) (s : Byte), (handleReq line plan).1 = qs.map Ev.unlink ++ [Ev.status s] ∧ (∀ q ∈ qs, q ∈ allowed line)
      ∧ (s = stX → qs = []) := by
  rcases handleReq_cases line plan with h | ⟨ds, pfx, ps, ha, ht, h⟩
  · exact ⟨[], stX, by simp [h], by simp, fun _ => rfl⟩
  · obtain ⟨qs, s, h1, h2, h3⟩ := unlinks_shape ps plan
    rw [targets_allowed line ds pfx ps ha ht]
    refine ⟨qs, s, by rw [h, h1], h2, ?_⟩
    intro hs; rcases h3 with h3 | h3 <;> rw [h3] at hs <;> simp [stX, stOK, stERR] at hs

/-- the test both oracles apply to the group of events of one request -/
theorem group_ok {q : Bytes} {ps : List Bytes} {s : Byte} (h2 : ∀ p ∈ ps, p ∈ allowed q) (h3 : s = stX → ps = []) :
    (ps.all (fun p => (allowed q).contains p) && (s != stX || ps.isEmpty)) = true := by
  rw [Bool.and_eq_true, List.all_eq_true]
  refine ⟨fun p hp => by simpa using h2 p hp, ?_⟩
  by_cases hs : s = stX
  · simp [h3 hs]
  · simp [hs]

theorem statuses_append (a b : List Ev) : statuses (a ++ b) = statuses a ++ statuses b := by
  induction a with
  | nil => rfl
  | cons e a ih => cases e <;> simp [statuses, ih]

theorem paths_append (a b : List Ev) : paths (a ++ b) = paths a ++ paths b := by
  induction a with
  | nil => rfl
  | cons e a ih => cases e <;> simp [paths, ih]

theorem statuses_unlinks (qs : List Bytes) : statuses (qs.map Ev.unlink) = [] := by
  induction qs with
  | nil => rfl
  | cons q qs ih => simp [statuses, ih]

theorem paths_unlinks (qs : List Bytes) : paths (qs.map Ev.unlink) = qs := by
  induction qs with
  | nil => rfl
  | cons q qs ih => simp [paths, ih]

theorem paths_handleReq (line : Bytes) (plan : List Nat) : ∀ p ∈ paths (handleReq line plan).1, p ∈ allowed line := by
  obtain ⟨qs, s, h1, h2, _⟩ := handleReq_shape line plan
  rw [h1, paths_append, paths_unlinks]
  intro p hp
  simp [paths] at hp
  exact h2 p hp

/-! ### `cleanuppid()` -/

theorem exists_mem_cons_and {α : Type _} {P : α → Prop} {a : α} {l : List α} :
    (∃ x ∈ a :: l, P x) ↔ P a ∨ ∃ x ∈ l, P x :=
  ⟨fun ⟨x, hx, hp⟩ => (List.mem_cons.1 hx).elim (fun h => .inl (h ▸ hp)) fun h => .inr ⟨x, h, hp⟩,
   fun h => h.elim (fun hp => ⟨a, List.mem_cons_self, hp⟩) fun ⟨x, hx, hp⟩ => ⟨x, List.mem_cons_of_mem _ hx, hp⟩⟩

theorem mem_pidUnlinks {now : Nat} {es : List PidEnt} {p : Bytes} :
    p ∈ pidUnlinks now es ↔ ∃ e ∈ es, p = PIDDIR ++ e.name ∧ e.name ≠ DOT1 ∧ e.name ≠ DOT2 ∧
      ∃ t, e.atime = some t ∧ t + OSSIFIED ≤ now := by
  fun_induction pidUnlinks now es
  case case1 => exact ⟨nofun, nofun⟩
  all_goals rw [exists_mem_cons_and]
  case case2 e r hd ih => exact ih.trans (or_iff_right fun h => hd.elim h.2.1 h.2.2.1).symm
  case case3 e r hd ha ih => exact ih.trans (or_iff_right fun ⟨_, _, _, t, ht, _⟩ => nomatch ha.symm.trans ht).symm
  case case4 e r hd t ha hf ih =>
    exact ih.trans (or_iff_right fun ⟨_, _, _, u, hu, hl⟩ => by cases ha.symm.trans hu; exact Nat.not_le_of_lt hf hl).symm
  case case5 e r hd t ha hf ih =>
    rw [List.mem_cons, ih]
    exact or_congr_left ⟨fun h => ⟨h, fun h1 => hd (.inl h1), fun h2 => hd (.inr h2), t, ha, Nat.le_of_not_lt hf⟩, fun h => h.1⟩
theorem mem_paths_cleanuppid {sc : Scan} {p : Bytes} :
    p ∈ paths (cleanuppid sc) ↔ ∃ es, sc.ents = some es ∧ p ∈ pidUnlinks sc.now es := by
  unfold cleanuppid
  cases sc.ents with
  | none => simp [paths]
  | some es => simp [paths, paths_append, paths_unlinks]

theorem pidUnlinks_old (sc : Scan) (es : List PidEnt) (h : sc.ents = some es) :
    ∀ p ∈ pidUnlinks sc.now es, pidOld sc p = true := by
  intro p hp
  obtain ⟨e, he, hpe, _, _, t, ha, ht⟩ := mem_pidUnlinks.1 hp
  unfold pidOld
  simp only [h, List.any_eq_true]
  exact ⟨e, he, by simp [hpe, ha, ht]⟩

theorem paths_cleanuppid (sc : Scan) : ∀ p ∈ paths (cleanuppid sc), pidOld sc p = true := by
  intro p hp
  obtain ⟨es, h, hp⟩ := mem_paths_cleanuppid.1 hp
  exact pidUnlinks_old sc es h p hp

theorem statuses_cleanuppid (sc : Scan) : statuses (cleanuppid sc) = [] := by
  unfold cleanuppid
  cases sc.ents with
  | none => rfl
  | some es => simp [statuses, statuses_append, statuses_unlinks]

theorem statuses_housekeeping (cl : Nat) (scans : List Scan) : statuses (housekeeping cl scans) = [] := by
  unfold housekeeping
  split
  · exact statuses_cleanuppid _
  · rfl

/-! ### the stream -/

theorem takeGroup_shape (qs : List Bytes) (s : Byte) (rest : List Ev) :
    takeGroup (qs.map Ev.unlink ++ [Ev.status s] ++ rest) = some (qs, s, rest) := by
  induction qs with
  | nil => simp [takeGroup]
  | cons q qs ih => simp [takeGroup] at ih ⊢; rw [ih]

theorem takePid_shape (sc : Scan) (ps : List Bytes) (rest : List Ev) (h : ∀ p ∈ ps, pidOld sc p = true) :
    takePid sc (ps.map Ev.unlink ++ [Ev.cleanupEnd] ++ rest) = some rest := by
  induction ps with
  | nil => simp [takePid]
  | cons p ps ih =>
    have hp : pidOld sc p = true := h p (by simp)
    simp only [List.map_cons, List.cons_append, takePid, hp, if_true]
    exact ih (fun q hq => h q (by simp [hq]))

/-- `hne`: in an iteration without `cleanuppid()` the oracle would read an `opendir` at the head of `evs` as this
iteration's window -/
theorem takeScan_housekeeping (cl : Nat) (scans : List Scan) (evs : List Ev) (hne : ∀ r, evs ≠ Ev.cleanup :: r) :
    takeScan scans (housekeeping cl scans ++ evs) = some (nextScans cl scans, evs) := by
  unfold housekeeping nextScans
  by_cases h : cl = 0
  · simp only [h, if_true, cleanuppid, List.cons_append, takeScan]
    cases he : (scans.headD {}).ents with
    | none => simp
    | some es =>
      simp only []
      rw [takePid_shape _ _ _ (pidUnlinks_old _ es he)]
      rfl
  · simp only [h, if_false, List.nil_append]
    cases evs with
    | nil => rfl
    | cons e r => cases e <;> first | rfl | exact absurd rfl (hne r)

/-- behind the housekeeping the oracles find the events of one request: they do not start with an `opendir` -/
theorem takeScan_group (cl : Nat) (scans : List Scan) (ps : List Bytes) (s : Byte) (rest : List Ev) :
    takeScan scans (housekeeping cl scans ++ (ps.map Ev.unlink ++ [Ev.status s] ++ rest)) =
      some (nextScans cl scans, ps.map Ev.unlink ++ [Ev.status s] ++ rest) :=
  takeScan_housekeeping cl scans _ fun r hr => by cases ps <;> simp at hr

theorem cleanOK_runReqs (reqs : List Bytes) (cl : Nat) (plan : List Nat) (scans : List Scan) :
    cleanOK reqs scans (runReqs cl reqs plan scans) = true := by
  induction reqs generalizing cl plan scans with
  | nil =>
    unfold runReqs cleanOK
    have := takeScan_housekeeping cl scans [] (fun r h => by cases h)
    rw [List.append_nil] at this
    rw [this]; rfl
  | cons q qs ih =>
    obtain ⟨ps, s, h1, h2, h3⟩ := handleReq_shape q plan
    unfold runReqs cleanOK
    rw [List.append_assoc, h1, takeScan_group]
    simp only []
    rw [takeGroup_shape]
    simp only [group_ok h2 h3, ih, Bool.and_self]

theorem paths_runReqs (reqs : List Bytes) (cl : Nat) (plan : List Nat) (scans : List Scan) :
    ∀ p ∈ paths (runReqs cl reqs plan scans),
      (∃ q ∈ reqs, p ∈ allowed q) ∨ (∃ sc ∈ scans, pidOld sc p = true) := by
  have hk : ∀ cl (scans : List Scan), ∀ p ∈ paths (housekeeping cl scans), ∃ sc ∈ scans, pidOld sc p = true := by
    intro cl scans p hp
    unfold housekeeping at hp
    by_cases h : cl = 0
    · rw [if_pos h] at hp
      cases scans with
      | nil => simp [cleanuppid, paths] at hp
      | cons sc r => exact ⟨sc, by simp, paths_cleanuppid sc p (by simpa using hp)⟩
    · rw [if_neg h] at hp; simp [paths] at hp
  have hsub : ∀ cl (scans : List Scan), ∀ sc ∈ nextScans cl scans, sc ∈ scans := by
    intro cl scans sc hsc
    unfold nextScans at hsc
    by_cases h : cl = 0
    · rw [if_pos h] at hsc; exact List.mem_of_mem_tail hsc
    · rw [if_neg h] at hsc; exact hsc
  induction reqs generalizing cl plan scans with
  | nil => intro p hp; exact Or.inr (hk cl scans p hp)
  | cons q qs ih =>
    intro p hp
    unfold runReqs at hp
    rw [paths_append, paths_append] at hp
    rcases List.mem_append.mp hp with hp | hp
    · rcases List.mem_append.mp hp with hp | hp
      · exact Or.inr (hk cl scans p hp)
      · exact Or.inl ⟨q, by simp, paths_handleReq q plan p hp⟩
    · rcases ih _ _ _ p hp with ⟨q', hq', h⟩ | ⟨sc, hsc, h⟩
      · exact Or.inl ⟨q', List.mem_cons_of_mem _ hq', h⟩
      · exact Or.inr ⟨sc, hsub cl scans sc hsc, h⟩

end Nq.Lemmas.CleanL
