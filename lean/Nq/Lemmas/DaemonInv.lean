/-
  The accounting invariant of the qmail-send monitor (`Nq.Daemon`): every record of every accepted
  message is still queued, or finished — and every finished record was reported delivered or has a
  bounce paragraph whose fate is known.  Per message it has two parts: `Ghost` holds always, `Files` once `todo/<m>` is gone.
-/
import Nq.Lemmas.DaemonRel

namespace Nq.Lemmas.DI
open Nq Nq.Daemon

@[simp] theorem chan_setChan (ms : MsgSt) (c c' : Ch) (v : Option (List Rec)) :
    (ms.setChan c v).chan c' = if c' = c then v else ms.chan c' := by
  cases c <;> cases c' <;> simp [MsgSt.setChan, MsgSt.chan]

@[simp] theorem chan_setChanSynced (ms : MsgSt) (c c' : Ch) (v : Bool) :
    (ms.setChanSynced c v).chan c' = ms.chan c' := by
  cases c <;> cases c' <;> simp [MsgSt.setChanSynced, MsgSt.chan]

def MsgSt.placed (ms : MsgSt) : Ch → List Bytes
  | .loc => ms.placedLoc
  | .rem => ms.placedRem

theorem setChan_info_placed (ms : MsgSt) (c : Ch) (v : Option (List Rec)) :
    (ms.setChan c v).info = ms.info ∧ (ms.setChan c v).placedLoc = ms.placedLoc ∧ (ms.setChan c v).placedRem = ms.placedRem := by
  cases c <;> exact ⟨rfl, rfl, rfl⟩

theorem chan_isSome_iff (ms : MsgSt) : (ms.loc.isSome ∨ ms.rem.isSome) ↔ ∃ c, (ms.chan c).isSome := by
  constructor
  · rintro (h | h)
    · exact ⟨.loc, h⟩
    · exact ⟨.rem, h⟩
  · rintro ⟨c, h⟩
    cases c
    · exact Or.inl h
    · exact Or.inr h

theorem addrs_setDone : ∀ (rs : List Rec) (i : Nat), addrs (setDone rs i) = addrs rs
  | [], _ => rfl
  | r :: rs, 0 => by simp [setDone, addrs]
  | r :: rs, i + 1 => by
    have := addrs_setDone rs i
    simp [setDone, addrs] at this ⊢
    exact this

theorem length_setDone : ∀ (rs : List Rec) (i : Nat), (setDone rs i).length = rs.length
  | [], _ => rfl
  | r :: rs, 0 => by simp [setDone]
  | r :: rs, i + 1 => by simp [setDone, length_setDone rs i]

theorem done_setDone : ∀ (rs : List Rec) (i j : Nat),
    ((setDone rs i).getD j ⟨false, []⟩).done = (decide (j = i ∧ j < rs.length) || (rs.getD j ⟨false, []⟩).done)
  | [], _, _ => by simp [setDone]
  | r :: rs, 0, 0 => by simp [setDone]
  | r :: rs, 0, j + 1 => by simp [setDone]
  | r :: rs, i + 1, 0 => by simp [setDone]
  | r :: rs, i + 1, j + 1 => by simpa [setDone] using done_setDone rs i j

theorem getD_setDone (rs : List Rec) (i j : Nat) (h : ((setDone rs i).getD j ⟨false, []⟩).done = true) :
    (j = i ∧ j < rs.length) ∨ (rs.getD j ⟨false, []⟩).done = true := by
  rw [done_setDone, Bool.or_eq_true, decide_eq_true_eq] at h
  exact h

theorem addrs_zipMarks : ∀ (rs : List Rec) (marks : List Bool), marks.length = rs.length → addrs (zipMarks rs marks) = addrs rs
  | [], _, _ => by simp [zipMarks, addrs]
  | r :: rs, [], h => by simp at h
  | r :: rs, d :: ds, h => by
    have := addrs_zipMarks rs ds (by simpa using h)
    simp [zipMarks, addrs] at this ⊢
    exact this

theorem length_zipMarks (rs : List Rec) (marks : List Bool) (h : marks.length = rs.length) :
    (zipMarks rs marks).length = rs.length := by
  simp [zipMarks, h]

theorem getD_zipMarks : ∀ (rs : List Rec) (marks : List Bool) (i : Nat), marks.length = rs.length → i < rs.length →
    ((zipMarks rs marks).getD i ⟨false, []⟩).done = marks.getD i false
  | [], _, _, _, h => by simp at h
  | r :: rs, [], _, h, _ => by simp at h
  | r :: rs, d :: ds, 0, _, _ => by simp [zipMarks]
  | r :: rs, d :: ds, i + 1, hl, hi => by
    have := getD_zipMarks rs ds i (by simpa using hl) (by simpa using hi)
    simpa [zipMarks] using this

/-! ### the per-message invariant -/

/-- file `c` agrees with the records placed in it and every mark in it is justified; a missing file means that all its records
are finished -/
def ChanOK (fin : List (Ch × Nat)) (placed : List Bytes) (c : Ch) : Option (List Rec) → Prop
  | some rs => addrs rs = placed ∧ ∀ i, i < rs.length → (rs.getD i ⟨false, []⟩).done = true → (c, i) ∈ fin
  | none => ∀ i, i < placed.length → (c, i) ∈ fin

theorem ChanOK.mono {fin fin' : List (Ch × Nat)} {placed : List Bytes} {c : Ch} (hf : ∀ x ∈ fin, x ∈ fin') :
    ∀ {o : Option (List Rec)}, ChanOK fin placed c o → ChanOK fin' placed c o
  | some _, h => ⟨h.1, fun i hi hd => hf _ (h.2 i hi hd)⟩
  | none, h => fun i hi => hf _ (h i hi)

/-- what holds of a message in every phase of its life: the envelope and the history of its bounce paragraphs -/
structure Ghost (ms : MsgSt) : Prop where
  /-- while `todo/<m>` exists the envelope in it is the accepted one -/
  a1 : ∀ env, ms.todo = some env → ms.accepted = some env
  /-- finished = reported delivered, or bounce paragraph appended -/
  k3 : ∀ x ∈ ms.fin, x ∈ ms.delivered ∨ x ∈ ms.noted
  /-- fate of a bounce paragraph: still in bounce/<m>, or in a queued bounce, or one of the two documented exemptions —
  *for this very paragraph*: it was in the file of a `#@[]` message when that was discarded, or in the file when a crash damaged it -/
  k4 : ∀ x ∈ ms.noted, x ∈ ms.inFile ∨ x ∈ ms.bounced ∨ x ∈ ms.droppedRecs ∨ x ∈ ms.lostRecs
  /-- without a bounce file no paragraph is "still in bounce/<m>" -/
  k5 : ms.bounce = none → ms.inFile = []
  /-- the message file `mess/<m>` outlives `todo/<m>` and `info/<m>` -/
  m1 : (ms.todo.isSome ∨ ms.info.isSome) → ms.mess = true
  /-- bounce paragraphs are discarded only for a message whose envelope sender is `#@[]` -/
  d1 : ∀ sd r, ms.accepted = some (sd, r) → ms.droppedRecs ≠ [] → sd = [35, 64, 91, 93]

/-- what holds once preprocessing is over (`todo/<m>` is gone): the files against the envelope and the history -/
structure Files (cfg : Cfg) (ms : MsgSt) : Prop where
  /-- the accepted recipients are exactly the placed records, routed by `rewrite()` -/
  a2 : ∀ sd r, ms.accepted = some (sd, r) → routedOk cfg r ms.placedLoc ms.placedRem = true
  /-- a channel file holds exactly the placed records (only marks change), a record marked done on disk is finished, and
  the file disappears only when everything in it is finished -/
  ch : ∀ c, ChanOK ms.fin (MsgSt.placed ms c) c (ms.chan c)
  /-- info/<m> outlives the channel files and the bounce file -/
  k6 : (ms.loc.isSome ∨ ms.rem.isSome ∨ ms.bounce.isSome) → ms.info.isSome
  /-- `info/<m>` holds exactly the accepted envelope sender (`F` sender NUL) -/
  i1 : ∀ sd r i, ms.accepted = some (sd, r) → ms.info = some i → i = 70 :: sd ++ [0]

/-- While `todo/<m>` exists the invariant speaks of the envelope and the history only: the files are being rebuilt. -/
structure MInv (cfg : Cfg) (ms : MsgSt) : Prop where
  ghost : Ghost ms
  files : ms.todo = none → Files cfg ms

theorem MInv.sender {cfg : Cfg} {ms : MsgSt} (h : MInv cfg ms) (ht : ms.todo = none) {sd : Bytes} {r : List Bytes} {info : Bytes}
    (ha : ms.accepted = some (sd, r)) (hi : ms.info = some info) : infoSender info = sd := by
  rw [(h.files ht).i1 sd r info ha hi]; simp [infoSender]

theorem Files.of_chan {cfg : Cfg} {ms : MsgSt} (h : Files cfg ms) {c : Ch} {rs : List Rec} (hc : ms.chan c = some rs) :
    addrs rs = MsgSt.placed ms c ∧ ∀ i, i < rs.length → (rs.getD i ⟨false, []⟩).done = true → (c, i) ∈ ms.fin := by
  have := h.ch c
  rwa [hc] at this

theorem Files.fin_of_allFinished {cfg : Cfg} {ms : MsgSt} (h : Files cfg ms) {c : Ch} {rs : List Rec} (hc : ms.chan c = some rs)
    (hfin : allFinished ms c rs = true) (i : Nat) (hi : i < rs.length) : (c, i) ∈ ms.fin :=
  (Bool.or_eq_true_iff.1 (List.all_eq_true.1 hfin i (List.mem_range.2 hi))).elim ((h.of_chan hc).2 i hi)
    List.mem_of_elem_eq_true

theorem Files.info_of_chan {cfg : Cfg} {ms : MsgSt} (h : Files cfg ms) {c : Ch} {rs : List Rec}
    (hc : ms.chan c = some rs) : ms.info.isSome = true :=
  h.k6 (or_assoc.1 (Or.inl ((chan_isSome_iff ms).2 ⟨c, by rw [hc]; rfl⟩)))

/-- a message number with no file but (possibly) `todo/<m>`, `intd/<m>` and `mess/<m>` as qmail-queue leaves them -/
theorem minv_fresh (cfg : Cfg) (env : Option (Bytes × List Bytes)) :
    MInv cfg { mess := env.isSome, intd := env.isSome, todo := env, accepted := env } := by
  refine ⟨⟨fun _ h => h, fun _ h => (nomatch h), fun _ h => (nomatch h), fun _ => rfl, fun h => ?_, fun _ _ _ hd => absurd rfl hd⟩,
    fun hn => ⟨fun _ _ ha => ?_, fun c => ?_, fun h => ?_, fun _ _ _ ha => ?_⟩⟩
  · simpa using h
  · cases hn.symm.trans ha
  · cases c <;> exact fun i hi => nomatch hi
  · simp at h
  · cases hn.symm.trans ha

/-- the facts a pending `todo/<m>` clean request was granted on -/
def TodoReady (cfg : Cfg) (ms : MsgSt) : Prop :=
  ∃ sender rcpts, ms.todo = some (sender, rcpts) ∧ ms.info = some (70 :: sender ++ [0]) ∧
    (∀ c rs, ms.chan c = some rs → allT rs = true) ∧
    routedOk cfg rcpts (optAddrs ms.loc) (optAddrs ms.rem) = true

structure Inv (cfg : Cfg) (s : St) : Prop where
  msgs : ∀ k, MInv cfg (s.msg k)
  /-- a record may be marked only if it is finished -/
  may : ∀ m c i, (m, c, i) ∈ s.mayMark → (c, i) ∈ (s.msg m).fin
  /-- a granted `todo/<m>` request refers to a completely preprocessed message -/
  ready : ∀ m, s.clean = some (.todo m) → TodoReady cfg (s.msg m)
  /-- a granted `foop/<m>` request refers to a message without `todo/<m>` and `info/<m>` -/
  foop : ∀ m, s.clean = some (.foop m) → (s.msg m).todo = none ∧ (s.msg m).info = none

theorem inv_init (cfg : Cfg) : Inv cfg {} := by
  refine ⟨fun k => ?_, ?_, ?_, ?_⟩
  · rw [St.msg_empty]; exact minv_fresh cfg none
  · intro m c i h; simp at h
  · intro m h; simp at h
  · intro m h; simp at h

theorem inv_upd (cfg : Cfg) (s : St) (m : Nat) (f : MsgSt → MsgSt) (s' : St)
    (hmsg : ∀ k, s'.msg k = if k = m then f (s.msg m) else s.msg k)
    (hinv : Inv cfg s) (hm : MInv cfg (f (s.msg m)))
    (hmay : ∀ m' c i, (m', c, i) ∈ s'.mayMark → (c, i) ∈ (s'.msg m').fin)
    (hready : ∀ m', s'.clean = some (.todo m') → TodoReady cfg (s'.msg m'))
    (hfoop : ∀ m', s'.clean = some (.foop m') → (s'.msg m').todo = none ∧ (s'.msg m').info = none) : Inv cfg s' := by
  refine ⟨fun k => ?_, hmay, hready, hfoop⟩
  rw [hmsg k]
  split
  · exact hm
  · exact hinv.msgs k

end Nq.Lemmas.DI
