/-
  `step_inv`: the monitor's accounting invariant `Inv` is preserved by every accepted event (by the report
  reader, `inv_fed`, and by cases on `Step`, `step_inv_core`).
-/
import Nq.Lemmas.DaemonStep

namespace Nq.Lemmas.DI
open Nq Nq.Daemon

theorem inv_volatile (cfg : Cfg) (s s' : St) (h : Inv cfg s) (htab : s'.tab = s.tab)
    (hmay : ∀ x ∈ s'.mayMark, x ∈ s.mayMark) (hclean : s'.clean = s.clean ∨ s'.clean = none) : Inv cfg s' := by
  have hmsg : ∀ k, s'.msg k = s.msg k := by intro k; simp [St.msg, htab]
  have hcl : ∀ r, s'.clean = some r → s.clean = some r := by
    intro r hr
    rcases hclean with hc | hc
    · rw [← hc]; exact hr
    · rw [hc] at hr; cases hr
  refine ⟨fun k => by rw [hmsg]; exact h.msgs k, ?_, ?_, ?_⟩
  · intro m c i hm; rw [hmsg]; exact h.may m c i (hmay _ hm)
  · intro m hc; rw [hmsg]; exact h.ready m (hcl _ hc)
  · intro m hc; rw [hmsg]; exact h.foop m (hcl _ hc)

theorem inv_upd_mark (cfg : Cfg) (s s' : St) (m : Nat) (f : MsgSt → MsgSt) (x : Ch × Nat) (hinv : Inv cfg s) (hclean : s.clean = none)
    (hm : MInv cfg (f (s.msg m))) (hfin : (f (s.msg m)).fin = x :: (s.msg m).fin)
    (htab : s'.tab = (s.upd m f).tab) (hmay : s'.mayMark = (m, x.1, x.2) :: s.mayMark) (hcl : s'.clean = s.clean) : Inv cfg s' := by
  have h2 := inv_upd_grow cfg s m f hinv hclean hm (fun y hy => by rw [hfin]; exact List.mem_cons_of_mem _ hy)
  have hmsg : ∀ k, s'.msg k = (s.upd m f).msg k := by intro k; simp only [St.msg, htab]
  refine ⟨fun k => by rw [hmsg]; exact h2.msgs k, ?_, fun m' hc => by rw [hmsg]; exact h2.ready m' (hcl ▸ hc),
    fun m' hc => by rw [hmsg]; exact h2.foop m' (hcl ▸ hc)⟩
  intro m' c' i hmm
  rw [hmay] at hmm; rw [hmsg]
  rcases List.mem_cons.1 hmm with he | hmm
  · cases he; rw [St.msg_upd_self, hfin]; exact List.mem_cons_self
  · exact h2.may m' c' i hmm

theorem minv_addK (cfg : Cfg) (ms : MsgSt) (h : MInv cfg ms) : ∀ xs, MInv cfg (addK xs ms)
  | [] => h
  | x :: xs => minv_reportK cfg _ x (minv_addK cfg ms h xs)

theorem inv_fed (cfg : Cfg) (s t : St) (h : Inv cfg s) (hc : s.clean = none) (hf : Fed s t) : Inv cfg t := by
  have hcl : ∀ r, t.clean ≠ some r := fun r hr => by rw [hf.clean, hc] at hr; cases hr
  refine ⟨fun k => ?_, fun m c i hm => ?_, fun m hm => absurd hm (hcl _), fun m hm => absurd hm (hcl _)⟩
  · obtain ⟨xs, hx, _⟩ := hf.msg k
    rw [hx]; exact minv_addK cfg _ (h.msgs k) xs
  · refine (hf.new m c i hm).elim (fun h0 => ?_) id
    obtain ⟨xs, hx, _⟩ := hf.msg m
    rw [hx]; exact List.mem_append_right _ (h.may m c i h0)

/-- todo-context events keep everything the invariant needs (channel files and info may change freely) -/
theorem inv_todo_ctx' (cfg : Cfg) (s : St) (m : Nat) (f : MsgSt → MsgSt) (hinv : Inv cfg s) (hclean : s.clean = none)
    (ht : (s.msg m).todo.isSome = true) (g : SameGhost (s.msg m) (f (s.msg m))) : Inv cfg (s.upd m f) :=
  inv_upd_grow cfg s m f hinv hclean (minv_todo cfg _ _ (hinv.msgs m) g ht) (fun x hx => by rw [g.e3]; exact hx)

theorem inv_upd_clean (cfg : Cfg) (s s' : St) (m : Nat) (f : MsgSt → MsgSt) (hinv : Inv cfg s) (hm : MInv cfg (f (s.msg m)))
    (htab : s'.tab = (s.upd m f).tab) (hmay : ∀ x ∈ s'.mayMark, x ∈ s.mayMark ∧ (f (s.msg m)).fin = (s.msg m).fin)
    (hready : ∀ m', s'.clean = some (.todo m') → s.clean = some (.todo m') ∧ (m' = m → TodoReady cfg (f (s.msg m))))
    (hfoop : ∀ m', s'.clean = some (.foop m') → s.clean = some (.foop m') ∧
      (m' = m → (f (s.msg m)).todo = none ∧ (f (s.msg m)).info = none)) : Inv cfg s' := by
  have hmsg := msg_upd_tab s s' m _ htab
  refine inv_upd cfg s m f s' hmsg hinv hm ?_ ?_ ?_
  · intro m' c i hmm
    have h0 := hinv.may m' c i (hmay _ hmm).1
    rw [hmsg]; split
    · rename_i he; subst he; rw [(hmay _ hmm).2]; exact h0
    · exact h0
  · intro m' hc
    rw [hmsg]; split
    · rename_i he; exact (hready m' hc).2 he
    · exact hinv.ready m' (hready m' hc).1
  · intro m' hc
    rw [hmsg]; split
    · rename_i he; exact (hfoop m' hc).2 he
    · exact hinv.foop m' (hfoop m' hc).1

theorem step_inv_core (cfg : Cfg) (s s' : St) (e : Ev) (hinv : Inv cfg s) (hacc : acceptCore cfg s e = some s') : Inv cfg s' := by
  cases acceptCore_step cfg s s' e hacc with
  | tick t _ => exact inv_volatile cfg s _ hinv rfl (fun _ hx => hx) (Or.inl rfl)
  | restart => exact inv_volatile cfg s _ hinv rfl (fun _ hx => by cases hx) (Or.inr rfl)
  | utimes => exact hinv
  | cleanResp => exact inv_volatile cfg s _ hinv rfl (fun _ hx => hx) (Or.inr rfl)
  | cmd => exact inv_volatile cfg s _ hinv rfl (fun _ hx => by cases hx) (Or.inl rfl)
  | rbytes c bs hclean =>
    exact inv_fed cfg { s with mayMark := [], notes := [] } _ (inv_volatile cfg s _ hinv rfl (fun _ hx => nomatch hx) (Or.inl rfl)) hclean
      (feedReports_fed cfg c bs _)
  | creatInfo m hclean ht | writeInfo m _ _ _ hclean ht | fsyncInfo m hclean ht | crashTodoFiles m _ hclean _ ht =>
    exact inv_todo_ctx' cfg s m _ hinv hclean ht (by constructor <;> rfl)
  | creatChan m c hclean ht | writeChan m c _ _ _ _ _ hclean ht =>
    exact inv_todo_ctx' cfg s m _ hinv hclean ht ((SameGhost.setChan _ c _).trans (SameGhost.setChanSynced _ c false))
  | fsyncChan m c hclean ht => exact inv_todo_ctx' cfg s m _ hinv hclean ht (SameGhost.setChanSynced _ c true)
  | unlinkChan m c rs hclean hch hg =>
    rcases hg with ht | ⟨ht, _, hfin⟩
    · exact inv_todo_ctx' cfg s m _ hinv hclean ht (SameGhost.setChan _ c none)
    · exact inv_upd_grow cfg s m _ hinv hclean (minv_unlinkChan_job cfg _ c rs (hinv.msgs m) hch hfin)
        (fun x hx => by rw [fin_setChan]; exact hx)
  | unlinkInfo m hclean _ hg =>
    rcases hg with ht | ⟨ht, hl, hr, hb⟩
    · exact inv_todo_ctx' cfg s m _ hinv hclean ht (by constructor <;> rfl)
    · exact inv_upd_grow cfg s m _ hinv hclean
        (minv_unlinkInfo_done cfg _ (hinv.msgs m) (by simpa using hl) (by simpa using hr) (by simpa using hb) ht) (fun x hx => hx)
  | markD m c pos rs idx hclean hch _ hmay =>
    exact inv_upd_grow cfg s m _ hinv hclean (minv_markD cfg _ c rs idx (hinv.msgs m) hch (hinv.may m c idx hmay))
      (fun x hx => by rw [fin_setChan]; exact hx)
  | bounceInject m ok env body info file hclean =>
    exact inv_upd_grow cfg s m _ hinv hclean ⟨{ (hinv.msgs m).ghost with }, fun hn => { (hinv.msgs m).files hn with }⟩ (fun x hx => hx)
  | unlinkBounceDiscard m info file hclean hinfo _ hg hs =>
    exact inv_upd_grow cfg s m _ hinv hclean
      (minv_unlinkBounce_discard cfg _ (hinv.msgs m) (by simpa using hg.1) info hinfo hs) (fun x hx => hx)
  | unlinkBounceOk m info file hclean =>
    exact inv_upd_grow cfg s m _ hinv hclean (minv_unlinkBounce_ok cfg _ (hinv.msgs m)) (fun x hx => hx)
  | crashMarks m c marks rs hch _ hclean _ hl hall =>
    exact inv_upd_grow cfg s m _ hinv hclean (minv_crashMarks cfg _ c rs marks (hinv.msgs m) hch hl hall)
      (fun x hx => by rw [fin_setChan]; exact hx)
  | crashBounce m content _ hclean _ hg =>
    exact inv_upd_grow cfg s m _ hinv hclean
      (minv_crashBounce cfg _ content (hinv.msgs m) (hg.elim Or.inl (fun h => Or.inr ⟨h.1, h.2.1⟩))) (fun x hx => hx)
  | appendBounce m bs n hclean _ hg =>
    exact inv_upd_mark cfg s _ m (bounceUpd n bs) (n.c, n.idx) hinv hclean
      (minv_appendBounce cfg _ (n.c, n.idx) bs (hinv.msgs m) hg.2.1) rfl rfl rfl rfl
  | newmsg m sender rcpts hclean =>
    exact inv_upd_clean cfg s _ m (fun _ => freshMsg sender rcpts) hinv (minv_fresh cfg (some (sender, rcpts))) rfl
      (fun _ hx => by cases hx) (fun m' hc => nomatch hclean.symm.trans hc) (fun m' hc => nomatch hclean.symm.trans hc)
  | cUnlinkMess m hcl =>
    have hf := hinv.foop m hcl
    exact inv_upd_clean cfg s _ m (fun ms => { ms with mess := false }) hinv (minv_unlinkMess cfg _ (hinv.msgs m) hf.1 hf.2) rfl
      (fun _ hx => ⟨hx, rfl⟩) (fun m' hc => by cases hc) (fun m' hc => by cases hc)
  | cUnlinkTodo m hcl =>
    exact inv_upd_clean cfg s _ m todoDoneUpd hinv (minv_unlinkTodo cfg _ (hinv.msgs m) (hinv.ready m hcl)) rfl
      (fun _ hx => by cases hx) (fun m' hc => by cases hc) (fun m' hc => by cases hc)
  | cUnlinkIntd m hcl =>
    refine inv_upd_clean cfg s _ m (fun ms => { ms with intd := false }) hinv
      ⟨{ (hinv.msgs m).ghost with }, fun hn => { (hinv.msgs m).files hn with }⟩
      rfl (fun _ hx => ⟨hx, rfl⟩) (fun m' hc => ⟨hc, fun he => ?_⟩) (fun m' hc => ⟨hc, fun he => he ▸ hinv.foop m' hc⟩)
    obtain ⟨sd, r, htodo, hinfo, hallT, hrouted⟩ := hinv.ready m' hc
    subst he
    -- `chan c'` of the updated record reduces to that of the old one once `c'` is known (`chan` matches on it)
    exact ⟨sd, r, htodo, hinfo, fun c' rs hc' => hallT c' rs (by cases c' <;> exact hc'), hrouted⟩
  | cleanReqTodo bs sender rcpts hclean _ htodo hg =>
    refine ⟨hinv.msgs, hinv.may, fun m' hc => ?_, fun m' hc => by cases hc⟩
    cases hc
    refine ⟨sender, rcpts, htodo, hg.1, fun c rs hcr => ?_, hg.2.2.2.2.1⟩
    cases c
    · have h3 := hg.2.2.1
      rw [show (s.msg (reqMsg bs)).loc = some rs from hcr] at h3
      simp [chanReady] at h3; exact h3.1
    · have h3 := hg.2.2.2.1
      rw [show (s.msg (reqMsg bs)).rem = some rs from hcr] at h3
      simp [chanReady] at h3; exact h3.1
  | cleanReqFoop bs hclean _ hg =>
    refine ⟨hinv.msgs, hinv.may, fun m' hc => (by cases hc), fun m' hc => ?_⟩
    cases hc
    exact (⟨by simpa using hg.1, by simpa using hg.2.1⟩ : (s.msg (reqMsg bs)).todo = none ∧ (s.msg (reqMsg bs)).info = none)

/-- the invariant does not speak about the crash mode -/
theorem inv_before (cfg : Cfg) (s : St) (e : Ev) (h : Inv cfg s) : Inv cfg (s.before e) :=
  inv_volatile cfg s _ h (St.before_tab s e) (fun x hx => by rw [St.before_mayMark] at hx; exact hx) (Or.inl (St.before_clean s e))

theorem step_inv (cfg : Cfg) (s s' : St) (e : Ev) (hinv : Inv cfg s) (hacc : accept cfg s e = some s') : Inv cfg s' :=
  step_inv_core cfg (s.before e) s' e (inv_before cfg s e hinv) hacc

end Nq.Lemmas.DI
