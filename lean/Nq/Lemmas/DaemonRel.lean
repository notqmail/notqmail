/-
  The monitor `Nq.Daemon.acceptCore` as a relation: `Step cfg s e s'` has one constructor for each way an event
  is accepted, carrying the guards that were checked and the state that results.  Proofs about what an accepted event
  does go by cases on `Step` (`accept_step` for the monitor `accept`) instead of unfolding `acceptCore`.  `Step` has no
  converse: the proofs that a particular event IS accepted (in Lemmas/BounceDaemon and Props/C04) do unfold it.
  Likewise the report reader: `handleReport_eq` is one report in
  closed form, and `Fed s t` says what a batch of reports can have done (`feedReports_fed`); what is known about
  `feedReports` is read off `Fed`.  Accepted sequences are `List.foldlM accept` (`acceptAll_eq`).
-/
import Nq.Daemon
import Nq.Lemmas.Basic
import Nq.Lemmas.Acceptor

namespace Nq.Daemon

theorem St.msg_empty (k : Nat) : ({} : St).msg k = {} := rfl

theorem St.msg_upd_self (s : St) (m : Nat) (f : MsgSt → MsgSt) : (s.upd m f).msg m = f (s.msg m) := by
  rw [St.msg_upd, if_pos rfl]

end Nq.Daemon

namespace Nq.Lemmas.DI
open Nq Nq.Daemon

def zipMarks (rs : List Rec) (marks : List Bool) : List Rec := (rs.zip marks).map fun (r, d) => { r with done := d }

def freshMsg (sender : Bytes) (rcpts : List Bytes) : MsgSt :=
  { mess := true, intd := true, todo := some (sender, rcpts), accepted := some (sender, rcpts) }

def todoDoneUpd (ms : MsgSt) : MsgSt :=
  { ms with todo := none, placedLoc := optAddrs ms.loc, placedRem := optAddrs ms.rem,
            fin := [], delivered := [], noted := [], inFile := [], bounced := [] }

def bounceUpd (n : Note) (bs : Bytes) (ms : MsgSt) : MsgSt :=
  { ms with bounce := some ((ms.bounce.getD []) ++ bs), fin := (n.c, n.idx) :: ms.fin, noted := (n.c, n.idx) :: ms.noted,
            inFile := (n.c, n.idx) :: ms.inFile, lastInject := false }

def reqMsg (bs : Bytes) : Nat := decVal ((bs.drop 5).dropLast)

/-- the envelope sender recorded in `info/<m>` (`F` sender NUL), as `acceptCore` computes it inline; downstream of the
    monitor `Nq.BounceDaemon.senderOf` is the same function.  The sender it is compared with below, `[35, 64, 91, 93]`,
    is `#@[]`, the double-bounce sender: `Nq.Daemon` does not import `Nq.Bounce` and spells `Bounce.DBSENDER` out. -/
def infoSender (info : Bytes) : Bytes := (info.drop 1).dropLast

inductive Step (cfg : Cfg) (s : St) : Ev → St → Prop
  | newmsg (m : Nat) (sender : Bytes) (rcpts : List Bytes) (hclean : s.clean = none)
      (hg : !(s.msg m).mess ∧ !(s.msg m).intd ∧ (s.msg m).todo.isNone ∧ (s.msg m).info.isNone ∧ (s.msg m).loc.isNone ∧
        (s.msg m).rem.isNone ∧ (s.msg m).bounce.isNone ∧ !chanBusy s m .loc ∧ !chanBusy s m .rem) :
      Step cfg s (.newmsg m sender rcpts) { (s.upd m fun _ => freshMsg sender rcpts) with notes := [], mayMark := [] }
  /-- `todo_do` rebuilding the files from `todo/<m>`, or `job_close` once everything in the file is finished -/
  | unlinkChan (m : Nat) (c : Ch) (rs : List Rec) (hclean : s.clean = none) (hch : (s.msg m).chan c = some rs)
      (hg : (s.msg m).todo.isSome ∨ ((s.msg m).todo = none ∧ !chanBusy s m c ∧ allFinished (s.msg m) c rs)) :
      Step cfg s (.unlinkChan m c) (s.upd m fun ms => ms.setChan c none)
  /-- `todo_do`, or `messdone` once the channel files and the bounce file are gone -/
  | unlinkInfo (m : Nat) (hclean : s.clean = none) (hi : ¬ (s.msg m).info.isNone)
      (hg : (s.msg m).todo.isSome ∨
        ((s.msg m).todo = none ∧ (s.msg m).loc.isNone ∧ (s.msg m).rem.isNone ∧ (s.msg m).bounce.isNone)) :
      Step cfg s (.unlinkInfo m) (s.upd m fun ms => { ms with info := none, infoSynced := false })
  | creatInfo (m : Nat) (hclean : s.clean = none) (ht : (s.msg m).todo.isSome) (hi : (s.msg m).info.isNone) :
      Step cfg s (.creatInfo m) (s.upd m fun ms => { ms with info := some [], infoSynced := false, birth := s.clock })
  | writeInfo (m : Nat) (bs cur : Bytes) (hcur : (s.msg m).info = some cur) (hclean : s.clean = none)
      (ht : (s.msg m).todo.isSome) :
      Step cfg s (.writeInfo m bs)
        (s.upd m fun ms => { ms with info := some (cur ++ bs), infoSynced := false, birth := s.clock })
  | fsyncInfo (m : Nat) (hclean : s.clean = none) (ht : (s.msg m).todo.isSome) (hi : (s.msg m).info.isSome) :
      Step cfg s (.fsyncInfo m) (s.upd m fun ms => { ms with infoSynced := true })
  | creatChan (m : Nat) (c : Ch) (hclean : s.clean = none) (ht : (s.msg m).todo.isSome)
      (hch : ((s.msg m).chan c).isNone) :
      Step cfg s (.creatChan m c) (s.upd m fun ms => (ms.setChan c (some [])).setChanSynced c false)
  | writeChan (m : Nat) (c : Ch) (bs : Bytes) (cur rs : List Rec) (hcur : (s.msg m).chan c = some cur)
      (hrs : parseRecs [] bs = some rs) (hclean : s.clean = none) (ht : (s.msg m).todo.isSome) :
      Step cfg s (.writeChan m c bs) (s.upd m fun ms => (ms.setChan c (some (cur ++ rs))).setChanSynced c false)
  | fsyncChan (m : Nat) (c : Ch) (hclean : s.clean = none) (ht : (s.msg m).todo.isSome)
      (hch : ((s.msg m).chan c).isSome) :
      Step cfg s (.fsyncChan m c) (s.upd m fun ms => ms.setChanSynced c true)
  /-- preprocessing is complete and durable -/
  | cleanReqTodo (bs sender : Bytes) (rcpts : List Bytes) (hclean : s.clean = none)
      (hname : bs.take 5 == [116, 111, 100, 111, 47])
      (htodo : (s.msg (reqMsg bs)).todo = some (sender, rcpts))
      (hg : (s.msg (reqMsg bs)).info = some (70 :: sender ++ [0]) ∧ (s.msg (reqMsg bs)).infoSynced = true ∧
        chanReady (s.msg (reqMsg bs)).loc (s.msg (reqMsg bs)).locSynced = true ∧
        chanReady (s.msg (reqMsg bs)).rem (s.msg (reqMsg bs)).remSynced = true ∧
        routedOk cfg rcpts (optAddrs (s.msg (reqMsg bs)).loc) (optAddrs (s.msg (reqMsg bs)).rem) = true ∧
        (s.msg (reqMsg bs)).loc ≠ some [] ∧ (s.msg (reqMsg bs)).rem ≠ some []) :
      Step cfg s (.cleanReq bs) { s with clean := some (.todo (reqMsg bs)) }
  /-- the message is finished (`messdone`) or a stale leftover (`cleanup_do`) -/
  | cleanReqFoop (bs : Bytes) (hclean : s.clean = none) (hname : bs.take 5 == [102, 111, 111, 112, 47])
      (hg : (s.msg (reqMsg bs)).todo.isNone ∧ (s.msg (reqMsg bs)).info.isNone ∧ (s.msg (reqMsg bs)).loc.isNone ∧
        (s.msg (reqMsg bs)).rem.isNone ∧ (s.msg (reqMsg bs)).bounce.isNone) :
      Step cfg s (.cleanReq bs) { s with clean := some (.foop (reqMsg bs)) }
  | cUnlinkIntd (m : Nat) (hcl : s.clean = some (.todo m) ∨ s.clean = some (.foop m)) :
      Step cfg s (.cUnlinkIntd m) (s.upd m fun ms => { ms with intd := false })
  | cUnlinkTodo (m : Nat) (hcl : s.clean = some (.todo m)) :
      Step cfg s (.cUnlinkTodo m) { (s.upd m todoDoneUpd) with notes := [], mayMark := [], clean := some .finished }
  | cUnlinkMess (m : Nat) (hcl : s.clean = some (.foop m)) :
      Step cfg s (.cUnlinkMess m) { (s.upd m fun ms => { ms with mess := false }) with clean := some .finished }
  | cleanResp (b : Byte) (hcl : s.clean.isSome) : Step cfg s (.cleanResp b) { s with clean := none }
  | cmd (c : Ch) (delnum m pos : Nat) (recip : Bytes) (rs : List Rec) (idx : Nat) (hclean : s.clean = none)
      (hch : (s.msg m).chan c = some rs) (hidx : recIndex rs pos = some idx)
      (hg : (s.msg m).todo.isNone ∧ (s.msg m).info.isSome ∧ !(rs.getD idx ⟨true, []⟩).done ∧
        (rs.getD idx ⟨true, []⟩).addr = recip ∧ slotFree s c delnum ∧ !inFlight s m c idx ∧
        delnum < cfg.conc c ∧ usedCount s c < cfg.conc c) :
      Step cfg s (.cmd c delnum m pos recip)
        { s with slots := ⟨c, delnum, m, idx, recip⟩ :: s.slots, mayMark := [], notes := [] }
  | rbytes (c : Ch) (bs : Bytes) (hclean : s.clean = none) :
      Step cfg s (.rbytes c bs) (feedReports cfg { s with mayMark := [], notes := [] } c bs)
  | appendBounce (m : Nat) (bs : Bytes) (n : Note) (hclean : s.clean = none)
      (hn : s.notes.find? (fun n => n.m == m) = some n)
      (hg : (s.msg m).todo.isNone ∧ (s.msg m).info.isSome ∧
        bs.take ([60] ++ sanitizeLF n.recip ++ [62, 58, 10]).length == [60] ++ sanitizeLF n.recip ++ [62, 58, 10] ∧
        bs.getLast? = some 10) :
      Step cfg s (.appendBounce m bs)
        { (s.upd m (bounceUpd n bs)) with notes := s.notes.erase n, mayMark := (m, n.c, n.idx) :: s.mayMark }
  | markD (m : Nat) (c : Ch) (pos : Nat) (rs : List Rec) (idx : Nat) (hclean : s.clean = none)
      (hch : (s.msg m).chan c = some rs) (hidx : recIndex rs pos = some idx) (hmay : (m, c, idx) ∈ s.mayMark) :
      Step cfg s (.markD m c pos) (s.upd m fun ms => ms.setChan c (some (setDone rs idx)))
  | bounceInject (m : Nat) (ok : Bool) (env body info file : Bytes) (hclean : s.clean = none)
      (hinfo : (s.msg m).info = some info) (hfile : (s.msg m).bounce = some file)
      (hg : (s.msg m).todo.isNone ∧ (s.msg m).loc.isNone ∧ (s.msg m).rem.isNone ∧ infoSender info ≠ [35, 64, 91, 93] ∧
        (ok → (isInfix file body ∧ env = bounceEnvelope cfg (infoSender info)))) :
      Step cfg s (.bounceInject m ok env body) (s.upd m fun ms => { ms with lastInject := ok })
  | unlinkBounceDiscard (m : Nat) (info file : Bytes) (hclean : s.clean = none)
      (hinfo : (s.msg m).info = some info) (hfile : (s.msg m).bounce = some file)
      (hg : (s.msg m).todo.isNone ∧ (s.msg m).loc.isNone ∧ (s.msg m).rem.isNone)
      (hs : infoSender info = [35, 64, 91, 93]) :
      Step cfg s (.unlinkBounce m) (s.upd m fun ms =>
        { ms with bounce := none, inFile := [], discarded := true, droppedRecs := ms.inFile ++ ms.droppedRecs })
  | unlinkBounceOk (m : Nat) (info file : Bytes) (hclean : s.clean = none)
      (hinfo : (s.msg m).info = some info) (hfile : (s.msg m).bounce = some file)
      (hg : (s.msg m).todo.isNone ∧ (s.msg m).loc.isNone ∧ (s.msg m).rem.isNone)
      (hs : infoSender info ≠ [35, 64, 91, 93]) (hl : (s.msg m).lastInject) :
      Step cfg s (.unlinkBounce m)
        (s.upd m fun ms => { ms with bounce := none, bounced := ms.inFile ++ ms.bounced, inFile := [] })
  | utimes (m : Nat) (c : Ch) (t : Nat) (hclean : s.clean = none) (hch : ((s.msg m).chan c).isSome) :
      Step cfg s (.utimes m c t) s
  | tick (t : Nat) (ht : s.clock ≤ t) : Step cfg s (.tick t) { s with clock := t }
  | restart : Step cfg s .restart
      { s with slots := [], dlineLoc := ([], 0), dlineRem := ([], 0), notes := [], mayMark := [], clean := none,
               cut := s.notes.map (·.m), crashed := true }
  | crashMarks (m : Nat) (c : Ch) (marks : List Bool) (rs : List Rec) (hch : (s.msg m).chan c = some rs)
      (hcr : s.crashed = true) (hclean : s.clean = none) (hsl : s.slots.isEmpty) (hl : marks.length = rs.length)
      (hall : (List.range rs.length).all (fun i => !(marks.getD i false) || (rs.getD i ⟨false, []⟩).done)) :
      Step cfg s (.crashMarks m c marks) (s.upd m fun ms => ms.setChan c (some (zipMarks rs marks)))
  | crashBounce (m : Nat) (content : Bytes) (hcr : s.crashed = true) (hclean : s.clean = none) (hsl : s.slots.isEmpty)
      (hg : (s.msg m).bounce.isSome ∨ ((s.msg m).todo.isNone ∧ (s.msg m).info.isSome ∧ s.cut.contains m)) :
      Step cfg s (.crashBounce m content) (s.upd m fun ms =>
        { ms with bounce := some content, lost := true, lastInject := false,
                  lostRecs := (if (ms.bounce.getD []).isPrefixOf content then [] else ms.inFile) ++ ms.lostRecs })
  | crashTodoFiles (m : Nat) (hcr : s.crashed = true) (hclean : s.clean = none) (hsl : s.slots.isEmpty)
      (ht : (s.msg m).todo.isSome) :
      Step cfg s (.crashTodoFiles m) (s.upd m fun ms =>
        { ms with infoSynced := false, locSynced := false, remSynced := false,
                  info := ms.info.map (fun _ => []), loc := ms.loc.map (fun _ => []), rem := ms.rem.map (fun _ => []) })

/-- Nothing but guard extraction, event by event: follow the `if`/`match` nesting of `acceptCore` down to the one
    branch that returns `some`, name the tests passed on the way, and hand them to the constructor. -/
theorem acceptCore_step (cfg : Cfg) (s s' : St) (e : Ev) (h : acceptCore cfg s e = some s') : Step cfg s e s' := by
  cases e with
  | newmsg m sender rcpts =>
    obtain ⟨hg, rfl⟩ := of_ite_some h; exact .newmsg m sender rcpts (by simpa using hg.1) hg.2
  | unlinkChan m c =>
    dsimp only [acceptCore] at h
    split at h
    · cases h
    · rename_i hcl
      split at h
      · cases h
      · rename_i rs hch
        split at h
        · rename_i ht; cases h; exact .unlinkChan m c rs (Option.not_isSome_iff_eq_none.1 hcl) hch (Or.inl ht)
        · rename_i ht
          split at h
          · rename_i hg; cases h
            exact .unlinkChan m c rs (Option.not_isSome_iff_eq_none.1 hcl) hch (Or.inr ⟨Option.not_isSome_iff_eq_none.1 ht, hg⟩)
          · cases h
  | unlinkInfo m =>
    dsimp only [acceptCore] at h
    split at h
    · cases h
    · rename_i hg
      have hg := not_or.1 hg
      split at h
      · rename_i ht; cases h; exact .unlinkInfo m (Option.not_isSome_iff_eq_none.1 hg.1) hg.2 (Or.inl ht)
      · rename_i ht
        split at h
        · rename_i hg2; cases h; exact .unlinkInfo m (Option.not_isSome_iff_eq_none.1 hg.1) hg.2 (Or.inr ⟨Option.not_isSome_iff_eq_none.1 ht, hg2⟩)
        · cases h
  | creatInfo m => obtain ⟨hg, rfl⟩ := of_ite_some h; exact .creatInfo m (by simpa using hg.1) hg.2.1 hg.2.2
  | writeInfo m bs =>
    dsimp only [acceptCore] at h
    split at h
    · rename_i cur hcur
      split at h
      · rename_i hg; cases h; exact .writeInfo m bs cur hcur (by simpa using hg.1) hg.2
      · cases h
    · cases h
  | fsyncInfo m => obtain ⟨hg, rfl⟩ := of_ite_some h; exact .fsyncInfo m (by simpa using hg.1) hg.2.1 hg.2.2
  | creatChan m c => obtain ⟨hg, rfl⟩ := of_ite_some h; exact .creatChan m c (by simpa using hg.1) hg.2.1 hg.2.2
  | writeChan m c bs =>
    dsimp only [acceptCore] at h
    split at h
    · rename_i cur rs hcur hrs
      split at h
      · rename_i hg; cases h; exact .writeChan m c bs cur rs hcur hrs (by simpa using hg.1) hg.2
      · cases h
    · cases h
  | fsyncChan m c => obtain ⟨hg, rfl⟩ := of_ite_some h; exact .fsyncChan m c (by simpa using hg.1) hg.2.1 hg.2.2
  | cleanReq bs =>
    dsimp only [acceptCore] at h
    -- `if_neg` / `if_pos` by hand: `split` is slow on the name-parsing conditions
    by_cases hcl : s.clean.isSome = true
    · rw [if_pos hcl] at h; cases h
    · rw [if_neg hcl] at h
      by_cases hbad : bs.getLast? ≠ some 0 ∨ ((bs.drop 5).dropLast).isEmpty ∨ (!((bs.drop 5).dropLast).all isDigit) ∨
          fmtDec (decVal ((bs.drop 5).dropLast)) ≠ (bs.drop 5).dropLast
      · rw [if_pos hbad] at h; cases h
      · rw [if_neg hbad] at h
        by_cases ht : (bs.take 5 == [116, 111, 100, 111, 47]) = true
        · rw [if_pos ht] at h
          cases htodo : (s.msg (decVal ((bs.drop 5).dropLast))).todo with
          | none => rw [htodo] at h; cases h
          | some env =>
            obtain ⟨sender, rcpts⟩ := env
            rw [htodo] at h
            by_cases hg : (s.msg (decVal ((bs.drop 5).dropLast))).info = some (70 :: sender ++ [0]) ∧
                (s.msg (decVal ((bs.drop 5).dropLast))).infoSynced = true ∧
                chanReady (s.msg (decVal ((bs.drop 5).dropLast))).loc (s.msg (decVal ((bs.drop 5).dropLast))).locSynced = true ∧
                chanReady (s.msg (decVal ((bs.drop 5).dropLast))).rem (s.msg (decVal ((bs.drop 5).dropLast))).remSynced = true ∧
                routedOk cfg rcpts (optAddrs (s.msg (decVal ((bs.drop 5).dropLast))).loc)
                  (optAddrs (s.msg (decVal ((bs.drop 5).dropLast))).rem) = true ∧
                (s.msg (decVal ((bs.drop 5).dropLast))).loc ≠ some [] ∧ (s.msg (decVal ((bs.drop 5).dropLast))).rem ≠ some []
            · simp only [if_pos hg] at h; cases h
              exact .cleanReqTodo bs sender rcpts (Option.not_isSome_iff_eq_none.1 hcl) ht htodo hg
            · simp only [if_neg hg] at h; cases h
        · rw [if_neg ht] at h
          split at h
          · rename_i hf
            split at h
            · rename_i hg; cases h; exact .cleanReqFoop bs (Option.not_isSome_iff_eq_none.1 hcl) hf hg
            · cases h
          · cases h
  | cUnlinkIntd m =>
    dsimp only [acceptCore] at h
    split at h
    · rename_i k hcl
      split at h
      · rename_i hk; subst hk; cases h; exact .cUnlinkIntd k (Or.inl hcl)
      · cases h
    · rename_i k hcl
      split at h
      · rename_i hk; subst hk; cases h; exact .cUnlinkIntd k (Or.inr hcl)
      · cases h
    · cases h
  | cUnlinkTodo m =>
    dsimp only [acceptCore] at h
    split at h
    · rename_i k hcl
      split at h
      · rename_i hk; subst hk; cases h; exact .cUnlinkTodo k hcl
      · cases h
    · cases h
  | cUnlinkMess m =>
    dsimp only [acceptCore] at h
    split at h
    · rename_i k hcl
      split at h
      · rename_i hk; subst hk; cases h; exact .cUnlinkMess k hcl
      · cases h
    · cases h
  | cleanResp b => obtain ⟨hcl, rfl⟩ := of_ite_some h; exact .cleanResp b hcl
  | cmd c delnum m pos recip =>
    dsimp only [acceptCore] at h
    split at h
    · cases h
    · rename_i hcl
      split at h
      · cases h
      · rename_i rs hch
        split at h
        · cases h
        · rename_i idx hidx
          split at h
          · rename_i hg; cases h; exact .cmd c delnum m pos recip rs idx (Option.not_isSome_iff_eq_none.1 hcl) hch hidx hg
          · cases h
  | rbytes c bs =>
    dsimp only [acceptCore] at h
    split at h
    · cases h
    · rename_i hcl; cases h; exact .rbytes c bs (Option.not_isSome_iff_eq_none.1 hcl)
  | appendBounce m bs =>
    dsimp only [acceptCore] at h
    split at h
    · cases h
    · rename_i hcl
      split at h
      · cases h
      · rename_i n hn
        split at h
        · rename_i hg; cases h; exact .appendBounce m bs n (Option.not_isSome_iff_eq_none.1 hcl) hn hg
        · cases h
  | markD m c pos =>
    dsimp only [acceptCore] at h
    split at h
    · cases h
    · rename_i hcl
      split at h
      · cases h
      · rename_i rs hch
        split at h
        · cases h
        · rename_i idx hidx
          split at h
          · rename_i hmm; cases h; exact .markD m c pos rs idx (Option.not_isSome_iff_eq_none.1 hcl) hch hidx (by simpa using hmm)
          · cases h
  | bounceInject m ok env body =>
    dsimp only [acceptCore] at h
    split at h
    · cases h
    · rename_i hcl
      split at h
      · rename_i info file hinfo hfile
        split at h
        · rename_i hg; cases h; exact .bounceInject m ok env body info file (Option.not_isSome_iff_eq_none.1 hcl) hinfo hfile hg
        · cases h
      · cases h
  | unlinkBounce m =>
    dsimp only [acceptCore] at h
    -- by hand: `split` is slow on the two-column `match`
    by_cases hcl : s.clean.isSome = true
    · rw [if_pos hcl] at h; cases h
    · rw [if_neg hcl] at h
      cases hinfo : (s.msg m).info with
      | none => simp only [hinfo] at h; cases h
      | some info =>
        cases hfile : (s.msg m).bounce with
        | none => simp only [hinfo, hfile] at h; cases h
        | some file =>
          simp only [hinfo, hfile] at h
          by_cases hg : (s.msg m).todo.isNone = true ∧ (s.msg m).loc.isNone = true ∧ (s.msg m).rem.isNone = true
          · rw [if_pos hg] at h
            by_cases hs : (info.drop 1).dropLast = [35, 64, 91, 93]
            · rw [if_pos hs] at h; cases h
              exact .unlinkBounceDiscard m info file (Option.not_isSome_iff_eq_none.1 hcl) hinfo hfile hg hs
            · rw [if_neg hs] at h
              by_cases hl : (s.msg m).lastInject = true
              · rw [if_pos hl] at h; cases h
                exact .unlinkBounceOk m info file (Option.not_isSome_iff_eq_none.1 hcl) hinfo hfile hg hs hl
              · rw [if_neg hl] at h; cases h
          · rw [if_neg hg] at h; cases h
  | utimes m c t => obtain ⟨hg, rfl⟩ := of_ite_some h; exact .utimes m c t (by simpa using hg.1) hg.2
  | tick t => obtain ⟨ht, rfl⟩ := of_ite_some h; exact .tick t ht
  | restart => cases h; exact .restart
  | crashMarks m c marks =>
    dsimp only [acceptCore] at h
    split at h
    · cases h
    · rename_i rs hch
      split at h
      · rename_i hg; cases h
        exact .crashMarks m c marks rs hch hg.1 (by simpa using hg.2.1) hg.2.2.1 hg.2.2.2.1 hg.2.2.2.2
      · cases h
  | crashBounce m content =>
    obtain ⟨hg, rfl⟩ := of_ite_some h; exact .crashBounce m content hg.1 (by simpa using hg.2.1) hg.2.2.1 hg.2.2.2
  | crashTodoFiles m =>
    obtain ⟨hg, rfl⟩ := of_ite_some h; exact .crashTodoFiles m hg.1 (by simpa using hg.2.1) hg.2.2.1 hg.2.2.2

/-- The monitor judges `e` in `s.before e`, which differs from `s` in the crash mode only: `St.before_msg`,
    `St.before_slots` … bring what the constructor says back to `s` (for a fixed kind of event they hold by `rfl`). -/
theorem accept_step {cfg : Cfg} {s s' : St} {e : Ev} (h : accept cfg s e = some s') : Step cfg (s.before e) e s' :=
  acceptCore_step cfg (s.before e) s' e h

def freeSlot (s : St) (c : Ch) (d : Nat) : St :=
  { s with slots := s.slots.filter (fun x => !(x.c == c && x.delnum == d)) }

def finK (x : Ch × Nat) (ms : MsgSt) : MsgSt := { ms with fin := x :: ms.fin, delivered := x :: ms.delivered }

/-- the bounce note a report with letter `l` for the outstanding delivery `sl` leaves: for `D`, and for `Z` once the message is
past its queue lifetime -/
def noteOf (cfg : Cfg) (s : St) (c : Ch) (sl : Slot) (l : Byte) : List Note :=
  if l = 68 ∨ (l = 90 ∧ s.clock > (s.msg sl.m).birth + cfg.lifetime) then [⟨sl.m, c, sl.idx, sl.recip, decide (l = 68)⟩] else []

/-- `handleReport` in closed form: the report is ignored (it names no outstanding delivery), or it frees the slot of the delivery
it names and then either finishes the record (`K`) or leaves at most a bounce note. -/
theorem handleReport_eq (cfg : Cfg) (s : St) (c : Ch) (rep : Bytes) :
    (handleReport cfg s c rep = s ∧
      ∀ sl, s.slots.find? (fun x => x.c == c && x.delnum == (rep.headD 0).toNat) = some sl → (rep.headD 0).toNat ≥ cfg.conc c) ∨
    ∃ sl, s.slots.find? (fun x => x.c == c && x.delnum == (rep.headD 0).toNat) = some sl ∧ (rep.headD 0).toNat < cfg.conc c ∧
      ((rep.getD 1 0 = 75 ∧ handleReport cfg s c rep =
          { ((freeSlot s c (rep.headD 0).toNat).upd sl.m (finK (c, sl.idx))) with mayMark := (sl.m, c, sl.idx) :: s.mayMark }) ∨
       (rep.getD 1 0 ≠ 75 ∧ handleReport cfg s c rep =
          { freeSlot s c (rep.headD 0).toNat with notes := s.notes ++ noteOf cfg s c sl (rep.getD 1 0) })) := by
  cases hsl : s.slots.find? (fun x => x.c == c && x.delnum == (rep.headD 0).toNat) with
  | none => exact Or.inl ⟨by simp only [handleReport, hsl], fun _ h => nomatch h⟩
  | some sl =>
    simp only [handleReport, hsl]
    by_cases h0 : (rep.headD 0).toNat ≥ cfg.conc c
    · exact Or.inl ⟨by rw [if_pos h0], fun _ _ => h0⟩
    · rw [if_neg h0]
      refine Or.inr ⟨sl, rfl, Nat.lt_of_not_ge h0, ?_⟩
      by_cases hK : rep.getD 1 0 = 75
      · exact Or.inl ⟨hK, by rw [if_pos hK]; rfl⟩
      · rw [if_neg hK]
        refine Or.inr ⟨hK, ?_⟩
        unfold noteOf
        by_cases hD : rep.getD 1 0 = 68
        · rw [if_pos hD, if_pos (Or.inl hD), decide_eq_true hD]; rfl
        · rw [if_neg hD]
          by_cases hZ : rep.getD 1 0 = 90 ∧ s.clock > (s.msg sl.m).birth + cfg.lifetime
          · rw [if_pos hZ, if_pos (Or.inr hZ), decide_eq_false hD]; rfl
          · rw [if_neg hZ, if_neg (not_or.2 ⟨hD, hZ⟩), List.append_nil]; rfl

theorem feedReports_induct (cfg : Cfg) (c : Ch) (P : St → Prop) (hd : ∀ s v, P s → P (s.setDline c v))
    (hr : ∀ s rep, P s → P (handleReport cfg s c rep)) : ∀ (bs : Bytes) (s : St), P s → P (feedReports cfg s c bs)
  | [], _, h => h
  | b :: bs, s, h => by
    simp only [feedReports]
    split
    · exact feedReports_induct cfg c P hd hr bs _ (hr _ _ (hd _ _ h))
    · exact feedReports_induct cfg c P hd hr bs _ (hd _ _ h)

/-- `K` reports for the records `xs` -/
def addK (xs : List (Ch × Nat)) (ms : MsgSt) : MsgSt := { ms with fin := xs ++ ms.fin, delivered := xs ++ ms.delivered }

/-- `t` is `s` after some reports were read: each message has some more `K` reports, each with its permission to mark and
each for a delivery that was outstanding and no longer is; every other permission was there before; slots only go away; notes and
line buffers are free; nothing else changes. -/
structure Fed (s t : St) : Prop where
  msg : ∀ k, ∃ xs, t.msg k = addK xs (s.msg k) ∧ ∀ x ∈ xs, (k, x.1, x.2) ∈ t.mayMark ∧
    ∃ sl ∈ s.slots, (sl.m, sl.c, sl.idx) = (k, x.1, x.2) ∧ sl ∉ t.slots
  new : ∀ m c i, (m, c, i) ∈ t.mayMark → (m, c, i) ∈ s.mayMark ∨ (c, i) ∈ (t.msg m).fin
  slots : t.slots.Sublist s.slots
  clean : t.clean = s.clean
  crashed : t.crashed = s.crashed
  cut : t.cut = s.cut

theorem Fed.refl (s : St) : Fed s s :=
  ⟨fun _ => ⟨[], rfl, fun _ h => nomatch h⟩, fun _ _ _ h => Or.inl h, List.Sublist.refl _, rfl, rfl, rfl⟩

theorem Fed.quiet {s t : St} (h : Fed s t) {slots : List Slot} (hs : slots.Sublist t.slots) (notes : List Note) :
    Fed s { t with slots := slots, notes := notes } :=
  ⟨fun k => (h.msg k).imp fun _ hx => ⟨hx.1, fun x hm => (hx.2 x hm).imp id
      fun ⟨sl, h2, h3, h4⟩ => ⟨sl, h2, h3, fun hmem => h4 (hs.subset hmem)⟩⟩,
    h.new, hs.trans h.slots, h.clean, h.crashed, h.cut⟩

/-- a `K` report for the delivery `sl`, whose slot has been freed -/
theorem Fed.K {s t : St} (h : Fed s t) (sl : Slot) (hs : sl ∈ s.slots) (hg : sl ∉ t.slots) :
    Fed s { (t.upd sl.m (finK (sl.c, sl.idx))) with mayMark := (sl.m, sl.c, sl.idx) :: t.mayMark } := by
  refine ⟨fun k => ?_, fun m c i hm => ?_, h.slots, h.clean, h.crashed, h.cut⟩
  · obtain ⟨xs, hx, hm⟩ := h.msg k
    show ∃ ys, (t.upd sl.m (finK (sl.c, sl.idx))).msg k = addK ys (s.msg k) ∧
      ∀ x ∈ ys, (k, x.1, x.2) ∈ (sl.m, sl.c, sl.idx) :: t.mayMark ∧ ∃ sl' ∈ s.slots, (sl'.m, sl'.c, sl'.idx) = (k, x.1, x.2) ∧ sl' ∉ t.slots
    rw [St.msg_upd]
    split
    · rename_i he; subst he
      refine ⟨(sl.c, sl.idx) :: xs, by rw [hx]; rfl, fun x hx => ?_⟩
      rcases List.mem_cons.1 hx with rfl | hx
      · exact ⟨List.mem_cons_self, sl, hs, rfl, hg⟩
      · exact (hm x hx).imp (List.mem_cons_of_mem _) id
    · exact ⟨xs, hx, fun x hx => (hm x hx).imp (List.mem_cons_of_mem _) id⟩
  · show _ ∨ (c, i) ∈ ((t.upd sl.m (finK (sl.c, sl.idx))).msg m).fin
    rw [St.msg_upd]
    rcases List.mem_cons.1 hm with he | hm
    · cases he; rw [if_pos rfl]; exact Or.inr List.mem_cons_self
    · refine (h.new m c i hm).imp_right fun hf => ?_
      split
      · rename_i he; subst he; exact List.mem_cons_of_mem _ hf
      · exact hf

theorem Fed.handleReport {s t : St} (cfg : Cfg) (c : Ch) (rep : Bytes) (h : Fed s t) : Fed s (handleReport cfg t c rep) := by
  rcases handleReport_eq cfg t c rep with ⟨hk, _⟩ | ⟨sl, hsl, _, ⟨_, hk⟩ | ⟨_, hk⟩⟩ <;> rw [hk]
  · exact h
  · have hp := List.find?_some hsl
    simp only [Bool.and_eq_true, beq_iff_eq] at hp
    rw [← hp.1]
    exact (h.quiet List.filter_sublist t.notes).K sl (h.slots.subset (List.mem_of_find?_eq_some hsl))
      fun hmem => by simpa [hp.1, hp.2] using (List.mem_filter.1 hmem).2
  · exact h.quiet List.filter_sublist _

theorem feedReports_fed (cfg : Cfg) (c : Ch) (bs : Bytes) (s : St) : Fed s (feedReports cfg s c bs) :=
  feedReports_induct cfg c (Fed s) (fun t v h => by cases c <;> exact ⟨h.msg, h.new, h.slots, h.clean, h.crashed, h.cut⟩)
    (fun t rep h => h.handleReport cfg c rep) bs s (Fed.refl s)

theorem msg_upd_tab (s t : St) (m : Nat) (v : MsgSt) (ht : t.tab = tabSet s.tab m v) (k : Nat) :
    t.msg k = if k = m then v else s.msg k := by
  simp only [St.msg, ht, tabGet_set]

theorem msg_rel_of_tab {R : MsgSt → MsgSt → Prop} (hrefl : ∀ a, R a a) (s t : St) (m : Nat) (v : MsgSt)
    (ht : t.tab = tabSet s.tab m v) (k : Nat) (hv : k = m → R v (s.msg m)) : R (t.msg k) (s.msg k) := by
  rw [msg_upd_tab s t m v ht]
  split
  · rename_i he; subst he; exact hv rfl
  · exact hrefl _

theorem acceptAll_eq (cfg : Cfg) (evs : List Ev) (s : St) : acceptAll cfg s evs = evs.foldlM (accept cfg) s :=
  Acceptor.eq_foldlM (fun _ => rfl) (fun s e es => by rw [acceptAll]; cases accept cfg s e <;> rfl) evs s

end Nq.Lemmas.DI
