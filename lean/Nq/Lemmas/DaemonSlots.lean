/-
  Two pieces of bookkeeping of the qmail-send monitor.  Slots: which events change the set of in-flight deliveries.
  The crash window (`crashed`, `cut`): it is opened by `restart` only and closed by every event outside `Ev.inCrashWindow`
  (the window events: crash damage found in the dump, further crashes, arrivals), so a damage event is preceded by a restart with window events only in between
  (`window_trace`).
-/
import Nq.Lemmas.DaemonRel

namespace Nq.Lemmas.DS
open Nq Nq.Daemon Nq.Lemmas.DI

/-- A delivery command adds its slot, under its guards on the slots; every other event at most frees slots (reports free
    some, a restart all, the rest none). -/
theorem slots_cases {cfg : Cfg} {s s' : St} {e : Ev} (h : accept cfg s e = some s') :
    (∃ c d m p r rs idx, e = .cmd c d m p r ∧ (s.msg m).chan c = some rs ∧ recIndex rs p = some idx ∧
      slotFree s c d ∧ !inFlight s m c idx ∧ usedCount s c < cfg.conc c ∧ s'.slots = ⟨c, d, m, idx, r⟩ :: s.slots) ∨
    s'.slots.Sublist s.slots := by
  cases accept_step h with
  | cmd c d m p r rs idx _ hch hidx hg =>
    obtain ⟨_, _, _, _, hfree, hfl, _, hcount⟩ := hg
    exact Or.inl ⟨c, d, m, p, r, rs, idx, rfl, hch, hidx, hfree, hfl, hcount, rfl⟩
  | rbytes c bs => exact Or.inr (feedReports_fed cfg c bs _).slots
  | restart => exact Or.inr (List.nil_sublist _)
  | _ => exact Or.inr (List.Sublist.refl _)  -- the slots of `s.before e`

theorem crashed_core (cfg : Cfg) (s s' : St) (e : Ev) (h : acceptCore cfg s e = some s') (h3 : e ≠ .restart) :
    s'.crashed = s.crashed ∧ s'.cut = s.cut := by
  cases acceptCore_step cfg s s' e h with
  | restart => exact absurd rfl h3
  | rbytes c bs => exact ⟨(feedReports_fed cfg c bs _).crashed, (feedReports_fed cfg c bs _).cut⟩
  | _ => exact ⟨rfl, rfl⟩

theorem crashed_step (cfg : Cfg) (s s' : St) (e : Ev) (h : accept cfg s e = some s') (hc : s'.crashed = true) :
    e = .restart ∨ (e.inCrashWindow = true ∧ s.crashed = true) := by
  by_cases h3 : e = .restart
  · exact Or.inl h3
  · right
    have := (crashed_core cfg (s.before e) s' e h h3).1
    rw [hc] at this
    cases hw : e.inCrashWindow with
    | true => simp only [St.before, hw, if_true] at this; exact ⟨rfl, this.symm⟩
    | false => simp [St.before, hw, St.calm] at this

theorem cut_step (cfg : Cfg) (s s' : St) (e : Ev) (h : accept cfg s e = some s') (hc : s'.crashed = false) (h0 : s.crashed = false → s.cut = []) :
    s'.cut = [] := by
  by_cases h3 : e = .restart
  · subst h3; rw [accept_restart] at h; cases h; cases hc
  · have := crashed_core cfg (s.before e) s' e h h3
    rw [this.2]
    cases hw : e.inCrashWindow with
    | true =>
      simp only [St.before, hw, if_true] at this ⊢
      exact h0 (by rw [← this.1]; exact hc)
    | false => simp [St.before, hw, St.calm]

theorem damage_needs_crashed (cfg : Cfg) (s s' : St) (e : Ev) (h : accept cfg s e = some s') (hd : e.isDamage = true) :
    s.crashed = true := by
  cases accept_step h with
  | crashMarks _ _ _ _ _ hcr => exact hcr
  | crashBounce _ _ hcr => exact hcr
  | crashTodoFiles _ hcr => exact hcr
  | _ => cases hd

theorem window_trace (cfg : Cfg) (evs : List Ev) (s0 s : St) (h : evs.foldlM (accept cfg) s0 = some s) (hc : s.crashed = true) :
    (s0.crashed = true ∧ evs.all Ev.inCrashWindow = true) ∨
    ∃ pre post, evs = pre ++ Ev.restart :: post ∧ post.all Ev.inCrashWindow = true :=
  (Acceptor.foldlM_origin (fun t => t.crashed = true) (fun _ e => e = .restart) Ev.inCrashWindow
    (fun t e t' => crashed_step cfg t t' e) evs s0 s h hc).imp_right
    fun ⟨pre, _, post, _, he, _, hr, hall⟩ => ⟨pre, post, hr ▸ he, hall⟩

end Nq.Lemmas.DS
