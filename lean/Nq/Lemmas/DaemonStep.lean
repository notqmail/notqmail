/-
  The per-message accounting invariant `MInv` under each kind of change an event makes to one message; `minv_todo`
  for the events of the preprocessing phase.  `step_inv` in DaemonMain puts these together.
-/
import Nq.Lemmas.DaemonInv

namespace Nq.Lemmas.DI
open Nq Nq.Daemon

/-- the two states agree on the envelope, on the ghost history and on the bounce / message files -/
structure SameGhost (ms ms' : MsgSt) : Prop where
  e1 : ms'.todo = ms.todo
  e2 : ms'.accepted = ms.accepted
  e3 : ms'.fin = ms.fin
  e4 : ms'.delivered = ms.delivered
  e5 : ms'.noted = ms.noted
  e6 : ms'.inFile = ms.inFile
  e7 : ms'.bounced = ms.bounced
  e8 : ms'.droppedRecs = ms.droppedRecs
  e9 : ms'.lostRecs = ms.lostRecs
  e10 : ms'.bounce = ms.bounce
  e11 : ms'.mess = ms.mess

theorem SameGhost.setChan (ms : MsgSt) (c : Ch) (v : Option (List Rec)) : SameGhost ms (ms.setChan c v) := by
  cases c <;> constructor <;> rfl
theorem SameGhost.setChanSynced (ms : MsgSt) (c : Ch) (v : Bool) : SameGhost ms (ms.setChanSynced c v) := by
  cases c <;> constructor <;> rfl
theorem SameGhost.trans {a b c : MsgSt} (h1 : SameGhost a b) (h2 : SameGhost b c) : SameGhost a c :=
  ⟨h2.e1.trans h1.e1, h2.e2.trans h1.e2, h2.e3.trans h1.e3, h2.e4.trans h1.e4, h2.e5.trans h1.e5, h2.e6.trans h1.e6,
   h2.e7.trans h1.e7, h2.e8.trans h1.e8, h2.e9.trans h1.e9, h2.e10.trans h1.e10, h2.e11.trans h1.e11⟩

@[simp] theorem lostRecs_setChan (ms : MsgSt) (c : Ch) (v : Option (List Rec)) : (ms.setChan c v).lostRecs = ms.lostRecs :=
  (SameGhost.setChan ms c v).e9
@[simp] theorem lostRecs_setChanSynced (ms : MsgSt) (c : Ch) (v : Bool) : (ms.setChanSynced c v).lostRecs = ms.lostRecs :=
  (SameGhost.setChanSynced ms c v).e9
theorem fin_setChan (ms : MsgSt) (c : Ch) (v : Option (List Rec)) : (ms.setChan c v).fin = ms.fin := (SameGhost.setChan ms c v).e3
theorem fin_setChanSynced (ms : MsgSt) (c : Ch) (v : Bool) : (ms.setChanSynced c v).fin = ms.fin :=
  (SameGhost.setChanSynced ms c v).e3
theorem delivered_setChan (ms : MsgSt) (c : Ch) (v : Option (List Rec)) : (ms.setChan c v).delivered = ms.delivered :=
  (SameGhost.setChan ms c v).e4
theorem delivered_setChanSynced (ms : MsgSt) (c : Ch) (v : Bool) : (ms.setChanSynced c v).delivered = ms.delivered :=
  (SameGhost.setChanSynced ms c v).e4

theorem msg_with_volatile (s : St) (k : Nat) (n : List Note) (mm : List (Nat × Ch × Nat)) :
    ({ s with notes := n, mayMark := mm } : St).msg k = s.msg k := rfl

theorem inv_upd_grow (cfg : Cfg) (s : St) (m : Nat) (f : MsgSt → MsgSt) (hinv : Inv cfg s) (hclean : s.clean = none)
    (hm : MInv cfg (f (s.msg m))) (hfin : ∀ x ∈ (s.msg m).fin, x ∈ (f (s.msg m)).fin) : Inv cfg (s.upd m f) := by
  refine inv_upd cfg s m f _ (fun k => St.msg_upd s m k f) hinv hm ?_ ?_ ?_
  · intro m' c i hmem
    have h0 := hinv.may m' c i hmem
    rw [St.msg_upd]
    split
    · rename_i he; subst he; exact hfin _ h0
    · exact h0
  · intro m' hc
    have : (s.upd m f).clean = s.clean := rfl
    rw [this, hclean] at hc; cases hc
  · intro m' hc
    have : (s.upd m f).clean = s.clean := rfl
    rw [this, hclean] at hc; cases hc

/-! ### per-event preservation of the per-message invariant -/

/-- the history part reads the ghost fields only -/
theorem Ghost.congr {ms ms' : MsgSt} (h : Ghost ms) (g : SameGhost ms ms')
    (hi : ms'.info.isSome = true → ms.todo.isSome = true ∨ ms.info.isSome = true) : Ghost ms' := by
  obtain ⟨e1, e2, e3, e4, e5, e6, e7, e8, e9, e10, e11⟩ := g
  exact ⟨fun env he => by rw [e2]; exact h.a1 env (e1 ▸ he), fun x hx => by rw [e4, e5]; exact h.k3 x (e3 ▸ hx),
    fun x hx => by rw [e6, e7, e8, e9]; exact h.k4 x (e5 ▸ hx), fun hb => by rw [e6]; exact h.k5 (e10 ▸ hb),
    fun hp => by rw [e11]; exact h.m1 (hp.elim (fun ht => Or.inl (e1 ▸ ht)) hi), fun sd r ha hd => h.d1 sd r (e2 ▸ ha) (e8 ▸ hd)⟩

/-- events that rebuild the channel files and `info/<m>` from `todo/<m>` cannot disturb the accounting -/
theorem minv_todo (cfg : Cfg) (ms ms' : MsgSt) (h : MInv cfg ms) (g : SameGhost ms ms') (ht : ms.todo.isSome = true) :
    MInv cfg ms' :=
  ⟨h.ghost.congr g fun _ => Or.inl ht, fun hn => by rw [g.e1] at hn; rw [hn] at ht; cases ht⟩

/-- qmail-clean removes `mess/<m>` on a `foop/<m>` request, which is granted only when `todo/<m>` and `info/<m>` are gone -/
theorem minv_unlinkMess (cfg : Cfg) (ms : MsgSt) (h : MInv cfg ms) (ht : ms.todo = none) (hi : ms.info = none) :
    MInv cfg { ms with mess := false } :=
  ⟨{ h.ghost with m1 := fun hp => by simp [ht, hi] at hp }, fun hn => { h.files hn with }⟩

theorem minv_unlinkInfo_done (cfg : Cfg) (ms : MsgSt) (h : MInv cfg ms)
    (hl : ms.loc = none) (hr : ms.rem = none) (hb : ms.bounce = none) (ht : ms.todo = none) :
    MInv cfg { ms with info := none, infoSynced := false } :=
  ⟨{ h.ghost with m1 := fun hp => by simp [ht] at hp },
    fun hn => { h.files hn with
      k6 := fun hp => by simp [hl, hr, hb] at hp
      i1 := fun _ _ _ _ hi => nomatch hi }⟩

theorem minv_setChan (cfg : Cfg) (ms : MsgSt) (c : Ch) (rs : List Rec) (v : Option (List Rec)) (h : MInv cfg ms)
    (hc : ms.chan c = some rs) (hv : ms.todo = none → ChanOK ms.fin (MsgSt.placed ms c) c v) : MInv cfg (ms.setChan c v) := by
  have g := SameGhost.setChan ms c v
  obtain ⟨r2, r12, r13⟩ := setChan_info_placed ms c v
  have hplaced : ∀ c', MsgSt.placed (ms.setChan c v) c' = MsgSt.placed ms c' := by
    intro c'; cases c' <;> simp [MsgSt.placed, r12, r13]
  refine ⟨h.ghost.congr g fun hi => Or.inr (r2 ▸ hi), fun hn => ?_⟩
  rw [g.e1] at hn
  have hf := h.files hn
  refine ⟨fun sd r ha => by rw [r12, r13]; exact hf.a2 sd r (g.e2 ▸ ha), fun c' => ?_, fun _ => ?_,
    fun sd r i ha hi => hf.i1 sd r i (g.e2 ▸ ha) (r2 ▸ hi)⟩
  · rw [chan_setChan, hplaced, g.e3]
    split
    · rename_i he; subst he; exact hv hn
    · exact hf.ch c'
  · -- the file being replaced existed, hence info/<m> exists
    rw [r2]; exact hf.info_of_chan hc

theorem minv_unlinkChan_job (cfg : Cfg) (ms : MsgSt) (c : Ch) (rs : List Rec) (h : MInv cfg ms)
    (hc : ms.chan c = some rs) (hfin : allFinished ms c rs = true) : MInv cfg (ms.setChan c none) :=
  minv_setChan cfg ms c rs none h hc fun hn i hi => by
    have hi : i < rs.length := by rw [← ((h.files hn).of_chan hc).1] at hi; simpa [addrs] using hi
    exact (h.files hn).fin_of_allFinished hc hfin i hi

theorem minv_setRecs (cfg : Cfg) (ms : MsgSt) (c : Ch) (rs rs' : List Rec) (h : MInv cfg ms) (hc : ms.chan c = some rs)
    (ha : addrs rs' = addrs rs) (hl : rs'.length = rs.length)
    (hd : ∀ i, i < rs.length → (rs'.getD i ⟨false, []⟩).done = true → (rs.getD i ⟨false, []⟩).done = true ∨ (c, i) ∈ ms.fin) :
    MInv cfg (ms.setChan c (some rs')) :=
  minv_setChan cfg ms c rs _ h hc fun hn =>
    have hch := (h.files hn).of_chan hc
    ⟨ha.trans hch.1, fun i hi hd' => (hd i (hl ▸ hi) hd').elim (hch.2 i (hl ▸ hi)) id⟩

theorem minv_markD (cfg : Cfg) (ms : MsgSt) (c : Ch) (rs : List Rec) (idx : Nat) (h : MInv cfg ms)
    (hc : ms.chan c = some rs) (hfin : (c, idx) ∈ ms.fin) : MInv cfg (ms.setChan c (some (setDone rs idx))) :=
  minv_setRecs cfg ms c rs _ h hc (addrs_setDone rs idx) (length_setDone rs idx) fun i _ hd =>
    (getD_setDone rs idx i hd).elim (fun h1 => Or.inr (h1.1 ▸ hfin)) Or.inl

theorem minv_crashMarks (cfg : Cfg) (ms : MsgSt) (c : Ch) (rs : List Rec) (marks : List Bool) (h : MInv cfg ms)
    (hc : ms.chan c = some rs) (hl : marks.length = rs.length)
    (hall : (List.range rs.length).all (fun i => !(marks.getD i false) || (rs.getD i ⟨false, []⟩).done) = true) :
    MInv cfg (ms.setChan c (some (zipMarks rs marks))) :=
  minv_setRecs cfg ms c rs _ h hc (addrs_zipMarks rs marks hl) (length_zipMarks rs marks hl) fun i hi hd => by
    have := (List.all_eq_true.1 hall) i (List.mem_range.2 hi)
    rw [getD_zipMarks rs marks i hl hi] at hd
    rw [hd] at this
    exact Or.inl (by simpa using this)

theorem minv_reportK (cfg : Cfg) (ms : MsgSt) (x : Ch × Nat) (h : MInv cfg ms) :
    MInv cfg { ms with fin := x :: ms.fin, delivered := x :: ms.delivered } :=
  ⟨{ h.ghost with
      k3 := fun y hy => (List.mem_cons.1 hy).elim (fun e => Or.inl (e ▸ List.mem_cons_self))
        fun hy => (h.ghost.k3 y hy).imp (List.mem_cons_of_mem _) id },
    fun hn => { h.files hn with ch := fun c => ((h.files hn).ch c).mono fun _ => List.mem_cons_of_mem _ }⟩

theorem minv_appendBounce (cfg : Cfg) (ms : MsgSt) (x : Ch × Nat) (bs : Bytes) (h : MInv cfg ms)
    (hi : ms.info.isSome = true) :
    MInv cfg { ms with bounce := some ((ms.bounce.getD []) ++ bs), fin := x :: ms.fin, noted := x :: ms.noted,
                       inFile := x :: ms.inFile, lastInject := false } :=
  ⟨{ h.ghost with
      k3 := fun y hy => (List.mem_cons.1 hy).elim (fun e => Or.inr (e ▸ List.mem_cons_self))
        fun hy => (h.ghost.k3 y hy).imp id (List.mem_cons_of_mem _)
      k4 := fun y hy => (List.mem_cons.1 hy).elim (fun e => Or.inl (e ▸ List.mem_cons_self))
        fun hy => (h.ghost.k4 y hy).imp (List.mem_cons_of_mem _) id
      k5 := fun hb => nomatch hb },
    fun hn => { h.files hn with
      ch := fun c => ((h.files hn).ch c).mono fun _ => List.mem_cons_of_mem _
      k6 := fun _ => hi }⟩

theorem dropLast_append_singleton (l : Bytes) (a : Byte) : (l ++ [a]).dropLast = l :=
  List.dropLast_concat

/-- the bounce file of a message whose `info/<m>` names the sender `#@[]` is discarded: every paragraph in it goes to `droppedRecs` -/
theorem minv_unlinkBounce_discard (cfg : Cfg) (ms : MsgSt) (h : MInv cfg ms) (ht : ms.todo = none) (info : Bytes)
    (hinfo : ms.info = some info) (hs : (info.drop 1).dropLast = [35, 64, 91, 93]) :
    MInv cfg { ms with bounce := none, inFile := [], discarded := true, droppedRecs := ms.inFile ++ ms.droppedRecs } :=
  ⟨{ h.ghost with
      k4 := fun x hx => (h.ghost.k4 x hx).elim (fun h1 => Or.inr (Or.inr (Or.inl (List.mem_append_left _ h1))))
        fun h1 => Or.inr (h1.imp id (Or.imp (List.mem_append_right _) id))
      k5 := fun _ => rfl
      d1 := fun sd r ha _ => (h.sender ht ha hinfo).symm.trans hs },
    fun hn => { h.files hn with k6 := fun hp => (h.files hn).k6 (hp.imp id (Or.imp id (fun hp => nomatch hp))) }⟩

theorem minv_unlinkBounce_ok (cfg : Cfg) (ms : MsgSt) (h : MInv cfg ms) :
    MInv cfg { ms with bounce := none, bounced := ms.inFile ++ ms.bounced, inFile := [] } :=
  ⟨{ h.ghost with
      k4 := fun x hx => (h.ghost.k4 x hx).elim (fun h1 => Or.inr (Or.inl (List.mem_append_left _ h1)))
        fun h1 => Or.inr (h1.imp (List.mem_append_right _) id)
      k5 := fun _ => rfl },
    fun hn => { h.files hn with k6 := fun hp => (h.files hn).k6 (hp.imp id (Or.imp id (fun hp => nomatch hp))) }⟩

/-- a crash changes the content of `bounce/<m>`: the paragraphs that were in the file stay accounted — they are still in the
file (`inFile`, when the old content survives as a prefix) or become exempt (`lostRecs`) -/
theorem minv_crashBounce (cfg : Cfg) (ms : MsgSt) (content : Bytes) (h : MInv cfg ms)
    (hg : ms.bounce.isSome = true ∨ (ms.todo.isNone = true ∧ ms.info.isSome = true)) :
    MInv cfg { ms with bounce := some content, lost := true, lastInject := false,
                       lostRecs := (if (ms.bounce.getD []).isPrefixOf content then [] else ms.inFile) ++ ms.lostRecs } :=
  ⟨{ h.ghost with
      k4 := fun x hx => (h.ghost.k4 x hx).imp id (Or.imp id (Or.imp id (List.mem_append_right _)))
      k5 := fun hb => nomatch hb },
    fun hn => { h.files hn with
      k6 := fun _ => hg.elim (fun hg => (h.files hn).k6 (Or.inr (Or.inr hg))) (fun hg => hg.2) }⟩

theorem allT_getD : ∀ (rs : List Rec) (i : Nat), allT rs = true → i < rs.length → (rs.getD i ⟨false, []⟩).done = false
  | [], _, _, h => by simp at h
  | r :: rs, 0, ha, _ => by simp [allT] at ha ⊢; exact ha.1
  | r :: rs, i + 1, ha, hi => by
    simp [allT] at ha hi ⊢
    have := allT_getD rs i (by simp [allT]; exact ha.2) hi
    simpa using this

/-- `todo/<m>` is removed once preprocessing is complete: the files are what was placed, nothing is finished yet -/
theorem minv_unlinkTodo (cfg : Cfg) (ms : MsgSt) (h : MInv cfg ms) (hr : TodoReady cfg ms) :
    MInv cfg { ms with todo := none, placedLoc := optAddrs ms.loc, placedRem := optAddrs ms.rem,
                       fin := [], delivered := [], noted := [], inFile := [], bounced := [] } := by
  obtain ⟨sender, rcpts, ht, hi, hall, hrt⟩ := hr
  have hacc := h.ghost.a1 (sender, rcpts) ht
  refine ⟨{ h.ghost with
      a1 := fun _ he => nomatch he
      k3 := fun _ hx => nomatch hx
      k4 := fun _ hx => nomatch hx
      k5 := fun _ => rfl
      m1 := fun _ => h.ghost.m1 (Or.inl (by rw [ht]; rfl)) },
    fun _ => ⟨fun sd r ha => ?_, fun c => ?_, fun _ => ?_, fun sd r i ha hinf => ?_⟩⟩
  · cases hacc.symm.trans ha; exact hrt
  · have hc : ∀ o, ms.chan c = o → ChanOK [] (optAddrs o) c o := fun o ho => by
      cases o with
      | none => exact fun i hi' => nomatch hi'
      | some rs => exact ⟨rfl, fun i hi' hd => by rw [allT_getD rs i (hall c rs ho) hi'] at hd; cases hd⟩
    cases c <;> exact hc _ rfl
  · show ms.info.isSome = true; rw [hi]; rfl
  · cases hacc.symm.trans ha
    exact Option.some.inj (hinf.symm.trans hi)

end Nq.Lemmas.DI
