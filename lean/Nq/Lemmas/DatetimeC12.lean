/-
  `Nq.LocalDeliver.datetimeTai` (qmail-local's From_ line / myctime) is, field by field, the same arithmetic as
  `Nq.Datetime.tai` (after unfolding the two definitions are syntactically equal; the record types differ: C12's has no
  `yday`).  So the calendar theorem of `Nq/Lemmas/Datetime.lean` applies to it.
-/
import Nq.LocalDeliver
import Nq.Lemmas.Datetime

namespace Nq.Lemmas.DatetimeC12
open Nq Nq.Datetime

theorem localDeliver_datetimeTai_eq (t : Int) :
    Nq.LocalDeliver.datetimeTai t =
      { hour := (tai t).hour, min := (tai t).min, sec := (tai t).sec, wday := (tai t).wday,
        mday := (tai t).mday, mon := (tai t).mon, year := (tai t).year } := by
  simp only [Nq.LocalDeliver.datetimeTai, tai, vars]

theorem localDeliver_datetimeTai_civil (t : Int) :
    validDate (Nq.LocalDeliver.datetimeTai t).year (Nq.LocalDeliver.datetimeTai t).mon (Nq.LocalDeliver.datetimeTai t).mday ∧
    daysFromCivil (Nq.LocalDeliver.datetimeTai t).year (Nq.LocalDeliver.datetimeTai t).mon (Nq.LocalDeliver.datetimeTai t).mday = t / 86400 ∧
    (Nq.LocalDeliver.datetimeTai t).wday = (t / 86400 + 4) % 7 := by
  rw [localDeliver_datetimeTai_eq]
  obtain ⟨h1, h2, _, _, h5⟩ := Nq.Lemmas.Datetime.tai_civil t
  exact ⟨h1, h2, h5⟩

end Nq.Lemmas.DatetimeC12
