/-
  Nq.Lemmas.Decimal — `fmt_ulong`.  The models spell the routine out in several ways: `Nq.fmtNat` through `toString`; a loop
  with fuel that pushes digits in front of an accumulator (`Nq.Received`, `Nq.Users`: `fmtLoop_eq`); the recursion on `n / 10`
  (`Nq.LocalDeliver.fmtDec`: `eq_fmtNat`); a least-significant-first loop in `Nq.Clean` (identified in `Lemmas/CleanL.lean`).
  The facts (digits only, non-empty, no leading zero, `decVal` reads the number back) are proved here once, for `fmtNat`.
  Core Lean only.
-/
import Nq.Lemmas.Basic

namespace Nq

theorem fmtNat_eq (n : Nat) : fmtNat n = (Nat.toDigits 10 n).flatMap String.utf8EncodeChar := by
  rw [← str_ofList]; rfl

theorem fmtNat_lt10 (d : Nat) (h : d < 10) : fmtNat d = [UInt8.ofNat (48 + d)] := by
  rw [fmtNat_eq, Nat.toDigits_of_lt_base h]
  revert d
  decide

theorem fmtNat_step (n : Nat) (h : 10 ≤ n) : fmtNat n = fmtNat (n / 10) ++ [UInt8.ofNat (48 + n % 10)] := by
  rw [← fmtNat_lt10 _ (Nat.mod_lt n (by decide)), fmtNat_eq, fmtNat_eq, fmtNat_eq, ← List.flatMap_append,
    Nat.toDigits_append_toDigits (by omega) (by omega) (Nat.mod_lt _ (by omega))]
  congr 2
  omega

theorem dec_induction {P : Nat → Prop} (h0 : ∀ d, d < 10 → P d) (hs : ∀ n, 10 ≤ n → P (n / 10) → P n) (n : Nat) : P n := by
  induction n using Nat.strongRecOn with
  | _ n ih =>
    by_cases h : n < 10
    · exact h0 n h
    · exact hs n (by omega) (ih (n / 10) (by omega))

theorem fmtNat_digits (n : Nat) : ∀ c ∈ fmtNat n, isDigit c = true := by
  induction n using dec_induction with
  | h0 d h => rw [fmtNat_lt10 d h]; exact List.forall_mem_singleton.2 (digit_isDigit d h)
  | hs n h ih =>
    rw [fmtNat_step n h]
    exact List.forall_mem_append.2 ⟨ih, List.forall_mem_singleton.2 (digit_isDigit _ (Nat.mod_lt n (by decide)))⟩

theorem fmtNat_ne_nil (n : Nat) : fmtNat n ≠ [] := by
  by_cases h : n < 10
  · rw [fmtNat_lt10 n h]; exact List.cons_ne_nil _ _
  · rw [fmtNat_step n (by omega)]; exact List.append_ne_nil_of_right_ne_nil _ (List.cons_ne_nil _ _)

theorem decVal_fmtNat (n : Nat) : decVal (fmtNat n) = n := by
  induction n using dec_induction with
  | h0 d h =>
    rw [fmtNat_lt10 d h]
    show 0 * 10 + ((UInt8.ofNat (48 + d)).toNat - 48) = d
    rw [digit_toNat d h]; omega
  | hs n h ih => rw [fmtNat_step n h, decVal_snoc, ih, digit_toNat _ (Nat.mod_lt n (by decide))]; omega

theorem fmtNat_inj (a b : Nat) (h : fmtNat a = fmtNat b) : a = b := by
  rw [← decVal_fmtNat a, ← decVal_fmtNat b, h]

theorem fmtNat_head_zero (n : Nat) : (fmtNat n).head? = some 48 → n = 0 := by
  induction n using dec_induction with
  | h0 d h =>
    rw [fmtNat_lt10 d h, List.head?_cons, Option.some.injEq, ← UInt8.toNat_inj, digit_toNat d h]
    exact fun e => Nat.add_left_cancel e
  | hs n h ih =>
    rw [fmtNat_step n h, List.head?_append]
    cases hd : fmtNat (n / 10) with
    | nil => exact absurd hd (fmtNat_ne_nil _)
    | cons c t =>
      intro e
      have := ih (by rw [hd]; exact e)
      omega

theorem digit_ne (c x : Byte) (h : isDigit c = true) (hx : isDigit x = false) : c ≠ x := by
  intro e; rw [e, hx] at h; cases h

/-- the separators the formats use (NUL, LF, SP, `.`, `:` ...) do not occur in a number -/
theorem fmtNat_not_mem (n : Nat) {c : Byte} (hc : isDigit c = false) : c ∉ fmtNat n :=
  fun h => digit_ne _ c (fmtNat_digits n c h) hc rfl

/-- a function with the two equations of `fmt_ulong` is `fmtNat` -/
theorem eq_fmtNat {F : Nat → Bytes} (h0 : ∀ d, d < 10 → F d = [UInt8.ofNat (48 + d)])
    (hs : ∀ n, 10 ≤ n → F n = F (n / 10) ++ [UInt8.ofNat (48 + n % 10)]) (n : Nat) : F n = fmtNat n := by
  induction n using dec_induction with
  | h0 d h => rw [h0 d h, fmtNat_lt10 d h]
  | hs n h ih => rw [hs n h, ih, fmtNat_step n h]

/-- the loop of `fmt_ulong` that pushes digits in front of an accumulator, with fuel `f > n` -/
theorem fmtLoop_eq {A : Nat → Nat → Bytes → Bytes}
    (hA : ∀ f n acc, A (f + 1) n acc =
      if n < 10 then UInt8.ofNat (48 + n) :: acc else A f (n / 10) (UInt8.ofNat (48 + n % 10) :: acc)) :
    ∀ (f n : Nat) (acc : Bytes), n < f → A f n acc = fmtNat n ++ acc
  | 0, _, _, h => absurd h (Nat.not_lt_zero _)
  | f + 1, n, acc, h => by
    rw [hA]
    split
    · rename_i h10; rw [fmtNat_lt10 n h10]; rfl
    · rename_i h10
      rw [fmtLoop_eq hA f (n / 10) _ (by omega), fmtNat_step n (by omega), List.append_assoc]; rfl

/-- the digit loop of `scan_ulong`, reduced modulo `M` after every digit, against the plain decimal fold: congruent modulo
`M` from congruent starting values -/
theorem decFold_mod (M : Nat) (ds : Bytes) (a b : Nat) (hab : a % M = b % M) :
    ds.foldl (fun acc d => (acc * 10 + (d.toNat - 48)) % M) a % M
      = ds.foldl (fun acc d => acc * 10 + (d.toNat - 48)) b % M := by
  induction ds generalizing a b with
  | nil => exact hab
  | cons d r ih =>
    refine ih _ _ ?_
    rw [Nat.mod_mod, Nat.add_mod, Nat.mul_mod, hab, ← Nat.mul_mod, ← Nat.add_mod]

end Nq
