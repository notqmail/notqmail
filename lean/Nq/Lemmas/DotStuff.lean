/-
  Dot-stuffing of one line, as SMTP DATA (RFC 5321 §4.5.2) and POP3 multi-line responses (RFC 1939 §3) apply it: a line
  that begins with a dot gets another one in front.  No protocol model is imported.
-/
import Nq.Basic

namespace Nq.Lemmas
open Nq

def stuff (l : Bytes) : Bytes := (if l.head? = some DOT then [DOT] else []) ++ l

theorem stuff_cons {x : Byte} (l : Bytes) (h : x ≠ DOT) : stuff (x :: l) = x :: l := by simp [stuff, h]

theorem stuff_dot (l : Bytes) : stuff (DOT :: l) = DOT :: DOT :: l := by simp [stuff]

theorem mem_stuff (x : Byte) (l : Bytes) : x ∈ stuff l ↔ x ∈ l := by
  unfold stuff
  split
  · rename_i h
    obtain ⟨t, rfl⟩ := List.head?_eq_some_iff.1 h
    simp
  · simp

/-- a lone dot is not dot-stuffed: the one line that cannot come before the terminator -/
theorem stuff_ne_dot : ∀ l : Bytes, stuff l ≠ [DOT]
  | [] => by simp [stuff]
  | c :: l => by by_cases h : c = DOT <;> simp [stuff, h]

end Nq.Lemmas
