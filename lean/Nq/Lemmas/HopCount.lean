/-
  The hop scanner of qmail-smtpd.c `blast()` (`Nq.SmtpIn.hstep`) computes `Nq.HopCount.hopSpec`, for every byte stream.
-/
import Nq.HopCount
import Nq.Lemmas.Basic

namespace Nq.Lemmas.HopCount
open Nq Nq.SmtpIn Nq.HopCount

def hrun (h : HSt) (bs : Bytes) : HSt := bs.foldl hstep h

/-- the state at the start of a line, `n` hops counted so far -/
def fresh (n : Nat) : HSt := { hops := n }

@[simp] theorem hrun_nil (h : HSt) : hrun h [] = h := rfl
@[simp] theorem hrun_cons (h : HSt) (c : Byte) (bs : Bytes) : hrun h (c :: bs) = hrun (hstep h c) bs := rfl
theorem hrun_append (h : HSt) (a b : Bytes) : hrun h (a ++ b) = hrun (hrun h a) b := by
  simp [hrun, List.foldl_append]

/-- case-insensitive "starts with": pattern given as (lower, upper) pairs, the way `blast()` compares -/
def pm : List (Byte × Byte) → Bytes → Bool
  | [], _ => true
  | _ :: _, [] => false
  | (p, q) :: ps, c :: cs => (c == p || c == q) && pm ps cs

/-- what a tracker (`flagmaybex` / `flagmaybez`) with flag `m`, `pos` bytes into the line, will still count on the
    rest `l` of the line -/
def pend (pat : List (Byte × Byte)) (m : Bool) (pos : Nat) (l : Bytes) : Nat :=
  (m && decide (pos < pat.length) && pm (pat.drop pos) l).toNat

theorem pend_past (pat : List (Byte × Byte)) (m : Bool) (pos : Nat) (l : Bytes) (hp : ¬ pos < pat.length) :
    pend pat m pos l = 0 := by
  simp [pend, hp]

theorem pend_nil (pat : List (Byte × Byte)) (m : Bool) (pos : Nat) : pend pat m pos [] = 0 := by
  by_cases hp : pos < pat.length
  · rw [pend, List.drop_eq_getElem_cons hp, pm, Bool.and_false]; rfl
  · exact pend_past pat m pos [] hp

theorem pend_start (pat : List (Byte × Byte)) (l : Bytes) (hp : 0 < pat.length) : pend pat true 0 l = (pm pat l).toNat := by
  simp [pend, hp]

theorem pend_step (lo up : Bytes) (n : Nat) (hlo : lo.length = n + 1) (hup : up.length = n + 1) (m : Bool) (pos : Nat)
    (c : Byte) (cs : Bytes) (hp : pos ≤ n) :
    pend (lo.zip up) m pos (c :: cs) =
      ((m && (c == lo.getD pos 0 || c == up.getD pos 0)) && pos == n).toNat +
        pend (lo.zip up) (m && (c == lo.getD pos 0 || c == up.getD pos 0)) (pos + 1) cs := by
  have hz : (lo.zip up).length = n + 1 := by rw [List.length_zip, hlo, hup, Nat.min_self]
  have hd : (lo.zip up).drop pos = (lo.getD pos 0, up.getD pos 0) :: (lo.zip up).drop (pos + 1) := by
    rw [List.drop_eq_getElem_cons (by omega), List.getElem_zip, List.getElem_eq_getD 0, List.getElem_eq_getD 0]
  unfold pend
  rw [hd, pm, hz]
  by_cases hn : pos = n
  · rw [List.drop_eq_nil_of_le (by omega)]
    simp [pm, hn]
  · have h1 : pos < n + 1 := by omega
    have h2 : pos + 1 < n + 1 := by omega
    simp [hn, h1, h2, Bool.and_assoc]

def patX : List (Byte × Byte) := receivedLo.zip receivedUp
def patZ : List (Byte × Byte) := deliveredLo.zip deliveredUp

def pendX (h : HSt) (l : Bytes) : Nat := pend patX h.mx h.pos l
def pendZ (h : HSt) (l : Bytes) : Nat := pend patZ h.mz h.pos l

theorem hstep_out (h : HSt) (c : Byte) (hin : h.inHeader = false) : hstep h c = h := by
  simp [hstep, hin]

theorem hrun_out (h : HSt) (bs : Bytes) (hin : h.inHeader = false) : hrun h bs = h :=
  foldl_fixed hstep h (fun c => hstep_out h c hin) bs

theorem ite_succ (p : Prop) [Decidable p] (n : Nat) : (if p then n + 1 else n) = n + (decide p).toNat := by
  by_cases h : p <;> simp [h]

/-- what `hstep` does on a byte other than LF within the first nine bytes of a header line -/
structure HIn (h : HSt) (c : Byte) (h' : HSt) : Prop where
  inHeader : h'.inHeader = true
  pos : h'.pos = h.pos + 1
  mz : h'.mz = (h.mz && (c == deliveredLo.getD h.pos 0 || c == deliveredUp.getD h.pos 0))
  mx : h'.mx = (if h.pos < 8 then h.mx && (c == receivedLo.getD h.pos 0 || c == receivedUp.getD h.pos 0) else h.mx)
  hops : h'.hops = h.hops + (h'.mz && h.pos == 8).toNat + (h'.mx && h.pos == 7).toNat
  my : h'.my = (if h.pos < 2 then h.my && (c == [CR, LF].getD h.pos 0) else h.my)

/-- 9 and 8 are the lengths of "delivered" and "received": the `mz` tracker compares through position 8 and counts a
    hop there, the `mx` tracker through position 7. -/
theorem hstep_in (h : HSt) (c : Byte) (hin : h.inHeader = true) (hc : c ≠ LF) (h9 : h.pos < 9) : HIn h c (hstep h c) := by
  -- the CR LF tracker cannot fire: at `pos = 1` it wants an LF
  have hy : ((if h.pos < 2 then h.my && (c == [CR, LF].getD h.pos 0) else h.my) && h.pos == 1) = false := by
    by_cases h1 : h.pos = 1
    · have : (c == LF) = false := by simpa using hc
      simp [h1, this]
    · simp [h1]
  unfold hstep
  simp only [hin, hy, h9, hc, ite_succ, Bool.decide_eq_true, Bool.not_true, Bool.false_eq_true, if_false, if_true]
  exact ⟨rfl, rfl, rfl, rfl, rfl, rfl⟩

theorem hstep_past (h : HSt) (c : Byte) (hin : h.inHeader = true) (hc : c ≠ LF) (h9 : ¬ h.pos < 9) : hstep h c = h := by
  unfold hstep
  simp [hin, h9, hc]

theorem hstep_line (h : HSt) (c : Byte) (cs : Bytes) (hin : h.inHeader = true) (hc : c ≠ LF) :
    (hstep h c).inHeader = true ∧
    (hstep h c).hops + pendX (hstep h c) cs + pendZ (hstep h c) cs = h.hops + pendX h (c :: cs) + pendZ h (c :: cs) ∧
    (2 ≤ h.pos → 2 ≤ (hstep h c).pos) := by
  by_cases h9 : h.pos < 9
  · have e := hstep_in h c hin hc h9
    refine ⟨e.inHeader, ?_, fun _ => by have := e.pos; omega⟩
    unfold pendX pendZ patX patZ
    rw [pend_step deliveredLo deliveredUp 8 rfl rfl h.mz h.pos c cs (by omega), ← e.mz, e.hops, e.pos]
    by_cases h8 : h.pos < 8
    · have e4 := e.mx
      rw [if_pos h8] at e4
      rw [pend_step receivedLo receivedUp 7 rfl rfl h.mx h.pos c cs (by omega), ← e4]
      omega
    · have h7 : (h.pos == 7) = false := by simp; omega
      rw [pend_past _ _ _ cs (show ¬ _ < 8 by omega), pend_past _ _ _ (c :: cs) h8, h7, Bool.and_false]
      show _ + 0 + _ + _ = _
      omega
  · rw [hstep_past h c hin hc h9]
    have hx : ¬ h.pos < patX.length := fun hp => h9 (Nat.lt_succ_of_lt hp)
    exact ⟨hin, by simp only [pendX, pendZ, pend_past patX _ _ _ hx, pend_past patZ _ _ _ h9], fun x => x⟩

/-- `simp` writes `getD` this way -/
theorem lf_ne_getD (l : Bytes) (hl : LF ∉ l) (pos : Nat) : LF ≠ l[pos]?.getD 0 := by
  cases h : l[pos]? with
  | none => decide
  | some x => exact fun e => hl (e ▸ List.mem_of_getElem? h)

/-- `h.my && h.pos == 1`: the line was exactly CR, which ends the header (`fresh_line`). -/
theorem hstep_lf (h : HSt) (hin : h.inHeader = true) :
    hstep h LF = { inHeader := !(h.my && h.pos == 1), pos := 0, mx := true, my := true, mz := true, hops := h.hops } := by
  have x1 := lf_ne_getD receivedLo (by decide) h.pos
  have x2 := lf_ne_getD receivedUp (by decide) h.pos
  have z1 := lf_ne_getD deliveredLo (by decide) h.pos
  have z2 := lf_ne_getD deliveredUp (by decide) h.pos
  unfold hstep
  by_cases h1 : h.pos = 1
  · simp [hin, h1]
  · by_cases h9 : h.pos < 9
    · simp [hin, h1, h9, x1, x2, z1, z2]
      omega
    · simp [hin, h1, h9]

theorem hstep_hops_le (h : HSt) (c : Byte) : h.hops ≤ (hstep h c).hops := by
  cases hin : h.inHeader with
  | false => rw [hstep_out h c hin]; exact Nat.le_refl _
  | true =>
    by_cases hc : c = LF
    · subst hc; rw [hstep_lf h hin]; exact Nat.le_refl _
    · by_cases h9 : h.pos < 9
      · rw [(hstep_in h c hin hc h9).hops]; exact Nat.le_trans (Nat.le_add_right _ _) (Nat.le_add_right _ _)
      · rw [hstep_past h c hin hc h9]; exact Nat.le_refl _

theorem hrun_line (l : Bytes) (hl : LF ∉ l) : ∀ (h : HSt), h.inHeader = true →
    (hrun h l).inHeader = true ∧ (hrun h l).hops = h.hops + pendX h l + pendZ h l ∧ (2 ≤ h.pos → 2 ≤ (hrun h l).pos) := by
  induction l with
  | nil =>
    intro h hin
    exact ⟨hin, by simp [pendX, pendZ, pend_nil], fun x => x⟩
  | cons c cs ih =>
    intro h hin
    obtain ⟨hc, hcs⟩ := List.ne_and_not_mem_of_not_mem_cons hl
    obtain ⟨s1, s2, s3⟩ := hstep_line h c cs hin hc.symm
    obtain ⟨i1, i2, i3⟩ := ih hcs (hstep h c) s1
    rw [hrun_cons]
    exact ⟨i1, by omega, fun x => i3 (s3 x)⟩

/-! ### `pm` is "starts with, ignoring ASCII case" -/

theorem lower_pair (p q c : Byte) (h1 : 97 ≤ p) (h2 : p ≤ 122) (h3 : q + 32 = p) :
    (c == p || c == q) = (lowerByte c == p) := by
  have hq := UInt8.toNat_lt q
  simp only [UInt8.le_iff_toNat_le, ← UInt8.toNat_inj, UInt8.toNat_add, UInt8.toNat_ofNat] at h1 h2 h3
  rw [Bool.eq_iff_iff, Bool.or_eq_true, beq_iff_eq, beq_iff_eq, beq_iff_eq, ← UInt8.toNat_inj, ← UInt8.toNat_inj,
    ← UInt8.toNat_inj (a := lowerByte c), lowerByte_toNat]
  split <;> omega

theorem pm_eq (ps : List (Byte × Byte))
    (hps : ∀ pq ∈ ps, ∀ c : Byte, (c == pq.1 || c == pq.2) = (lowerByte c == pq.1)) :
    ∀ l : Bytes, pm ps l = (lower (l.take ps.length) == ps.map Prod.fst) := by
  induction ps with
  | nil => intro l; simp [pm, lower]
  | cons pq ps ih =>
    obtain ⟨p, q⟩ := pq
    intro l
    cases l with
    | nil => simp [pm, lower]
    | cons c cs =>
      have h1 := hps (p, q) (by simp) c
      have h2 := ih (fun pq h => hps pq (by simp [h])) cs
      simp only [pm, h2, List.length_cons, List.take_succ_cons, lower, List.map_cons] at h1 ⊢
      rw [h1]
      simp

theorem pair_of_mem (pq : Byte × Byte) (h : pq ∈ patX ++ patZ) (c : Byte) :
    (c == pq.1 || c == pq.2) = (lowerByte c == pq.1) := by
  have hl : ∀ pq ∈ patX ++ patZ, 97 ≤ pq.1 ∧ pq.1 ≤ 122 ∧ pq.2 + 32 = pq.1 := by decide
  obtain ⟨h1, h2, h3⟩ := hl pq h
  exact lower_pair pq.1 pq.2 c h1 h2 h3

theorem pmX_eq (l : Bytes) : pm patX l = startsCI kwReceived l := by
  rw [pm_eq patX (fun pq h => pair_of_mem pq (by simp [h]))]
  rfl

theorem pmZ_eq (l : Bytes) : pm patZ l = startsCI kwDelivered l := by
  rw [pm_eq patZ (fun pq h => pair_of_mem pq (by simp [h]))]
  rfl

theorem not_both (l : Bytes) : ¬ (startsCI kwReceived l = true ∧ startsCI kwDelivered l = true) := by
  cases l with
  | nil => simp [startsCI, kwReceived, lower]
  | cons c cs =>
    rintro ⟨h1, h2⟩
    simp [startsCI, kwReceived, kwDelivered, lower] at h1 h2
    have a := h1.1
    have b := h2.1
    rw [a] at b
    exact absurd b (by decide)

theorem lines_eq : ∀ l : Bytes, lines l = splitSep LF l
  | [] => rfl
  | c :: r => by simp only [lines, splitSep, lines_eq r]; rfl

theorem lines_ne_nil (bs : Bytes) : lines bs ≠ [] :=
  lines_eq bs ▸ splitSep_ne_nil LF bs

/-! ### the scanner on one line, from the start of the line -/

def hopBit (l : Bytes) : Nat := (isHop l).toNat

theorem fresh_line (n : Nat) (l : Bytes) (hl : LF ∉ l) :
    (hrun (fresh n) l).inHeader = true ∧ (hrun (fresh n) l).hops = n + hopBit l ∧
    (((hrun (fresh n) l).my && (hrun (fresh n) l).pos == 1) = (l == [CR])) := by
  obtain ⟨h1, h2, _⟩ := hrun_line l hl (fresh n) rfl
  refine ⟨h1, ?_, ?_⟩
  · rw [h2]
    have nb := not_both l
    simp only [pendX, pendZ, fresh, hopBit, isHop, pend_start _ l (by decide : 0 < patX.length),
      pend_start _ l (by decide : 0 < patZ.length), pmX_eq, pmZ_eq]
    cases hx : startsCI kwReceived l <;> cases hz : startsCI kwDelivered l
    · rfl
    · rfl
    · rfl
    · exact absurd ⟨hx, hz⟩ nb
  · cases l with
    | nil => rfl
    | cons c cs =>
      obtain ⟨hc, hcs⟩ := List.ne_and_not_mem_of_not_mem_cons hl
      have e1 := hstep_in (fresh n) c rfl hc.symm (show 0 < 9 by decide)
      have i1 := e1.inHeader
      have p1 := e1.pos
      cases cs with
      | nil =>
        rw [hrun_cons, hrun_nil, p1, e1.my]
        simp [fresh]
      | cons d ds =>
        -- after two bytes `pos ≥ 2`, and it stays so (third clause of `hrun_line`): the test `pos == 1` fails
        obtain ⟨hd, hds⟩ := List.ne_and_not_mem_of_not_mem_cons hcs
        have e2 := hstep_in _ d i1 hd.symm (p1 ▸ show 0 + 1 < 9 by decide)
        obtain ⟨_, _, k3⟩ := hrun_line ds hds _ e2.inHeader
        have := k3 (e2.pos ▸ p1 ▸ Nat.le_refl 2)
        rw [hrun_cons, hrun_cons]
        have hne : ((hrun (hstep (hstep (fresh n) c) d) ds).pos == 1) = false := by simp; omega
        rw [hne]; simp

theorem fresh_line_lf (n : Nat) (l : Bytes) (hl : LF ∉ l) :
    hrun (fresh n) (l ++ [LF]) =
      if l = [CR] then { inHeader := false, pos := 0, mx := true, my := true, mz := true, hops := n + hopBit l }
      else fresh (n + hopBit l) := by
  obtain ⟨h1, h2, h3⟩ := fresh_line n l hl
  rw [hrun_append, hrun_cons, hrun_nil, hstep_lf _ h1, h2, h3]
  by_cases e : l = [CR]
  · simp [e]
  · have : (l == [CR]) = false := by simpa using e
    simp [e, this, fresh]

theorem hopBit_cr : hopBit [CR] = 0 := by decide

theorem hopLines_cons (l : Bytes) (ls : List Bytes) :
    ((header (l :: ls)).filter isHop).length = if l = [CR] then 0 else hopBit l + ((header ls).filter isHop).length := by
  unfold header
  by_cases e : l = [CR]
  · subst e; simp [List.takeWhile]
  · have : (l != [CR]) = true := by simpa using e
    simp only [List.takeWhile, this, if_neg e, List.filter, hopBit]
    cases isHop l <;> simp <;> omega

theorem hopSpec_lffree (l : Bytes) (hl : LF ∉ l) : hopSpec l = hopBit l := by
  rw [hopSpec, lines_eq, splitSep_nosep LF l hl, hopLines_cons]
  split
  · rename_i e; rw [e, hopBit_cr]
  · rfl

theorem hopSpec_append_lf (l r : Bytes) (hl : LF ∉ l) :
    hopSpec (l ++ LF :: r) = if l = [CR] then 0 else hopBit l + hopSpec r := by
  rw [hopSpec, lines_eq, splitSep_append LF r l hl, hopLines_cons, ← lines_eq r]
  rfl

/-- generalised over the hops counted so far and the part of the current line already read -/
theorem hops_gen (bs : Bytes) : ∀ (n : Nat) (cur : Bytes), LF ∉ cur →
    (hrun (fresh n) (cur ++ bs)).hops = n + hopSpec (cur ++ bs) := by
  induction bs with
  | nil =>
    intro n cur hcur
    rw [List.append_nil, hopSpec_lffree cur hcur]
    exact (fresh_line n cur hcur).2.1
  | cons c r ih =>
    intro n cur hcur
    by_cases hc : c = LF
    · subst hc
      rw [hopSpec_append_lf cur r hcur]
      have e : cur ++ LF :: r = (cur ++ [LF]) ++ r := by simp
      rw [e, hrun_append, fresh_line_lf n cur hcur]
      by_cases e2 : cur = [CR]
      · rw [if_pos e2, if_pos e2, hrun_out _ _ rfl]
        subst e2
        simp [hopBit_cr]
      · rw [if_neg e2, if_neg e2]
        have := ih (n + hopBit cur) [] (by simp)
        simp only [List.nil_append] at this
        rw [this]; omega
    · have e : cur ++ c :: r = (cur ++ [c]) ++ r := by simp
      rw [e]
      apply ih
      intro hm
      rcases List.mem_append.mp hm with h | h
      · exact hcur h
      · simp at h; exact hc h.symm

theorem hopsOf_eq_hopSpec (bs : Bytes) : hopsOf bs = hopSpec bs := by
  have := hops_gen bs 0 [] (by simp)
  simpa [hopsOf, hrun, fresh] using this

theorem empty_line_ends (h0 : HSt) (pre : Bytes) : (hrun h0 ((pre ++ [LF]) ++ [CR, LF])).inHeader = false := by
  rw [hrun_append, hrun_append]
  show (hrun (hstep (hrun h0 pre) LF) [CR, LF]).inHeader = false
  cases hin : (hrun h0 pre).inHeader with
  | false =>
    rw [hstep_out _ _ hin, hrun_out _ _ hin]; exact hin
  | true =>
    rw [hstep_lf _ hin]
    cases (!((hrun h0 pre).my && (hrun h0 pre).pos == 1)) with
    | false => rw [hrun_out _ _ rfl]
    | true => simp [hstep, CR, LF]

end Nq.Lemmas.HopCount
