/-
  Lemmas about the model of qmail-local (Nq/Local.lean), for C13: each piece of `main()` but the instruction loop against
  its documentation (search order, confinement, header lines, loop detection, reading a line, $DEFAULT, line splitting),
  `deliver` as one record equation (`deliver_rec`) and `main()` as a whole (`run_shape`). The instruction loop is in
  LocalLoop.lean; LocalOutcome.lean and `Props/C13.lean: C13_run_outcome` put `run = LocalSpec.outcome` together.
-/
import Nq.Local
import Nq.Spec.LocalSpec
import Nq.Lemmas.Basic

namespace Nq.Lemmas.Local
open Nq Nq.Local Nq.Gen.LocalExit

/-! ### bytes -/

theorem upper_add32 (c : Byte) (h : 65 ≤ c ∧ c ≤ 90) : c + 32 ≠ DOT := by
  simp only [DOT, UInt8.le_iff_toNat_le, ne_eq, ← UInt8.toNat_inj, UInt8.toNat_add, UInt8.toNat_ofNat] at h ⊢
  omega

theorem safeByte_eq_spec (c : Byte) : safeByte c = LocalSpec.safeChar c := by
  unfold safeByte lowerByte LocalSpec.safeChar
  by_cases hu : 65 ≤ c ∧ c ≤ 90
  · have h1 : c ≠ 46 := by rintro rfl; revert hu; decide
    simp only [hu, and_self, if_true, h1, upper_add32 c hu, if_false]
  · simp only [hu, if_false]

theorem safeByte_ne_dot (c : Byte) : safeByte c ≠ DOT := by
  unfold safeByte
  split
  · decide
  · assumption

theorem safeByte_not_upper (c : Byte) : ¬ (65 ≤ safeByte c ∧ safeByte c ≤ 90) := by
  unfold safeByte
  split
  · decide
  · exact lowerByte_not_upper c

theorem safeext_eq_spec (ext : Bytes) : safeext ext = ext.map LocalSpec.safeChar := by
  unfold safeext
  exact List.map_congr_left (fun c _ => safeByte_eq_spec c)

theorem safeext_no_dot (ext : Bytes) : DOT ∉ safeext ext := by
  intro h
  simp only [safeext, List.mem_map] at h
  obtain ⟨c, _, hc⟩ := h
  exact safeByte_ne_dot c hc

theorem safeext_no_upper (ext : Bytes) : ∀ b ∈ safeext ext, ¬ (65 ≤ b ∧ b ≤ 90) := by
  intro b h
  simp only [safeext, List.mem_map] at h
  obtain ⟨c, _, rfl⟩ := h
  exact safeByte_not_upper c

/-! ### search order -/

theorem defIdxFrom_eq (sx : Bytes) : ∀ n : Nat,
    defIdxFrom sx n = (List.range (n + 1)).reverse.filter (LocalSpec.boundary sx)
  | 0 => by simp [defIdxFrom, LocalSpec.boundary]
  | n + 1 => by
    rw [List.range_succ, List.reverse_append, List.reverse_singleton, List.singleton_append, List.filter_cons,
      defIdxFrom, defIdxFrom_eq sx n]
    simp [LocalSpec.boundary, DASH]

theorem candidates_eq_spec (dash ext : Bytes) :
    (qmeCandidates dash (safeext ext)).map Cand.name = LocalSpec.candidates dash ext := by
  simp only [qmeCandidates, LocalSpec.candidates, List.map_cons, List.map_map, defIdx, defIdxFrom_eq,
    ← safeext_eq_spec]
  rfl

theorem mem_defIdxFrom (sx : Bytes) (n i : Nat) :
    i ∈ defIdxFrom sx n ↔ i ≤ n ∧ (i = 0 ∨ sx.getD (i - 1) 0 = DASH) := by
  rw [defIdxFrom_eq]
  simp only [List.mem_filter, List.mem_reverse, List.mem_range, LocalSpec.boundary, Bool.or_eq_true, beq_iff_eq, DASH]
  constructor <;> rintro ⟨h1, h2⟩ <;> exact ⟨by omega, h2⟩

theorem defIdxFrom_sorted (sx : Bytes) : ∀ n : Nat, (defIdxFrom sx n).Pairwise (· > ·)
  | 0 => by simp [defIdxFrom]
  | n + 1 => by
    unfold defIdxFrom
    split
    · refine List.pairwise_cons.2 ⟨?_, defIdxFrom_sorted sx n⟩
      intro j hj
      have := ((mem_defIdxFrom sx n j).1 hj).1
      omega
    · exact defIdxFrom_sorted sx n

theorem qmeSelect_nofile_iff (fs : Bytes → FStat) :
    ∀ cs : List Cand, qmeSelect fs cs = .nofile ↔ ∀ x ∈ cs, fs x.name = .absent
  | [] => by simp [qmeSelect]
  | d :: rest => by
    unfold qmeSelect
    cases hd : fs d.name with
    | absent => simp [qmeSelect_nofile_iff fs rest, hd]
    | temp => simp [hd]
    | reg m ct =>
      simp only [List.mem_cons, forall_eq_or_imp, hd]
      constructor
      · intro h; split at h <;> cases h
      · rintro ⟨h, _⟩; cases h

theorem qmeSelect_decides (fs : Bytes → FStat) (c : Cand) (post : List Cand) :
    ∀ pre : List Cand, (∀ x ∈ pre, fs x.name = .absent) → fs c.name ≠ .absent →
      qmeSelect fs (pre ++ c :: post) =
        (match fs c.name with
         | .temp => .temp c.name
         | .reg m ct => if m &&& patrn ≠ 0 then .writable c.name else .found c m ct
         | .absent => .nofile)
  | [], _, hc => by
    simp only [List.nil_append, qmeSelect]
    cases h : fs c.name <;> simp_all
  | d :: pre, hpre, hc => by
    simp only [List.cons_append, qmeSelect, hpre d (List.mem_cons_self ..)]
    exact qmeSelect_decides fs c post pre (fun x hx => hpre x (List.mem_cons_of_mem _ hx)) hc

theorem qmeSelect_found_iff (fs : Bytes → FStat) (c : Cand) (mode : Nat) (content : Bytes) (cs : List Cand) :
    qmeSelect fs cs = .found c mode content ↔
      ∃ pre post, cs = pre ++ c :: post ∧ (∀ x ∈ pre, fs x.name = .absent) ∧
        fs c.name = .reg mode content ∧ mode &&& patrn = 0 := by
  constructor
  · intro h
    rcases first_not (fun x : Cand => fs x.name = .absent) cs with hall | ⟨pre, d, post, rfl, hpre, hd⟩
    · rw [(qmeSelect_nofile_iff fs cs).2 hall] at h; cases h
    · rw [qmeSelect_decides fs d post pre hpre hd] at h
      cases hfs : fs d.name with
      | absent => exact absurd hfs hd
      | temp => rw [hfs] at h; cases h
      | reg m ct =>
        rw [hfs] at h
        dsimp only at h
        split at h
        · cases h
        · rename_i hm
          cases h
          exact ⟨pre, post, rfl, hpre, hfs, by simpa using hm⟩
  · rintro ⟨pre, post, rfl, hpre, hreg, hbits⟩
    rw [qmeSelect_decides fs c post pre hpre (by rw [hreg]; nofun), hreg]
    simp [hbits]

theorem qmeTried_eq_spec (fs : Bytes → FStat) (look : Bytes → LocalSpec.Entry)
    (hl : ∀ n, look n = .missing ↔ fs n = .absent) :
    ∀ cs : List Cand, qmeTried fs cs = LocalSpec.mustOpen look (cs.map Cand.name)
  | [] => rfl
  | d :: rest => by
    simp only [qmeTried, List.map_cons, LocalSpec.mustOpen]
    cases hd : fs d.name with
    | absent => simp [(hl d.name).2 hd, qmeTried_eq_spec fs look hl rest]
    | temp =>
      have : look d.name ≠ .missing := fun h => by have := (hl d.name).1 h; rw [hd] at this; cases this
      simp [this]
    | reg m ct =>
      have : look d.name ≠ .missing := fun h => by have := (hl d.name).1 h; rw [hd] at this; cases this
      simp [this]

/-! ### confinement -/

theorem hasDotDot_false_of_no_dot : ∀ (r : Bytes) (a : Byte), DOT ∉ r → LocalSpec.hasDotDot (a :: r) = false
  | [], _, _ => by simp [LocalSpec.hasDotDot]
  | b :: r, a, h => by
    have hb : b ≠ DOT := fun e => h (by simp [e])
    have hr : DOT ∉ r := fun e => h (List.mem_cons_of_mem _ e)
    simp only [LocalSpec.hasDotDot, Bool.or_eq_false_iff, Bool.and_eq_false_iff]
    refine ⟨Or.inr ?_, hasDotDot_false_of_no_dot r b hr⟩
    simpa [DOT] using hb

theorem confined_of_no_dot (r : Bytes) (h : DOT ∉ r) : LocalSpec.confined (dotQmail ++ r) = true := by
  have h1 : (dotQmail ++ r).take 6 = LocalSpec.dotQmail := by simp [dotQmail, LocalSpec.dotQmail]
  have h2 : LocalSpec.hasDotDot (dotQmail ++ r) = false := by
    simp only [dotQmail, List.cons_append, List.nil_append, LocalSpec.hasDotDot]
    -- 108 = 'l', the last byte of ".qmail"
    simp [hasDotDot_false_of_no_dot r 108 h]
  simp [LocalSpec.confined, h1, h2]

theorem confined_qmail_name {dash s : Bytes} (hd : DOT ∉ dash) (hs : DOT ∉ s) :
    LocalSpec.confined (dotQmail ++ dash ++ s) = true := by
  rw [List.append_assoc]
  exact confined_of_no_dot _ (List.not_mem_append hd hs)

theorem defaultB_no_dot : DOT ∉ defaultB := by decide
theorem defaultB_no_upper : ∀ b ∈ defaultB, ¬ (65 ≤ b ∧ b ≤ 90) := by decide

theorem candidate_shape (dash ext : Bytes) (c : Cand) (hc : c ∈ qmeCandidates dash (safeext ext)) :
    ∃ s, c.name = dotQmail ++ dash ++ s ∧ DOT ∉ s ∧ ∀ b ∈ s, ¬ (65 ≤ b ∧ b ≤ 90) := by
  simp only [qmeCandidates, List.mem_cons, List.mem_map] at hc
  rcases hc with rfl | ⟨i, _, rfl⟩
  · exact ⟨safeext ext, rfl, safeext_no_dot ext, safeext_no_upper ext⟩
  · refine ⟨(safeext ext).take i ++ defaultB, by simp [List.append_assoc], ?_, ?_⟩
    · intro h
      rcases List.mem_append.1 h with h | h
      · exact safeext_no_dot ext (List.mem_of_mem_take h)
      · exact defaultB_no_dot h
    · intro b h
      rcases List.mem_append.1 h with h | h
      · exact safeext_no_upper ext b (List.mem_of_mem_take h)
      · exact defaultB_no_upper b h

/-! ### after the loop: forwarding comes last -/

/-- the diagnostic with which following a text ends, if it fails: the loop's own, else qmail-queue's refusal of the
forwarded copy (made only when delivering and addresses were collected) -/
def failureOf (a : Args) (w : World) (t : Trace) : Option Why :=
  match t.fin with
  | .die y => some y
  | _ => if a.doit = true ∧ t.did.filterMap fwdAddr ≠ [] then fwdVerdict w.qq else none

theorem deliver_rec (a : Args) (w : World) (cmds : Bytes) (fo : Bool) (r : Result) :
    deliver a w cmds fo r =
      { r with
        code := match failureOf a w (dtrace a w cmds fo) with
          | some y => y.code
          | none => r.code
        why := match failureOf a w (dtrace a w cmds fo) with
          | some y => some y
          | none => r.why
        did := (dtrace a w cmds fo).did
        effects :=
          (if a.doit then ((dtrace a w cmds fo).did.filter (fun i => !isForward i)).map (fun i => Effect.deliver (cInstr i)) else []) ++
          (if a.doit ∧ (dtrace a w cmds fo).fin.isDie = false ∧ (dtrace a w cmds fo).did.filterMap fwdAddr ≠ []
           then [Effect.queue (r.ueo.getD []) (((dtrace a w cmds fo).did.filterMap fwdAddr).map cstr)] else [])
        out := (if a.doit then [] else ((dtrace a w cmds fo).did.map say).flatten) ++
          (if (failureOf a w (dtrace a w cmds fo)).isSome then []
           else didLine (dtrace a w cmds fo).did ++
             (if a.doit = true ∧ (dtrace a w cmds fo).did.filterMap fwdAddr ≠ [] ∧ w.qp ≠ 0
              then [113, 112, 32] ++ fmtNat w.qp ++ [LF] else [])) } := by
  unfold deliver failureOf
  generalize dtrace a w cmds fo = t
  have hm : ∀ l : List Bytes, l.map cstr ≠ [] ↔ l ≠ [] := fun l => by simp
  cases hf : t.fin with
  | die y => simp [hf, Fin.isDie]
  | _ =>
    by_cases hc : a.doit = true ∧ t.did.filterMap fwdAddr ≠ []
    · cases hq : fwdVerdict w.qq <;> simp [hf, hm, hc.1, hc.2, Fin.isDie]
    · -- nothing is forwarded: `hc'` empties the `qp` part of `out`, `hc2` the queued copy in `effects` (for every `f`:
      -- this branch stands for both `.done` and `.stop99` in the place of `t.fin`)
      have hc' : ¬ (a.doit = true ∧ t.did.filterMap fwdAddr ≠ [] ∧ w.qp ≠ 0) := fun h => hc ⟨h.1, h.2.1⟩
      have hc2 : ∀ f : Fin, ¬ (a.doit = true ∧ f.isDie = false ∧ t.did.filterMap fwdAddr ≠ []) := fun _ h => hc ⟨h.1, h.2.2⟩
      simp only [hf, hm, hc, hc', hc2, if_false]
      simp

theorem failureOf_cases (a : Args) (w : World) (t : Trace) :
    (∃ y, t.fin = .die y ∧ failureOf a w t = some y) ∨
    (t.fin.isDie = false ∧ (a.doit = true ∧ t.did.filterMap fwdAddr ≠ []) ∧ failureOf a w t = fwdVerdict w.qq) ∨
    (t.fin.isDie = false ∧ ¬ (a.doit = true ∧ t.did.filterMap fwdAddr ≠ []) ∧ failureOf a w t = none) := by
  unfold failureOf
  cases t.fin with
  | die y => exact Or.inl ⟨y, rfl, rfl⟩
  | _ =>
    by_cases hc : a.doit = true ∧ t.did.filterMap fwdAddr ≠ []
    · exact Or.inr (Or.inl ⟨rfl, hc, if_pos hc⟩)
    · exact Or.inr (Or.inr ⟨rfl, hc, if_neg hc⟩)

theorem deliver_did (a : Args) (w : World) (cmds : Bytes) (fo : Bool) (r : Result) :
    (deliver a w cmds fo r).did = (dtrace a w cmds fo).did := by
  rw [deliver_rec]

theorem deliver_keeps (a : Args) (w : World) (cmds : Bytes) (fo : Bool) (r : Result) :
    (deliver a w cmds fo r).tried = r.tried ∧ (deliver a w cmds fo r).stats = r.stats ∧ (deliver a w cmds fo r).sel = r.sel ∧
    (deliver a w cmds fo r).dfltEnv = r.dfltEnv ∧ (deliver a w cmds fo r).ueo = r.ueo := by
  rw [deliver_rec]
  exact ⟨rfl, rfl, rfl, rfl, rfl⟩

theorem dtline_eq_spec (loc host : Bytes) : dtline loc host = LocalSpec.dtline loc host := by
  have hn : noLF = fun c => if c = 10 then 95 else c := by funext c; simp [noLF, LF, USCORE]
  simp [dtline, LocalSpec.dtline, envrecip, deliveredTo, LocalSpec.deliveredTo, hn, LF, AT]

/-! ### loop detection = the documented rule -/

theorem bxScan_line (dt : Bytes) : ∀ (l racc rest : Bytes), LF ∉ l →
    bxScan dt racc (l ++ LF :: rest) =
      if racc.reverse ++ l = [] then false
      else if racc.reverse ++ l ++ [LF] = dt then true else bxScan dt [] rest
  | [], racc, rest, _ => by
    simp only [List.nil_append, List.append_nil]
    rw [bxScan]
    simp
  | c :: l, racc, rest, h => by
    have hc : c ≠ LF := fun e => h (by simp [e])
    have hl : LF ∉ l := fun e => h (List.mem_cons_of_mem _ e)
    simp only [List.cons_append]
    rw [bxScan]
    simp only [hc, if_false]
    rw [bxScan_line dt l (c :: racc) rest hl]
    simp

theorem bxScan_noLF (dt : Bytes) : ∀ (l racc : Bytes), LF ∉ l → bxScan dt racc l = false
  | [], _, _ => by simp [bxScan]
  | c :: l, racc, h => by
    have hc : c ≠ LF := fun e => h (by simp [e])
    rw [bxScan]; simp only [hc, if_false]
    exact bxScan_noLF dt l _ (fun e => h (List.mem_cons_of_mem _ e))

theorem linesOf_noLF : ∀ l : Bytes, LF ∉ l → LocalSpec.linesOf l = ([], l)
  | [], _ => rfl
  | c :: l, h => by
    have hc : c ≠ 10 := fun e => h (by simp [e, LF])
    simp [LocalSpec.linesOf, hc, linesOf_noLF l (fun e => h (List.mem_cons_of_mem _ e))]

theorem linesOf_line : ∀ (l rest : Bytes), LF ∉ l →
    LocalSpec.linesOf (l ++ LF :: rest) = ((l ++ [LF]) :: (LocalSpec.linesOf rest).1, (LocalSpec.linesOf rest).2)
  | [], rest, _ => by simp [LocalSpec.linesOf, LF]
  | c :: l, rest, h => by
    have hc : c ≠ 10 := fun e => h (by simp [e, LF])
    simp [LocalSpec.linesOf, hc, linesOf_line l rest (fun e => h (List.mem_cons_of_mem _ e))]

theorem split_first_LF (m : Bytes) : LF ∉ m ∨ ∃ l rest, m = l ++ LF :: rest ∧ LF ∉ l := by
  rcases first_not (· ≠ LF) m with h | ⟨l, c, rest, rfl, h, hc⟩
  · exact Or.inl fun e => h _ e rfl
  · exact Or.inr ⟨l, rest, by rw [Decidable.not_not.1 hc], fun e => h _ e rfl⟩

theorem bxScan_eq_spec (dt msg : Bytes) :
    bxScan dt [] msg = ((LocalSpec.linesOf msg).1.takeWhile (fun l => l != [10])).contains dt := by
  rcases split_first_LF msg with hno | ⟨l, rest, rfl, hl⟩
  · rw [bxScan_noLF dt msg [] hno, linesOf_noLF msg hno]; simp
  · rw [bxScan_line dt l [] rest hl, linesOf_line l rest hl]
    have ih := bxScan_eq_spec dt rest
    simp only [List.reverse_nil, List.nil_append]
    by_cases he : l = []
    · subst he; simp [List.takeWhile, LF]
    · have hne : (l ++ [LF] != [10]) = true := by
        cases l with
        | nil => exact absurd rfl he
        | cons a t => simp
      simp only [he, if_false, List.takeWhile_cons, hne, if_true, List.contains_cons]
      by_cases hd : l ++ [LF] = dt
      · simp [hd]
      · have : (dt == l ++ [LF]) = false := by simpa using fun e => hd e.symm
        simp [hd, this, ih]
termination_by msg.length
decreasing_by simp [*]; omega

theorem bouncexf_eq_spec (loc host msg : Bytes) : bouncexf (dtline loc host) msg = LocalSpec.loops loc host msg := by
  unfold bouncexf LocalSpec.loops LocalSpec.headerLines
  rw [bxScan_eq_spec, dtline_eq_spec]

/-! ### `main()` as a whole -/

/-- nothing was delivered, forwarded or printed -/
def Refused (r : Result) (code : Nat) : Prop := r.code = code ∧ r.effects = [] ∧ r.did = [] ∧ r.out = []

theorem run_home_writable (a : Args) (w : World) (m : Nat) (hm : w.home = some m) (hw : m &&& patrn ≠ 0) :
    Refused (run a w) 111 ∧ (run a w).why = some .homeWritable ∧ (run a w).tried = [] ∧ (run a w).stats = [] := by
  simp [run, checkhome, hm, hw, Refused, Why.code, homeWritableCode]

theorem run_home_sticky (a : Args) (w : World) (m : Nat) (hm : w.home = some m) (hs : m &&& stickyBit ≠ 0)
    (hd : a.doit = true) : Refused (run a w) 111 ∧ (run a w).tried = [] ∧ (run a w).stats = [] := by
  by_cases hw : m &&& patrn = 0
  · simp [run, checkhome, hm, hw, hs, hd, Refused, Why.code, homeStickyCode]
  · exact ⟨(run_home_writable a w m hm hw).1, (run_home_writable a w m hm hw).2.2⟩

/-- the home directory passed `checkhome` -/
def HomeOK (a : Args) (w : World) : Prop := ∃ warn, checkhome a.doit w.home = (none, warn)

theorem homeOK_of_mode (a : Args) (w : World) (m : Nat) (hm : w.home = some m) (hw : m &&& patrn = 0)
    (hs : m &&& stickyBit ≠ 0 → a.doit = false) : HomeOK a w := by
  unfold HomeOK checkhome
  rw [hm]
  simp only [hw, ne_eq, not_true, if_false]
  by_cases h1 : m &&& stickyBit ≠ 0
  · exact ⟨true, by rw [if_pos h1, hs h1]; rfl⟩
  · exact ⟨false, by rw [if_neg h1]⟩

theorem run_looping (a : Args) (w : World) (hh : HomeOK a w) (hd : a.doit = true)
    (hl : LocalSpec.loops a.loc a.host a.msg = true) :
    Refused (run a w) 100 ∧ (run a w).why = some .looping ∧ (run a w).tried = [] := by
  obtain ⟨warn, hh⟩ := hh
  rw [← bouncexf_eq_spec] at hl
  simp only [run, hh]
  simp [hd, hl, Refused, Why.code, loopingCode]

/-- the loop check does not fire (always so with `-n`) -/
def NoLoop (a : Args) : Prop := ¬ (a.doit = true ∧ LocalSpec.loops a.loc a.host a.msg = true)

theorem NoLoop.not_bouncexf {a : Args} (hn : NoLoop a) : ¬ (a.doit = true ∧ bouncexf (dtline a.loc a.host) a.msg = true) := by
  rw [bouncexf_eq_spec]; exact hn

theorem run_qmail_writable (a : Args) (w : World) (hh : HomeOK a w) (hn : NoLoop a) (n : Bytes)
    (hs : qmeSelect w.fs (qmeCandidates a.dash (safeext a.ext)) = .writable n) :
    Refused (run a w) 111 ∧ (run a w).why = some .qmailWritable := by
  obtain ⟨warn, hh⟩ := hh
  simp [run, hh, hn.not_bouncexf, hs, Refused, Why.code, qmailWritableCode]

theorem run_qmail_temp (a : Args) (w : World) (hh : HomeOK a w) (hn : NoLoop a) (n : Bytes)
    (hs : qmeSelect w.fs (qmeCandidates a.dash (safeext a.ext)) = .temp n) : Refused (run a w) 111 := by
  obtain ⟨warn, hh⟩ := hh
  simp [run, hh, hn.not_bouncexf, hs, Refused]

theorem run_nofile_dash (a : Args) (w : World) (hh : HomeOK a w) (hn : NoLoop a)
    (hs : qmeSelect w.fs (qmeCandidates a.dash (safeext a.ext)) = .nofile) (hd : a.dash ≠ []) :
    Refused (run a w) 100 ∧ (run a w).why = some .noMailbox := by
  obtain ⟨warn, hh⟩ := hh
  simp [run, hh, hn.not_bouncexf, hs, hd, Refused, Why.code, noMailboxCode]

theorem run_owner_temp (a : Args) (w : World) (hh : HomeOK a w) (hn : NoLoop a) (n : Bytes)
    (hs : qmeSelect w.fs (qmeCandidates a.dash (safeext a.ext)) = .nofile ∧ a.dash = [] ∨
      ∃ c mode content, qmeSelect w.fs (qmeCandidates a.dash (safeext a.ext)) = .found c mode content)
    (hu : ueoOf a.loc a.dash (safeext a.ext) a.host a.sender w.ex = .error n) : Refused (run a w) 111 := by
  obtain ⟨warn, hh⟩ := hh
  rcases hs with ⟨hs, hd⟩ | ⟨c, mode, content, hs⟩
  · simp only [run, hh, hn.not_bouncexf, hs, hu]
    simp [hd, Refused]
  · simp [run, hh, hn.not_bouncexf, hs, hu, Refused]

def Fresh (r : Result) : Prop := r.code = 0 ∧ r.why = none ∧ r.did = [] ∧ r.effects = [] ∧ r.out = []

theorem run_nofile_nodash' (a : Args) (w : World) (hh : HomeOK a w) (hn : NoLoop a)
    (hs : qmeSelect w.fs (qmeCandidates a.dash (safeext a.ext)) = .nofile) (hd : a.dash = []) (u : Bytes)
    (hu : ueoOf a.loc a.dash (safeext a.ext) a.host a.sender w.ex = .ok u) :
    ∃ r0, run a w = deliver a w a.aliasempty false r0 ∧ r0.ueo = some u ∧ Fresh r0 := by
  obtain ⟨warn, hh⟩ := hh
  refine ⟨{ stickyWarn := warn, tried := qmeTried w.fs (qmeCandidates a.dash (safeext a.ext)),
            stats := ueoStats a.dash (safeext a.ext) a.sender w.ex, ueo := some u }, ?_, rfl, rfl, rfl, rfl, rfl, rfl⟩
  simp only [run, hh, hn.not_bouncexf, hs, hu]
  simp [hd]

theorem run_nofile_nodash (a : Args) (w : World) (hh : HomeOK a w) (hn : NoLoop a)
    (hs : qmeSelect w.fs (qmeCandidates a.dash (safeext a.ext)) = .nofile) (hd : a.dash = []) (u : Bytes)
    (hu : ueoOf a.loc a.dash (safeext a.ext) a.host a.sender w.ex = .ok u) :
    ∃ r0, run a w = deliver a w a.aliasempty false r0 ∧ r0.ueo = some u := by
  obtain ⟨r0, h1, h2, _⟩ := run_nofile_nodash' a w hh hn hs hd u hu
  exact ⟨r0, h1, h2⟩

theorem run_found' (a : Args) (w : World) (hh : HomeOK a w) (hn : NoLoop a) (c : Cand) (mode : Nat) (content u : Bytes)
    (hs : qmeSelect w.fs (qmeCandidates a.dash (safeext a.ext)) = .found c mode content)
    (hu : ueoOf a.loc a.dash (safeext a.ext) a.host a.sender w.ex = .ok u) :
    ∃ r0, r0.ueo = some u ∧ r0.sel = some c ∧ Fresh r0 ∧
      run a w = if content = [] then deliver a w a.aliasempty false r0 else deliver a w content (mode &&& xBit ≠ 0) r0 := by
  obtain ⟨warn, hh⟩ := hh
  refine ⟨{ stickyWarn := warn, tried := qmeTried w.fs (qmeCandidates a.dash (safeext a.ext)),
            stats := ueoStats a.dash (safeext a.ext) a.sender w.ex, sel := some c,
            dfltEnv := c.dflt.map (fun i => a.ext.drop i), ueo := some u }, rfl, rfl, ⟨rfl, rfl, rfl, rfl, rfl⟩, ?_⟩
  simp only [run, hh, hn.not_bouncexf, hs, hu]
  simp

theorem run_found (a : Args) (w : World) (hh : HomeOK a w) (hn : NoLoop a) (c : Cand) (mode : Nat) (content u : Bytes)
    (hs : qmeSelect w.fs (qmeCandidates a.dash (safeext a.ext)) = .found c mode content)
    (hu : ueoOf a.loc a.dash (safeext a.ext) a.host a.sender w.ex = .ok u) :
    ∃ r0, r0.ueo = some u ∧ r0.sel = some c ∧
      run a w = if content = [] then deliver a w a.aliasempty false r0 else deliver a w content (mode &&& xBit ≠ 0) r0 := by
  obtain ⟨r0, h1, h2, _, h3⟩ := run_found' a w hh hn c mode content u hs hu
  exact ⟨r0, h1, h2, h3⟩

theorem checkhome_some (d : Bool) (home : Option Nat) (y : Why) (warn : Bool)
    (hc : checkhome d home = (some y, warn)) : y = .homeStat ∨ y = .homeWritable ∨ y = .homeSticky := by
  unfold checkhome at hc
  cases home with
  | none => cases hc; exact Or.inl rfl
  | some m =>
    simp only at hc
    split at hc
    · cases hc; exact Or.inr (Or.inl rfl)
    · split at hc
      · split at hc
        · cases hc; exact Or.inr (Or.inr rfl)
        · cases hc
      · cases hc

theorem checkhome_some_code (d : Bool) (home : Option Nat) (y : Why) (warn : Bool)
    (hc : checkhome d home = (some y, warn)) : y.code = 111 := by
  rcases checkhome_some d home y warn hc with rfl | rfl | rfl <;> rfl

/-- `main()` in one statement. Either it stops before the first instruction: the result holds only a non-zero exit code,
a diagnostic and what was found out until then. Or it follows a text (the default instructions, or the selected non-empty
file under its x-bit restriction), starting from a record that holds only what was found out. -/
theorem run_shape (a : Args) (w : World) :
    (∃ code y warn tried stats sel,
      run a w = { code := code, why := some y, stickyWarn := warn, tried := tried, stats := stats, sel := sel,
                  dfltEnv := sel.bind fun c => c.dflt.map fun i => a.ext.drop i } ∧
      code ≠ 0 ∧ (y = .looping → a.doit = true ∧ LocalSpec.loops a.loc a.host a.msg = true) ∧
      (tried = [] ∨ tried = qmeTried w.fs (qmeCandidates a.dash (safeext a.ext))) ∧
      (stats = [] ∨ stats = ueoStats a.dash (safeext a.ext) a.sender w.ex) ∧
      ∀ c ∈ sel, c ∈ qmeCandidates a.dash (safeext a.ext)) ∨
    (∃ warn sel u cmds fo,
      run a w = deliver a w cmds fo
        { stickyWarn := warn, tried := qmeTried w.fs (qmeCandidates a.dash (safeext a.ext)),
          stats := ueoStats a.dash (safeext a.ext) a.sender w.ex, sel := sel,
          dfltEnv := sel.bind fun c => c.dflt.map fun i => a.ext.drop i, ueo := some u } ∧
      ueoOf a.loc a.dash (safeext a.ext) a.host a.sender w.ex = .ok u ∧
      (∀ c ∈ sel, c ∈ qmeCandidates a.dash (safeext a.ext)) ∧
      ((cmds = a.aliasempty ∧ fo = false ∧
          ∀ c mode content, qmeSelect w.fs (qmeCandidates a.dash (safeext a.ext)) = .found c mode content → content = []) ∨
       (∃ c mode, qmeSelect w.fs (qmeCandidates a.dash (safeext a.ext)) = .found c mode cmds ∧ cmds ≠ [] ∧
          fo = decide (mode &&& xBit ≠ 0)))) := by
  generalize hr : run a w = r
  unfold run at hr
  rcases hc : checkhome a.doit w.home with ⟨_ | y, warn⟩
  · simp only [hc] at hr
    split at hr
    · rename_i hl
      rw [bouncexf_eq_spec] at hl
      exact Or.inl ⟨_, .looping, false, [], [], none, hr.symm, by decide, fun _ => hl, Or.inl rfl, Or.inl rfl, nofun⟩
    · cases hs : qmeSelect w.fs (qmeCandidates a.dash (safeext a.ext)) with
      | temp n =>
        rw [hs] at hr
        exact Or.inl ⟨111, .qmailTemp n, warn, _, [], none, hr.symm, by decide, nofun, Or.inr rfl, Or.inl rfl, nofun⟩
      | writable n =>
        rw [hs] at hr
        exact Or.inl ⟨_, .qmailWritable, warn, _, [], none, hr.symm, by decide, nofun, Or.inr rfl, Or.inl rfl, nofun⟩
      | nofile =>
        simp only [hs] at hr
        split at hr
        · exact Or.inl ⟨_, .noMailbox, warn, _, [], none, hr.symm, by decide, nofun, Or.inr rfl, Or.inl rfl, nofun⟩
        · split at hr
          · rename_i n _
            exact Or.inl ⟨111, .qmailTemp n, warn, _, _, none, hr.symm, by decide, nofun, Or.inr rfl, Or.inr rfl, nofun⟩
          · rename_i u hu
            exact Or.inr ⟨warn, none, u, _, _, hr.symm, hu, nofun, Or.inl ⟨rfl, rfl, nofun⟩⟩
      | found c mode content =>
        have hsel : ∀ c' ∈ some c, c' ∈ qmeCandidates a.dash (safeext a.ext) := by
          intro c' hc'
          cases hc'
          obtain ⟨pre, post, he, _⟩ := (qmeSelect_found_iff w.fs c mode content _).1 hs
          rw [he]
          exact List.mem_append_right _ (List.mem_cons_self ..)
        simp only [hs] at hr
        split at hr
        · rename_i n _
          exact Or.inl ⟨111, .qmailTemp n, warn, _, _, some c, hr.symm, by decide, nofun, Or.inr rfl, Or.inr rfl, hsel⟩
        · rename_i u hu
          split at hr
          · rename_i hct
            exact Or.inr ⟨warn, some c, u, _, _, hr.symm, hu, hsel, Or.inl ⟨rfl, rfl, fun _ _ _ h => by cases h; exact hct⟩⟩
          · rename_i hct
            exact Or.inr ⟨warn, some c, u, _, _, hr.symm, hu, hsel, Or.inr ⟨c, mode, rfl, hct, rfl⟩⟩
  · simp only [hc] at hr
    refine Or.inl ⟨_, y, false, [], [], none, hr.symm, by rw [checkhome_some_code _ _ _ _ hc]; decide, ?_, Or.inl rfl, Or.inl rfl, nofun⟩
    rintro rfl
    rcases checkhome_some _ _ _ _ hc with h | h | h <;> cases h

theorem run_cases' (a : Args) (w : World) :
    (∃ code, code ≠ 0 ∧ Refused (run a w) code) ∨
    (∃ r0, Fresh r0 ∧ run a w = deliver a w a.aliasempty false r0) ∨
    (∃ c mode content r0, qmeSelect w.fs (qmeCandidates a.dash (safeext a.ext)) = .found c mode content ∧ content ≠ [] ∧
        Fresh r0 ∧ run a w = deliver a w content (mode &&& xBit ≠ 0) r0) := by
  rcases run_shape a w with ⟨code, _, _, _, _, _, e, hc, _⟩ | ⟨_, _, _, cmds, _, e, _, _, h⟩
  · exact Or.inl ⟨code, hc, by rw [e]; exact ⟨rfl, rfl, rfl, rfl⟩⟩
  · rcases h with ⟨rfl, rfl, _⟩ | ⟨c, mode, hs, hne, rfl⟩
    · exact Or.inr (Or.inl ⟨_, ⟨rfl, rfl, rfl, rfl, rfl⟩, e⟩)
    · exact Or.inr (Or.inr ⟨c, mode, cmds, _, hs, hne, ⟨rfl, rfl, rfl, rfl, rfl⟩, e⟩)

theorem run_cases (a : Args) (w : World) :
    (∃ code, code ≠ 0 ∧ Refused (run a w) code) ∨
    (∃ r0, run a w = deliver a w a.aliasempty false r0) ∨
    (∃ c mode content r0, qmeSelect w.fs (qmeCandidates a.dash (safeext a.ext)) = .found c mode content ∧ content ≠ [] ∧
        run a w = deliver a w content (mode &&& xBit ≠ 0) r0) := by
  rcases run_cases' a w with h | ⟨r0, _, h⟩ | ⟨c, mode, content, r0, h1, h2, _, h3⟩
  · exact Or.inl h
  · exact Or.inr (Or.inl ⟨r0, h⟩)
  · exact Or.inr (Or.inr ⟨c, mode, content, r0, h1, h2, h3⟩)

theorem run_found_cases (a : Args) (w : World) (c : Cand) (mode : Nat) (content : Bytes)
    (hs : qmeSelect w.fs (qmeCandidates a.dash (safeext a.ext)) = .found c mode content) (hne : content ≠ []) :
    (∃ code, code ≠ 0 ∧ Refused (run a w) code) ∨ ∃ r0, run a w = deliver a w content (mode &&& xBit ≠ 0) r0 := by
  rcases run_shape a w with ⟨code, _, _, _, _, _, e, hc, _⟩ | ⟨_, _, _, _, _, e, _, _, h⟩
  · exact Or.inl ⟨code, hc, by rw [e]; exact ⟨rfl, rfl, rfl, rfl⟩⟩
  · rcases h with ⟨_, _, h⟩ | ⟨c', mode', hs', _, rfl⟩
    · exact absurd (h c mode content hs) hne
    · cases hs.symm.trans hs'
      exact Or.inr ⟨_, e⟩

/-! ### one line of the control file = the documented reading -/

theorem stripTrail_eq_spec : ∀ l : Bytes, stripTrail l = LocalSpec.trimRight l
  | [] => by simp [stripTrail, LocalSpec.trimRight]
  | c :: r => by
    have ih := stripTrail_eq_spec r
    unfold stripTrail at ih ⊢
    rw [List.reverse_cons, List.dropWhile_append, LocalSpec.trimRight, ← ih]
    simp only [List.isEmpty_iff]
    by_cases hr : r.reverse.dropWhile isSpTab = []
    · simp only [hr, if_true, List.reverse_nil]
      by_cases hc : c = 32 ∨ c = 9
      · have : isSpTab c = true := by rcases hc with rfl | rfl <;> decide
        simp [hc, this]
      · have : isSpTab c = false := by
          simp only [isSpTab, SP, TAB, Bool.or_eq_false_iff, beq_eq_false_iff_ne]
          exact ⟨fun e => hc (Or.inl e), fun e => hc (Or.inr e)⟩
        simp [hc, this]
    · simp only [hr, if_false, List.reverse_append, List.reverse_singleton, List.singleton_append]
      cases h : (r.reverse.dropWhile isSpTab).reverse with
      | nil => simp at h; exact absurd h hr
      | cons a t => rfl

theorem cstr_eq_spec : ∀ l : Bytes, cstr l = LocalSpec.upToNul l
  | [] => rfl
  | c :: r => by
    have ih := cstr_eq_spec r
    unfold cstr at ih ⊢
    by_cases hc : c = 0
    · simp [LocalSpec.upToNul, hc, NUL]
    · simp [LocalSpec.upToNul, hc, NUL, ih]

/-- the documented meaning of a classified line -/
def specOfLine : Line → LocalSpec.SInstr
  | .blank => .blank
  | .comment => .nothing
  | .plusOther => .nothing
  | .list => .list
  | .act (.mbox f) => .mbox f
  | .act (.maildir f) => .maildir f
  | .act (.program c) => .program c
  | .act (.forward a) => .forward a

theorem classify_eq_spec (raw : Bytes) : specOfLine (classify raw) = LocalSpec.readLine raw := by
  unfold classify LocalSpec.readLine
  rw [stripTrail_eq_spec]
  cases h : LocalSpec.trimRight raw with
  | nil => simp [specOfLine]
  | cons c rest =>
    simp only [List.head?_cons, List.drop_one, List.tail_cons]
    by_cases h0 : c = 0
    · subst h0; simp [specOfLine, NUL]
    by_cases h1 : c = 35
    · subst h1; simp [specOfLine, NUL, HASH]
    by_cases h2 : c = 124
    · subst h2; simp [specOfLine, NUL, HASH, BAR, DOT, SLASH]
    by_cases h3 : c = 38
    · subst h3; simp [specOfLine, NUL, HASH, BAR, DOT, SLASH, AMP, PLUS]
    by_cases h4 : c = 43
    · subst h4
      simp only [NUL, HASH, BAR, DOT, SLASH, AMP, PLUS, cstr_eq_spec, listB]
      by_cases hl : LocalSpec.upToNul rest = [108, 105, 115, 116] <;> simp [hl, specOfLine]
    · by_cases h5 : c = 46 ∨ c = 47
      · simp only [NUL, HASH, BAR, DOT, SLASH, AMP, PLUS, h0, h1, h2, h3, h4, h5, if_false, if_true]
        split <;> simp_all [specOfLine]
      · simp only [NUL, HASH, BAR, DOT, SLASH, AMP, PLUS, h0, h1, h2, h3, h4, h5, if_false]
        simp [specOfLine]

/-! ### $DEFAULT -/

theorem defaultB_eq : defaultB = LocalSpec.dflt := rfl
theorem dotQmail_eq : dotQmail = LocalSpec.dotQmail := rfl

/-- `$DEFAULT` as `qmesearch` computes it (the index recorded with the candidate) is what qmail-command(8) says of
the selected file name. 7 = length of "default", 6 = length of ".qmail". Exact name: both sides test whether the safe
extension ends in "default". A `-default` name built at index `i`: it may coincide with the exact name (then the
extension ends in "default" and `i` is its length less 7), otherwise `i` is recovered from the length of the name -/
theorem default_eq_spec (dash ext : Bytes) (c : Cand) (hc : c ∈ qmeCandidates dash (safeext ext)) :
    c.dflt.map (fun i => ext.drop i) = LocalSpec.defaultVar dash ext c.name := by
  have hlen : (safeext ext).length = ext.length := by simp [safeext]
  simp only [qmeCandidates, List.mem_cons, List.mem_map] at hc
  unfold LocalSpec.defaultVar
  simp only [← safeext_eq_spec, ← defaultB_eq, ← dotQmail_eq]
  rcases hc with rfl | ⟨i, hi, rfl⟩
  · simp only [if_true, exactDflt, hlen]
    split <;> simp
  · have hile : i ≤ (safeext ext).length := ((mem_defIdxFrom _ _ i).1 hi).1
    have htl : ((safeext ext).take i).length = i := by simp [List.length_take]; omega
    simp only [Option.map_some]
    split
    · rename_i he
      have he2 : (safeext ext).take i ++ defaultB = safeext ext := by
        have := List.append_cancel_left (by simpa [List.append_assoc] using he :
          (dotQmail ++ dash) ++ ((safeext ext).take i ++ defaultB) = (dotQmail ++ dash) ++ safeext ext)
        exact this
      have hl : (safeext ext).length = i + 7 := by
        have := congrArg List.length he2
        simp [htl, defaultB] at this; omega
      have hi7 : ext.length - 7 = i := by omega
      have hd : (safeext ext).drop ((safeext ext).length - 7) = defaultB := by
        have h7 : (safeext ext).length - 7 = i := by omega
        rw [h7]
        conv => lhs; rw [← he2]
        rw [List.drop_append_of_le_length (by omega)]
        simp [htl]
      have hcnd : 7 ≤ (safeext ext).length ∧ (safeext ext).drop ((safeext ext).length - 7) = defaultB :=
        ⟨by omega, hd⟩
      simp [hcnd, hi7]
    · have : (dotQmail ++ dash ++ List.take i (safeext ext) ++ defaultB).length - (6 + dash.length + 7) = i := by
        simp [htl, dotQmail, defaultB]; omega
      rw [this]

/-! ### splitting the control file into lines -/

theorem splitAux_ne_nil : ∀ t : Bytes, splitAux t ≠ []
  | [] => by simp [splitAux]
  | c :: r => by
    unfold splitAux
    split
    · simp
    · split <;> simp

theorem go_eq_splitAux : ∀ (t acc : Bytes),
    LocalSpec.instrLines.go acc t = (match splitAux t with | h :: tl => (acc.reverse ++ h) :: tl | [] => [])
  | [], acc => by simp [LocalSpec.instrLines.go, splitAux]
  | c :: r, acc => by
    have ih := go_eq_splitAux r
    unfold LocalSpec.instrLines.go splitAux
    by_cases hc : c = 10
    · have hc' : c = LF := hc
      simp only [hc, hc', if_true]
      rw [ih []]
      cases h : splitAux r with
      | nil => exact absurd h (splitAux_ne_nil r)
      | cons a b => simp
    · have hc' : ¬ c = LF := hc
      simp only [hc, hc', if_false]
      rw [ih (c :: acc)]
      cases h : splitAux r with
      | nil => exact absurd h (splitAux_ne_nil r)
      | cons a b => simp

theorem splitAux_snoc_LF : ∀ t : Bytes, splitAux (t ++ [LF]) = splitAux t ++ [[]]
  | [] => by simp [splitAux]
  | c :: r => by
    have ih := splitAux_snoc_LF r
    simp only [List.cons_append]
    unfold splitAux
    by_cases hc : c = LF
    · simp only [hc, if_true, ih]; simp
    · simp only [hc, if_false, ih]
      cases h : splitAux r with
      | nil => exact absurd h (splitAux_ne_nil r)
      | cons a b => simp

theorem splitLines_eq_spec (text : Bytes) : splitLines (fixup text) = LocalSpec.instrLines text := by
  unfold LocalSpec.instrLines
  simp only
  rw [go_eq_splitAux]
  have hgo : ∀ t : Bytes, (match splitAux t with | h :: tl => (([] : Bytes).reverse ++ h) :: tl | [] => []) = splitAux t := by
    intro t
    cases h : splitAux t with
    | nil => rfl
    | cons a b => simp
  rw [hgo]
  unfold splitLines fixup
  by_cases hl : text.getLast? = some LF
  · have hl' : text.getLast? = some 10 := hl
    simp only [hl, hl', if_true]
    have := eq_dropLast_concat hl
    conv => lhs; rw [this, splitAux_snoc_LF]
    simp
  · have hl' : ¬ text.getLast? = some 10 := hl
    simp only [hl, hl', if_false]
    rw [splitAux_snoc_LF]; simp

end Nq.Lemmas.Local
