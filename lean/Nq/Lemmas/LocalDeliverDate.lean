/-
  C12: the date `myctime` puts into the From_ line has exactly 24 characters (plus the newline), as mbox(5) says, for every
  instant from 1970 up to the end of the year 9999.  Uses the calendar theorem of `Nq/Lemmas/Datetime.lean`
  (`tai_civil`: datetime_tai computes the Gregorian date) through the bridge `Nq/Lemmas/DatetimeC12.lean`
  (`LocalDeliver.datetimeTai` is field by field `Datetime.tai`).
-/
import Nq.LocalDeliver
import Nq.Lemmas.DatetimeC12

namespace Nq.Lemmas.LD.Date
open Nq Nq.LocalDeliver Nq.Datetime Nq.Lemmas.Datetime

/-- `k = 0`: 0 counts as a number of one digit -/
theorem fmtDec_len (k : Nat) : ∀ n, (k = 0 ∨ 10 ^ k ≤ n) → n < 10 ^ (k + 1) → (fmtDec n).length = k + 1 := by
  induction k with
  | zero =>
    intro n _ h
    rw [fmtDec]
    simp at h
    simp [h]
  | succ k ih =>
    intro n h1 h2
    have hk : 0 < 10 ^ k := Nat.pow_pos (by decide)
    have h1 : 10 ^ k * 10 ≤ n := by
      rcases h1 with h | h
      · omega
      · rwa [Nat.pow_succ] at h
    rw [Nat.pow_succ, Nat.pow_succ] at h2
    have hn : ¬ n < 10 := by omega
    have hlo : 10 ^ k ≤ n / 10 := by omega
    have hhi : n / 10 < 10 ^ (k + 1) := by rw [Nat.pow_succ]; omega
    rw [fmtDec]
    simp [hn, ih (n / 10) (Or.inr hlo) hhi]

theorem fmt02_len (n : Nat) (h : n < 100) : (fmt02 n).length = 2 := by
  unfold fmt02; split
  · rfl
  · exact fmtDec_len 1 n (.inr (by omega)) h

theorem tab_len (tab : List Bytes) (hall : ∀ l ∈ tab, l.length = 3) (i : Nat) (h : i < tab.length) :
    (tab.getD i []).length = 3 := by
  rw [List.getD_eq_getElem?_getD, List.getElem?_eq_getElem h]
  exact hall _ (List.getElem_mem _)

theorem daytab_len : ∀ l ∈ daytab, l.length = 3 := by decide
theorem montab_len : ∀ l ∈ montab, l.length = 3 := by decide

theorem dby10000 : daysBeforeYear 10000 = 2932897 := by decide

/-- `253402300800` s is 10000-01-01 00:00:00: `t` runs from 1970-01-01 00:00:00 to 9999-12-31 23:59:59 -/
theorem fields_range (t : Nat) (ht : t < 253402300800) :
    let dt := datetimeTai t
    0 ≤ dt.wday ∧ dt.wday < 7 ∧ 0 ≤ dt.mon ∧ dt.mon < 12 ∧ 1 ≤ dt.mday ∧ dt.mday ≤ 31 ∧
    0 ≤ dt.hour ∧ dt.hour < 24 ∧ 0 ≤ dt.min ∧ dt.min < 60 ∧ 0 ≤ dt.sec ∧ dt.sec < 60 ∧ 1970 ≤ dt.year ∧ dt.year < 10000 := by
  rw [Nq.Lemmas.DatetimeC12.localDeliver_datetimeTai_eq]
  dsimp only
  have hday : (t : Int) / 86400 < 2932897 := by omega
  obtain ⟨hv, hd, hhms, _, hw⟩ := tai_civil (t : Int)
  have hb1 := (dfc_bounds _ _ _ hv).1
  rw [hd] at hb1
  have hy0 := (tai_nat t).2.2.2.2
  have hy1 := year_lt_of_days hb1 (dby10000 ▸ hday)
  obtain ⟨m0, m1, d1, d2⟩ := hv
  rw [hw]
  exact ⟨Int.emod_nonneg _ (by decide), Int.emod_lt_of_pos _ (by decide), m0, m1, d1, Int.le_trans d2 (monthLen_range _ _).2,
    hhms.1, hhms.2.1, hhms.2.2.1, hhms.2.2.2.1, hhms.2.2.2.2.1, hhms.2.2.2.2.2, hy0, hy1⟩

/-- **"It always contains exactly 24 characters"** (mbox(5)): the date of the From_ line, plus its newline -/
theorem myctime_length (t : Nat) (ht : t < 253402300800) : (myctime t).length = 25 := by
  obtain ⟨w0, w1, m0, m1, d0, d1, h0, h1, mi0, mi1, s0, s1, y0, y1⟩ := fields_range t ht
  unfold myctime
  simp only [List.length_append, List.length_cons, List.length_nil]
  rw [tab_len _ daytab_len _ (by show _ < 7; omega), tab_len _ montab_len _ (by show _ < 12; omega), fmt02_len _ (by omega), fmt02_len _ (by omega),
    fmt02_len _ (by omega), fmt02_len _ (by omega), fmtDec_len 3 _ (.inr (by omega)) (by omega)]

end Nq.Lemmas.LD.Date
