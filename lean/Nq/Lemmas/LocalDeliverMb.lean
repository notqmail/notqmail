/-
  Invariants of the mbox acceptor (`Nq.LocalDeliver.Mb`). Per process, by cases on the transitions `accept` admits
  (`Step`, `accept_step`): exit codes, what exit 0 means, nothing written before the copy loop (`PInv`). For the system of
  concurrent deliveries (`sysStep`): with `flock` as a mutex the file always is  box ++ (entries of the committed
  deliveries, in commit order) ++ (what the current lock holder has appended so far) (`SInv`; what it says of one process
  alone is read off `PInv`). Then: the lock holder is never idle (`HInv`); a failing read / write / fsync is final, the
  delivery can only end with 111 (`Failed`, `error_run`).
-/
import Nq.LocalDeliver
import Nq.Lemmas.Basic
import Nq.Lemmas.Acceptor

namespace Nq.Lemmas.LD.Mb
open Nq Nq.LocalDeliver Nq.LocalDeliver.Mb Nq.Lemmas

/-- the old content followed by the entries of the committed deliveries -/
def base (entry : Nat → Bytes) (box : Bytes) (y : Sys) : Bytes := box ++ (y.order.map entry).flatten

/-- control points inside the critical section (lock held, descriptor open) -/
def InCrit : PC → Bool
  | .alarmOff | .seekE | .seekC | .copy | .closeOk | .rollback | .closeErr => true
  | _ => false

/-- control points of a delivery whose entry is completely in the file -/
def Committed : PC → Bool
  | .closeOk | .finish | .done 0 => true
  | _ => false

/-- control points at which the delivery has written nothing yet (those before the copy loop, `flock` done or not) -/
def PreLock : PC → Bool
  | .start | .alarmOn | .lock | .alarmOff | .seekE | .seekC => true
  | _ => false

/-- what the lock holder's control point says about the file -/
def HolderInv (s : St) (file b : Bytes) : Prop :=
  match s.pc with
  | .alarmOff => file = b ++ s.written ∧ s.locked = true
  | .seekE => file = b ++ s.written ∧ s.locked = true
  | .seekC => file = b ++ s.written ∧ s.off = b.length ∧ s.locked = true
  | .copy => file = b ++ s.written ∧ s.pos = b.length ∧ s.locked = true
  | .rollback => file = b ++ s.written ∧ s.pos = b.length ∧ s.locked = true
  | _ => file = b

structure SInv (entry : Nat → Bytes) (box : Bytes) (y : Sys) : Prop where
  excl : ∀ j, InCrit (y.st j).pc = true → y.holder = some j
  free : y.holder = none → y.file = base entry box y
  held : ∀ i, y.holder = some i → HolderInv (y.st i) y.file (base entry box y)
  ord : ∀ j, j ∈ y.order ↔ Committed (y.st j).pc = true
  nodup : y.order.Nodup
  pre : ∀ j, PreLock (y.st j).pc = true → (y.st j).written = []
  dy : ∀ j c, (y.st j).pc = .dying c → c ≠ 0

theorem inv_init (entry : Nat → Bytes) (box : Bytes) : SInv entry box { file := box } where
  excl := by intro j h; simp [InCrit] at h
  free := by intro _; simp [base]
  held := by intro i h; simp at h
  ord := by intro j; simp [Committed]
  nodup := by simp
  pre := by intro j _; rfl
  dy := by intro j c h; simp at h

@[simp] theorem upd_same (f : Nat → St) (i : Nat) (s : St) : upd f i s i = s := ite_upd_same f i s
theorem upd_other (f : Nat → St) (i j : Nat) (s : St) (h : j ≠ i) : upd f i s j = f j := ite_upd_other f i j s h
theorem upd_self (f : Nat → St) (i : Nat) : upd f i (f i) = f := by
  funext j; unfold upd; split
  · rename_i hj; rw [hj]
  · rfl

theorem forall_upd {φ : Nat → St → Prop} (f : Nat → St) (i : Nat) (s : St) (hi : φ i s) (ho : ∀ j, j ≠ i → φ j (f j))
    (j : Nat) : φ j (upd f i s j) := by
  unfold upd; split
  · rename_i h; rw [h]; exact hi
  · rename_i h; exact ho j h

/-! ### the transitions of one delivery -/

/-- the error events of the copy loop that are not retried: `read`/`write` failing with anything but EINTR, failing `fsync` -/
def hardError : Ev → Bool
  | .readErr false => true
  | .writeErr false => true
  | .fsync false => true
  | _ => false

/-- the transitions `accept` admits, one constructor per edge of the control flow of `mailfile()` -/
inductive Step (entry : Bytes) (s : St) : Ev → St → Prop
  | openAppend (hp : s.pc = .start) (ok : Bool) :
      Step entry s (.openAppend ok) { s with pc := if ok then .alarmOn else .dying 111, opened := true }
  | alarmOn (hp : s.pc = .alarmOn) : Step entry s (.alarm 30) { s with pc := .lock }
  | alarmOff (hp : s.pc = .alarmOff) : Step entry s (.alarm 0) { s with pc := .seekE }
  | flock (hp : s.pc = .lock) (ok : Bool) : Step entry s (.flock ok) { s with pc := .alarmOff, locked := ok }
  | seekEnd (hp : s.pc = .seekE) (len : Nat) : Step entry s (.seekEnd len) { s with pc := .seekC, off := len }
  | seekCur (hp : s.pc = .seekC) : Step entry s (.seekCur s.off) { s with pc := .copy, pos := s.off }
  | read (hp : s.pc = .copy) (n : Nat) : Step entry s (.read n) { s with eof := n == 0 }
  | write (hp : s.pc = .copy) (bs : Bytes) : Step entry s (.write bs) { s with written := s.written ++ bs }
  | retry (hp : s.pc = .copy) (e : Ev) (he : e = .readErr true ∨ e = .writeErr true) : Step entry s e s
  | fail (hp : s.pc = .copy) (e : Ev) (he : hardError e = true) : Step entry s e (failFrom s)
  | commit (hp : s.pc = .copy) (he : s.eof = true) (hw : s.written = entry) :
      Step entry s (.fsync true) { s with pc := .closeOk, synced := true }
  | ftrunc (hp : s.pc = .rollback) (ok : Bool) : Step entry s (.ftrunc s.pos ok) { s with pc := .closeErr }
  | closeOk (hp : s.pc = .closeOk) : Step entry s .close { s with pc := .finish }
  | closeErr (hp : s.pc = .closeErr) : Step entry s .close { s with pc := .dying 111 }
  | sigAlarm (hp : s.pc = .lock ∨ s.pc = .alarmOff) : Step entry s .sigAlarm { s with pc := .dying 111 }
  | exitStart (hp : s.pc = .start) (c : Nat) (hc : c ≠ 0) : Step entry s (.exit c) { s with pc := .done c }
  | exitOk (hp : s.pc = .finish) : Step entry s (.exit 0) { s with pc := .done 0 }
  | exitDying (c : Nat) (hp : s.pc = .dying c) : Step entry s (.exit c) { s with pc := .done c }

/- `accept.fun_cases_unfolding` has one case per branch of `accept`, numbered in the order of its text: a refusing branch
   contradicts `some s'`, an accepting one is the constructor of `Step` for that branch applied to the guards in scope.
   Named are the branches that are not literally one constructor: 14, 18 and 20 (`readErr`, `writeErr`, `fsync`) end in an
   `if` on the event's flag, which `Step` splits into `retry` / `commit` and `fail`; 31 and 33 are `exit` from `finish`
   and from `dying c`, which `constructor` would try as `exitStart`. -/
theorem accept_step (entry : Bytes) (s s' : St) (e : Ev) (h : accept entry s e = some s') : Step entry s e s' := by
  revert h
  apply accept.fun_cases_unfolding entry s (motive := fun e r => r = some s' → Step entry s e s')
  all_goals intros
  all_goals try contradiction
  all_goals rename_i h; injection h with h; subst h
  all_goals repeat cases ‹_ ∧ _›
  all_goals subst_vars
  case case14 intr hp _ => cases intr; exact .fail hp _ rfl; exact .retry hp _ (.inl rfl)
  case case18 intr hp => cases intr; exact .fail hp _ rfl; exact .retry hp _ (.inr rfl)
  case case20 ok hp he => cases ok; exact .fail hp _ rfl; exact .commit hp he rfl
  case case31 hp => exact .exitOk hp
  case case33 c hp => exact .exitDying c hp
  all_goals constructor <;> assumption

/-! ### exit codes and the meaning of exit 0 (per process, no hypothesis on the other processes) -/

/-- per-process invariant of the acceptor: failures inside `mailfile()` die with 111; `synced` (set only by an accepted
successful fsync, which requires the complete entry to have been written) holds exactly at the committed control points;
nothing has been written before the copy loop -/
def PInv (entry : Bytes) (s : St) : Prop :=
  (∀ c, s.pc = .dying c → c = 111) ∧
  (∀ c, s.pc = .done c → s.opened = true → c = 0 ∨ c = 111) ∧
  (s.pc = .start → s.opened = false) ∧
  (s.synced = true ↔ Committed s.pc = true) ∧
  (s.synced = true → s.written = entry) ∧
  (PreLock s.pc = true → s.written = [])

theorem pinv_init (entry : Bytes) : PInv entry {} := by simp [PInv, Committed]

section
variable {entry : Bytes} {s : St} (h : PInv entry s)
include h

theorem PInv.pre : PreLock s.pc = true → s.written = [] := h.2.2.2.2.2

theorem PInv.dy (c : Nat) (hc : s.pc = .dying c) : c ≠ 0 := by
  rw [h.1 c hc]; decide

theorem PInv.done_code (c : Nat) (hc : s.pc = .done c) (ho : s.opened = true) : c = 0 ∨ c = 111 := h.2.1 c hc ho

theorem PInv.synced_iff : s.synced = true ↔ Committed s.pc = true := h.2.2.2.1

theorem PInv.synced_written : s.synced = true → s.written = entry := h.2.2.2.2.1

theorem PInv.not_synced (hc : Committed s.pc = false) : s.synced = false := by
  cases hsy : s.synced with
  | false => rfl
  | true => have := h.synced_iff.1 hsy; rw [hc] at this; cases this

end

theorem failFrom_pinv (entry : Bytes) (s : St) (h : PInv entry s) (hpc : s.pc = .copy) : PInv entry (failFrom s) := by
  have hs : s.synced = false := h.not_synced (by rw [hpc]; rfl)
  unfold failFrom; split <;> simp [PInv, Committed, PreLock, hs]

theorem pinv_step (entry : Bytes) (s s' : St) (e : Ev) (h : PInv entry s) (hacc : accept entry s e = some s') : PInv entry s' := by
  have nosync : ∀ {pc : PC}, s.pc = pc → Committed pc = false → s.synced = false :=
    fun hp hc => h.not_synced (by rw [hp, hc])
  obtain ⟨h1, h2, h3, h4, h5, h6⟩ := h
  cases accept_step entry s s' e hacc with
  | retry => exact ⟨h1, h2, h3, h4, h5, h6⟩
  | fail hp => exact failFrom_pinv entry s ⟨h1, h2, h3, h4, h5, h6⟩ hp
  | commit hp he hw => simp [PInv, Committed, PreLock, hw]
  | openAppend hp ok => cases ok <;> simp [PInv, Committed, PreLock, nosync hp rfl, h6 (by rw [hp]; rfl)]
  | closeOk hp | exitOk hp =>
    have hs : s.synced = true := h4.2 (by rw [hp]; rfl)
    simp [PInv, Committed, PreLock, hs]; exact h5 hs
  | sigAlarm hp => rcases hp with hp | hp <;> simp [PInv, Committed, PreLock, nosync hp rfl]
  | exitStart hp c hc =>
    cases c with
    | zero => exact absurd rfl hc
    | succ k => simp [PInv, Committed, PreLock, nosync hp rfl, h3 hp]
  | exitDying c hp =>
    cases h1 c hp
    simp [PInv, Committed, PreLock, nosync hp rfl]
  | read hp | write hp => simp [PInv, Committed, PreLock, nosync hp rfl, hp]
  | alarmOn hp | flock hp | alarmOff hp | seekEnd hp => simp [PInv, Committed, PreLock, nosync hp rfl, h6 (by rw [hp]; rfl)]
  | _ hp => simp [PInv, Committed, PreLock, nosync hp rfl]

/-! ### the system invariant is kept -/

theorem pinv_upd (entry : Nat → Bytes) (y : Sys) (i : Nat) (e : Ev) (s' : St) (hP : ∀ j, PInv (entry j) (y.st j))
    (hacc : accept (entry i) (y.st i) e = some s') : ∀ j, PInv (entry j) (upd y.st i s' j) :=
  forall_upd (φ := fun j s => PInv (entry j) s) _ _ _ (pinv_step (entry i) _ _ e (hP i) hacc) fun j _ => hP j

theorem step_ord (entry : Nat → Bytes) (box : Bytes) (y : Sys) (i : Nat) (s' : St) (hinv : SInv entry box y)
    (hC : Committed s'.pc = Committed (y.st i).pc) : ∀ j, j ∈ y.order ↔ Committed (upd y.st i s' j).pc = true :=
  forall_upd (φ := fun j s => j ∈ y.order ↔ Committed s.pc = true) _ _ _ (by rw [hC]; exact hinv.ord i) fun j _ => hinv.ord j

/-- a step of process `i` that touches neither the file, the lock nor the commit order -/
theorem step_local (entry : Nat → Bytes) (box : Bytes) (y : Sys) (i : Nat) (s' : St) (hinv : SInv entry box y)
    (hP : ∀ j, PInv (entry j) (upd y.st i s' j))
    (hA : InCrit s'.pc = true → InCrit (y.st i).pc = true)
    (hB : HolderInv (y.st i) y.file (base entry box y) → HolderInv s' y.file (base entry box y))
    (hC : Committed s'.pc = Committed (y.st i).pc) :
    SInv entry box { y with st := upd y.st i s' } where
  excl := forall_upd (φ := fun j s => InCrit s.pc = true → y.holder = some j) _ _ _ (fun h => hinv.excl i (hA h))
    fun j _ => hinv.excl j
  free := hinv.free
  held := forall_upd (φ := fun j s => y.holder = some j → HolderInv s y.file (base entry box y)) _ _ _
    (fun hh => hB (hinv.held i hh)) fun j _ => hinv.held j
  ord := step_ord entry box y i s' hinv hC
  nodup := hinv.nodup
  pre := fun j => (hP j).pre
  dy := fun j => (hP j).dy

theorem release_self (h : Option Nat) (i : Nat) : release h i ≠ some i := by
  unfold release; split <;> simp_all

theorem release_other (h : Option Nat) (i k : Nat) (hk : k ≠ i) : release h i = some k ↔ h = some k := by
  unfold release; split
  · rename_i hh; simp [hh]; exact fun h' => hk h'.symm
  · rfl

theorem release_none (h : Option Nat) (i : Nat) : release h i = none ↔ (h = none ∨ h = some i) := by
  unfold release; split
  · rename_i hh; simp [hh]
  · rename_i hh; simp [hh]

/-- a step of process `i` (close / exit) that drops the lock if `i` holds it -/
theorem step_release (entry : Nat → Bytes) (box : Bytes) (y : Sys) (i : Nat) (s' : St) (hinv : SInv entry box y)
    (hP : ∀ j, PInv (entry j) (upd y.st i s' j))
    (hA : InCrit s'.pc = false)
    (hB : HolderInv (y.st i) y.file (base entry box y) → y.file = base entry box y)
    (hC : Committed s'.pc = Committed (y.st i).pc) :
    SInv entry box { y with st := upd y.st i s', holder := release y.holder i } where
  excl := forall_upd (φ := fun j s => InCrit s.pc = true → release y.holder i = some j) _ _ _
    (fun h => by rw [hA] at h; cases h) fun j hj h => (release_other _ _ _ hj).2 (hinv.excl j h)
  free := by
    intro h
    rcases (release_none _ _).1 h with h1 | h1
    · exact hinv.free h1
    · exact hB (hinv.held i h1)
  held := forall_upd (φ := fun j s => release y.holder i = some j → HolderInv s y.file (base entry box y)) _ _ _
    (fun hk => absurd hk (release_self _ _)) fun j hj hk => hinv.held j ((release_other _ _ _ hj).1 hk)
  ord := step_ord entry box y i s' hinv hC
  nodup := hinv.nodup
  pre := fun j => (hP j).pre
  dy := fun j => (hP j).dy

theorem failFrom_pc (s : St) : (failFrom s).pc = if s.locked then .rollback else .closeErr := by
  unfold failFrom; split <;> simp_all

theorem failFrom_fields (s : St) : (failFrom s).written = s.written ∧ (failFrom s).pos = s.pos ∧ (failFrom s).locked = s.locked := by
  unfold failFrom; split <;> simp

/-- the error exit from the copy loop keeps the holder invariant: with the lock it goes to `rollback` -/
theorem failFrom_local (entry : Nat → Bytes) (box : Bytes) (y : Sys) (i : Nat) (hinv : SInv entry box y)
    (hP : ∀ j, PInv (entry j) (upd y.st i (failFrom (y.st i)) j))
    (hpc : (y.st i).pc = .copy) : SInv entry box { y with st := upd y.st i (failFrom (y.st i)) } := by
  apply step_local entry box y i _ hinv hP
  · intro _; simp [hpc, InCrit]
  · intro hH
    simp only [HolderInv, hpc] at hH
    obtain ⟨fw, fp, fl⟩ := failFrom_fields (y.st i)
    have hpc' : (failFrom (y.st i)).pc = .rollback := by rw [failFrom_pc, hH.2.2]; rfl
    simp only [HolderInv, hpc', fw, fp, fl]; exact hH
  · rw [failFrom_pc, hpc]; split <;> rfl

theorem others_locked (entry : Nat → Bytes) (box : Bytes) (y : Sys) (i : Nat) (s' : St) (hinv : SInv entry box y)
    (hh : y.holder = none ∨ y.holder = some i) : ∀ j, InCrit (upd y.st i s' j).pc = true → j = i := by
  refine forall_upd (φ := fun j s => InCrit s.pc = true → j = i) _ _ _ (fun _ => rfl) ?_
  intro j _ hj
  have := hinv.excl j hj
  rcases hh with hh | hh
  · rw [hh] at this; cases this
  · rw [hh] at this; exact (Option.some.inj this).symm

/-- the parts of the invariant that do not mention the file, for a step of `i` that keeps lock and order -/
theorem others (entry : Nat → Bytes) (box : Bytes) (y : Sys) (i : Nat) (s' : St) (hinv : SInv entry box y)
    (hh : y.holder = some i)
    (hC : Committed s'.pc = Committed (y.st i).pc)
    (hE : PreLock s'.pc = false)
    (hD : ∀ c, s'.pc ≠ .dying c) :
    (∀ j, InCrit (upd y.st i s' j).pc = true → y.holder = some j) ∧
    (∀ j, j ∈ y.order ↔ Committed (upd y.st i s' j).pc = true) ∧
    (∀ j, PreLock (upd y.st i s' j).pc = true → (upd y.st i s' j).written = []) ∧
    (∀ j c, (upd y.st i s' j).pc = .dying c → c ≠ 0) :=
  ⟨fun j hj => by rw [others_locked entry box y i s' hinv (Or.inr hh) j hj]; exact hh, step_ord entry box y i s' hinv hC,
    forall_upd (φ := fun _ s => PreLock s.pc = true → s.written = []) _ _ _ (fun h => by rw [hE] at h; cases h) fun j _ => hinv.pre j,
    forall_upd (φ := fun _ s => ∀ c, s.pc = .dying c → c ≠ 0) _ _ _ (fun c h => absurd h (hD c)) fun j _ => hinv.dy j⟩

theorem SInv.crit {entry : Nat → Bytes} {box : Bytes} {y : Sys} (hinv : SInv entry box y) (i : Nat)
    (hc : InCrit (y.st i).pc = true) : y.holder = some i ∧ HolderInv (y.st i) y.file (base entry box y) :=
  ⟨hinv.excl i hc, hinv.held i (hinv.excl i hc)⟩

theorem step_holder (entry : Nat → Bytes) (box : Bytes) (y : Sys) (i : Nat) (s' : St) (file' : Bytes) (order' : List Nat)
    (hinv : SInv entry box y) (hP : ∀ j, PInv (entry j) (upd y.st i s' j)) (hh : y.holder = some i)
    (hH : HolderInv s' file' (box ++ (order'.map entry).flatten))
    (hord : ∀ j, j ∈ order' ↔ Committed (upd y.st i s' j).pc = true) (hnd : order'.Nodup) :
    SInv entry box { y with st := upd y.st i s', file := file', order := order' } where
  excl := fun j hj => by rw [others_locked entry box y i s' hinv (Or.inr hh) j hj]; exact hh
  free := fun hn => by rw [hh] at hn; cases hn
  held := fun k hk => by
    rw [hh] at hk; cases hk
    show HolderInv (upd y.st i s' i) file' _
    rw [upd_same]; exact hH
  ord := hord
  nodup := hnd
  pre := fun j => (hP j).pre
  dy := fun j => (hP j).dy

theorem step_inv (entry : Nat → Bytes) (box : Bytes) (y y' : Sys) (i : Nat) (e : Ev)
    (hinv : SInv entry box y) (hP : ∀ j, PInv (entry j) (y.st j)) (hb : benign e = true)
    (hstep : sysStep entry y i e = some y') : SInv entry box y' := by
  unfold sysStep at hstep
  cases hacc : accept (entry i) (y.st i) e with
  | none => simp [hacc] at hstep
  | some s' =>
    simp only [hacc] at hstep
    -- what the invariant says of one process alone (`pre`, `dy`) is `PInv`, kept by every step of that process
    have hP' := pinv_upd entry y i e s' hP hacc
    -- by event: only the state of `i` changes (openAppend, alarm, seekEnd, seekCur, read, sigAlarm): `step_local`; hard error (readErr false,
    -- writeErr false, fsync false): `failFrom_local`; EINTR: no change; close, exit: `step_release`; the holder changes the file or the
    -- order (write, fsync true, ftrunc true): `step_holder`; flock true: field by field; flock false, ftrunc false are not `benign`
    cases e with
    | openAppend ok =>
      simp at hstep; subst hstep
      obtain ⟨h, rfl⟩ := of_ite_some hacc
      apply step_local entry box y i _ hinv hP'
      · cases ok <;> simp [InCrit]
      · cases ok <;> simp [HolderInv, h]
      · cases ok <;> simp [Committed, h]
    | alarm n =>
      simp at hstep; subst hstep
      rcases of_ite_ite_some hacc with ⟨h, rfl⟩ | ⟨h, rfl⟩
      · apply step_local entry box y i _ hinv hP'
        · simp [InCrit]
        · simp [HolderInv, h.1]
        · simp [Committed, h.1]
      · apply step_local entry box y i _ hinv hP'
        · simp [h.1, InCrit]
        · simp [HolderInv, h.1]
        · simp [Committed, h.1]
    | flock ok =>
      cases ok with
      | false => simp [benign] at hb
      | true =>
        obtain ⟨h, rfl⟩ := of_ite_some hacc
        simp at hstep
        obtain ⟨hn, rfl⟩ := hstep
        have hw := (hP i).pre (by simp [h, PreLock])
        have o1 := others_locked entry box y i { y.st i with pc := .alarmOff, locked := true } hinv (Or.inl hn)
        refine ⟨fun j hj => by rw [o1 j hj], ?_, ?_, ?_, hinv.nodup, fun j => (hP' j).pre, fun j => (hP' j).dy⟩
        · intro hh; simp at hh
        · intro k hk
          simp at hk; subst hk
          show HolderInv _ y.file (base entry box y)
          simp only [upd_same, HolderInv]
          exact ⟨by rw [hw, List.append_nil]; exact hinv.free hn, trivial⟩
        · exact step_ord entry box y i _ hinv (by simp [Committed, h])
    | seekEnd len =>
      obtain ⟨h, rfl⟩ := of_ite_some hacc
      simp at hstep
      obtain ⟨rfl, rfl⟩ := hstep
      have hw := (hP i).pre (by simp [h, PreLock])
      apply step_local entry box y i _ hinv hP'
      · simp [h, InCrit]
      · intro hH
        simp only [HolderInv, h, hw, List.append_nil] at hH ⊢
        exact ⟨hH.1, by rw [hH.1], hH.2⟩
      · simp [Committed, h]
    | seekCur len =>
      simp at hstep; subst hstep
      obtain ⟨⟨h, rfl⟩, rfl⟩ := of_ite_some hacc
      apply step_local entry box y i _ hinv hP'
      · simp [h, InCrit]
      · simp [HolderInv, h]
      · simp [Committed, h]
    | read n =>
      simp at hstep; subst hstep
      obtain ⟨h, rfl⟩ := of_ite_some hacc
      apply step_local entry box y i _ hinv hP'
      · simp [h.1, InCrit]
      · simp [HolderInv, h.1]
      · simp [Committed, h.1]
    | readErr intr =>
      simp at hstep; subst hstep
      obtain ⟨h, rfl⟩ := of_ite_some hacc
      cases intr with
      | true => simpa [upd_self] using hinv
      | false => exact failFrom_local entry box y i hinv hP' h.1
    | write bs =>
      simp at hstep; subst hstep
      obtain ⟨h, rfl⟩ := of_ite_some hacc
      obtain ⟨hh, hH⟩ := hinv.crit i (by simp [h.1, InCrit])
      simp only [HolderInv, h.1] at hH
      refine step_holder entry box y i _ _ _ hinv hP' hh ?_ (step_ord entry box y i _ hinv (by simp)) hinv.nodup
      simp only [HolderInv, h.1]
      exact ⟨by rw [hH.1, List.append_assoc]; rfl, hH.2⟩
    | writeErr intr =>
      simp at hstep; subst hstep
      obtain ⟨h, rfl⟩ := of_ite_some hacc
      cases intr with
      | true => simpa [upd_self] using hinv
      | false => exact failFrom_local entry box y i hinv hP' h
    | fsync ok =>
      obtain ⟨h, rfl⟩ := of_ite_some hacc
      cases ok with
      | false =>
        simp at hstep; subst hstep
        exact failFrom_local entry box y i hinv hP' h.1
      | true =>
        simp at hstep; subst hstep
        obtain ⟨hh, hH⟩ := hinv.crit i (by simp [h.1, InCrit])
        simp only [HolderInv, h.1] at hH
        have hni : i ∉ y.order := by
          intro hm; have := (hinv.ord i).1 hm; simp [h.1, Committed] at this
        refine step_holder entry box y i _ _ _ hinv hP' hh ?_ ?_ ?_
        · simp only [HolderInv]
          rw [hH.1, h.2.2]; simp [base, List.append_assoc]
        · intro j
          by_cases hji : j = i
          · subst hji; simp [Committed]
          · simp [upd_other _ _ _ _ hji, hji]; exact hinv.ord j
        · simp [List.nodup_append, hinv.nodup]
          intro a ha hai; subst hai; exact hni ha
    | ftrunc len ok =>
      cases ok with
      | false => simp [benign] at hb
      | true =>
        simp at hstep; subst hstep
        obtain ⟨h, rfl⟩ := of_ite_some hacc
        obtain ⟨hh, hH⟩ := hinv.crit i (by simp [h.1, InCrit])
        simp only [HolderInv, h.1] at hH
        refine step_holder entry box y i _ _ _ hinv hP' hh ?_ (step_ord entry box y i _ hinv (by simp [h.1, Committed]))
          hinv.nodup
        show HolderInv _ (y.file.take len) (base entry box y)
        simp only [HolderInv]
        rw [h.2, hH.2.1, hH.1]; simp
    | close =>
      simp at hstep; subst hstep
      rcases of_ite_ite_some hacc with ⟨h, rfl⟩ | ⟨h, rfl⟩ <;>
        exact step_release entry box y i _ hinv hP' (by simp [InCrit]) (by simp [HolderInv, h]) (by simp [Committed, h])
    | sigAlarm =>
      simp at hstep; subst hstep
      obtain ⟨h, rfl⟩ := of_ite_some hacc
      apply step_local entry box y i _ hinv hP'
      · simp [InCrit]
      · rcases h with h | h
        · simp [HolderInv, h]
        · intro hH
          simp only [HolderInv, h, (hP i).pre (by simp [h, PreLock]), List.append_nil] at hH ⊢
          exact hH.1
      · rcases h with h | h <;> simp [Committed, h]
    | exit code =>
      simp at hstep; subst hstep
      simp only [accept] at hacc
      split at hacc
      · rename_i h
        obtain ⟨hc, rfl⟩ := of_ite_some hacc
        apply step_release entry box y i _ hinv hP' (by simp [InCrit]) (by simp [HolderInv, h])
        cases code with
        | zero => exact absurd rfl hc
        | succ k => simp [Committed, h]
      · rename_i h
        obtain ⟨rfl, rfl⟩ := of_ite_some hacc
        exact step_release entry box y i _ hinv hP' (by simp [InCrit]) (by simp [HolderInv, h]) (by simp [Committed, h])
      · rename_i c h
        obtain ⟨rfl, rfl⟩ := of_ite_some hacc
        have hc0 : code ≠ 0 := (hP i).dy code h
        apply step_release entry box y i _ hinv hP' (by simp [InCrit]) (by simp [HolderInv, h])
        cases code with
        | zero => exact absurd rfl hc0
        | succ k => simp [Committed, h]
      · cases hacc

theorem sysRun_eq (entry : Nat → Bytes) : ∀ (tr : List (Nat × Ev)) (y : Sys),
    sysRun entry y tr = tr.foldlM (fun y x => sysStep entry y x.1 x.2) y :=
  Acceptor.eq_foldlM (fun _ => rfl) (fun y x es => by rw [sysRun]; cases sysStep entry y x.1 x.2 <;> rfl)

theorem sysRun_invariant (entry : Nat → Bytes) (P : Sys → Prop) (Q : Nat → Ev → Prop)
    (hstep : ∀ y y' i e, P y → Q i e → sysStep entry y i e = some y' → P y')
    (tr : List (Nat × Ev)) (y y' : Sys) (hP : P y) (hQ : ∀ x ∈ tr, Q x.1 x.2) (h : sysRun entry y tr = some y') : P y' :=
  Acceptor.foldlM_induct_guard P (fun x => Q x.1 x.2) (fun y x y' => hstep y y' x.1 x.2) tr y y' hP hQ
    ((sysRun_eq entry tr y).symm.trans h)



/-! ### who can hold the lock; untouched processes -/

/-- not inside a delivery: not started, or exited -/
def Idle : PC → Bool
  | .start | .done _ => true
  | _ => false

theorem accept_not_idle (entry : Bytes) (s s' : St) (e : Ev) (h : accept entry s e = some s')
    (hne : ∀ c, e ≠ .exit c) : Idle s'.pc = false := by
  cases accept_step entry s s' e h with
  | openAppend _ ok => cases ok <;> rfl
  | retry hp | read hp | write hp => simp [hp, Idle]
  | fail => rw [failFrom_pc]; split <;> rfl
  | exitStart _ c | exitDying c => exact absurd rfl (hne c)
  | exitOk => exact absurd rfl (hne 0)
  | _ => rfl

theorem sysStep_shape (entry : Nat → Bytes) (y y' : Sys) (i : Nat) (e : Ev) (h : sysStep entry y i e = some y') :
    ∃ s', accept (entry i) (y.st i) e = some s' ∧ y'.st = upd y.st i s' ∧
      y'.holder = (match e with
        | .flock true => some i
        | .close => release y.holder i
        | .exit _ => release y.holder i
        | _ => y.holder) := by
  unfold sysStep at h
  cases hacc : accept (entry i) (y.st i) e with
  | none => simp [hacc] at h
  | some s' =>
    refine ⟨s', rfl, ?_⟩
    simp only [hacc] at h
    cases e with
    | flock ok =>
      cases ok with
      | true => simp at h; obtain ⟨_, rfl⟩ := h; exact ⟨rfl, rfl⟩
      | false => simp at h; subst h; exact ⟨rfl, rfl⟩
    | seekEnd len => simp at h; obtain ⟨_, rfl⟩ := h; exact ⟨rfl, rfl⟩
    | ftrunc len ok => cases ok <;> (simp at h; subst h; exact ⟨rfl, rfl⟩)
    | fsync ok => cases ok <;> (simp at h; subst h; exact ⟨rfl, rfl⟩)
    | _ => simp at h; subst h; exact ⟨rfl, rfl⟩

theorem sysRun_local (entry : Nat → Bytes) (i : Nat) (P : St → Prop)
    (hstep : ∀ s s' e, P s → accept (entry i) s e = some s' → P s') (tr : List (Nat × Ev)) (y y' : Sys)
    (hP : P (y.st i)) (h : sysRun entry y tr = some y') : P (y'.st i) := by
  refine sysRun_invariant entry (fun z => P (z.st i)) (fun _ _ => True) ?_ tr y y' hP (fun _ _ => trivial) h
  intro z z' j e hz _ hs
  obtain ⟨s', hacc, hst, _⟩ := sysStep_shape entry z z' j e hs
  rw [hst]
  by_cases hij : i = j
  · subst hij; rw [upd_same]; exact hstep _ s' e hz hacc
  · rw [upd_other _ _ _ _ hij]; exact hz

theorem run_inv (entry : Nat → Bytes) (box : Bytes) (tr : List (Nat × Ev)) (y y' : Sys) (hinv : SInv entry box y)
    (hP : ∀ j, PInv (entry j) (y.st j)) (hb : ∀ x ∈ tr, benign x.2 = true) (h : sysRun entry y tr = some y') :
    SInv entry box y' :=
  (sysRun_invariant entry (fun z => SInv entry box z ∧ ∀ j, PInv (entry j) (z.st j)) (fun _ e => benign e = true)
    (fun z z' i e hz hb hs => ⟨step_inv entry box z z' i e hz.1 hz.2 hb hs, by
      obtain ⟨s', hacc, hst, _⟩ := sysStep_shape entry z z' i e hs
      rw [hst]; exact pinv_upd entry z i e s' hz.2 hacc⟩) tr y y' ⟨hinv, hP⟩ hb h).1

def HInv (y : Sys) : Prop := ∀ i, y.holder = some i → Idle (y.st i).pc = false

theorem hinv_step (entry : Nat → Bytes) (y y' : Sys) (i : Nat) (e : Ev) (hinv : HInv y)
    (h : sysStep entry y i e = some y') : HInv y' := by
  obtain ⟨s', hacc, hst, hho⟩ := sysStep_shape entry y y' i e h
  intro k hk
  rw [hst]
  by_cases hki : k = i
  · subst hki
    rw [upd_same]
    cases e with
    | exit c => simp only at hho; rw [hho] at hk; exact absurd hk (release_self _ _)
    | _ => exact accept_not_idle (entry k) (y.st k) s' _ hacc (by intro c hc; cases hc)
  · rw [upd_other _ _ _ _ hki]
    apply hinv k
    cases e with
    | flock ok =>
      cases ok with
      | true => simp only at hho; rw [hho] at hk; cases hk; exact absurd rfl hki
      | false => simp only at hho; rw [← hho]; exact hk
    | close => simp only at hho; rw [hho] at hk; exact (release_other _ _ _ hki).1 hk
    | exit c => simp only at hho; rw [hho] at hk; exact (release_other _ _ _ hki).1 hk
    | _ => simp only at hho; rw [← hho]; exact hk

theorem hinv_run (entry : Nat → Bytes) (tr : List (Nat × Ev)) (y y' : Sys) (hinv : HInv y) (h : sysRun entry y tr = some y') :
    HInv y' :=
  sysRun_invariant entry HInv (fun _ _ => True) (fun y y' i e hinv _ hs => hinv_step entry y y' i e hinv hs) tr y y' hinv
    (fun _ _ => trivial) h

theorem holder_active (entry : Nat → Bytes) (box : Bytes) (tr : List (Nat × Ev)) (y : Sys)
    (h : sysRun entry { file := box } tr = some y) (i : Nat) (hh : y.holder = some i) : Idle (y.st i).pc = false :=
  hinv_run entry tr _ y (by intro i hi; simp at hi) h i hh

theorem untouched_run (entry : Nat → Bytes) (tr : List (Nat × Ev)) (y y' : Sys) (h : sysRun entry y tr = some y')
    (j : Nat) (hj : ∀ x ∈ tr, x.1 ≠ j) : y'.st j = y.st j := by
  refine sysRun_invariant entry (fun z => z.st j = y.st j) (fun i _ => i ≠ j) ?_ tr y y' rfl hj h
  intro z z' i e hz hij hs
  obtain ⟨s', _, hst, _⟩ := sysStep_shape entry z z' i e hs
  rw [hst, upd_other _ _ _ _ (fun hji => hij hji.symm), hz]

theorem only_zero (entry : Nat → Bytes) (box : Bytes) (tr : List (Nat × Ev)) (y : Sys)
    (h : sysRun entry { file := box } tr = some y) (honly : ∀ x ∈ tr, x.1 = 0) (j : Nat) (hj : j ≠ 0) : y.st j = {} := by
  have := untouched_run entry tr _ y h j (fun x hx hxj => hj (by rw [← hxj, honly x hx]))
  simpa using this

/-- when every delivery is outside `mailfile()`: nobody holds the lock, and the file is the old content followed by the
entries, in commit order, of exactly the deliveries that exited 0 -/
theorem all_idle (entry : Nat → Bytes) (box : Bytes) (tr : List (Nat × Ev)) (y : Sys)
    (h : sysRun entry { file := box } tr = some y) (hb : ∀ x ∈ tr, benign x.2 = true) (hidle : ∀ j, Idle (y.st j).pc = true) :
    y.file = box ++ (y.order.map entry).flatten ∧ y.order.Nodup ∧ ∀ j, j ∈ y.order ↔ (y.st j).pc = .done 0 := by
  have hinv := run_inv entry box tr _ y (inv_init entry box) (fun j => pinv_init (entry j)) hb h
  have hfree : y.holder = none := by
    cases hh : y.holder with
    | none => rfl
    | some i => have := holder_active entry box tr y h i hh; rw [hidle i] at this; cases this
  refine ⟨hinv.free hfree, hinv.nodup, fun j => ?_⟩
  rw [hinv.ord j]
  have := hidle j
  cases hp : (y.st j).pc with
  | done c =>
    cases c with
    | zero => exact ⟨fun _ => rfl, fun _ => rfl⟩
    | succ k => exact ⟨nofun, nofun⟩
  | start => exact ⟨nofun, nofun⟩
  | _ => rw [hp] at this; cases this

theorem single_done (entry : Nat → Bytes) (box : Bytes) (tr : List (Nat × Ev)) (y : Sys)
    (h : sysRun entry { file := box } tr = some y) (hb : ∀ x ∈ tr, benign x.2 = true) (honly : ∀ x ∈ tr, x.1 = 0) (c : Nat)
    (hx : (y.st 0).pc = .done c) : y.file = box ++ (y.order.map entry).flatten ∧ y.order = if c = 0 then [0] else [] := by
  obtain ⟨hf, hnd, hord⟩ := all_idle entry box tr y h hb fun j => by
    by_cases hj : j = 0
    · subst hj; rw [hx]; rfl
    · rw [only_zero entry box tr y h honly j hj]; rfl
  have hmem : ∀ j, j ∈ y.order ↔ j = 0 ∧ c = 0 := fun j => by
    rw [hord j]
    by_cases hj : j = 0
    · subst hj; rw [hx]; simp
    · rw [only_zero entry box tr y h honly j hj]; simp [hj]
  refine ⟨hf, ?_⟩
  -- a list without repetitions whose only possible member is 0
  cases ho : y.order with
  | nil => have := hmem 0; simp [ho] at this; simp [this]
  | cons a as =>
    rw [ho] at hnd hmem
    obtain ⟨rfl, hc⟩ := (hmem a).1 List.mem_cons_self
    cases as with
    | nil => simp [hc]
    | cons b bs =>
      obtain ⟨rfl, _⟩ := (hmem b).1 (by simp)
      simp at hnd


theorem synced_step (entry : Bytes) (s s' : St) (e : Ev) (h : accept entry s e = some s') :
    s'.synced = s.synced ∨ e = .fsync true ∧ s.pc = .copy ∧ s.eof = true ∧ s.written = entry := by
  cases accept_step entry s s' e h with
  | commit hp he hw => exact .inr ⟨rfl, hp, he, hw⟩
  | fail => left; unfold failFrom; split <;> rfl
  | _ => exact .inl rfl


theorem pinv_run (entry : Nat → Bytes) (tr : List (Nat × Ev)) (y y' : Sys) (hinv : ∀ j, PInv (entry j) (y.st j))
    (h : sysRun entry y tr = some y') : ∀ j, PInv (entry j) (y'.st j) :=
  fun j => sysRun_local entry j (PInv (entry j)) (fun s s' e => pinv_step (entry j) s s' e) tr y y' (hinv j) h

/-! ### a failing read / write / fsync is final: the delivery can only end with 111

The acceptor takes ANY chunking of the entry into `write`s, so this covers every buffered writer (substdio's 1024-byte
`outbuf` in particular) at every entry length, including the lengths at which a put finds the buffer exactly full. -/

/-- control points of the error path `writeerrs:` … `_exit(111)` -/
def Failed : PC → Bool
  | .rollback => true
  | .closeErr => true
  | .dying c => c == 111
  | .done c => c == 111
  | _ => false

theorem hard_fails (entry : Bytes) (s s' : St) (e : Ev) (h : accept entry s e = some s') (he : hardError e = true) :
    Failed s'.pc = true := by
  cases accept_step entry s s' e h with
  | fail => rw [failFrom_pc]; split <;> rfl
  | retry _ _ h2 => rcases h2 with rfl | rfl <;> cases he
  | _ => cases he

theorem failed_step (entry : Bytes) (s s' : St) (e : Ev) (h : accept entry s e = some s') (hf : Failed s.pc = true) :
    Failed s'.pc = true := by
  -- the error path is  rollback —ftrunc→ closeErr —close→ dying 111 —exit 111→ done 111
  cases accept_step entry s s' e h with
  | ftrunc | closeErr => rfl
  | exitDying c hp => simpa [Failed, hp] using hf
  | sigAlarm hp => rcases hp with hp | hp <;> simp [Failed, hp] at hf
  | _ hp => simp [Failed, hp] at hf

theorem failed_run (entry : Nat → Bytes) (i : Nat) (tr : List (Nat × Ev)) (y y' : Sys) (hf : Failed (y.st i).pc = true)
    (h : sysRun entry y tr = some y') : Failed (y'.st i).pc = true :=
  sysRun_local entry i (fun s => Failed s.pc = true) (fun s s' e hs hacc => failed_step (entry i) s s' e hacc hs) tr y y' hf h

theorem error_run (entry : Nat → Bytes) (tr1 tr2 : List (Nat × Ev)) (i : Nat) (e : Ev) (y0 y : Sys)
    (he : hardError e = true) (h : sysRun entry y0 (tr1 ++ (i, e) :: tr2) = some y) : Failed (y.st i).pc = true := by
  rw [sysRun_eq, Acceptor.foldlM_append] at h
  obtain ⟨y1, _, h2⟩ := h
  obtain ⟨y2, hs, h3⟩ := Acceptor.foldlM_cons.1 h2
  obtain ⟨s', hacc, hst, _⟩ := sysStep_shape entry y1 y2 i e hs
  apply failed_run entry i tr2 y2 y _ ((sysRun_eq entry tr2 y2).trans h3)
  rw [hst, upd_same]
  exact hard_fails (entry i) (y1.st i) s' e hacc he

theorem failed_not_committed (pc : PC) (h : Failed pc = true) : Committed pc = false := by
  cases pc <;> simp [Failed] at h <;> (try subst h) <;> simp [Committed]

theorem failed_done (pc : PC) (h : Failed pc = true) (c : Nat) (hc : pc = .done c) : c = 111 := by
  subst hc; simpa [Failed] using h

end Nq.Lemmas.LD.Mb
