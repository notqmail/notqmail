/-
  The inductive invariant of the maildir acceptor (`Nq.LocalDeliver.Md`): couples each control point of
  `maildir()` / `maildir_child()` to the state of the file being delivered and to the events so far (`RInv`, `run_inv`):
  new/x exists  ⇔  a successful `link` is among them (`applyAll_newName`), there is at most one (`link_once`), and the
  event before it is the successful `close` (`link_reach`).
-/
import Nq.LocalDeliver
import Nq.Lemmas.Basic
import Nq.Lemmas.Acceptor

namespace Nq.Lemmas.LD.Md
open Nq Nq.LocalDeliver Nq.LocalDeliver.Md Nq.Lemmas

/-- the file is complete and on disk -/
def Complete (p : Params) (fs : FS) : Prop := fs.cur = p.content ∧ fs.synced = true

/-- nothing is visible in new/ -/
def Hidden (fs : FS) : Prop := fs.newName = false

/-- what each control point guarantees; `last` is the event that led to it -/
def PcInv (p : Params) (s : St) (fs : FS) (last : Option Ev) : Prop :=
  match s.pc with
  | .start => Hidden fs ∧ s.written = [] ∧ s.forked = false
  | .arm _ => Hidden fs ∧ s.written = [] ∧ s.forked = true
  | .opening _ => Hidden fs ∧ s.written = [] ∧ s.forked = true
  | .nap _ => Hidden fs ∧ s.written = [] ∧ s.forked = true
  | .copy => Hidden fs ∧ fs.cur = s.written ∧ s.forked = true ∧ fs.tmpName = true
  | .closing => Hidden fs ∧ Complete p fs ∧ s.forked = true ∧ fs.tmpName = true
  | .linking => Hidden fs ∧ Complete p fs ∧ s.forked = true ∧ fs.tmpName = true ∧ last = some (.close true)
  | .unlinkOk => fs.newName = true ∧ s.forked = true
  | .failUnlink c => c ≠ 0 ∧ (fs.newName = true → s.interrupted = true) ∧ s.forked = true
  | .dying c => (c = 0 → fs.newName = true) ∧ (c ≠ 0 → fs.newName = true → s.interrupted = true) ∧ s.forked = true
  | .waited c => (c = 0 → fs.newName = true) ∧ (c ≠ 0 → fs.newName = true → s.interrupted = true) ∧ s.forked = true
  | .killed => (fs.newName = true → s.interrupted = true) ∧ s.forked = true
  | .done c => (c = 0 → fs.newName = true) ∧ (c ≠ 0 → fs.newName = true → s.interrupted = true) ∧
               (s.forked = true → c = 0 ∨ c = 111)

/-- the invariant: whatever is visible in new/ is complete and durable, plus the per-control-point facts -/
def MInv (p : Params) (s : St) (fs : FS) (last : Option Ev) : Prop := (fs.newName = true → Complete p fs) ∧ PcInv p s fs last

theorem inv_init (p : Params) : MInv p {} {} none := by simp [MInv, PcInv, Hidden]

/-- the exit-status switch of `maildir()`, read off the regenerated table `Gen.LocalExit.maildirCases` -/
theorem parentCode_eq (c : Nat) : parentCode c = if c = 0 then 0 else 111 := by
  by_cases h : c ∈ Gen.LocalExit.maildirCases.map (·.1)
  · simp only [Gen.LocalExit.maildirCases, List.map, List.mem_cons, List.not_mem_nil, or_false] at h
    rcases h with rfl | rfl | rfl | rfl <;> rfl
  · have hl : Gen.LocalExit.maildirCases.lookup c = none := by
      rw [List.lookup_eq_none_iff]
      intro q hq
      simpa using fun e => h (List.mem_map.2 ⟨q, hq, e.symm⟩)
    have h0 : c ≠ 0 := fun e => h (by rw [e]; decide)
    simp [parentCode, hl, Gen.LocalExit.maildirDefault, h0]

theorem parentCode_zero (c : Nat) : parentCode c = 0 ↔ c = 0 := by
  rw [parentCode_eq]
  split <;> simp [*]

theorem parentCode_cases (c : Nat) : parentCode c = 0 ∨ parentCode c = 111 := by
  rw [parentCode_eq]
  split
  · exact Or.inl rfl
  · exact Or.inr rfl

theorem armed_inChild (pc : PC) (h : armed pc = true) : inChild pc = true := by
  cases pc <;> first | rfl | cases h

theorem forked_of_inChild (p : Params) (s : St) (fs : FS) (l : Option Ev) (h : PcInv p s fs l) (hc : inChild s.pc = true) :
    s.forked = true := by
  unfold PcInv at h
  cases hp : s.pc with
  | arm _ | opening _ | nap _ | failUnlink _ | dying _ => rw [hp] at h; exact h.2.2
  | copy | closing | linking => rw [hp] at h; exact h.2.2.1
  | unlinkOk => rw [hp] at h; exact h.2
  | start | waited _ | killed | done _ => rw [hp] at hc; cases hc

/-- whatever is visible in new/ after the event is complete: the events that change content or sync state (`openExcl`, `write`,
`fsync`) are accepted only while nothing is visible, and `link` only when the file is complete -/
theorem step_vis (p : Params) (s s' : St) (fs : FS) (l : Option Ev) (e : Ev)
    (hinv : MInv p s fs l) (hacc : accept p s e = some s') : (apply fs e).newName = true → Complete p (apply fs e) := by
  obtain ⟨hvis, hpc⟩ := hinv
  cases e with
  | openExcl ok exist =>
    simp only [accept] at hacc
    split at hacc
    · rename_i k h
      simp [PcInv, h, Hidden] at hpc
      cases ok <;> simp [apply, hpc.1]
    · cases hacc
  | write bs =>
    simp [PcInv, (of_ite_some hacc).1.1, Hidden] at hpc
    simp [apply, hpc.1]
  | fsync ok =>
    simp [PcInv, (of_ite_some hacc).1.1, Hidden] at hpc
    cases ok <;> simp [apply, hpc.1]
  | link ok =>
    simp [PcInv, (of_ite_some hacc).1, Hidden] at hpc
    cases ok with
    | true => intro _; simpa [apply, Complete] using hpc.2.1
    | false => simp [apply, hpc.1]
  | unlinkTmp ok => cases ok <;> simpa [apply, Complete] using hvis
  | _ => simpa [apply] using hvis

theorem step_inv (p : Params) (s s' : St) (fs : FS) (l : Option Ev) (e : Ev)
    (hinv : MInv p s fs l) (hacc : accept p s e = some s') : MInv p s' (apply fs e) (some e) := by
  refine ⟨step_vis p s s' fs l e hinv hacc, ?_⟩
  have hpc := hinv.2
  -- every case alike: `hacc` gives the control point `s.pc` at which `accept` admits the event, and `s'`; `PcInv` at
  -- that control point (`hpc`) says which names exist; `PcInv` after the event follows by computing `apply`
  cases e with
  | fork =>
    obtain ⟨h, rfl⟩ := of_ite_some hacc
    simp [PcInv, h] at hpc
    simp [PcInv, apply, hpc]
  | alarm n | sleep n =>
    simp only [accept] at hacc
    split at hacc
    · rename_i k h
      split at hacc
      · cases hacc
        simp [PcInv, h] at hpc
        simp [PcInv, apply, hpc]
      · cases hacc
    · cases hacc
  | openExcl ok exist =>
    simp only [accept] at hacc
    split at hacc
    · rename_i k h
      simp [PcInv, h, Hidden] at hpc
      obtain ⟨hn, hw, hf⟩ := hpc
      cases ok with
      | true =>
        simp at hacc; cases hacc
        simp [PcInv, apply, Hidden, hn, hw, hf]
      | false =>
        cases exist with
        | true =>
          simp at hacc
          split at hacc
          · cases hacc
            simp [PcInv, apply, hn, hf]
          · cases hacc
            simp [PcInv, apply, Hidden, hn, hw, hf]
        | false =>
          simp at hacc; cases hacc
          simp [PcInv, apply, hn, hf]
    · cases hacc
  | read n =>
    obtain ⟨h, rfl⟩ := of_ite_some hacc
    simp [PcInv, h.1] at hpc
    simp [PcInv, apply, h.1, hpc]
  | write bs =>
    obtain ⟨h, rfl⟩ := of_ite_some hacc
    simp [PcInv, h.1, Hidden] at hpc
    simp [PcInv, apply, h.1, Hidden, hpc]
  | readErr intr | writeErr intr =>
    obtain ⟨h, rfl⟩ := of_ite_some hacc
    simp [PcInv, h, Hidden] at hpc
    cases intr with
    | true => simp [PcInv, apply, h, Hidden, hpc]
    | false => simp [PcInv, apply, hpc]
  | fsync ok =>
    obtain ⟨h, rfl⟩ := of_ite_some hacc
    simp [PcInv, h.1, Hidden] at hpc
    obtain ⟨hn, hc, hf⟩ := hpc
    cases ok with
    | true => simp [PcInv, apply, Hidden, Complete, hn, hc, hf, h.2.2]
    | false => simp [PcInv, apply, hn, hf]
  | close ok =>
    obtain ⟨h, rfl⟩ := of_ite_some hacc
    simp [PcInv, h, Hidden] at hpc
    obtain ⟨hn, hc, hf⟩ := hpc
    cases ok with
    | true => simp [PcInv, apply, Hidden, hn, hc, hf]
    | false => simp [PcInv, apply, hn, hf]
  | link ok =>
    obtain ⟨h, rfl⟩ := of_ite_some hacc
    simp [PcInv, h, Hidden] at hpc
    obtain ⟨hn, hc, hf⟩ := hpc
    cases ok with
    | true => simp [PcInv, apply, hf]
    | false => simp [PcInv, apply, hn, hf]
  | unlinkTmp ok =>
    simp only [accept] at hacc
    split at hacc
    · rename_i h; cases hacc
      simp [PcInv, h] at hpc
      cases ok <;> simp [PcInv, apply, hpc]
    · rename_i c h; cases hacc
      simp [PcInv, h] at hpc
      cases ok <;> simp [PcInv, apply, hpc] <;> exact hpc.2.1
    · cases hacc
  | sigAlarm =>
    obtain ⟨h, rfl⟩ := of_ite_some hacc
    have hf := forked_of_inChild p s fs l hpc (armed_inChild _ h)
    simp [PcInv, apply, hf]
  | childExit code =>
    simp only [accept] at hacc
    split at hacc
    · rename_i c h
      split at hacc
      · rename_i hc; cases hacc; subst hc
        simp [PcInv, h] at hpc
        simpa [PcInv, apply] using hpc
      · cases hacc
    · rename_i h
      split at hacc
      · rename_i hc; cases hacc
        simp [PcInv, h, Hidden] at hpc
        have hne : code ≠ 0 := by rcases hc.2 with h1 | h1 <;> omega
        simp [PcInv, apply, hpc, hne]
      · cases hacc
    · cases hacc
  | childKilled =>
    obtain ⟨h, rfl⟩ := of_ite_some hacc
    have hf := forked_of_inChild p s fs l hpc h
    simp [PcInv, apply, hf]
  | parentExit code =>
    simp only [accept] at hacc
    split at hacc
    · rename_i h
      split at hacc
      · rename_i hc; cases hacc
        simp [PcInv, h, Hidden] at hpc
        simp [PcInv, apply, hpc, hc]
      · cases hacc
    · rename_i c h
      split at hacc
      · rename_i hc; cases hacc
        simp [PcInv, h] at hpc
        obtain ⟨h0, h1, hf⟩ := hpc
        simp only [PcInv, apply]
        refine ⟨?_, ?_, ?_⟩
        · intro hz; exact h0 ((parentCode_zero c).1 (hc ▸ hz))
        · intro hz; exact h1 (fun hc0 => hz (hc ▸ (parentCode_zero c).2 hc0))
        · intro _; rw [hc]; exact parentCode_cases c
      · cases hacc
    · rename_i h
      split at hacc
      · rename_i hc; cases hacc
        simp [PcInv, h] at hpc
        simp [PcInv, apply, hpc, hc, Gen.LocalExit.childCrashedCode]
        exact hpc.1
      · cases hacc
    · cases hacc

/-! ### runs and the file in terms of the events so far -/

theorem acceptAll_eq (p : Params) : ∀ (evs : List Ev) (s : St), acceptAll p s evs = evs.foldlM (accept p) s :=
  Acceptor.eq_foldlM (fun _ => rfl) (fun s e es => by rw [acceptAll]; cases accept p s e <;> rfl)

theorem applyAll_eq : ∀ (evs : List Ev) (fs : FS), applyAll fs evs = evs.foldl apply fs
  | [], _ => rfl
  | e :: es, fs => applyAll_eq es (apply fs e)

theorem applyAll_snoc (evs : List Ev) (e : Ev) (fs : FS) : applyAll fs (evs ++ [e]) = apply (applyAll fs evs) e := by
  rw [applyAll_eq, applyAll_eq, List.foldl_append]; rfl

theorem apply_newName (fs : FS) (e : Ev) : (apply fs e).newName = (fs.newName || decide (e = .link true)) := by
  cases e with
  | link ok => cases ok <;> simp [apply]
  | openExcl ok ex => cases ok <;> simp [apply]
  | fsync ok => cases ok <;> simp [apply]
  | unlinkTmp ok => cases ok <;> simp [apply]
  | _ => simp [apply]

theorem applyAll_newName (evs : List Ev) : ∀ (fs : FS),
    (applyAll fs evs).newName = (fs.newName || decide (Ev.link true ∈ evs)) := by
  induction evs with
  | nil => intro fs; simp [applyAll]
  | cons e es ih =>
    intro fs
    simp only [applyAll]
    rw [ih, apply_newName]
    by_cases h : e = .link true
    · subst h; simp
    · have h' : ¬ (Ev.link true = e) := fun x => h x.symm
      simp [h, h']

/-! ### the invariant of a run: state against history -/

/-- after the events `h`: the invariant for the file they produce, and at most one of them is a successful `link` -/
def RInv (p : Params) (s : St) (h : List Ev) : Prop :=
  MInv p s (applyAll {} h) h.getLast? ∧ h.count (Ev.link true) ≤ 1

theorem accept_link_pc (p : Params) (s s' : St) (ok : Bool) (h : accept p s (.link ok) = some s') : s.pc = .linking :=
  (of_ite_some h).1

theorem rinv_step (p : Params) (s : St) (h : List Ev) (e : Ev) (s' : St) (hinv : RInv p s h)
    (hacc : accept p s e = some s') : RInv p s' (h ++ [e]) := by
  refine ⟨?_, ?_⟩
  · rw [applyAll_snoc, List.getLast?_concat]
    exact step_inv p s s' _ _ e hinv.1 hacc
  · rw [List.count_append]
    by_cases hel : e = .link true
    · -- `link` is accepted at `linking` only, where nothing is in new/ yet: no `link` among the events before
      subst hel
      have hp := hinv.1.2
      simp [PcInv, accept_link_pc p s s' true hacc, Hidden, applyAll_newName] at hp
      simp [List.count_eq_zero.mpr hp.1]
    · have : [e].count (Ev.link true) = 0 := List.count_eq_zero.mpr (by simpa using fun x => hel x.symm)
      have := hinv.2
      omega

theorem run_inv (p : Params) (evs : List Ev) (s : St) (h : acceptAll p {} evs = some s) : RInv p s evs := by
  rw [acceptAll_eq] at h
  simpa using Acceptor.foldlM_hist (RInv p) (rinv_step p) evs {} s [] ⟨inv_init p, by simp⟩ h

/-! ### how the `link` is reached -/

theorem link_reach (p : Params) (evs : List Ev) (s : St) (h : acceptAll p {} (evs ++ [.link true]) = some s) :
    (applyAll {} evs).tmpName = true ∧ (applyAll {} evs).newName = false ∧ (applyAll {} evs).cur = p.content ∧
    (applyAll {} evs).synced = true ∧ evs.getLast? = some (.close true) := by
  rw [acceptAll_eq, Acceptor.foldlM_concat] at h
  obtain ⟨s1, h1, hl⟩ := h
  have hp := (run_inv p evs s1 ((acceptAll_eq p evs {}).trans h1)).1.2
  simp [PcInv, accept_link_pc p s1 s true hl, Hidden, Complete] at hp
  exact ⟨hp.2.2.2.1, hp.1, hp.2.1.1, hp.2.1.2, hp.2.2.2.2⟩

theorem apply_tmpName_unlink (fs : FS) (e : Ev) (h : e ≠ .unlinkTmp true) (ht : fs.tmpName = true) :
    (apply fs e).tmpName = true := by
  cases e with
  | unlinkTmp ok => cases ok <;> simp_all [apply]
  | link ok => cases ok <;> simp [apply, ht]
  | openExcl ok ex => cases ok <;> simp [apply, ht]
  | fsync ok => cases ok <;> simp [apply, ht]
  | _ => simp [apply, ht]

theorem link_once (p : Params) : ∀ (n : Nat) (evs : List Ev), evs.length = n → ∀ s, acceptAll p {} evs = some s →
    evs.count (Ev.link true) ≤ 1 :=
  fun _ evs _ s h => (run_inv p evs s h).2

end Nq.Lemmas.LD.Md
