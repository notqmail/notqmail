/-
  Lemmas for C13: what `Nq.Local.run` leaves in `sel`, `dfltEnv` ($DEFAULT) and `ueo` ($NEWSENDER).
-/
import Nq.Lemmas.Local

namespace Nq.Lemmas.LocalEnvRun
open Nq Nq.Local Nq.Gen.LocalExit Nq.Lemmas.Local

/-- the three fields of a result that end up in the environment -/
structure EnvFacts (a : Args) (w : World) (r : Result) : Prop where
  dflt : match r.sel with
    | some c => c ∈ qmeCandidates a.dash (safeext a.ext) ∧ r.dfltEnv = c.dflt.map (fun i => a.ext.drop i)
    | none => r.dfltEnv = none
  ueo : match r.ueo with
    | none => r.effects = []
    | some u => ueoOf a.loc a.dash (safeext a.ext) a.host a.sender w.ex = .ok u

theorem envFacts_deliver (a : Args) (w : World) (cmds : Bytes) (fo : Bool) (r : Result) (u : Bytes)
    (h1 : match r.sel with
      | some c => c ∈ qmeCandidates a.dash (safeext a.ext) ∧ r.dfltEnv = c.dflt.map (fun i => a.ext.drop i)
      | none => r.dfltEnv = none)
    (h2 : r.ueo = some u) (h3 : ueoOf a.loc a.dash (safeext a.ext) a.host a.sender w.ex = .ok u) :
    EnvFacts a w (deliver a w cmds fo r) := by
  obtain ⟨_, _, k3, k2, k1⟩ := deliver_keeps a w cmds fo r
  exact ⟨by rw [k2, k3]; exact h1, by rw [k1, h2]; exact h3⟩

theorem run_envFacts (a : Args) (w : World) : EnvFacts a w (run a w) := by
  rcases run_shape a w with ⟨_, _, _, _, _, sel, e, _, _, _, _, hm⟩ | ⟨_, sel, u, cmds, fo, e, hu, hm, _⟩
  · rw [e]
    cases sel with
    | none => exact ⟨rfl, rfl⟩
    | some c => exact ⟨⟨hm c rfl, rfl⟩, rfl⟩
  · rw [e]
    apply envFacts_deliver a w cmds fo _ u _ rfl hu
    cases sel with
    | none => exact rfl
    | some c => exact ⟨hm c rfl, rfl⟩

end Nq.Lemmas.LocalEnvRun
