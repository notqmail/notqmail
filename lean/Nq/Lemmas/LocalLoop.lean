/-
  The instruction loop of qmail-local (`Nq.Local.dispatch`), for C13: what acting upon one instruction yields (`verdictOf`,
  `dispatch_act`); order, forward-only state; one line, then the rest (`dispatch_cons_eq`), the loop stops at the *first*
  line that does not run through (`dispatch_append`, `dispatch_split`) and what a single line can do (`line_stops`);
  every instruction acted upon succeeded unless the loop ended in a failure (`dispatch_all_ok`); the loop is the
  documented walk `LocalSpec.walk` (`walk_core`, `walk_init`).
-/
import Nq.Lemmas.Local

namespace Nq.Lemmas.Local
open Nq Nq.Local Nq.Gen.LocalExit

@[simp] theorem cons_did (i : Instr) (t : Trace) : (t.cons i).did = i :: t.did := rfl
@[simp] theorem cons_fin (i : Instr) (t : Trace) : (t.cons i).fin = t.fin := rfl

theorem instrsOf_cons_act (raw : Bytes) (rest : List Bytes) (i : Instr) (h : classify raw = .act i) :
    instrsOf (raw :: rest) = i :: instrsOf rest := by
  simp [instrsOf, List.filterMap_cons, instrOf, h]

theorem instrsOf_cons_skip (raw : Bytes) (rest : List Bytes) (h : ∀ i, classify raw ≠ .act i) :
    instrsOf (raw :: rest) = instrsOf rest := by
  cases hc : classify raw with
  | act i => exact absurd hc (h i)
  | _ => simp [instrsOf, List.filterMap_cons, instrOf, hc]

theorem instrsOf_append (a b : List Bytes) : instrsOf (a ++ b) = instrsOf a ++ instrsOf b := by
  simp [instrsOf, List.filterMap_append]

def verdictOf (px : Bytes → PRes) (dx : Instr → Option Why) : Instr → Option Fin
  | .program c =>
    match px (cstr c) with
    | .crashed => some (.die .childCrashed)
    | .exited code =>
      match progClass code with
      | .ok => none
      | .stop99 => some .stop99
      | .exit e => some (.die (.progExit e))
  | .forward _ => none
  | i => (dx i).map .die

theorem verdictOf_ne_done (px : Bytes → PRes) (dx : Instr → Option Why) (i : Instr) : verdictOf px dx i ≠ some .done := by
  cases i with
  | program c =>
    cases hp : px (cstr c) with
    | crashed => simp [verdictOf, hp]
    | exited code => cases hk : progClass code <;> simp [verdictOf, hp, hk]
  | forward a => simp [verdictOf]
  | mbox f => cases hd : dx (.mbox f) <;> simp [verdictOf, hd]
  | maildir f => cases hd : dx (.maildir f) <;> simp [verdictOf, hd]

theorem dispatch_act (px : Bytes → PRes) (dx : Instr → Option Why) (raw : Bytes) (rest : List Bytes) (first fo : Bool)
    (i : Instr) (hc : classify raw = .act i) :
    dispatch px dx first fo (raw :: rest) =
      if fo = true ∧ isForward i = false then ⟨[], .die (if isProgram i then .xbitProg else .xbitFile)⟩
      else match verdictOf px dx i with
        | none => (dispatch px dx false fo rest).cons i
        | some f => ⟨[i], f⟩ := by
  rw [dispatch, hc]
  cases i with
  | forward a => cases fo <;> rfl
  | program c =>
    cases fo
    · cases hp : px (cstr c) with
      | crashed => simp [verdictOf, hp]
      | exited code => cases hk : progClass code <;> simp [verdictOf, hp, hk]
    · rfl
  | mbox f =>
    cases fo
    · cases hd : dx (.mbox f) <;> simp [verdictOf, hd]
    · rfl
  | maildir f =>
    cases fo
    · cases hd : dx (.maildir f) <;> simp [verdictOf, hd]
    · rfl

theorem dispatch_prefix (px : Bytes → PRes) (dx : Instr → Option Why) :
    ∀ (lines : List Bytes) (first fo : Bool), (dispatch px dx first fo lines).did <+: instrsOf lines
  | [], _, _ => by simp [dispatch, instrsOf]
  | raw :: rest, first, fo => by
    cases hc : classify raw with
    | blank =>
      rw [dispatch, hc, instrsOf_cons_skip raw rest (by simp [hc])]
      dsimp only
      split
      · exact List.nil_prefix
      · exact dispatch_prefix px dx rest false fo
    | comment => rw [dispatch, hc, instrsOf_cons_skip raw rest (by simp [hc])]; exact dispatch_prefix px dx rest false fo
    | plusOther => rw [dispatch, hc, instrsOf_cons_skip raw rest (by simp [hc])]; exact dispatch_prefix px dx rest false fo
    | list => rw [dispatch, hc, instrsOf_cons_skip raw rest (by simp [hc])]; exact dispatch_prefix px dx rest false true
    | act i =>
      rw [instrsOf_cons_act raw rest i hc, dispatch_act px dx raw rest first fo i hc]
      split
      · exact List.nil_prefix
      · split
        · exact (List.prefix_cons_inj i).2 (dispatch_prefix px dx rest false fo)
        · simp

theorem dispatch_forwardonly (px : Bytes → PRes) (dx : Instr → Option Why) :
    ∀ (lines : List Bytes) (first : Bool), ∀ i ∈ (dispatch px dx first true lines).did, isForward i = true
  | [], _ => by simp [dispatch]
  | raw :: rest, first => by
    unfold dispatch
    cases hc : classify raw with
    | blank =>
      simp only
      split
      · simp
      · exact dispatch_forwardonly px dx rest false
    | comment => exact dispatch_forwardonly px dx rest false
    | plusOther => exact dispatch_forwardonly px dx rest false
    | list => exact dispatch_forwardonly px dx rest false
    | act i =>
      cases i with
      | forward a =>
        simp only [cons_did, List.mem_cons]
        rintro i (rfl | h)
        · rfl
        · exact dispatch_forwardonly px dx rest false i h
      | program c => simp
      | mbox f => simp
      | maildir f => simp

/-- `first`: no line has been read yet; a blank first line is an error of its own, so it is excluded from `pre` -/
theorem dispatch_forwardonly_refuses (px : Bytes → PRes) (dx : Instr → Option Why) :
    ∀ (pre : List Bytes) (raw : Bytes) (post : List Bytes) (first : Bool) (i : Instr),
      (∀ l ∈ pre, ∀ j, classify l = .act j → isForward j = true) → (first = true → ∀ l ∈ pre.head?, classify l ≠ .blank) →
      classify raw = .act i → isForward i = false →
      (dispatch px dx first true (pre ++ raw :: post)).fin = .die (if isProgram i then .xbitProg else .xbitFile)
  | [], raw, post, first, i, _, _, hc, hi => by
    rw [List.nil_append, dispatch_act px dx raw post first true i hc, if_pos ⟨rfl, hi⟩]
  | l :: pre, raw, post, first, i, hpre, hfirst, hc, hi => by
    have ih := dispatch_forwardonly_refuses px dx pre raw post false i
      (fun l' h => hpre l' (List.mem_cons_of_mem _ h)) (by simp) hc hi
    simp only [List.cons_append]
    unfold dispatch
    cases hl : classify l with
    | blank =>
      simp only
      split
      · rename_i hf
        exact absurd hl (hfirst hf l (by simp))
      · exact ih
    | comment => exact ih
    | plusOther => exact ih
    | list => exact ih
    | act j =>
      have := hpre l (List.mem_cons_self ..) j hl
      cases j with
      | forward a => simpa using ih
      | program c => simp [isForward] at this
      | mbox f => simp [isForward] at this
      | maildir f => simp [isForward] at this

/-! ### the loop stops at the first line that does not run through -/

/-- the line is `+list` -/
def isListLine (raw : Bytes) : Bool :=
  match classify raw with
  | .list => true
  | _ => false

/-- `flagforwardonly` after the lines `pre` have been read -/
def foAfter (fo : Bool) (pre : List Bytes) : Bool := fo || pre.any isListLine

theorem foAfter_nil (fo : Bool) : foAfter fo [] = fo := by simp [foAfter]

theorem foAfter_cons (fo : Bool) (raw : Bytes) (pre : List Bytes) :
    foAfter fo (raw :: pre) = foAfter (fo || isListLine raw) pre := by
  simp [foAfter, Bool.or_assoc]

/-- what "succeeded" means for an instruction that was acted on: a command ran and exited with a code of the
"continue" or "stop" class; a file delivery reported no failure; a forward line is only collected -/
def Succeeded (px : Bytes → PRes) (dx : Instr → Option Why) : Instr → Prop
  | .program c => ∃ code, px (cstr c) = .exited code ∧ (progClass code = .ok ∨ progClass code = .stop99)
  | .mbox f => dx (.mbox f) = none
  | .maildir f => dx (.maildir f) = none
  | .forward _ => True

theorem verdictOf_cases (px : Bytes → PRes) (dx : Instr → Option Why) (i : Instr) :
    match verdictOf px dx i with
    | none => Succeeded px dx i
    | some .done => False
    | some .stop99 => ∃ c code, i = .program c ∧ px (cstr c) = .exited code ∧ progClass code = .stop99
    | some (.die y) =>
      (∃ c, i = .program c ∧
        ((px (cstr c) = .crashed ∧ y = .childCrashed) ∨
         (∃ code e, px (cstr c) = .exited code ∧ progClass code = .exit e ∧ y = .progExit e))) ∨
      (isFile i = true ∧ dx i = some y) := by
  cases i with
  | forward a => trivial
  | program c =>
    cases hp : px (cstr c) with
    | crashed =>
      rw [show verdictOf px dx (.program c) = some (.die .childCrashed) by simp [verdictOf, hp]]
      exact Or.inl ⟨c, rfl, Or.inl ⟨hp, rfl⟩⟩
    | exited code =>
      cases hk : progClass code with
      | ok =>
        rw [show verdictOf px dx (.program c) = none by simp [verdictOf, hp, hk]]
        exact ⟨code, hp, Or.inl hk⟩
      | stop99 =>
        rw [show verdictOf px dx (.program c) = some .stop99 by simp [verdictOf, hp, hk]]
        exact ⟨c, code, rfl, hp, hk⟩
      | exit e =>
        rw [show verdictOf px dx (.program c) = some (.die (.progExit e)) by simp [verdictOf, hp, hk]]
        exact Or.inl ⟨c, rfl, Or.inr ⟨code, e, hp, hk, rfl⟩⟩
  | mbox f =>
    rw [show verdictOf px dx (.mbox f) = (dx (.mbox f)).map .die from rfl]
    cases hd : dx (.mbox f) with
    | none => exact hd
    | some y => exact Or.inr ⟨rfl, rfl⟩
  | maildir f =>
    rw [show verdictOf px dx (.maildir f) = (dx (.maildir f)).map .die from rfl]
    cases hd : dx (.maildir f) with
    | none => exact hd
    | some y => exact Or.inr ⟨rfl, rfl⟩

theorem dispatch_cons_eq (px : Bytes → PRes) (dx : Instr → Option Why) (raw : Bytes) (rest : List Bytes) (first fo : Bool) :
    dispatch px dx first fo (raw :: rest) =
      if (dispatch px dx first fo [raw]).fin = .done then
        ⟨(dispatch px dx first fo [raw]).did ++ (dispatch px dx false (fo || isListLine raw) rest).did,
         (dispatch px dx false (fo || isListLine raw) rest).fin⟩
      else dispatch px dx first fo [raw] := by
  cases hc : classify raw with
  | blank => cases first <;> simp [dispatch, hc, isListLine]
  | comment => simp [dispatch, hc, isListLine]
  | plusOther => simp [dispatch, hc, isListLine]
  | list => simp [dispatch, hc, isListLine]
  | act i =>
    have hl : isListLine raw = false := by simp [isListLine, hc]
    rw [dispatch_act px dx raw rest first fo i hc, dispatch_act px dx raw [] first fo i hc, hl]
    by_cases hcnd : fo = true ∧ isForward i = false
    · simp only [if_pos hcnd]; simp
    · simp only [if_neg hcnd]
      cases hv : verdictOf px dx i with
      | none => simp [dispatch, Trace.cons]
      | some f =>
        have : f ≠ .done := fun e => verdictOf_ne_done px dx i (e ▸ hv)
        simp [this]

theorem line_done (px : Bytes → PRes) (dx : Instr → Option Why) (raw : Bytes) (first fo : Bool)
    (h : (dispatch px dx first fo [raw]).fin = .done) : (dispatch px dx first fo [raw]).did = instrsOf [raw] := by
  cases hc : classify raw with
  | act i =>
    rw [instrsOf_cons_act raw [] i hc]
    rw [dispatch_act px dx raw [] first fo i hc] at h ⊢
    by_cases hcnd : fo = true ∧ isForward i = false
    · rw [if_pos hcnd] at h; cases h
    · rw [if_neg hcnd] at h ⊢
      cases hv : verdictOf px dx i with
      | none => rfl
      | some f => rw [hv] at h; exact absurd (h ▸ hv) (verdictOf_ne_done px dx i)
  | blank =>
    rw [dispatch, hc] at h ⊢
    rw [instrsOf_cons_skip raw [] (by simp [hc])]
    cases first
    · rfl
    · cases h
  | comment => rw [dispatch, hc, instrsOf_cons_skip raw [] (by simp [hc])]; rfl
  | plusOther => rw [dispatch, hc, instrsOf_cons_skip raw [] (by simp [hc])]; rfl
  | list => rw [dispatch, hc, instrsOf_cons_skip raw [] (by simp [hc])]; rfl

theorem dispatch_append (px : Bytes → PRes) (dx : Instr → Option Why) :
    ∀ (pre rest : List Bytes) (first fo : Bool), (dispatch px dx first fo pre).fin = .done →
      dispatch px dx first fo (pre ++ rest) =
        ⟨instrsOf pre ++ (dispatch px dx (first && pre.isEmpty) (foAfter fo pre) rest).did,
         (dispatch px dx (first && pre.isEmpty) (foAfter fo pre) rest).fin⟩
  | [], rest, first, fo, _ => by simp [foAfter_nil, instrsOf]
  | raw :: pre, rest, first, fo, h => by
    rw [dispatch_cons_eq] at h
    by_cases h1 : (dispatch px dx first fo [raw]).fin = .done
    · simp only [h1, if_true] at h
      have ih := dispatch_append px dx pre rest false (fo || isListLine raw) h
      have hd1 : (dispatch px dx first fo [raw]).did = instrsOf [raw] := line_done px dx raw first fo h1
      rw [List.cons_append, dispatch_cons_eq]
      simp only [h1, if_true]
      rw [ih, hd1, foAfter_cons]
      have : instrsOf (raw :: pre) = instrsOf [raw] ++ instrsOf pre := instrsOf_append [raw] pre
      simp [this, List.append_assoc]
    · simp only [h1, if_false] at h

theorem dispatch_done (px : Bytes → PRes) (dx : Instr → Option Why) (lines : List Bytes) (first fo : Bool)
    (h : (dispatch px dx first fo lines).fin = .done) : (dispatch px dx first fo lines).did = instrsOf lines := by
  have := dispatch_append px dx lines [] first fo h
  rw [List.append_nil] at this
  rw [this]
  exact List.append_nil _

theorem dispatch_split (px : Bytes → PRes) (dx : Instr → Option Why) :
    ∀ (lines : List Bytes) (first fo : Bool), (dispatch px dx first fo lines).fin ≠ .done →
      ∃ pre raw post, lines = pre ++ raw :: post ∧ (dispatch px dx first fo pre).fin = .done ∧
        (dispatch px dx (first && pre.isEmpty) (foAfter fo pre) [raw]).fin = (dispatch px dx first fo lines).fin ∧
        (dispatch px dx first fo lines).did =
          instrsOf pre ++ (dispatch px dx (first && pre.isEmpty) (foAfter fo pre) [raw]).did
  | [], _, _, h => by simp [dispatch] at h
  | raw :: rest, first, fo, h => by
    by_cases h1 : (dispatch px dx first fo [raw]).fin = .done
    · have e := dispatch_append px dx [raw] rest first fo h1
      simp only [List.singleton_append, List.isEmpty_cons, Bool.and_false] at e
      have hne : (dispatch px dx false (foAfter fo [raw]) rest).fin ≠ .done := by
        intro hh; apply h; rw [e]; exact hh
      obtain ⟨pre, raw', post, e1, e2, e3, e4⟩ := dispatch_split px dx rest false (foAfter fo [raw]) hne
      have hpre : (dispatch px dx first fo (raw :: pre)).fin = .done := by
        have := dispatch_append px dx [raw] pre first fo h1
        simp only [List.singleton_append, List.isEmpty_cons, Bool.and_false] at this
        rw [this]; exact e2
      have hfo : foAfter fo (raw :: pre) = foAfter (foAfter fo [raw]) pre := by
        rw [foAfter_cons, foAfter_cons, foAfter_nil]
      refine ⟨raw :: pre, raw', post, by simp [e1], hpre, ?_, ?_⟩
      · simp only [List.isEmpty_cons, Bool.and_false, hfo]
        simp only [Bool.false_and] at e3
        rw [e3, e]
      · simp only [List.isEmpty_cons, Bool.and_false, hfo]
        simp only [Bool.false_and] at e4
        rw [e, e4]
        have : instrsOf (raw :: pre) = instrsOf [raw] ++ instrsOf pre := instrsOf_append [raw] pre
        simp [this, List.append_assoc]
    · refine ⟨[], raw, rest, rfl, rfl, ?_, ?_⟩
      · rw [dispatch_cons_eq px dx raw rest]; simp [h1, foAfter_nil]
      · rw [dispatch_cons_eq px dx raw rest]; simp [h1, foAfter_nil, instrsOf]

theorem line_stops (px : Bytes → PRes) (dx : Instr → Option Why) (raw : Bytes) (first fo : Bool) (f : Fin) (hf : f ≠ .done)
    (h : (dispatch px dx first fo [raw]).fin = f) :
    (classify raw = .blank ∧ first = true ∧ f = .die .blankFirst ∧ (dispatch px dx first fo [raw]).did = []) ∨
    (∃ i, classify raw = .act i ∧ isForward i = false ∧
      ((fo = true ∧ f = .die (if isProgram i then .xbitProg else .xbitFile) ∧ (dispatch px dx first fo [raw]).did = []) ∨
       (fo = false ∧ verdictOf px dx i = some f ∧ (dispatch px dx first fo [raw]).did = [i]))) := by
  cases hc : classify raw with
  | blank => cases first <;> simp_all [dispatch]
  | comment => simp [dispatch, hc] at h; exact absurd h.symm hf
  | plusOther => simp [dispatch, hc] at h; exact absurd h.symm hf
  | list => simp [dispatch, hc] at h; exact absurd h.symm hf
  | act i =>
    rw [dispatch_act px dx raw [] first fo i hc] at h ⊢
    by_cases hcnd : fo = true ∧ isForward i = false
    · rw [if_pos hcnd] at h ⊢
      exact Or.inr ⟨i, rfl, hcnd.2, Or.inl ⟨hcnd.1, h.symm, rfl⟩⟩
    · rw [if_neg hcnd] at h ⊢
      cases hvi : verdictOf px dx i with
      | none => simp [hvi, dispatch] at h; exact absurd h.symm hf
      | some g =>
        rw [hvi] at h
        cases (show g = f from h)
        -- a forward line has no verdict, and the state is not forward-only since the line was not refused
        have hi : isForward i = false := by cases i <;> first | rfl | cases hvi
        have hfo : fo = false := by cases fo <;> first | rfl | exact absurd ⟨rfl, hi⟩ hcnd
        exact Or.inr ⟨i, rfl, hi, Or.inr ⟨hfo, hvi, rfl⟩⟩

/-! ### every instruction acted upon succeeded, unless the loop ended in a failure -/

theorem dispatch_all_ok (px : Bytes → PRes) (dx : Instr → Option Why) :
    ∀ (lines : List Bytes) (first fo : Bool), (dispatch px dx first fo lines).fin.isDie = false →
      ∀ i ∈ (dispatch px dx first fo lines).did, Succeeded px dx i
  | [], _, _, _, i, hi => by simp [dispatch] at hi
  | raw :: rest, first, fo, h, i, hi => by
    have ih := dispatch_all_ok px dx rest
    cases hcl : classify raw with
    | blank =>
      cases first <;> simp [dispatch, hcl, Fin.isDie] at h hi
      exact ih _ _ h i hi
    | comment => simp [dispatch, hcl] at h hi; exact ih _ _ h i hi
    | plusOther => simp [dispatch, hcl] at h hi; exact ih _ _ h i hi
    | list => simp [dispatch, hcl] at h hi; exact ih _ _ h i hi
    | act j =>
      have goOn : (dispatch px dx false fo rest).fin.isDie = false → i ∈ j :: (dispatch px dx false fo rest).did →
          Succeeded px dx j → Succeeded px dx i := by
        intro h hi hj
        rcases List.mem_cons.1 hi with rfl | hi
        · exact hj
        · exact ih _ _ h i hi
      rw [dispatch_act px dx raw rest first fo j hcl] at h hi
      by_cases hcnd : fo = true ∧ isForward j = false
      · rw [if_pos hcnd] at h; cases h
      · rw [if_neg hcnd] at h hi
        have hv := verdictOf_cases px dx j
        cases hvj : verdictOf px dx j with
        | none => rw [hvj] at h hi hv; exact goOn h hi hv
        | some f =>
          rw [hvj] at h hi hv
          cases List.mem_singleton.1 hi
          cases f with
          | done => exact hv.elim
          | die y => cases h
          | stop99 =>
            obtain ⟨c, code, rfl, hp, hk⟩ := hv
            exact ⟨code, hp, Or.inr hk⟩

theorem progClass_spec (code : Nat) :
    progClass code = (match LocalSpec.exitVerdict code with
      | .ok => .ok | .stop => .stop99 | .hard => .exit 100 | .soft => .exit 111) := by
  by_cases h : code ∈ progCases.map (·.1)
  · simp only [progCases, List.map, List.mem_cons, List.not_mem_nil, or_false] at h
    rcases h with rfl | rfl | rfl | rfl | rfl | rfl | rfl | rfl | rfl | rfl <;> rfl
  · -- a code the table does not list gets the default, and the documentation calls it a soft failure
    have hl : progCases.lookup code = none := by
      rw [List.lookup_eq_none_iff]
      intro p hp
      simpa using fun e => h (List.mem_map.2 ⟨p, hp, e.symm⟩)
    simp only [progCases, List.map, List.mem_cons, List.not_mem_nil, or_false, not_or] at h
    simp [progClass, hl, progDefault, LocalSpec.exitVerdict, h]

theorem progClass_exit_codes (code e : Nat) (h : progClass code = .exit e) : e = 100 ∨ e = 111 := by
  rw [progClass_spec] at h
  cases hv : LocalSpec.exitVerdict code <;> simp [hv] at h
  · exact Or.inl h.symm
  · exact Or.inr h.symm

theorem dispatch_done_ok (px : Bytes → PRes) (dx : Instr → Option Why) (pre : List Bytes) (first fo : Bool)
    (h : (dispatch px dx first fo pre).fin = .done) : ∀ i ∈ instrsOf pre, Succeeded px dx i := by
  intro i hi
  have := dispatch_all_ok px dx pre first fo (by rw [h]; rfl) i
  rw [dispatch_done px dx pre first fo h] at this
  exact this hi

theorem dispatch_99 (px : Bytes → PRes) (dx : Instr → Option Why) (lines : List Bytes) (first fo : Bool)
    (h : (dispatch px dx first fo lines).fin = .stop99) :
    ∃ pre raw post c code, lines = pre ++ raw :: post ∧ (dispatch px dx first fo pre).fin = .done ∧
      foAfter fo pre = false ∧ classify raw = .act (.program c) ∧
      px (cstr c) = .exited code ∧ progClass code = .stop99 ∧
      (dispatch px dx first fo lines).did = instrsOf pre ++ [.program c] ∧
      ∀ i ∈ instrsOf pre, Succeeded px dx i := by
  obtain ⟨pre, raw, post, e1, e2, e3, e4⟩ := dispatch_split px dx lines first fo (by rw [h]; simp)
  rw [h] at e3
  rcases line_stops px dx raw _ _ .stop99 nofun e3 with ⟨_, _, h3, _⟩ | ⟨i, hc, _, ⟨_, h3, _⟩ | ⟨hfo, hv, hd⟩⟩
  · cases h3
  · cases h3
  · have := verdictOf_cases px dx i
    rw [hv] at this
    obtain ⟨c, code, rfl, hp, hk⟩ := this
    exact ⟨pre, raw, post, c, code, e1, e2, hfo, hc, hp, hk, by rw [e4, hd], dispatch_done_ok px dx pre first fo e2⟩

theorem dispatch_stop99 (px : Bytes → PRes) (dx : Instr → Option Why) :
    ∀ (lines : List Bytes) (first fo : Bool), (dispatch px dx first fo lines).fin = .stop99 →
      ∃ pre raw post c code, lines = pre ++ raw :: post ∧ classify raw = .act (.program c) ∧
        px (cstr c) = .exited code ∧ progClass code = .stop99 ∧
        (dispatch px dx first fo lines).did = instrsOf pre ++ [.program c] := by
  intro lines first fo h
  obtain ⟨pre, raw, post, c, code, e, _, _, hc, hp, hk, hd, _⟩ := dispatch_99 px dx lines first fo h
  exact ⟨pre, raw, post, c, code, e, hc, hp, hk, hd⟩

theorem dispatch_failure (px : Bytes → PRes) (dx : Instr → Option Why) (lines : List Bytes) (first fo : Bool) (y : Why)
    (h : (dispatch px dx first fo lines).fin = .die y) :
    ∃ pre raw post, lines = pre ++ raw :: post ∧ (dispatch px dx first fo pre).fin = .done ∧
      (∀ i ∈ instrsOf pre, Succeeded px dx i) ∧
      ((classify raw = .blank ∧ first = true ∧ pre = [] ∧ y = .blankFirst ∧ (dispatch px dx first fo lines).did = []) ∨
       (∃ i, classify raw = .act i ∧ isForward i = false ∧ foAfter fo pre = true ∧
          y = (if isProgram i then .xbitProg else .xbitFile) ∧ (dispatch px dx first fo lines).did = instrsOf pre) ∨
       (∃ c, classify raw = .act (.program c) ∧ foAfter fo pre = false ∧
          ((px (cstr c) = .crashed ∧ y = .childCrashed) ∨
           (∃ code e, px (cstr c) = .exited code ∧ progClass code = .exit e ∧ y = .progExit e)) ∧
          (dispatch px dx first fo lines).did = instrsOf pre ++ [.program c]) ∨
       (∃ i, classify raw = .act i ∧ isFile i = true ∧ foAfter fo pre = false ∧ dx i = some y ∧
          (dispatch px dx first fo lines).did = instrsOf pre ++ [i])) := by
  obtain ⟨pre, raw, post, e1, e2, e3, e4⟩ := dispatch_split px dx lines first fo (by rw [h]; simp)
  rw [h] at e3
  refine ⟨pre, raw, post, e1, e2, dispatch_done_ok px dx pre first fo e2, ?_⟩
  rcases line_stops px dx raw _ _ (.die y) nofun e3 with ⟨h1, h2, h3, h4⟩ | ⟨i, h1, h2, ⟨h3, h4, h5⟩ | ⟨h3, hv, h5⟩⟩
  · left
    have hf : first = true ∧ pre.isEmpty = true := by simpa using h2
    have hp : pre = [] := by simpa using hf.2
    refine ⟨h1, hf.1, hp, Fin.die.inj h3, ?_⟩
    rw [e4, h4, hp]; simp [instrsOf]
  · right; left; exact ⟨i, h1, h2, h3, Fin.die.inj h4, by rw [e4, h5]; simp⟩
  · have := verdictOf_cases px dx i
    rw [hv] at this
    rcases this with ⟨c, rfl, hcr⟩ | ⟨hf, hd⟩
    · right; right; left; exact ⟨c, h1, h3, hcr, by rw [e4, h5]⟩
    · right; right; right; exact ⟨i, h1, hf, h3, hd, by rw [e4, h5]⟩

theorem dispatch_die (px : Bytes → PRes) (dx : Instr → Option Why) :
    ∀ (lines : List Bytes) (first fo : Bool) (y : Why), (dispatch px dx first fo lines).fin = .die y →
      ∃ pre raw post, lines = pre ++ raw :: post ∧
        ((dispatch px dx first fo lines).did = instrsOf pre ∨
          ∃ i, classify raw = .act i ∧ isForward i = false ∧ (dispatch px dx first fo lines).did = instrsOf pre ++ [i]) := by
  intro lines first fo y h
  obtain ⟨pre, raw, post, e, _, _, hcase⟩ := dispatch_failure px dx lines first fo y h
  refine ⟨pre, raw, post, e, ?_⟩
  rcases hcase with ⟨_, _, rfl, _, hd⟩ | ⟨i, _, _, _, _, hd⟩ | ⟨c, hc, _, _, hd⟩ | ⟨i, hc, hf, _, _, hd⟩
  · exact Or.inl hd
  · exact Or.inl hd
  · exact Or.inr ⟨.program c, hc, rfl, hd⟩
  · have hi : isForward i = false := by cases i <;> first | rfl | cases hf
    exact Or.inr ⟨i, hc, hi, hd⟩

/-- the diagnostic of a failed loop has a non-zero exit code (file deliveries: by hypothesis on the oracle) -/
theorem dispatch_die_code (px : Bytes → PRes) (dx : Instr → Option Why) (hnz : ∀ i y, isFile i = true → dx i = some y → y.code ≠ 0)
    (lines : List Bytes) (first fo : Bool) (y : Why) (h : (dispatch px dx first fo lines).fin = .die y) : y.code ≠ 0 := by
  obtain ⟨_, _, _, _, _, _, hcase⟩ := dispatch_failure px dx lines first fo y h
  rcases hcase with ⟨_, _, _, rfl, _⟩ | ⟨i, _, _, _, rfl, _⟩ | ⟨c, _, _, hc, _⟩ | ⟨i, _, hif, _, hd, _⟩
  · simp [Why.code, blankFirstCode]
  · split <;> simp [Why.code, xbitProgCode, xbitFileCode]
  · rcases hc with ⟨_, rfl⟩ | ⟨code, e, _, hk, rfl⟩
    · simp [Why.code, childCrashedCode]
    · rcases progClass_exit_codes code e hk with rfl | rfl <;> simp [Why.code]
  · exact hnz i y hif hd

/-! ### the instruction loop = the documented walk -/

def toRan : PRes → LocalSpec.Ran
  | .exited c => .exited c
  | .crashed => .crashed

def specOfInstr : Instr → LocalSpec.SInstr
  | .mbox f => .mbox f
  | .maildir f => .maildir f
  | .program c => .program c
  | .forward a => .forward a

def effOf : Instr → Option LocalSpec.Effect
  | .mbox f => some (.mbox (cstr f))
  | .maildir f => some (.maildir (cstr f))
  | .program c => some (.program (cstr c))
  | .forward _ => none

def finCode : Fin → Option Nat
  | .done => none
  | .stop99 => some 0
  | .die y => some y.code

theorem step_stopped (doit : Bool) (run : Bytes → LocalSpec.Ran) (fileOK : LocalSpec.SInstr → Nat)
    (w : LocalSpec.Walk) (i : LocalSpec.SInstr) (h : w.status.isSome = true) : LocalSpec.step doit run fileOK w i = w := by
  simp [LocalSpec.step, h]

theorem foldl_stopped (doit : Bool) (run : Bytes → LocalSpec.Ran) (fileOK : LocalSpec.SInstr → Nat) :
    ∀ (l : List LocalSpec.SInstr) (w : LocalSpec.Walk), w.status.isSome = true →
      l.foldl (LocalSpec.step doit run fileOK) w = w
  | [], _, _ => rfl
  | i :: l, w, h => by
    rw [List.foldl_cons, step_stopped doit run fileOK w i h]
    exact foldl_stopped doit run fileOK l w h

section
variable (doit : Bool) (run : Bytes → LocalSpec.Ran) (fileOK : LocalSpec.SInstr → Nat) (w : LocalSpec.Walk)
  (hw : w.status = none)
include hw

theorem step_nothing : LocalSpec.step doit run fileOK w .nothing = { w with first := false } := by
  simp [LocalSpec.step, hw]

theorem step_blank : LocalSpec.step doit run fileOK w .blank =
    if w.first then { w with first := false, status := some 111 } else { w with first := false } := by
  simp [LocalSpec.step, hw]

theorem step_list : LocalSpec.step doit run fileOK w .list = { w with first := false, forwardOnly := true } := by
  simp [LocalSpec.step, hw]

theorem step_forward (a : Bytes) : LocalSpec.step doit run fileOK w (.forward a) =
    { w with first := false, recips := LocalSpec.upToNul a :: w.recips, shown := .forward a :: w.shown } := by
  simp [LocalSpec.step, hw]

theorem step_refuse (hfo : w.forwardOnly = true) (i : Instr) (hi : isForward i = false) :
    LocalSpec.step doit run fileOK w (specOfInstr i) = { w with first := false, status := some 111 } := by
  cases i with
  | forward a => cases hi
  | _ => simp [LocalSpec.step, specOfInstr, hw, hfo]

end

/-- the relation between the final state of the documented walk, its start state, and the model's trace -/
def Rel (doit : Bool) (W w : LocalSpec.Walk) (t : Trace) : Prop :=
  W.shown = (t.did.map specOfInstr).reverse ++ w.shown ∧
  W.effects = (if doit then (t.did.filterMap effOf).reverse else []) ++ w.effects ∧
  W.recips = ((t.did.filterMap fwdAddr).map cstr).reverse ++ w.recips ∧
  W.status = finCode t.fin

/-- The loop is the documented walk, given that acting upon a file or program instruction is the documented step
(`hact`: the instruction is shown and, when delivering, recorded as an effect; the walk stops as the loop does). -/
theorem walk_core (doit : Bool) (run : Bytes → LocalSpec.Ran) (fileOK : LocalSpec.SInstr → Nat)
    (px : Bytes → PRes) (dx : Instr → Option Why)
    (hact : ∀ (w : LocalSpec.Walk) (i : Instr), isForward i = false → w.status = none → w.forwardOnly = false →
      LocalSpec.step doit run fileOK w (specOfInstr i) =
        { w with first := false, effects := (if doit then (effOf i).toList else []) ++ w.effects,
                 shown := specOfInstr i :: w.shown, status := (verdictOf px dx i).bind finCode }) :
    ∀ (lines : List Bytes) (w : LocalSpec.Walk), w.status = none →
      Rel doit ((lines.map LocalSpec.readLine).foldl (LocalSpec.step doit run fileOK) w) w
        (dispatch px dx w.first w.forwardOnly lines)
  | [], w, hw => by simp [Rel, dispatch, finCode, hw]
  | raw :: rest, w, hw => by
    have ih := walk_core doit run fileOK px dx hact rest
    simp only [List.map_cons, List.foldl_cons]
    rw [← classify_eq_spec raw]
    -- the walk goes on in state `w'`, the loop having acted upon the instructions `is` at this line
    have go : ∀ (w' : LocalSpec.Walk) (is : List Instr), w'.status = none → w'.first = false →
        w'.shown = (is.map specOfInstr).reverse ++ w.shown →
        w'.effects = (if doit then (is.filterMap effOf).reverse else []) ++ w.effects →
        w'.recips = ((is.filterMap fwdAddr).map cstr).reverse ++ w.recips →
        Rel doit ((rest.map LocalSpec.readLine).foldl (LocalSpec.step doit run fileOK) w') w
          ⟨is ++ (dispatch px dx false w'.forwardOnly rest).did, (dispatch px dx false w'.forwardOnly rest).fin⟩ := by
      intro w' is h1 h2 h4 h5 h6
      have := ih w' h1
      rw [h2] at this
      obtain ⟨a1, a2, a3, a4⟩ := this
      refine ⟨?_, ?_, ?_, a4⟩
      · rw [a1, h4]; simp
      · rw [a2, h5]; cases doit <;> simp
      · rw [a3, h6]; simp
    have stop : ∀ (w' : LocalSpec.Walk) (is : List Instr) (f : Fin), w'.status = finCode f → w'.status.isSome = true →
        w'.shown = (is.map specOfInstr).reverse ++ w.shown →
        w'.effects = (if doit then (is.filterMap effOf).reverse else []) ++ w.effects →
        w'.recips = ((is.filterMap fwdAddr).map cstr).reverse ++ w.recips →
        Rel doit ((rest.map LocalSpec.readLine).foldl (LocalSpec.step doit run fileOK) w') w ⟨is, f⟩ := by
      intro w' is f h1 h2 h4 h5 h6
      rw [foldl_stopped _ _ _ _ _ h2]
      exact ⟨h4, h5, h6, h1⟩
    cases hc : classify raw with
    | blank =>
      rw [dispatch, hc, specOfLine, step_blank _ _ _ _ hw]
      cases hf : w.first
      · exact go _ [] hw rfl rfl (by cases doit <;> rfl) rfl
      · exact stop _ [] (.die .blankFirst) rfl rfl rfl (by cases doit <;> rfl) rfl
    | comment =>
      rw [dispatch, hc, specOfLine, step_nothing _ _ _ _ hw]
      exact go _ [] hw rfl rfl (by cases doit <;> rfl) rfl
    | plusOther =>
      rw [dispatch, hc, specOfLine, step_nothing _ _ _ _ hw]
      exact go _ [] hw rfl rfl (by cases doit <;> rfl) rfl
    | list =>
      rw [dispatch, hc, specOfLine, step_list _ _ _ _ hw]
      exact go _ [] hw rfl rfl (by cases doit <;> rfl) rfl
    | act i =>
      have hsp : specOfLine (.act i) = specOfInstr i := by cases i <;> rfl
      have heff : (if doit then (effOf i).toList else []) = if doit then ([i].filterMap effOf).reverse else [] := by
        cases doit <;> cases h : effOf i <;> simp [h]
      rw [hsp]
      cases hi : isForward i
      · rw [dispatch_act px dx raw rest _ _ i hc]
        cases hfo : w.forwardOnly
        · rw [hact w i hi hw hfo, heff, if_neg fun h : false = true ∧ isForward i = false => Bool.false_ne_true h.1]
          have hrec : w.recips = (([i].filterMap fwdAddr).map cstr).reverse ++ w.recips := by
            cases i <;> first | rfl | cases hi
          cases hv : verdictOf px dx i with
          | none =>
            have := go { w with first := false, effects := (if doit then ([i].filterMap effOf).reverse else []) ++ w.effects,
                                  shown := specOfInstr i :: w.shown, status := none } [i] rfl rfl rfl rfl hrec
            rw [hfo] at this ⊢
            exact this
          | some f =>
            refine stop _ [i] f rfl ?_ rfl rfl hrec
            cases f <;> first | rfl | exact absurd hv (verdictOf_ne_done px dx i)
        · rw [step_refuse _ _ _ _ hw hfo i hi, if_pos ⟨rfl, hi⟩]
          refine stop _ [] _ ?_ rfl rfl (by cases doit <;> rfl) rfl
          cases i <;> rfl
      · cases i with
        | forward a =>
          rw [dispatch, hc, specOfInstr, step_forward _ _ _ _ hw]
          exact go _ [.forward a] hw rfl rfl (by cases doit <;> rfl) (by simp [fwdAddr, cstr_eq_spec])
        | _ => cases hi

theorem progClass_zero : progClass 0 = .ok := by decide

theorem act_doit (px : Bytes → PRes) (dx : Instr → Option Why) (fileOK : LocalSpec.SInstr → Nat)
    (hfile : ∀ i, isFile i = true → fileOK (specOfInstr i) = match dx i with | some y => y.code | none => 0)
    (hnz : ∀ i y, isFile i = true → dx i = some y → y.code ≠ 0)
    (w : LocalSpec.Walk) (i : Instr) (hi : isForward i = false) (hw : w.status = none) (hfo : w.forwardOnly = false) :
    LocalSpec.step true (fun c => toRan (px c)) fileOK w (specOfInstr i) =
      { w with first := false, effects := (if true then (effOf i).toList else []) ++ w.effects,
               shown := specOfInstr i :: w.shown, status := (verdictOf px dx i).bind finCode } := by
  cases i with
  | forward a => cases hi
  | program c =>
    cases hp : px (cstr c) with
    | crashed =>
      simp [LocalSpec.step, specOfInstr, hw, hfo, ← cstr_eq_spec, hp, toRan, verdictOf, effOf, finCode, Why.code, childCrashedCode]
    | exited code =>
      cases hv : LocalSpec.exitVerdict code <;>
        simp [LocalSpec.step, specOfInstr, hw, hfo, ← cstr_eq_spec, hp, toRan, verdictOf, progClass_spec, hv, effOf, finCode, Why.code]
  | mbox f =>
    -- The documented step stops iff `fileOK i ≠ 0`, the loop iff `dx i` reports a failure: `hf` makes `fileOK i` the exit
    -- code of that failure (0 if none), non-zero by `hnz`, so both stop together and with the same code. `hf` is simplified
    -- too (`at hf`), since its `specOfInstr (.mbox f)` has to become `.mbox f` before it can rewrite the goal.
    have hf := hfile (.mbox f) rfl
    cases hd : dx (.mbox f) with
    | none => rw [hd] at hf; simp [LocalSpec.step, specOfInstr, hw, hfo, hf, verdictOf, hd, effOf, cstr_eq_spec] at hf ⊢
    | some y =>
      rw [hd] at hf
      have hy := hnz _ y rfl hd
      simp [LocalSpec.step, specOfInstr, hw, hfo, hf, hy, verdictOf, hd, effOf, finCode, cstr_eq_spec] at hf ⊢
  | maildir f =>
    have hf := hfile (.maildir f) rfl
    cases hd : dx (.maildir f) with
    | none => rw [hd] at hf; simp [LocalSpec.step, specOfInstr, hw, hfo, hf, verdictOf, hd, effOf, cstr_eq_spec] at hf ⊢
    | some y =>
      rw [hd] at hf
      have hy := hnz _ y rfl hd
      simp [LocalSpec.step, specOfInstr, hw, hfo, hf, hy, verdictOf, hd, effOf, finCode, cstr_eq_spec] at hf ⊢

/-- `-n`: nothing is run, the instruction is only shown; the loop goes on as if everything had succeeded -/
theorem act_n (run : Bytes → LocalSpec.Ran) (fileOK : LocalSpec.SInstr → Nat)
    (w : LocalSpec.Walk) (i : Instr) (hi : isForward i = false) (hw : w.status = none) (hfo : w.forwardOnly = false) :
    LocalSpec.step false run fileOK w (specOfInstr i) =
      { w with first := false, effects := (if false then (effOf i).toList else []) ++ w.effects,
               shown := specOfInstr i :: w.shown,
               status := (verdictOf (fun _ => .exited 0) (fun _ => none) i).bind finCode } := by
  cases i with
  | forward a => cases hi
  | _ => simp [LocalSpec.step, specOfInstr, hw, hfo, verdictOf, progClass_zero]

/-- `walk_core` from the initial state, with the accumulators turned round -/
theorem walk_init (doit : Bool) (run : Bytes → LocalSpec.Ran) (fileOK : LocalSpec.SInstr → Nat)
    (px : Bytes → PRes) (dx : Instr → Option Why)
    (hact : ∀ (w : LocalSpec.Walk) (i : Instr), isForward i = false → w.status = none → w.forwardOnly = false →
      LocalSpec.step doit run fileOK w (specOfInstr i) =
        { w with first := false, effects := (if doit then (effOf i).toList else []) ++ w.effects,
                 shown := specOfInstr i :: w.shown, status := (verdictOf px dx i).bind finCode })
    (lines : List Bytes) (fo : Bool) :
    (LocalSpec.walk doit fo run fileOK lines).shown.reverse = (dispatch px dx true fo lines).did.map specOfInstr ∧
    (LocalSpec.walk doit fo run fileOK lines).effects.reverse =
      (if doit then (dispatch px dx true fo lines).did.filterMap effOf else []) ∧
    (LocalSpec.walk doit fo run fileOK lines).recips.reverse = ((dispatch px dx true fo lines).did.filterMap fwdAddr).map cstr ∧
    (LocalSpec.walk doit fo run fileOK lines).status = finCode (dispatch px dx true fo lines).fin := by
  obtain ⟨h1, h2, h3, h4⟩ := walk_core doit run fileOK px dx hact lines { forwardOnly := fo } rfl
  unfold LocalSpec.walk
  rw [h1, h2, h3]
  exact ⟨by simp, by cases doit <;> simp, by simp, h4⟩

end Nq.Lemmas.Local
