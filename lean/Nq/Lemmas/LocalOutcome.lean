/-
  The outcome of a whole run of qmail-local (`Nq.Local.run`), for C13:

    * the output of a successful delivery begins with the counts line (`deliver_out_doit`, from `deliver_rec`);
    * `deliver` = `LocalSpec.follow` (`matches_deliver`) and, for `run` = `LocalSpec.outcome`, the plan and the sender
      (`plan_eq`, `senderFor_eq`);
    * every name opened or given to `stat` during a run is confined to the home directory;
    * following a text never gives the looping diagnostic (`deliver_why_ne_looping`).
-/
import Nq.Lemmas.LocalLoop

namespace Nq.Lemmas.Local
open Nq Nq.Local Nq.Gen.LocalExit

/-! ### after the loop -/

theorem dtrace_eq_dispatch (a : Args) (w : World) (cmds : Bytes) (fo : Bool) :
    ∃ px dx, dtrace a w cmds fo = dispatch px dx true fo (splitLines (fixup cmds)) ∧ ∀ i y, dx i = some y → w.dx i = some y := by
  unfold dtrace
  split
  · exact ⟨_, _, rfl, fun _ _ h => h⟩
  · exact ⟨_, _, rfl, fun _ _ h => nomatch h⟩

theorem dtrace_die_code (a : Args) (w : World) (cmds : Bytes) (fo : Bool)
    (hnz : ∀ i y, isFile i = true → w.dx i = some y → y.code ≠ 0) (y : Why) (h : (dtrace a w cmds fo).fin = .die y) :
    y.code ≠ 0 := by
  obtain ⟨px, dx, e, hdx⟩ := dtrace_eq_dispatch a w cmds fo
  rw [e] at h
  exact dispatch_die_code px dx (fun i z hi hz => hnz i z hi (hdx i z hz)) _ _ _ y h

theorem deliver_out_doit (a : Args) (w : World) (cmds : Bytes) (fo : Bool) (r : Result) (hd : a.doit = true)
    (hc : (deliver a w cmds fo r).why = none) (hr : r.why = none) :
    ∃ tail, (deliver a w cmds fo r).out = didLine (dtrace a w cmds fo).did ++ tail := by
  rw [deliver_rec] at hc ⊢
  dsimp only at hc ⊢
  cases hf : failureOf a w (dtrace a w cmds fo) with
  | some y => rw [hf] at hc; cases hc
  | none => exact ⟨_, by rw [if_pos hd, List.nil_append]; rfl⟩

/-! ### following a control file = the documented `follow` -/

/-- the documented "does this file delivery work" derived from the model's oracle -/
def fileCode (dx : Instr → Option Why) : LocalSpec.SInstr → Nat
  | .mbox f => match dx (.mbox f) with | some y => y.code | none => 0
  | .maildir f => match dx (.maildir f) with | some y => y.code | none => 0
  | _ => 0

theorem fileCode_spec (dx : Instr → Option Why) :
    ∀ i, isFile i = true → fileCode dx (specOfInstr i) = match dx i with | some y => y.code | none => 0
  | .mbox _, _ => rfl
  | .maildir _, _ => rfl
  | .program _, h => by simp [isFile] at h
  | .forward _, h => by simp [isFile] at h

/-- a model effect as a documented effect (`none`: a forward line is never "delivered") -/
def specEff : Effect → Option LocalSpec.Effect
  | .deliver (.mbox f) => some (.mbox f)
  | .deliver (.maildir f) => some (.maildir f)
  | .deliver (.program c) => some (.program c)
  | .deliver (.forward _) => none
  | .queue s rs => some (.queue s rs)

theorem specEff_deliveries : ∀ did : List Instr,
    ((did.filter (fun i => !isForward i)).map (fun i => Effect.deliver (cInstr i))).map specEff = (did.filterMap effOf).map some
  | [] => rfl
  | i :: did => by
    have ih := specEff_deliveries did
    cases i with
    | forward a => rw [List.filter_cons_of_neg (by show ¬ (false = true); decide), ih]; rfl
    | mbox f => rw [List.filter_cons_of_pos (by rfl), List.map_cons, List.map_cons, ih]; rfl
    | maildir f => rw [List.filter_cons_of_pos (by rfl), List.map_cons, List.map_cons, ih]; rfl
    | program c => rw [List.filter_cons_of_pos (by rfl), List.map_cons, List.map_cons, ih]; rfl

theorem specEff_made (doit : Bool) (did : List Instr) :
    (if doit then (did.filter (fun i => !isForward i)).map (fun i => Effect.deliver (cInstr i)) else []).map specEff =
      (if doit then did.filterMap effOf else []).map some := by
  cases doit
  · rfl
  · exact specEff_deliveries did

theorem count_spec (p : LocalSpec.SInstr → Bool) (q : Instr → Bool) (h : ∀ i, p (specOfInstr i) = q i) (did : List Instr) :
    ((did.map specOfInstr).filter p).length = (did.filter q).length := by
  rw [List.filter_map, List.length_map]
  exact congrArg (fun f => (did.filter f).length) (funext h)

theorem count_file : ∀ did : List Instr,
    ((did.map specOfInstr).filter (fun i => match i with | .mbox _ => true | .maildir _ => true | _ => false)).length =
      (did.filter isFile).length :=
  count_spec _ _ (fun i => by cases i <;> rfl)

theorem count_forward : ∀ did : List Instr,
    ((did.map specOfInstr).filter (fun i => match i with | .forward _ => true | _ => false)).length =
      (did.filter isForward).length :=
  count_spec _ _ (fun i => by cases i <;> rfl)

theorem count_program : ∀ did : List Instr,
    ((did.map specOfInstr).filter (fun i => match i with | .program _ => true | _ => false)).length =
      (did.filter isProgram).length :=
  count_spec _ _ (fun i => by cases i <;> rfl)

theorem walk_dtrace (a : Args) (w : World) (cmds : Bytes) (fo : Bool)
    (hnz : ∀ i y, isFile i = true → w.dx i = some y → y.code ≠ 0) :
    (LocalSpec.walk a.doit fo (fun c => toRan (w.px c)) (fileCode w.dx) (LocalSpec.instrLines cmds)).shown.reverse =
        (dtrace a w cmds fo).did.map specOfInstr ∧
    (LocalSpec.walk a.doit fo (fun c => toRan (w.px c)) (fileCode w.dx) (LocalSpec.instrLines cmds)).effects.reverse =
        (if a.doit then (dtrace a w cmds fo).did.filterMap effOf else []) ∧
    (LocalSpec.walk a.doit fo (fun c => toRan (w.px c)) (fileCode w.dx) (LocalSpec.instrLines cmds)).recips.reverse =
        ((dtrace a w cmds fo).did.filterMap fwdAddr).map cstr ∧
    (LocalSpec.walk a.doit fo (fun c => toRan (w.px c)) (fileCode w.dx) (LocalSpec.instrLines cmds)).status =
        finCode (dtrace a w cmds fo).fin := by
  rw [← splitLines_eq_spec]
  unfold dtrace
  cases a.doit with
  | true => exact walk_init true _ _ w.px w.dx (act_doit w.px w.dx _ (fileCode_spec w.dx) hnz) _ fo
  | false => exact walk_init false _ _ _ _ (act_n _ _) _ fo

theorem fwdCodes : fwdHardCode = 100 ∧ fwdSoftCode = 111 := by decide

/-- the counts of `LocalSpec.follow`: file, forward and program instructions among those acted upon -/
def countsOf (shown : List LocalSpec.SInstr) : Nat × Nat × Nat :=
  ((shown.filter (fun i => match i with | .mbox _ => true | .maildir _ => true | _ => false)).length,
   (shown.filter (fun i => match i with | .forward _ => true | _ => false)).length,
   (shown.filter (fun i => match i with | .program _ => true | _ => false)).length)

theorem countsOf_map (did : List Instr) :
    countsOf (did.map specOfInstr) = ((did.filter isFile).length, (did.filter isForward).length, (did.filter isProgram).length) := by
  rw [countsOf, count_file, count_forward, count_program]

/-- the last lines of `LocalSpec.follow`, as a function of what the walk produced -/
def finishSpec (doit : Bool) (snd : Bytes) (qc : Nat) (shown : List LocalSpec.SInstr) (effects : List LocalSpec.Effect)
    (recips : List Bytes) (status : Option Nat) : LocalSpec.Expect :=
  if (match status with | some c => c != 0 | none => false) = true then
    { code := status.getD 111, effects := effects, shown := shown, counts := countsOf shown }
  else if doit = true ∧ recips ≠ [] then
    { code := qc, effects := effects ++ [.queue snd recips], shown := shown, counts := countsOf shown }
  else { code := 0, effects := effects, shown := shown, counts := countsOf shown }

theorem follow_finish (doit fo : Bool) (text snd : Bytes) (run : Bytes → LocalSpec.Ran) (fileOK : LocalSpec.SInstr → Nat)
    (qc : Nat) :
    LocalSpec.follow doit fo text snd run fileOK qc =
      finishSpec doit snd qc (LocalSpec.walk doit fo run fileOK (LocalSpec.instrLines text)).shown.reverse
        (LocalSpec.walk doit fo run fileOK (LocalSpec.instrLines text)).effects.reverse
        (LocalSpec.walk doit fo run fileOK (LocalSpec.instrLines text)).recips.reverse
        (LocalSpec.walk doit fo run fileOK (LocalSpec.instrLines text)).status := by
  unfold LocalSpec.follow finishSpec
  have : ((LocalSpec.walk doit fo run fileOK (LocalSpec.instrLines text)).recips.reverse ≠ []) ↔
      ((LocalSpec.walk doit fo run fileOK (LocalSpec.instrLines text)).recips ≠ []) := by simp
  simp only [this]
  rfl

theorem finishSpec_failed (doit : Bool) (snd : Bytes) (qc : Nat) (shown : List LocalSpec.SInstr)
    (effects : List LocalSpec.Effect) (recips : List Bytes) (c : Nat) (hc : c ≠ 0) :
    finishSpec doit snd qc shown effects recips (some c) =
      { code := c, effects := effects, shown := shown, counts := countsOf shown } := by
  simp [finishSpec, hc]

theorem finishSpec_ok (doit : Bool) (snd : Bytes) (qc : Nat) (shown : List LocalSpec.SInstr)
    (effects : List LocalSpec.Effect) (recips : List Bytes) (f : Fin) (hf : f.isDie = false) :
    finishSpec doit snd qc shown effects recips (finCode f) =
      if doit = true ∧ recips ≠ [] then
        { code := qc, effects := effects ++ [.queue snd recips], shown := shown, counts := countsOf shown }
      else { code := 0, effects := effects, shown := shown, counts := countsOf shown } := by
  cases f <;> first | rfl | cases hf

/-! ### one whole delivery = the documented outcome -/

/-- the model's result `r` is the documented outcome `e`: exit code, effects in order, instructions acted upon, counts,
and what is printed (with `-n`: everything; when delivering and successful: the counts line first) -/
def Matches (doit : Bool) (r : Result) (e : LocalSpec.Expect) : Prop :=
  r.code = e.code ∧ r.effects.map specEff = e.effects.map some ∧ r.did.map specOfInstr = e.shown ∧
  e.counts = ((r.did.filter isFile).length, (r.did.filter isForward).length, (r.did.filter isProgram).length) ∧
  (doit = false → r.out = LocalSpec.printedN e) ∧
  (doit = true → e.code = 0 → ∃ tail, r.out = LocalSpec.didl e.counts ++ tail)

theorem Refused.matches {r : Result} {c : Nat} (h : Refused r c) (hz : c ≠ 0) (doit : Bool) :
    Matches doit r (LocalSpec.refuse c) := by
  obtain ⟨hc, he, hd, ho⟩ := h
  refine ⟨hc, by simp [he, LocalSpec.refuse], by simp [hd, LocalSpec.refuse], by simp [hd, LocalSpec.refuse], ?_, ?_⟩
  · intro _; simp [ho, LocalSpec.printedN, LocalSpec.refuse, hz]
  · intro _ h; exact absurd h hz

theorem say_describe (did : List Instr) : (did.map specOfInstr).map LocalSpec.describe = did.map say := by
  rw [List.map_map]
  exact List.map_congr_left fun i _ => by cases i <;> rfl

theorem didl_didLine (did : List Instr) :
    LocalSpec.didl ((did.filter isFile).length, (did.filter isForward).length, (did.filter isProgram).length) = didLine did := rfl

theorem fwdVerdict_code (qq : Bytes) :
    LocalSpec.queueVerdict qq = match fwdVerdict qq with | some y => y.code | none => 0 := by
  cases qq with
  | nil => rfl
  | cons c t => by_cases hc : c = 68 <;> simp [LocalSpec.queueVerdict, fwdVerdict, Why.code, hc, fwdCodes.1, fwdCodes.2]

theorem fwdVerdict_nz (qq : Bytes) (y : Why) (h : fwdVerdict qq = some y) : y.code ≠ 0 := by
  cases qq with
  | nil => cases h
  | cons c t =>
    cases h
    by_cases hc : c = 68 <;> simp [Why.code, hc, fwdCodes.1, fwdCodes.2]

/-- Both sides are the same three-way case distinction: the loop failed; a copy is forwarded (and accepted or not);
nothing is forwarded. -/
theorem matches_deliver (a : Args) (w : World) (cmds : Bytes) (fo : Bool) (r : Result)
    (hnz : ∀ i y, isFile i = true → w.dx i = some y → y.code ≠ 0) (hr : r.code = 0) :
    Matches a.doit (deliver a w cmds fo r)
      (LocalSpec.follow a.doit fo cmds (r.ueo.getD []) (fun c => toRan (w.px c)) (fileCode w.dx) (LocalSpec.queueVerdict w.qq)) := by
  obtain ⟨k1, k2, k3, k4⟩ := walk_dtrace a w cmds fo hnz
  rw [follow_finish, k1, k2, k3, k4, deliver_rec]
  unfold Matches LocalSpec.printedN
  dsimp only
  rw [List.map_append, specEff_made]
  rcases failureOf_cases a w (dtrace a w cmds fo) with ⟨y, hf, e⟩ | ⟨hf, hc, e⟩ | ⟨hf, hc, e⟩
  · have hy := dtrace_die_code a w cmds fo hnz y hf
    rw [e, hf, finCode, finishSpec_failed _ _ _ _ _ _ _ hy]
    dsimp only
    rw [say_describe]
    refine ⟨rfl, by simp [Fin.isDie], rfl, countsOf_map _, ?_, fun _ h => absurd h hy⟩
    intro hd
    simp [hd, hy]
  · have hc' : a.doit = true ∧ ((dtrace a w cmds fo).did.filterMap fwdAddr).map cstr ≠ [] :=
      ⟨hc.1, fun h => hc.2 (List.map_eq_nil_iff.1 h)⟩
    have hc2 : a.doit = true ∧ (dtrace a w cmds fo).fin.isDie = false ∧ (dtrace a w cmds fo).did.filterMap fwdAddr ≠ [] :=
      ⟨hc.1, hf, hc.2⟩
    rw [e, finishSpec_ok _ _ _ _ _ _ _ hf, if_pos hc', if_pos hc2, fwdVerdict_code]
    cases hq : fwdVerdict w.qq with
    | some y =>
      exact ⟨rfl, by simp [specEff], rfl, countsOf_map _, fun hn => by simp [hc.1] at hn,
        fun _ h => absurd h (fwdVerdict_nz _ y hq)⟩
    | none =>
      exact ⟨hr, by simp [specEff], rfl, countsOf_map _, fun hn => by simp [hc.1] at hn,
        fun _ _ => ⟨_, by rw [countsOf_map, didl_didLine, if_pos hc.1, List.nil_append]; rfl⟩⟩
  · have hc' : ¬ (a.doit = true ∧ ((dtrace a w cmds fo).did.filterMap fwdAddr).map cstr ≠ []) :=
      fun h => hc ⟨h.1, fun e => h.2 (List.map_eq_nil_iff.2 e)⟩
    have hc2 : ¬ (a.doit = true ∧ (dtrace a w cmds fo).fin.isDie = false ∧ (dtrace a w cmds fo).did.filterMap fwdAddr ≠ []) :=
      fun h => hc ⟨h.1, h.2.2⟩
    have hc3 : ¬ (a.doit = true ∧ (dtrace a w cmds fo).did.filterMap fwdAddr ≠ [] ∧ w.qp ≠ 0) := fun h => hc ⟨h.1, h.2.1⟩
    rw [e, finishSpec_ok _ _ _ _ _ _ _ hf, if_neg hc', if_neg hc2, if_neg hc3]
    dsimp only
    rw [say_describe]
    refine ⟨hr, by simp, rfl, countsOf_map _, ?_, ?_⟩
    · intro hd
      simp [hd, countsOf_map, didl_didLine]
    · intro hd _
      exact ⟨[], by simp [hd, countsOf_map, didl_didLine]⟩

/-- one directory entry as the documentation sees it (the directory is `fun n => entryOf (w.fs n)` in `settingOf`) -/
def entryOf : FStat → LocalSpec.Entry
  | .absent => .missing
  | .temp => .unreadable
  | .reg m c => .file m c

/-- the documentation's view of an invocation of the model (`hm`: mode of the home directory) -/
def settingOf (a : Args) (w : World) (hm : Nat) : LocalSpec.Setting :=
  { doit := a.doit, homeMode := hm, loc := a.loc, dash := a.dash, ext := a.ext, host := a.host, sender := a.sender,
    dflt := a.aliasempty, msg := a.msg, look := fun n => entryOf (w.fs n), present := w.ex,
    run := fun c => toRan (w.px c), fileOK := fileCode w.dx, queueReply := w.qq }

/-- the plan, as a function of what `qmesearch` found -/
def planOfSel (dash dflt : Bytes) : Sel → Except Nat (Bytes × Bool)
  | .nofile => if dash ≠ [] then .error 100 else .ok (dflt, false)
  | .temp _ => .error 111
  | .writable _ => .error 111
  | .found _ m ct => if ct = [] then .ok (dflt, false) else .ok (ct, m &&& xBit ≠ 0)

theorem plan_select (fs : Bytes → FStat) (dash dflt : Bytes) : ∀ cs : List Cand,
    (match LocalSpec.control (fun n => entryOf (fs n)) (cs.map Cand.name) with
     | none => if dash ≠ [] then Except.error 100 else .ok (dflt, false)
     | some (_, .file m content) =>
       if m &&& 2 ≠ 0 then .error 111 else if content = [] then .ok (dflt, false) else .ok (content, m &&& 0o100 != 0)
     | some (_, _) => .error 111) = planOfSel dash dflt (qmeSelect fs cs)
  | [] => rfl
  | c :: rest => by
    have ih := plan_select fs dash dflt rest
    simp only [List.map_cons, LocalSpec.control, qmeSelect]
    cases h : fs c.name with
    | absent => simpa [entryOf] using ih
    | temp => simp [entryOf, planOfSel]
    | reg m ct =>
      by_cases hm : m &&& 2 = 0
      · have hb : (m &&& 0o100 != 0) = decide (m &&& xBit ≠ 0) := by
          by_cases hx : m &&& 0o100 = 0 <;> simp [xBit, hx]
        simp [entryOf, planOfSel, patrn, hm, hb]
      · simp [entryOf, planOfSel, patrn, hm]

theorem plan_eq (a : Args) (w : World) (hm : Nat) :
    LocalSpec.plan (settingOf a w hm) =
      planOfSel a.dash a.aliasempty (qmeSelect w.fs (qmeCandidates a.dash (safeext a.ext))) := by
  unfold LocalSpec.plan
  simp only [settingOf]
  rw [← candidates_eq_spec]
  exact plan_select w.fs a.dash a.aliasempty _

theorem senderFor_eq (a : Args) (w : World) (hm : Nat) :
    LocalSpec.senderFor (settingOf a w hm) =
      (match ueoOf a.loc a.dash (safeext a.ext) a.host a.sender w.ex with
       | .ok u => some u
       | .error _ => none) := by
  unfold LocalSpec.senderFor ueoOf
  simp only [settingOf]
  rw [← safeext_eq_spec]
  simp only [bounceVerp]
  by_cases hs : a.sender = [] ∨ a.sender = [35, 64, 91, 93]
  · simp [hs]
  · simp only [hs, if_false]
    show (match w.ex (dotQmail ++ a.dash ++ safeext a.ext ++ ownerB) with
      | none => none
      | some false => some a.sender
      | some true =>
        match w.ex (dotQmail ++ a.dash ++ safeext a.ext ++ ownerDefaultB) with
        | none => none
        | some od => some (LocalSpec.forwardSender a.loc a.host a.sender true od)) = _
    cases h1 : w.ex (dotQmail ++ a.dash ++ safeext a.ext ++ ownerB) with
    | none => rfl
    | some o1 =>
      cases o1 with
      | false => rfl
      | true =>
        cases h2 : w.ex (dotQmail ++ a.dash ++ safeext a.ext ++ ownerDefaultB) with
        | none => rfl
        | some o2 => cases o2 <;> simp [LocalSpec.forwardSender, hs, ownerB, DASH, AT]

theorem ownerNames_eq (a : Args) (w : World) (hm : Nat) :
    LocalSpec.ownerNames (settingOf a w hm) = ueoStats a.dash (safeext a.ext) a.sender w.ex := by
  unfold LocalSpec.ownerNames ueoStats
  simp only [settingOf]
  rw [← safeext_eq_spec]
  simp only [bounceVerp]
  by_cases hs : a.sender = [] ∨ a.sender = [35, 64, 91, 93]
  · simp [hs]
  · simp only [hs, if_false]
    rfl

/-! ### every name opened or examined during a run is confined to the home directory -/

theorem qmeTried_sub (fs : Bytes → FStat) : ∀ (cs : List Cand) (n : Bytes), n ∈ qmeTried fs cs → ∃ c ∈ cs, c.name = n
  | [], n, h => by simp [qmeTried] at h
  | c :: rest, n, h => by
    unfold qmeTried at h
    split at h
    · rcases List.mem_cons.1 h with h | h
      · exact ⟨c, List.mem_cons_self .., h.symm⟩
      · obtain ⟨d, hd, e⟩ := qmeTried_sub fs rest n h
        exact ⟨d, List.mem_cons_of_mem _ hd, e⟩
    · have : n = c.name := by simpa using h
      exact ⟨c, List.mem_cons_self .., this.symm⟩

theorem run_tried_stats (a : Args) (w : World) :
    ((run a w).tried = [] ∨ (run a w).tried = qmeTried w.fs (qmeCandidates a.dash (safeext a.ext))) ∧
    ((run a w).stats = [] ∨ (run a w).stats = ueoStats a.dash (safeext a.ext) a.sender w.ex) := by
  rcases run_shape a w with ⟨_, _, _, _, _, _, e, _, _, ht, hs, _⟩ | ⟨_, _, _, _, _, e, _⟩
  · rw [e]; exact ⟨ht, hs⟩
  · rw [e]; exact ⟨Or.inr (deliver_keeps ..).1, Or.inr (deliver_keeps ..).2.1⟩

theorem ownerB_no_dot : DOT ∉ ownerB := by decide
theorem ownerDefaultB_no_dot : DOT ∉ ownerDefaultB := by decide

theorem ueoStats_confined (dash ext sender : Bytes) (ex : Bytes → Option Bool) (hd : DOT ∉ dash) :
    ∀ n ∈ ueoStats dash (safeext ext) sender ex, LocalSpec.confined n = true := by
  have h (s : Bytes) (hs : DOT ∉ s) : LocalSpec.confined (dotQmail ++ dash ++ safeext ext ++ s) = true := by
    rw [List.append_assoc]
    exact confined_qmail_name hd (List.not_mem_append (safeext_no_dot ext) hs)
  intro n hn
  unfold ueoStats at hn
  split at hn
  · simp at hn
  · simp only at hn
    split at hn
    · rcases List.mem_cons.1 hn with rfl | hn
      · exact h _ ownerB_no_dot
      · have : n = dotQmail ++ dash ++ safeext ext ++ ownerDefaultB := by simpa using hn
        rw [this]; exact h _ ownerDefaultB_no_dot
    · have : n = dotQmail ++ dash ++ safeext ext ++ ownerB := by simpa using hn
      rw [this]; exact h _ ownerB_no_dot

theorem ueoOf_congr (loc dash sx host sender : Bytes) (ex ex' : Bytes → Option Bool)
    (h : ∀ n ∈ ueoStats dash sx sender ex, ex' n = ex n) :
    ueoOf loc dash sx host sender ex' = ueoOf loc dash sx host sender ex := by
  unfold ueoOf
  unfold ueoStats at h
  by_cases hs : sender = [] ∨ sender = bounceVerp
  · simp [hs]
  · simp only [hs, if_false] at h ⊢
    cases h1 : ex (dotQmail ++ dash ++ sx ++ ownerB) with
    | none => rw [h1] at h; rw [h _ (by simp), h1]
    | some o1 =>
      cases o1 with
      | false => rw [h1] at h; rw [h _ (by simp), h1]
      | true =>
        rw [h1] at h
        rw [h (dotQmail ++ dash ++ sx ++ ownerB) (by simp), h1]
        simp only
        rw [h (dotQmail ++ dash ++ sx ++ ownerDefaultB) (by simp)]

/-! ### loop detection: the converse -/

/-- file deliveries fail with a file-delivery diagnostic and a non-zero exit code -/
def DxSane (dx : Instr → Option Why) : Prop :=
  ∀ i y, isFile i = true → dx i = some y → ∃ c t, y = .fileFail c t ∧ c ≠ 0

theorem DxSane.nz {dx : Instr → Option Why} (h : DxSane dx) : ∀ i y, isFile i = true → dx i = some y → y.code ≠ 0 := by
  intro i y hi hy
  obtain ⟨c, t, rfl, hc⟩ := h i y hi hy
  exact hc

theorem dispatch_die_ne_looping (px : Bytes → PRes) (dx : Instr → Option Why) (hdx : DxSane dx)
    (lines : List Bytes) (first fo : Bool) (y : Why) (h : (dispatch px dx first fo lines).fin = .die y) : y ≠ .looping := by
  obtain ⟨_, _, _, _, _, _, hcase⟩ := dispatch_failure px dx lines first fo y h
  rcases hcase with ⟨_, _, _, rfl, _⟩ | ⟨i, _, _, _, rfl, _⟩ | ⟨c, _, _, hc, _⟩ | ⟨i, _, hif, _, hd, _⟩
  · simp
  · split <;> simp
  · rcases hc with ⟨_, rfl⟩ | ⟨code, e, _, hk, rfl⟩ <;> simp
  · obtain ⟨c, t, rfl, _⟩ := hdx i y hif hd; simp

theorem fwdVerdict_ne_looping (qq : Bytes) : fwdVerdict qq ≠ some .looping := by
  cases qq <;> simp [fwdVerdict]

theorem deliver_why_ne_looping (a : Args) (w : World) (cmds : Bytes) (fo : Bool) (r : Result) (hdx : DxSane w.dx)
    (hr : r.why = none) : (deliver a w cmds fo r).why ≠ some .looping := by
  rw [deliver_rec]
  dsimp only
  cases hf : failureOf a w (dtrace a w cmds fo) with
  | none => simp [hr]
  | some y =>
    rintro ⟨rfl⟩
    unfold failureOf at hf
    split at hf
    · rename_i y hy
      cases hf
      obtain ⟨px, dx, e, hsub⟩ := dtrace_eq_dispatch a w cmds fo
      rw [e] at hy
      exact dispatch_die_ne_looping px dx (fun i z hi hz => hdx i z hi (hsub i z hz)) _ _ _ _ hy rfl
    · split at hf
      · exact fwdVerdict_ne_looping _ hf
      · cases hf

end Nq.Lemmas.Local
