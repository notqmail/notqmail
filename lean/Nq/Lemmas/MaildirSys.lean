/-
  Invariants of `Nq.LocalDeliver.MdSys` (any number of maildir deliveries into one maildir, every interleaving).
-/
import Nq.MaildirSys
import Nq.Lemmas.LocalDeliverMd

namespace Nq.Lemmas.LD.MdSys
open Nq Nq.LocalDeliver Nq.LocalDeliver.MdSys

theorem step_proc (c : Cfg) (y y' : Sys) (i : Nat) (e : Md.Ev) (h : step c y (.proc i e) = some y') :
    ∃ s', Md.accept (params c i) (y.st i) e = some s' ∧ y'.st = upd y.st i s' ∧
      ((e = .link true ∧ nameOf c y i ∉ y.new ∧ y'.new = y.new ++ [nameOf c y i] ∧ y'.log = y.log ++ [(i, y.t i)]) ∨
       (e ≠ .link true ∧ y'.new = y.new ∧ y'.log = y.log)) ∧
      ((e = .fork ∧ c.pid i ∉ y.live ∧ y'.live = c.pid i :: y.live) ∨
       (((∃ k, e = .childExit k) ∨ e = .childKilled) ∧ y'.live = y.live.erase (c.pid i)) ∨
       (e ≠ .fork ∧ (∀ k, e ≠ .childExit k) ∧ e ≠ .childKilled ∧ y'.live = y.live)) := by
  unfold step at h
  cases ha : Md.accept (params c i) (y.st i) e with
  | none => simp [ha] at h
  | some s' =>
    simp only [ha] at h
    refine ⟨s', rfl, ?_⟩
    cases e with
    | fork =>
      simp only at h; split at h
      · cases h
      · rename_i hn; cases h; simp [hn]
    | alarm n =>
      simp only at h; split at h
      · cases h; simp
      · cases h
    | sleep n => cases h; simp
    | openExcl ok ex =>
      cases ok with
      | true =>
        simp only at h; split at h
        · cases h
        · cases h; simp
      | false => cases h; simp
    | link ok =>
      cases ok with
      | true =>
        simp only at h; split at h
        · cases h
        · rename_i hn; cases h; simp [hn]
      | false => cases h; simp
    | unlinkTmp ok => cases ok <;> cases h <;> simp
    | childExit k => cases h; simp
    | childKilled => cases h; simp
    | read n => cases h; simp
    | readErr b => cases h; simp
    | write bs => cases h; simp
    | writeErr b => cases h; simp
    | fsync ok => cases h; simp
    | close ok => cases h; simp
    | sigAlarm => cases h; simp
    | parentExit k => cases h; simp

theorem upd_same {α : Type} (f : Nat → α) (i : Nat) (a : α) : upd f i a i = a := ite_upd_same f i a
theorem upd_other {α : Type} (f : Nat → α) (i j : Nat) (a : α) (h : j ≠ i) : upd f i a j = f j := ite_upd_other f i j a h

theorem run_eq (c : Cfg) : ∀ (tr : List Ev) (y : Sys), run c y tr = tr.foldlM (step c) y :=
  Acceptor.eq_foldlM (fun _ => rfl) (fun y e es => by rw [run]; cases step c y e <;> rfl)

theorem run_invariant (c : Cfg) (P : Sys → Prop) (Q : Ev → Prop)
    (hstep : ∀ y y' e, P y → Q e → step c y e = some y' → P y')
    (tr : List Ev) (y y' : Sys) (hP : P y) (hQ : ∀ e ∈ tr, Q e) (h : run c y tr = some y') : P y' :=
  Acceptor.foldlM_induct_guard P Q (fun y e y' => hstep y y' e) tr y y' hP hQ ((run_eq c tr y).symm.trans h)

/-! ### projection: each delivery of the system is a run of `Md.accept` -/

theorem run_proj (c : Cfg) (i : Nat) (tr : List Ev) : ∀ (y y' : Sys), run c y tr = some y' →
    Md.acceptAll (params c i) (y.st i) (proj i tr) = some (y'.st i) := by
  induction tr with
  | nil => intro y y' h; simp [run] at h; subst h; simp [proj, Md.acceptAll]
  | cons e es ih =>
    intro y y' h
    simp only [run] at h
    cases hs : step c y e with
    | none => simp [hs] at h
    | some y1 =>
      simp only [hs] at h
      have h2 := ih y1 y' h
      cases e with
      | tick n => simp [step] at hs; subst hs; simpa [proj] using h2
      | mua nm => simp [step] at hs; subst hs; simpa [proj] using h2
      | proc j ev =>
        obtain ⟨s', hacc, hst, _, _⟩ := step_proc c y y1 j ev hs
        by_cases hj : j = i
        · subst hj
          simp only [proj, if_true, Md.acceptAll, hacc]
          rw [hst, upd_same] at h2
          exact h2
        · simp only [proj, hj, if_false]
          rw [hst, upd_other _ _ _ _ (fun x => hj x.symm)] at h2
          exact h2

/-! ### new/ never holds a name twice; without a reader every linked name is distinct -/

theorem step_new_nodup (c : Cfg) (y y' : Sys) (e : Ev) (h : step c y e = some y') (hn : y.new.Nodup) : y'.new.Nodup := by
  cases e with
  | tick n => simp [step] at h; subst h; exact hn
  | mua nm => simp [step] at h; subst h; exact hn.filter _
  | proc i ev =>
    obtain ⟨s', _, _, hnew, _⟩ := step_proc c y y' i ev h
    rcases hnew with ⟨_, hnin, hnew, _⟩ | ⟨_, hnew, _⟩
    · rw [hnew]
      apply List.nodup_append.mpr
      refine ⟨hn, by simp, ?_⟩
      intro a ha b hb
      simp at hb; subst hb
      intro hab; subst hab; exact hnin ha
    · rw [hnew]; exact hn

theorem run_new_nodup (c : Cfg) (tr : List Ev) (y y' : Sys) (h : run c y tr = some y') (hn : y.new.Nodup) : y'.new.Nodup :=
  run_invariant c (fun z => z.new.Nodup) (fun _ => True) (fun y y' e hn _ hs => step_new_nodup c y y' e hs hn) tr y y' hn
    (fun _ _ => trivial) h

theorem run_new_log (c : Cfg) (tr : List Ev) (y y' : Sys) (h : run c y tr = some y') (hm : ∀ e ∈ tr, isMua e = false)
    (new0 : List Bytes) (h0 : y.new = new0 ++ y.log.map (logName c)) : y'.new = new0 ++ y'.log.map (logName c) := by
  refine run_invariant c (fun z => z.new = new0 ++ z.log.map (logName c)) (fun e => isMua e = false) ?_ tr y y' h0 hm h
  intro y y1 e h0 hm hs
  cases e with
  | tick n => simp [step] at hs; subst hs; exact h0
  | mua nm => cases hm
  | proc i ev =>
    obtain ⟨s', _, _, hnew, _⟩ := step_proc c y y1 i ev hs
    rcases hnew with ⟨_, _, hnew, hlog⟩ | ⟨_, hnew, hlog⟩
    · rw [hnew, hlog, h0]; simp [logName, nameOf]
    · rw [hnew, hlog]; exact h0

/-! ### live children have pairwise different process ids -/

open Md Nq.Lemmas in
/-- a child comes into existence only by `fork`: every other event but `parentExit` is accepted only at a pc of the
child (whatever `s'` is), and `parentExit` leads to `done`, which is none -/
theorem inChild_from (p : Md.Params) (s s' : Md.St) (e : Md.Ev) (h : Md.accept p s e = some s') (hne : e ≠ .fork)
    (hc : Md.inChild s'.pc = true) : Md.inChild s.pc = true := by
  cases e with
  | fork => exact absurd rfl hne
  | alarm n =>
    simp only [accept] at h; split at h
    · rename_i k hp; rw [hp]; rfl
    · cases h
  | openExcl ok ex =>
    simp only [accept] at h; split at h
    · rename_i k hp; rw [hp]; rfl
    · cases h
  | sleep n =>
    simp only [accept] at h; split at h
    · rename_i k hp; rw [hp]; rfl
    · cases h
  | read n => rw [(of_ite_some h).1.1]; rfl
  | readErr b => rw [(of_ite_some h).1.1]; rfl
  | write bs => rw [(of_ite_some h).1.1]; rfl
  | writeErr b => rw [(of_ite_some h).1]; rfl
  | fsync ok => rw [(of_ite_some h).1.1]; rfl
  | close ok => rw [(of_ite_some h).1]; rfl
  | link ok => rw [(of_ite_some h).1]; rfl
  | unlinkTmp ok =>
    simp only [accept] at h; split at h
    · rename_i hp; rw [hp]; rfl
    · rename_i k hp; rw [hp]; rfl
    · cases h
  | sigAlarm => exact Nq.Lemmas.LD.Md.armed_inChild _ (of_ite_some h).1
  | childExit k =>
    simp only [accept] at h; split at h
    · rename_i k hp; rw [hp]; rfl
    · rename_i hp; rw [hp]; rfl
    · cases h
  | childKilled => exact (of_ite_some h).1
  | parentExit k =>
    simp only [accept] at h; split at h
    · obtain ⟨_, rfl⟩ := of_ite_some h; cases hc
    · obtain ⟨_, rfl⟩ := of_ite_some h; cases hc
    · obtain ⟨_, rfl⟩ := of_ite_some h; cases hc
    · cases h

open Md Nq.Lemmas in
theorem fork_from (p : Md.Params) (s s' : Md.St) (h : Md.accept p s .fork = some s') : Md.inChild s.pc = false := by
  rw [(of_ite_some h).1]; rfl

open Md Nq.Lemmas in
theorem exit_gone (p : Md.Params) (s s' : Md.St) (e : Md.Ev) (h : Md.accept p s e = some s')
    (he : (∃ k, e = .childExit k) ∨ e = .childKilled) : Md.inChild s'.pc = false ∧ Md.inChild s.pc = true := by
  rcases he with ⟨k, rfl⟩ | rfl
  · simp only [accept] at h; split at h
    · rename_i c hp; split at h <;> cases h; simp [hp, inChild]
    · rename_i hp; split at h <;> cases h; simp [hp, inChild]
    · cases h
  · obtain ⟨hp, rfl⟩ := of_ite_some h
    exact ⟨rfl, hp⟩

/-- pids of live children: pairwise different, and recorded in `live` -/
def LiveInv (c : Cfg) (y : Sys) : Prop :=
  (∀ i, Md.inChild (y.st i).pc = true → c.pid i ∈ y.live) ∧
  (∀ i j, i ≠ j → Md.inChild (y.st i).pc = true → Md.inChild (y.st j).pc = true → c.pid i ≠ c.pid j)

theorem live_init (c : Cfg) (y : Sys) (h : ∀ i, Md.inChild (y.st i).pc = false) : LiveInv c y :=
  ⟨fun i hi => by simp [h i] at hi, fun i _ _ hi _ => by simp [h i] at hi⟩

theorem inChild_upd {f : Nat → Md.St} {i j : Nat} {s' : Md.St} (h : Md.inChild (upd f i s' j).pc = true) :
    j = i ∧ Md.inChild s'.pc = true ∨ j ≠ i ∧ Md.inChild (f j).pc = true := by
  by_cases hji : j = i
  · subst hji; rw [upd_same] at h; exact .inl ⟨rfl, h⟩
  · rw [upd_other _ _ _ _ hji] at h; exact .inr ⟨hji, h⟩

theorem step_live (c : Cfg) (y y' : Sys) (e : Ev) (h : step c y e = some y') (hinv : LiveInv c y) : LiveInv c y' := by
  cases e with
  | tick n => simp [step] at h; subst h; exact hinv
  | mua nm => simp [step] at h; subst h; exact hinv
  | proc i ev =>
    obtain ⟨s', hacc, hst, _, hlive⟩ := step_proc c y y' i ev h
    obtain ⟨hK, hJ⟩ := hinv
    -- a child after the step is the one that stepped, or was a child before
    have old : ∀ j, Md.inChild (y'.st j).pc = true → j = i ∧ Md.inChild s'.pc = true ∨ j ≠ i ∧ Md.inChild (y.st j).pc = true := by
      rw [hst]; exact fun j => inChild_upd
    rcases hlive with ⟨hf, hnin, hl⟩ | ⟨hx, hl⟩ | ⟨hnf, hnx, hnk, hl⟩
    · -- fork
      refine ⟨fun j hj => ?_, fun a b hab ha hb => ?_⟩
      · rw [hl]
        rcases old j hj with ⟨rfl, _⟩ | ⟨_, hj⟩
        · exact List.mem_cons_self
        · exact List.mem_cons_of_mem _ (hK j hj)
      · rcases old a ha with ⟨rfl, _⟩ | ⟨_, ha⟩ <;> rcases old b hb with ⟨rfl, _⟩ | ⟨_, hb⟩
        · exact absurd rfl hab
        · exact fun hp => hnin (hp ▸ hK b hb)
        · exact fun hp => hnin (hp ▸ hK a ha)
        · exact hJ a b hab ha hb
    · -- the child exits or is killed
      have hg := exit_gone (params c i) (y.st i) s' ev hacc hx
      have old' : ∀ j, Md.inChild (y'.st j).pc = true → j ≠ i ∧ Md.inChild (y.st j).pc = true := fun j hj =>
        (old j hj).resolve_left fun hs => by rw [hg.1] at hs; cases hs.2
      refine ⟨fun j hj => ?_, fun a b hab ha hb => hJ a b hab (old' a ha).2 (old' b hb).2⟩
      obtain ⟨hji, hj⟩ := old' j hj
      rw [hl]
      exact (List.mem_erase_of_ne (hJ j i hji hj hg.2)).mpr (hK j hj)
    · -- anything else: nobody is born, nobody dies
      have old' : ∀ j, Md.inChild (y'.st j).pc = true → Md.inChild (y.st j).pc = true := fun j hj =>
        (old j hj).elim (fun hs => hs.1 ▸ inChild_from (params c i) (y.st i) s' ev hacc hnf hs.2) (·.2)
      exact ⟨fun j hj => hl ▸ hK j (old' j hj), fun a b hab ha hb => hJ a b hab (old' a ha) (old' b hb)⟩

theorem run_live (c : Cfg) (tr : List Ev) (y y' : Sys) (h : run c y tr = some y') (hn : LiveInv c y) : LiveInv c y' :=
  run_invariant c (LiveInv c) (fun _ => True) (fun y y' e hn _ hs => step_live c y y' e hs hn) tr y y' hn (fun _ _ => trivial) h

theorem fmtDec_5 : fmtDec 5 = [53] := by simp [fmtDec, dig, digits]
theorem fmtDec_7 : fmtDec 7 = [55] := by simp [fmtDec, dig, digits]
theorem fmtDec_8 : fmtDec 8 = [56] := by simp [fmtDec, dig, digits]

end Nq.Lemmas.LD.MdSys
