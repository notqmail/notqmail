/-
  `Nq.Pop3.blast` (qmail-pop3d.c blast()) is the RFC 1939 encoding `refEncode` of the lines of the file, cut by the
  limit, plus a blank line (`blast_eq`); the client decoder `Nq.Pop3Ref.popDecode` inverts it (`blast_decoded`,
  `top_decoded`). The limit of RETR and TOP.
-/
import Nq.Pop3
import Nq.Spec.Pop3Ref
import Nq.Spec.Pop3FaultRef
import Nq.Lemmas.Pop3Number
import Nq.Lemmas.DotStuff

namespace Nq.Lemmas.Pop3
open Nq Nq.Pop3 Nq.Pop3Ref Nq.Pop3FRef

/-- line-level form of the blast loop: the match flags are dropped -/
def blastLines : Nat → Bool → List Bytes → Bytes
  | _, _, [] => []
  | limit, inh, l :: rest =>
    if limit ≠ 0 ∧ inh = false ∧ limit = 1 then []
    else
      (if l.head? = some DOT then [DOT] else []) ++ l ++ [CR, LF] ++
        blastLines (if limit ≠ 0 ∧ inh = false then limit - 1 else limit) (if l = [] then false else inh) rest

/-- only the last line getln returns can be unterminated, so the `if (!match) break` of blast()
never cuts anything off -/
theorem blastLoop_eq_lines (m : Bytes) : ∀ (cur : Bytes) (limit : Nat) (inh : Bool),
    blastLoop limit inh (getlns cur m) = blastLines limit inh ((getlns cur m).map Prod.fst) := by
  induction m with
  | nil =>
    intro cur limit inh
    by_cases h : cur = []
    · simp [getlns, h, blastLoop, blastLines]
    · simp [getlns, h, blastLoop, blastLines]
  | cons c m ih =>
    intro cur limit inh
    by_cases h : c = LF
    · simp only [getlns, h, if_true, List.map_cons, blastLoop, blastLines, ih]
    · simp only [getlns, h, if_false]
      exact ih _ _ _

theorem getlns_lines (m : Bytes) : ∀ cur : Bytes,
    (getlns cur m).map Prod.fst =
      match lines m with
      | [] => if cur = [] then [] else [cur.reverse]
      | l :: ls => (cur.reverse ++ l) :: ls := by
  induction m with
  | nil => intro cur; by_cases h : cur = [] <;> simp [getlns, lines, h]
  | cons c m ih =>
    intro cur
    by_cases h : c = LF
    · have := ih []
      simp only [getlns, h, if_true, List.map_cons, lines]
      rw [this]
      cases lines m <;> simp
    · have := ih (c :: cur)
      simp only [getlns, h, if_false, lines]
      rw [this]
      cases lines m <;> simp

theorem getlns_nil_lines (m : Bytes) : (getlns [] m).map Prod.fst = lines m := by
  rw [getlns_lines]
  cases lines m <;> simp

theorem lines_noLF (m : Bytes) : ∀ l ∈ lines m, LF ∉ l := by
  induction m with
  | nil => simp [lines]
  | cons c m ih =>
    by_cases h : c = LF
    · simp only [lines, h, if_true]
      intro l hl
      rcases List.mem_cons.mp hl with h1 | h1
      · simp [h1]
      · exact ih l h1
    · simp only [lines, h, if_false]
      cases hm : lines m with
      | nil => simp; exact fun hh => h hh.symm
      | cons l0 ls =>
        rw [hm] at ih
        intro l hl
        rcases List.mem_cons.mp hl with h1 | h1
        · subst h1
          have := ih l0 (by simp)
          simp only [List.mem_cons, not_or]
          exact ⟨fun hh => h hh.symm, this⟩
        · exact ih l (by simp [h1])

/-! ### the decoder on one transmitted line -/

/-- what the decoder does once a complete line has been read -/
def lineDone (line w : Bytes) : Option (List Bytes × Bytes) :=
  if line = [DOT] then some ([], w)
  else match decGo [] w with
    | some (ls, r) => some (unstuff line :: ls, r)
    | none => none

theorem decGo_line (l : Bytes) : ∀ (cur w : Bytes), LF ∉ l →
    decGo cur (l ++ CR :: LF :: w) = lineDone (cur.reverse ++ l) w := by
  induction l with
  | nil =>
    intro cur w _
    by_cases hc : cur = [DOT] <;> simp [decGo, lineDone, CR, LF, hc] <;> (cases decGo [] w <;> rfl)
  | cons x l ih =>
    intro cur w h
    have hx : x ≠ LF := fun hh => h (by simp [hh])
    have hl : LF ∉ l := fun hh => h (by simp [hh])
    simp only [List.cons_append, decGo, hx, if_false]
    rw [ih (x :: cur) w hl]
    simp

theorem unstuff_stuff (l : Bytes) : unstuff (stuff l) = l := by
  cases l with
  | nil => simp [stuff, unstuff]
  | cons c r =>
    by_cases h : c = DOT
    · simp [stuff, unstuff, h]
    · simp [stuff, unstuff, h]

theorem decGo_stuffed (l w : Bytes) (h : LF ∉ l) :
    decGo [] (stuff l ++ CR :: LF :: w) =
      match decGo [] w with
      | some (ls, r) => some (l :: ls, r)
      | none => none := by
  rw [decGo_line (stuff l) [] w (fun hm => h ((mem_stuff LF l).1 hm))]
  simp [lineDone, stuff_ne_dot, unstuff_stuff]

/-! ### what the server sends is the RFC 1939 encoding of lines -/

/-- one line as RFC 1939 §3 sends it -/
def encLine (l : Bytes) : Bytes := stuff l ++ [CR, LF]

theorem refEncode_eq (ls : List Bytes) : refEncode ls = ls.flatMap encLine ++ [DOT, CR, LF] := by
  unfold refEncode
  congr 2

theorem decode_encode (w : Bytes) : ∀ ls : List Bytes, (∀ l ∈ ls, LF ∉ l) →
    popDecode (refEncode ls ++ w) = some (ls, w) := by
  intro ls
  unfold popDecode
  simp only [refEncode_eq]
  induction ls with
  | nil => intro _; simp [decGo, CR, LF, DOT]
  | cons l ls ih =>
    intro h
    rw [List.flatMap_cons, encLine, List.append_assoc, List.append_assoc, List.append_assoc, List.cons_append,
      List.cons_append, List.nil_append, decGo_stuffed l _ (h l (by simp)), ← List.append_assoc,
      ih fun x hx => h x (by simp [hx])]

/-- RETR: every line -/
theorem blastLines_all (inh : Bool) (ls : List Bytes) : blastLines 0 inh ls = ls.flatMap encLine := by
  induction ls generalizing inh with
  | nil => rfl
  | cons l ls ih => simp [blastLines, encLine, stuff, ih]

/-- TOP, after the blank line: `k` more lines -/
theorem blastLines_body (ls : List Bytes) : ∀ k, blastLines (k + 1) false ls = (ls.take k).flatMap encLine := by
  induction ls with
  | nil => intro k; simp [blastLines]
  | cons l ls ih =>
    intro k
    cases k with
    | zero => simp [blastLines]
    | succ k => simp [blastLines, encLine, stuff, ih]

/-- TOP: header, blank line, `n` body lines -/
theorem blastLines_top (n : Nat) (ls : List Bytes) : blastLines (n + 1) true ls = (topLines n ls).flatMap encLine := by
  induction ls with
  | nil => simp [blastLines, topLines]
  | cons l ls ih =>
    by_cases hl : l = []
    · simp [blastLines, topLines, encLine, stuff, hl, blastLines_body]
    · simp [blastLines, topLines, encLine, stuff, hl, ih]

/-- the lines blast() sends with limit `limit` -/
def sent (limit : Nat) (ls : List Bytes) : List Bytes :=
  match limit with
  | 0 => ls
  | n + 1 => topLines n ls

theorem blast_eq (limit : Nat) (data : Bytes) : blast limit data = refEncode (sent limit (lines data) ++ [[]]) := by
  unfold blast
  rw [blastLoop_eq_lines, getlns_nil_lines, refEncode_eq, List.flatMap_append]
  cases limit with
  | zero => simp [sent, blastLines_all, blastEnd, encLine, stuff]
  | succ n => simp [sent, blastLines_top, blastEnd, encLine, stuff]

theorem topLines_noLF (n : Nat) : ∀ ls : List Bytes, (∀ l ∈ ls, LF ∉ l) → ∀ l ∈ topLines n ls, LF ∉ l := by
  intro ls
  induction ls with
  | nil => intro _ l hl; simp [topLines] at hl
  | cons x ls ih =>
    intro h l hl
    unfold topLines at hl
    split at hl
    · rcases List.mem_cons.mp hl with e | e
      · rw [e]; simp
      · exact h l (List.mem_cons_of_mem _ (List.mem_of_mem_take e))
    · rcases List.mem_cons.mp hl with e | e
      · rw [e]; exact h x (by simp)
      · exact ih (fun y hy => h y (by simp [hy])) l e

theorem blast_decoded (limit : Nat) (data rest : Bytes) :
    popDecode (blast limit data ++ rest) = some (sent limit (lines data) ++ [[]], rest) := by
  rw [blast_eq]
  refine decode_encode rest _ fun l hl => ?_
  rcases List.mem_append.mp hl with hl | hl
  · cases limit with
    | zero => exact lines_noLF data l hl
    | succ n => exact topLines_noLF n _ (lines_noLF data) l hl
  · rw [List.mem_singleton.mp hl]; simp

theorem topLines_all (n : Nat) : ∀ ls : List Bytes, ls.length ≤ n → topLines n ls = ls := by
  intro ls
  induction ls with
  | nil => intro _; rfl
  | cons l ls ih =>
    intro h
    simp only [List.length_cons] at h
    by_cases hl : l = []
    · simp [topLines, hl, List.take_of_length_le (show ls.length ≤ n by omega)]
    · simp [topLines, hl, ih (by omega)]

theorem lines_length (m : Bytes) : (lines m).length ≤ m.length := by
  induction m with
  | nil => simp [lines]
  | cons c m ih =>
    by_cases hc : c = LF
    · simp [lines, hc]; exact ih
    · simp only [lines, hc, if_false]
      cases h : lines m with
      | nil => simp
      | cons l ls => rw [h] at ih; simp at ih ⊢; omega

/-- `h` (a file has fewer bytes than an unsigned long can count) is for the saturated count: for `k ≥ 2^64 - 1` the
limit is 0, the whole message, and that is also what `topLines k` keeps of fewer than `k` lines. -/
theorem top_decoded (arg data rest : Bytes) (h : data.length < U64 - 1) :
    popDecode (blast (topLimit arg) data ++ rest) =
      some ((match topCount arg with
             | none => lines data
             | some k => topLines k (lines data)) ++ [[]], rest) := by
  rw [topLimit_spec]
  cases hc : topCount arg with
  | none => exact blast_decoded 0 data rest
  | some k =>
    simp only
    by_cases hk : k < U64 - 1
    · rw [if_pos hk]
      exact blast_decoded (k + 1) data rest
    · rw [if_neg hk, topLines_all k (lines data) (by have := lines_length data; omega)]
      exact blast_decoded 0 data rest

theorem limitFor_top (verb arg : Bytes) (h : verbIs vTop verb = true) : limitFor verb arg = topLimit arg := by
  simp [limitFor, limitWith, h]

/-- RETR never limits: the source gives RETR its own handler, it does not share pop3_top() with TOP
(`Gen.Pop3Tab.retrWhole`; on `hr := rfl` see `scan_sat`) -/
theorem limitFor_of_not_top (verb arg : Bytes) (h : verbIs vTop verb = false) : limitFor verb arg = 0 := by
  have hr : Gen.Pop3Tab.retrWhole = true := rfl
  simp [limitFor, limitWith, h, hr]

end Nq.Lemmas.Pop3
