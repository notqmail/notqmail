/-
  Lemmas about `Nq.Pop3F` (qmail-pop3d with failing system calls): what a failing read, unlink, rename or stat
  does, and that without faults `Nq.Pop3F` is `Nq.Pop3`.  Core Lean only.
-/
import Nq.Pop3Fault
import Nq.Lemmas.Pop3Blast
import Nq.Lemmas.Pop3Sess

namespace Nq.Lemmas.Pop3F
open Nq Nq.Pop3 Nq.Pop3Ref Nq.Pop3F Nq.Lemmas.Pop3

/-! ### a client cannot take a proper prefix of a multi-line response for a complete one -/

theorem decGo_nil (cur : Bytes) : decGo cur [] = none := by simp [decGo]

/-- if the decoder, reading `p ++ s ++ q`, stops inside `q` or at its start, it does not stop inside `p` -/
theorem dec_prefix_none : ∀ (p s q cur : Bytes) (ls : List Bytes) (r : Bytes), s ≠ [] →
    decGo cur (p ++ s ++ q) = some (ls, r) → r.length ≤ q.length → decGo cur p = none := by
  intro p
  induction p with
  | nil => intros; exact decGo_nil _
  | cons c p ih =>
    intro s q cur ls r hs h hr
    simp only [List.cons_append, decGo] at h ⊢
    by_cases hc : c = LF
    · simp only [hc, if_true] at h ⊢
      cases cur with
      | nil => simp at h
      | cons d l' =>
        simp only at h ⊢
        by_cases hd : d = CR
        · simp only [hd, if_true] at h ⊢
          by_cases hdot : l'.reverse = [DOT]
          · simp only [hdot, if_true, Option.some.injEq, Prod.mk.injEq] at h
            have hl : r.length = p.length + s.length + q.length := by rw [← h.2]; simp; omega
            have : 0 < s.length := List.length_pos_iff.mpr hs
            omega
          · simp only [hdot, if_false] at h ⊢
            cases hrec : decGo [] (p ++ s ++ q) with
            | none => rw [hrec] at h; simp at h
            | some v =>
              obtain ⟨ls', r'⟩ := v
              rw [hrec] at h
              simp only [Option.some.injEq, Prod.mk.injEq] at h
              have := ih s q [] ls' r' hs hrec (by rw [h.2]; exact hr)
              simp [this]
        · simp [hd] at h
    · simp only [hc, if_false] at h ⊢
      exact ih s q (c :: cur) ls r hs h hr

/-! ### blast() with a failing read -/

theorem linePuts_flatten (l : Bytes) :
    (linePuts l).flatten = (if l.head? = some DOT then [DOT] else []) ++ l ++ [CR, LF] := by
  unfold linePuts; split <;> simp

theorem blastLoopF_prefix : ∀ (lns : List (Bytes × Bool)) (n limit : Nat) (inh : Bool),
    ∃ s, (blastLoopF n limit inh lns).1.flatten ++ s = blastLoop limit inh lns ∧
      ((blastLoopF n limit inh lns).2 = false → s = []) := by
  intro lns
  induction lns with
  | nil => intro n limit inh; cases n <;> simp [blastLoopF, blastLoop]
  | cons lm rest ih =>
    intro n limit inh
    obtain ⟨l, mt⟩ := lm
    cases n with
    | zero => exact ⟨blastLoop limit inh ((l, mt) :: rest), by simp [blastLoopF], by simp [blastLoopF]⟩
    | succ n =>
      simp only [blastLoopF, blastLoop]
      split
      · exact ⟨[], by simp, fun _ => rfl⟩
      · cases mt with
        | false => exact ⟨[], by simp [linePuts_flatten], fun _ => rfl⟩
        | true =>
          obtain ⟨s, h1, h2⟩ := ih n (if limit ≠ 0 ∧ inh = false then limit - 1 else limit) (if l = [] then false else inh)
          refine ⟨s, ?_, ?_⟩
          · simp only [if_true, List.flatten_append, linePuts_flatten, List.append_assoc]
            rw [← h1]
          · simpa using h2

theorem flushed_prefix (puts : List Bytes) : ∃ s, flushed puts ++ s = puts.flatten :=
  ⟨_, List.take_append_drop _ _⟩

/-- `(blastF …).2`: the process died in the failing read. The client then has a proper prefix of blast(): at least
`blastEnd` is unsent. -/
theorem blastF_spec (limit : Nat) (data : Bytes) (k : Nat) :
    ((blastF limit data k).2 = false → (blastF limit data k).1 = blast limit data) ∧
    ((blastF limit data k).2 = true → ∃ s, s ≠ [] ∧ (blastF limit data k).1 ++ s = blast limit data) := by
  unfold blastF
  split
  · simp
  · obtain ⟨s, h1, h2⟩ := blastLoopF_prefix (getlns [] data) ((data.take (BUF * k)).count LF) limit true
    cases hd : (blastLoopF ((data.take (BUF * k)).count LF) limit true (getlns [] data)).2 with
    | false =>
      have hs := h2 hd
      subst hs
      simp only [List.append_nil] at h1
      simp [hd, blast, h1]
    | true =>
      obtain ⟨t, ht⟩ := flushed_prefix (blastLoopF ((data.take (BUF * k)).count LF) limit true (getlns [] data)).1
      simp only [hd, if_true, true_implies, Bool.true_eq_false, false_implies, true_and]
      refine ⟨t ++ s ++ blastEnd, by simp [blastEnd], ?_⟩
      unfold blast
      rw [← h1, ← ht]
      simp

theorem blastF_died_undecodable (limit : Nat) (data : Bytes) (k : Nat) (h : (blastF limit data k).2 = true) :
    popDecode (blastF limit data k).1 = none := by
  obtain ⟨s, hs, he⟩ := (blastF_spec limit data k).2 h
  have hd := blast_decoded limit data []
  unfold popDecode at hd ⊢
  rw [← he] at hd
  exact dec_prefix_none _ s [] [] _ [] hs hd (by simp)

/-! ### QUIT with failing unlink / rename = QUIT on the messages whose call does not fail -/

/-- the messages whose unlink()/rename() is carried out -/
def effective (U N : List Nat) : Nat → Nat → List Msg → List Msg
  | _, _, [] => []
  | ju, jn, m :: rest =>
    if m.del then
      (if U.contains ju then effective U N (ju + 1) jn rest else m :: effective U N (ju + 1) jn rest)
    else if m.fn.take 4 == newSl then
      (if N.contains jn then effective U N ju (jn + 1) rest else m :: effective U N ju (jn + 1) rest)
    else m :: effective U N ju jn rest

theorem effective_sublist (U N : List Nat) : ∀ (msgs : List Msg) (ju jn : Nat), (effective U N ju jn msgs).Sublist msgs := by
  intro msgs
  induction msgs with
  | nil => intros; simp [effective]
  | cons m rest ih =>
    intro ju jn
    unfold effective
    split
    · split
      · exact (ih _ _).cons _
      · exact (ih _ _).cons_cons _
    · split
      · split
        · exact (ih _ _).cons _
        · exact (ih _ _).cons_cons _
      · exact (ih _ _).cons_cons _

theorem quitLoopF_eff (U N : List Nat) : ∀ (msgs : List Msg) (ju jn : Nat) (fs : FS) (out : Bytes),
    (quitLoopF U N ju jn msgs fs out).1 = (effective U N ju jn msgs).foldl quitFs fs := by
  intro msgs
  induction msgs with
  | nil => intros; rfl
  | cons m rest ih =>
    intro ju jn fs out
    unfold quitLoopF effective
    by_cases hd : m.del = true
    · rw [if_pos hd, if_pos hd]
      by_cases hu : U.contains ju = true
      · rw [if_pos hu, if_pos hu]
        exact ih _ _ _ _
      · rw [if_neg hu, if_neg hu, List.foldl_cons, quitFs, if_pos hd]
        cases hf : fsFind fs m.fn with
        | some g => exact ih _ _ _ _
        | none => rw [unlink_absent fs m.fn hf]; exact ih _ _ _ _
    · rw [if_neg hd, if_neg hd]
      by_cases hn : (m.fn.take 4 == newSl) = true
      · rw [if_pos hn, if_pos hn]
        by_cases hN : N.contains jn = true
        · rw [if_pos hN, if_pos hN]
          exact ih _ _ _ _
        · rw [if_neg hN, if_neg hN, List.foldl_cons, quitFs, if_neg hd, if_pos hn]
          exact ih _ _ _ _
      · rw [if_neg hn, if_neg hn, List.foldl_cons, quitFs, if_neg hd, if_neg hn]
        exact ih _ _ _ _

theorem execF_quit_fs (F : Faults) (s : Sess) (ao : Bool) (ar : Option Nat) (verb arg : Bytes) (hq : verbIs vQuit verb = true) :
    (execF F s ao ar verb arg).1.1.fs = (effective F.u F.n 0 0 s.msgs).foldl quitFs s.fs := by
  unfold execF
  rw [if_pos hq]
  exact quitLoopF_eff F.u F.n s.msgs 0 0 s.fs []

theorem quitLoopF_none : ∀ (msgs : List Msg) (ju jn : Nat) (fs : FS) (out : Bytes),
    quitLoopF [] [] ju jn msgs fs out = quitLoop msgs fs out := by
  intro msgs
  induction msgs with
  | nil => intros; rfl
  | cons m rest ih =>
    intro ju jn fs out
    unfold quitLoopF quitLoop
    simp only [List.contains_nil, Bool.false_eq_true, if_false]
    split
    · cases fsFind fs m.fn <;> simp [ih, errU]
    · split <;> simp [ih]

/-! ### start-up: a failing stat in the scan hides the file, a failing stat in getlist() zeroes its size -/

/-- the maildir as the scan sees it: a file whose stat fails is like a file that is too young -/
def hideA (A : List Bytes) (now : Nat) (fs : FS) : FS :=
  fs.map (fun f => if A.contains f.path then { f with mtime := now } else f)

theorem scanDirF_hide (A : List Bytes) (now : Nat) : ∀ (l : List File) (names : List Bytes) (pq : List Elt),
    scanDirF A now l names pq = scanDir now (hideA A now l) names pq := by
  intro l
  induction l with
  | nil => intros; rfl
  | cons f rest ih =>
    intro names pq
    have hcons : hideA A now (f :: rest) = (if A.contains f.path then { f with mtime := now } else f) :: hideA A now rest := rfl
    rw [hcons]
    by_cases ha : A.contains f.path = true
    · rw [if_pos ha]
      unfold scanDirF scanDir
      simp only [baseName, ha, Bool.true_eq_false, false_and, if_false, Nat.lt_irrefl]
      split <;> exact ih _ _
    · rw [if_neg ha]
      unfold scanDirF scanDir
      simp only [Bool.not_eq_true] at ha
      simp only [ha, true_and]
      split <;> exact ih _ _

theorem hideA_filter (A : List Bytes) (now : Nat) (d : Bytes) (fs : FS) :
    hideA A now (fs.filter (inDir d)) = (hideA A now fs).filter (inDir d) := by
  induction fs with
  | nil => rfl
  | cons f rest ih =>
    simp only [List.filter_cons, hideA, List.map_cons]
    have : inDir d (if A.contains f.path = true then { f with mtime := now } else f) = inDir d f := by
      split <;> rfl
    rw [this]
    split
    · simp only [List.map_cons]; congr 1
    · exact ih

theorem find_hideA (A : List Bytes) (now : Nat) (fs : FS) (p : Bytes) :
    (fsFind (hideA A now fs) p).map (·.data) = (fsFind fs p).map (·.data) := by
  induction fs with
  | nil => rfl
  | cons f rest ih =>
    simp only [hideA, List.map_cons, fsFind, List.find?_cons]
    have hp : (if A.contains f.path = true then { f with mtime := now } else f).path = f.path := by split <;> rfl
    have hdt : (if A.contains f.path = true then { f with mtime := now } else f).data = f.data := by split <;> rfl
    rw [hp]
    split
    · simp only [Option.map_some]; rw [hdt]
    · exact ih

theorem getlistF_eq (A G : List Bytes) (now : Nat) (fs : FS) :
    getlistF A G now fs =
      (getlist now (hideA A now fs)).map (fun m => if G.contains m.fn then { m with size := 0 } else m) := by
  unfold getlistF getlist
  simp only [scanDirF_hide, hideA_filter, List.map_map]
  apply List.map_congr_left
  intro e _
  simp only [Function.comp]
  have h := find_hideA A now fs
    ((scanDir now ((hideA A now fs).filter (inDir curSl)) (scanDir now ((hideA A now fs).filter (inDir newSl)) [] []).1
      (scanDir now ((hideA A now fs).filter (inDir newSl)) [] []).2).1.getD e.id [])
  split
  · rfl
  · congr 1
    -- `h`: hiding a file changes its mtime, not its data, so both lookups give the same size
    cases h1 : fsFind (hideA A now fs) _ <;> cases h2 : fsFind fs _ <;> simp_all

theorem getlistF_none (now : Nat) (fs : FS) : getlistF [] [] now fs = getlist now fs := by
  rw [getlistF_eq]
  have : hideA [] now fs = fs := by simp [hideA]
  rw [this]
  simp

/-! ### one command; without faults `execF` is `exec`, and so for the byte and event loops -/

theorem execF_retr (F : Faults) (s : Sess) (ao : Bool) (ar : Option Nat) (verb arg : Bytes)
    (h : lower verb = vRetr ∨ lower verb = vTop) :
    execF F s ao ar verb arg =
      match msgno s arg with
      | .err r => ((s, r, none), ao, ar)
      | .ok i => match s.msgs[i]? with
        | none => ((s, [], none), ao, ar)
        | some m =>
          if ao then ((s, errOpen, none), false, ar)
          else match fsFind s.fs m.fn with
            | none => ((s, errOpen, none), false, ar)
            | some f => match ar with
              | none => ((s, okLine ++ blast (limitFor verb arg) f.data, none), false, none)
              | some k =>
                ((s, okLine ++ (blastF (limitFor verb arg) f.data k).1,
                  if (blastF (limitFor verb arg) f.data k).2 then some 0 else none), false, none) := by
  unfold execF verbIs
  rcases h with h | h <;> rw [h] <;> rfl

theorem execF_none (s : Sess) (verb arg : Bytes) : execF {} s false none verb arg = (exec s verb arg, false, none) := by
  unfold execF
  by_cases hq : verbIs vQuit verb = true
  · rw [if_pos hq, exec_quit s verb arg (lower_of_verbIs hq), quitLoopF_none]
  · rw [if_neg hq]
    by_cases hr : verbIs vRetr verb = true ∨ verbIs vTop verb = true
    · rw [if_pos hr, exec_retr s verb arg (hr.imp lower_of_verbIs lower_of_verbIs)]
      cases msgno s arg with
      | err r => rfl
      | ok i =>
        dsimp only
        cases s.msgs[i]? with
        | none => rfl
        | some m =>
          dsimp only [Bool.false_eq_true, if_false]
          cases fsFind s.fs m.fn <;> rfl
    · rw [if_neg hr]

/-- an event of the fault-free model as an event of the model with faults -/
def lift : Ev → EvF
  | .data b => .data b
  | .vanish p => .vanish p

theorem feedByteF_none (r : Run) (c : Byte) :
    feedByteF {} ⟨r, false, none⟩ c = ⟨feedByte r c, false, none⟩ := by
  obtain ⟨s, cmd, out, ex⟩ := r
  unfold feedByteF feedByte
  cases ex with
  | some x => rfl
  | none =>
    simp only
    split
    · simp only [execF_none]
    · rfl

theorem feedBytesF_none (b : Bytes) (r : Run) :
    b.foldl (feedByteF {}) ⟨r, false, none⟩ = ⟨b.foldl feedByte r, false, none⟩ :=
  List.foldl_hom (fun r => (⟨r, false, none⟩ : RunF)) feedByteF_none

theorem feedEvF_none (r : Run) (e : Ev) : feedEvF {} ⟨r, false, none⟩ (lift e) = ⟨feedEv r e, false, none⟩ := by
  cases e with
  | data b => simp only [lift, feedEvF, feedEv, feedBytesF_none]
  | vanish p =>
    obtain ⟨s, cmd, out, ex⟩ := r
    simp only [lift, feedEvF, feedEv]
    cases ex <;> rfl

theorem feedEvsF_none (evs : List Ev) (r : Run) :
    (evs.map lift).foldl (feedEvF {}) ⟨r, false, none⟩ = ⟨evs.foldl feedEv r, false, none⟩ := by
  rw [List.foldl_map]
  exact List.foldl_hom (fun r => (⟨r, false, none⟩ : RunF)) feedEvF_none

theorem quit_keeps_skipped (U N : List Nat) (msgs : List Msg) (fs : FS) (m : Msg) (f : File)
    (hu : (msgs.map (·.fn)).Nodup) (hm : m ∈ msgs) (hin : m ∉ effective U N 0 0 msgs) (hf : fsFind fs m.fn = some f)
    (h2 : ∀ x ∈ msgs, x.del = false → (x.fn.take 4 == newSl) = true → seenName x.fn ≠ m.fn) :
    fsFind ((effective U N 0 0 msgs).foldl quitFs fs) m.fn = some f := by
  have hsub := (effective_sublist U N msgs 0 0).subset
  refine quit_keeps _ fs m.fn f hf (fun x hx hxe => ?_) (fun x hx => h2 x (hsub hx))
  exact absurd (eq_of_nodup_map (·.fn) msgs hu x (hsub hx) m hm hxe ▸ hx) hin

end Nq.Lemmas.Pop3F
