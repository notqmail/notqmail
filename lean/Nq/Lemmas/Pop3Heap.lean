/-
  The heap of prioq.c as used by qmail-pop3d's getlist(): the list model of `Nq.Pop3`
  (`pqInsert`, `pqDelmin`, `pqDrain`) is shown to be the array model of `Nq.Sched` (property C15),
  so that the heap lemmas proved there (`Nq.Lemmas.Sched`: heap order preserved, the root is a
  minimum, insert / delmin are multiset-exact) carry over.  From them: draining a heap yields its
  entries sorted, and `getlist` is a permutation of the eligible files sorted by mtime.  Core Lean only.
-/
import Nq.Pop3
import Nq.Lemmas.SchedHeap

namespace Nq.Lemmas.Pop3Heap
open Nq Nq.Pop3

/-! ### the two heap models are the same -/

def toS (e : Elt) : Nq.Sched.Elt := ⟨(e.dt : Int), e.id⟩
def ofS (e : Nq.Sched.Elt) : Elt := ⟨e.dt.toNat, e.id⟩

theorem ofS_toS (e : Elt) : ofS (toS e) = e := by
  cases e; simp [ofS, toS]

theorem map_ofS_toS (l : List Elt) : (l.map toS).map ofS = l := by
  have : ofS ∘ toS = id := funext ofS_toS
  rw [List.map_map, this, List.map_id]

def toA (l : List Elt) : Nq.Sched.PQ := (l.map toS).toArray

theorem toA_size (l : List Elt) : (toA l).size = l.length := by simp [toA]

theorem toA_toList (l : List Elt) : (toA l).toList = l.map toS := by simp [toA]

theorem toA_get (l : List Elt) (i : Nat) : (toA l)[i]! = toS (eltAt l i) := by
  simp only [toA, eltAt, Array.getElem!_eq_getD, Array.getD_eq_getD_getElem?, List.getElem?_toArray,
    List.getElem?_map, List.getD_eq_getElem?_getD]
  cases l[i]? with
  | none => rfl
  | some e => rfl

theorem toA_set (l : List Elt) (i : Nat) (v : Elt) : toA (l.set i v) = (toA l).setIfInBounds i (toS v) := by
  apply Array.ext'
  simp [toA, List.map_set]

theorem toS_dt_le (a b : Elt) : (toS a).dt ≤ (toS b).dt ↔ a.dt ≤ b.dt := by
  simp [toS]

/-- Two amounts of fuel: the models run the same loops on different fuel (`Nq.Pop3` on len+1 and n+2, `Nq.Sched` on
size and size-1), so the simulation is stated for any `f`, `g` that both cover the sift path. -/
theorem sim_siftUp (pe : Elt) : ∀ (f g : Nat) (a : List Elt) (j : Nat), j ≤ f → j ≤ g →
    toA (siftUp f a j pe) = Nq.Sched.siftUp (toS pe) g (toA a) j := by
  intro f
  induction f with
  | zero =>
    intro g a j hf _
    obtain rfl : j = 0 := by omega
    cases g <;> simp [siftUp, Nq.Sched.siftUp, toA_set]
  | succ f ih =>
    intro g a j _ hg
    cases g with
    | zero =>
      obtain rfl : j = 0 := by omega
      simp [siftUp, Nq.Sched.siftUp, toA_set]
    | succ g =>
      simp only [siftUp, Nq.Sched.siftUp]
      by_cases hj : j = 0
      · subst hj; simp [toA_set]
      · rw [if_neg hj, if_neg hj]
        simp only [toA_get, toS_dt_le]
        by_cases hc : (eltAt a ((j - 1) / 2)).dt ≤ pe.dt
        · rw [if_pos hc, if_pos hc, toA_set]
        · rw [if_neg hc, if_neg hc, ih g _ _ (by omega) (by omega), toA_set]

/-- the hole index `i` strictly increases towards `n`: hence the fuel bounds. The `.set` on the left: `Nq.Pop3.siftDown`
returns the hole and leaves it to `pqDelmin` to store `p[n]` there, `Nq.Sched.siftDown` stores it itself. -/
theorem sim_siftDown : ∀ (f g : Nat) (a : List Elt) (i n : Nat), i < n → n ≤ i + f → n ≤ i + g →
    toA ((siftDown f a i n).1.set (siftDown f a i n).2 (eltAt a n)) = Nq.Sched.siftDown g (toA a) n i := by
  intro f
  induction f with
  | zero => intro g a i n _ _ _; omega
  | succ f ih =>
    intro g a i n hin _ hg
    obtain ⟨g, rfl⟩ : ∃ g', g = g' + 1 := ⟨g - 1, by omega⟩
    simp only [siftDown, Nq.Sched.siftDown]
    by_cases hj : i + i + 2 > n
    · rw [if_pos hj, if_pos hj, toA_set, toA_get]
    · rw [if_neg hj, if_neg hj]
      simp only [toA_get, toS_dt_le]
      generalize hjj : (if (eltAt a (i + i + 2 - 1)).dt ≤ (eltAt a (i + i + 2)).dt then i + i + 2 - 1 else i + i + 2) = j'
      have hj' : j' ≤ n ∧ i < j' := by
        rw [← hjj]; split <;> omega
      by_cases hc : (eltAt a n).dt ≤ (eltAt a j').dt
      · rw [if_pos hc, if_pos hc, toA_set]
      · rw [if_neg hc, if_neg hc]
        have hjn : j' < n := by
          rcases Nat.lt_or_ge j' n with h | h
          · exact h
          · have : j' = n := by omega
            subst this; exact absurd (Nat.le_refl _) hc
        have := ih g (a.set i (eltAt a j')) j' n hjn (by omega) (by omega)
        have he : eltAt (a.set i (eltAt a j')) n = eltAt a n := by
          simp only [eltAt, List.getD_eq_getElem?_getD]
          rw [List.getElem?_set_ne (by omega)]
        rw [he] at this
        rw [this, toA_set]

theorem siftDown_length : ∀ (f : Nat) (a : List Elt) (i n : Nat), (siftDown f a i n).1.length = a.length := by
  intro f
  induction f with
  | zero => intro a i n; rfl
  | succ f ih =>
    intro a i n
    simp only [siftDown]
    split
    · rfl
    · generalize (if (eltAt a (i + i + 2 - 1)).dt ≤ (eltAt a (i + i + 2)).dt then i + i + 2 - 1 else i + i + 2) = j'
      split
      · rfl
      · rw [ih]; simp

theorem toA_take_pop (l : List Elt) (n : Nat) (h : l.length = n + 1) : toA (l.take n) = (toA l).pop := by
  apply Array.ext'
  simp [toA, List.dropLast_eq_take, h]

theorem toA_pqInsert (pq : List Elt) (pe : Elt) : toA (pqInsert pq pe) = (toA pq).insert (toS pe) := by
  unfold pqInsert Nq.Sched.PQ.insert
  rw [sim_siftUp pe _ pq.length _ _ (Nat.le_succ _) (Nat.le_refl _), toA_size]
  congr 1
  simp [toA]

theorem toA_pqDelmin (pq : List Elt) : toA (pqDelmin pq) = (toA pq).delmin := by
  unfold pqDelmin Nq.Sched.PQ.delmin
  rw [toA_size]
  cases hn : pq.length with
  | zero => simp
  | succ n =>
    simp only [Nat.succ_ne_zero, if_false, Nat.add_sub_cancel]
    by_cases h0 : n = 0
    · subst h0
      obtain ⟨x, rfl⟩ := List.length_eq_one_iff.mp hn
      rfl
    · rw [← sim_siftDown (n + 2) n pq 0 n (by omega) (by omega) (by omega)]
      exact toA_take_pop _ n (by rw [List.length_set, siftDown_length, hn])

/-! ### heap facts for the list model, from `Nq.Lemmas.Sched` -/

/-- heap order of the list model -/
def HeapL (pq : List Elt) : Prop := Nq.Sched.Heap (toA pq)

theorem heapL_nil : HeapL [] := by
  show Nq.Sched.Heap (toA [])
  exact Nq.Lemmas.Sched.heap_empty

theorem perm_of_map_toS {a b : List Elt} (h : (a.map toS).Perm (b.map toS)) : a.Perm b := by
  have := h.map ofS
  rwa [map_ofS_toS, map_ofS_toS] at this

theorem pqInsert_spec (pq : List Elt) (pe : Elt) (h : HeapL pq) :
    HeapL (pqInsert pq pe) ∧ (pqInsert pq pe).Perm (pe :: pq) := by
  have hs := Nq.Lemmas.Sched.insert_spec (toA pq) (toS pe) h
  rw [← toA_pqInsert] at hs
  refine ⟨hs.1, perm_of_map_toS ?_⟩
  have := hs.2
  rwa [toA_toList, toA_toList] at this

theorem pqDelmin_spec (e : Elt) (t : List Elt) (h : HeapL (e :: t)) :
    HeapL (pqDelmin (e :: t)) ∧ (e :: t).Perm (e :: pqDelmin (e :: t)) ∧
    ∀ x ∈ e :: t, e.dt ≤ x.dt := by
  have hne : (toA (e :: t)).size ≠ 0 := by rw [toA_size]; simp
  have hs := Nq.Lemmas.Sched.delmin_spec (toA (e :: t)) h hne
  rw [← toA_pqDelmin] at hs
  have h0 : (toA (e :: t))[0]! = toS e := by rw [toA_get]; rfl
  refine ⟨hs.1, perm_of_map_toS ?_, ?_⟩
  · have := hs.2
    rw [h0, toA_toList, toA_toList] at this
    simpa using this
  · intro x hx
    have := Nq.Lemmas.Sched.heap_root_le_mem (toA (e :: t)) h (toS x)
      (by rw [toA_toList]; exact List.mem_map_of_mem hx)
    rw [h0] at this
    exact (toS_dt_le e x).mp this

theorem pqDrain_spec : ∀ (f : Nat) (pq : List Elt), pq.length ≤ f → HeapL pq →
    (pqDrain f pq).Perm pq ∧ (pqDrain f pq).Pairwise (fun a b => a.dt ≤ b.dt) := by
  intro f
  induction f with
  | zero =>
    intro pq hl _
    have : pq = [] := List.eq_nil_of_length_eq_zero (by omega)
    subst this
    simp [pqDrain]
  | succ f ih =>
    intro pq hl h
    cases pq with
    | nil => simp [pqDrain]
    | cons e t =>
      obtain ⟨h1, h2, h3⟩ := pqDelmin_spec e t h
      have hlen : (pqDelmin (e :: t)).length ≤ f := by
        have := h2.length_eq
        simp only [List.length_cons] at this hl
        omega
      obtain ⟨i1, i2⟩ := ih (pqDelmin (e :: t)) hlen h1
      simp only [pqDrain]
      refine ⟨?_, ?_⟩
      · exact ((List.perm_cons e).mpr i1).trans h2.symm
      · rw [List.pairwise_cons]
        refine ⟨?_, i2⟩
        intro x hx
        exact h3 x (h2.symm.subset (List.mem_cons_of_mem _ (i1.subset hx)))

/-! ### maildir_scan and getlist -/

/-- `d->d_name[0] != '.'` -/
def notDot (f : File) : Bool := (baseName f).head? != some DOT

/-- the messages a POP3 session shows: the entries of new/ then cur/ (readdir order) whose name does
not begin with a dot and whose mtime is before the start of the session -/
def eligible (now : Nat) (fs : FS) : List File :=
  ((fs.filter (inDir newSl) ++ fs.filter (inDir curSl)).filter notDot).filter (fun f => decide (f.mtime < now))

theorem mem_eligible (now : Nat) (fs : FS) (f : File) : f ∈ eligible now fs ↔
    f ∈ fs ∧ (inDir newSl f = true ∨ inDir curSl f = true) ∧ notDot f = true ∧ f.mtime < now := by
  simp only [eligible, List.mem_filter, List.mem_append, decide_eq_true_eq, ← and_or_left, and_assoc]

/-- the size announced for a path: the length of the file of that name at start-up -/
def sizeAt (fs : FS) (p : Bytes) : Nat := match fsFind fs p with | some f => f.data.length | none => 0

/-- the table entry getlist() makes for a file -/
def startMsg (fs : FS) (f : File) : Msg := { fn := f.path, size := sizeAt fs f.path, del := false }

/-- the heap entries maildir.c append() creates for the non-dot directory entries `nd`, the first of
which is stored at index `k` of `filenames` -/
def entries (now : Nat) : Nat → List File → List Elt
  | _, [] => []
  | k, f :: rest => (if f.mtime < now then [⟨f.mtime, k⟩] else []) ++ entries now (k + 1) rest

theorem entries_append (now : Nat) : ∀ (a b : List File) (k : Nat),
    entries now k (a ++ b) = entries now k a ++ entries now (k + a.length) b := by
  intro a
  induction a with
  | nil => intro b k; simp [entries]
  | cons f a ih =>
    intro b k
    simp only [List.cons_append, entries, ih, List.length_cons, List.append_assoc]
    congr 3
    omega

theorem scanDir_spec (now : Nat) : ∀ (files : List File) (names : List Bytes) (pq : List Elt), HeapL pq →
    (scanDir now files names pq).1 = names ++ (files.filter notDot).map (·.path) ∧
    HeapL (scanDir now files names pq).2 ∧
    (scanDir now files names pq).2.Perm (entries now names.length (files.filter notDot) ++ pq) := by
  intro files
  induction files with
  | nil => intro names pq h; simp [scanDir, entries, h]
  | cons f rest ih =>
    intro names pq h
    by_cases hd : (baseName f).head? = some DOT
    · have hn : notDot f = false := by simp [notDot, hd]
      simp only [scanDir, hd, if_true, List.filter_cons, hn]
      exact ih names pq h
    · have hn : notDot f = true := by simp [notDot, hd]
      simp only [scanDir, hd, if_false, List.filter_cons, hn, if_true]
      by_cases hm : f.mtime < now
      · simp only [hm, if_true]
        obtain ⟨a1, a2⟩ := pqInsert_spec pq ⟨f.mtime, names.length⟩ h
        obtain ⟨b1, b2, b3⟩ := ih (names ++ [f.path]) _ a1
        refine ⟨by rw [b1]; simp, b2, b3.trans ?_⟩
        simp only [entries, hm, if_true, List.length_append, List.length_singleton, List.cons_append,
          List.nil_append]
        exact ((List.perm_append_left_iff _).mpr a2).trans List.perm_middle
      · simp only [hm, if_false]
        obtain ⟨b1, b2, b3⟩ := ih (names ++ [f.path]) pq h
        refine ⟨by rw [b1]; simp, b2, ?_⟩
        simpa [entries, hm] using b3

def dummyFile : File := ⟨[], [], 0, 0⟩

/-- the directory entry a heap entry stands for -/
def fileAt (nd : List File) (e : Elt) : File := nd.getD e.id dummyFile

theorem entries_mem (now : Nat) : ∀ (rest pre : List File) (e : Elt), e ∈ entries now pre.length rest →
    ∃ f, (pre ++ rest)[e.id]? = some f ∧ e.dt = f.mtime := by
  intro rest
  induction rest with
  | nil => intro pre e he; simp [entries] at he
  | cons f rest ih =>
    intro pre e he
    simp only [entries, List.mem_append] at he
    rcases he with he | he
    · by_cases hm : f.mtime < now
      · simp only [hm, if_true, List.mem_singleton] at he
        subst he
        exact ⟨f, by simp, rfl⟩
      · simp [hm] at he
    · have := ih (pre ++ [f]) e (by simpa using he)
      simpa using this

theorem entries_files (now : Nat) : ∀ (rest pre : List File),
    (entries now pre.length rest).map (fileAt (pre ++ rest)) = rest.filter (fun f => decide (f.mtime < now)) := by
  intro rest
  induction rest with
  | nil => intro pre; rfl
  | cons f rest ih =>
    intro pre
    have h := ih (pre ++ [f])
    simp only [List.length_append, List.length_singleton, List.append_assoc, List.singleton_append] at h
    simp only [entries, List.map_append, h, List.filter_cons]
    by_cases hm : f.mtime < now
    · simp [hm, fileAt]
    · simp [hm]

/-- equal mtimes come in whatever order the heap of prioq.c gives: `Pairwise (· ≤ ·)` leaves it open -/
theorem getlist_sorted_perm (now : Nat) (fs : FS) :
    ∃ L : List File, L.Perm (eligible now fs) ∧ L.Pairwise (fun a b => a.mtime ≤ b.mtime) ∧
      getlist now fs = L.map (startMsg fs) := by
  obtain ⟨a1, a2, a3⟩ := scanDir_spec now (fs.filter (inDir newSl)) [] [] heapL_nil
  obtain ⟨b1, b2, b3⟩ := scanDir_spec now (fs.filter (inDir curSl)) _ _ a2
  -- the non-dot entries, in the order of `filenames`
  let nd := (fs.filter (inDir newSl) ++ fs.filter (inDir curSl)).filter notDot
  have hnd : nd = (fs.filter (inDir newSl)).filter notDot ++ (fs.filter (inDir curSl)).filter notDot :=
    List.filter_append ..
  have hnames : (scanDir now (fs.filter (inDir curSl)) (scanDir now (fs.filter (inDir newSl)) [] []).1
      (scanDir now (fs.filter (inDir newSl)) [] []).2).1 = nd.map (·.path) := by
    rw [b1, a1, hnd]; simp
  have hheap : (scanDir now (fs.filter (inDir curSl)) (scanDir now (fs.filter (inDir newSl)) [] []).1
      (scanDir now (fs.filter (inDir newSl)) [] []).2).2.Perm (entries now 0 nd) := by
    refine b3.trans ?_
    rw [hnd, entries_append, a1]
    simp only [List.nil_append, List.length_map, List.length_nil, Nat.zero_add] at a3 ⊢
    exact (List.perm_append_comm).trans ((List.perm_append_right_iff _).mpr (by simpa using a3))
  generalize hq : (scanDir now (fs.filter (inDir curSl)) (scanDir now (fs.filter (inDir newSl)) [] []).1
      (scanDir now (fs.filter (inDir newSl)) [] []).2) = r2 at b2 hnames hheap
  obtain ⟨d1, d2⟩ := pqDrain_spec r2.2.length r2.2 (Nat.le_refl _) b2
  have hD : (pqDrain r2.2.length r2.2).Perm (entries now 0 nd) := d1.trans hheap
  have hmem : ∀ e ∈ pqDrain r2.2.length r2.2, ∃ f, nd[e.id]? = some f ∧ e.dt = f.mtime := by
    intro e he
    have := entries_mem now nd [] e (by simpa using hD.subset he)
    simpa using this
  refine ⟨(pqDrain r2.2.length r2.2).map (fileAt nd), ?_, ?_, ?_⟩
  · have := hD.map (fileAt nd)
    have h2 := entries_files now nd []
    simp only [List.length_nil, List.nil_append] at h2
    rw [h2] at this
    exact this
  · rw [List.pairwise_map]
    refine (List.Pairwise.and_mem.mp d2).imp ?_
    intro a b ⟨ha, hb, hab⟩
    obtain ⟨fa, ha1, ha2⟩ := hmem a ha
    obtain ⟨fb, hb1, hb2⟩ := hmem b hb
    have ea : fileAt nd a = fa := by simp [fileAt, List.getD_eq_getElem?_getD, ha1]
    have eb : fileAt nd b = fb := by simp [fileAt, List.getD_eq_getElem?_getD, hb1]
    rw [ea, eb, ← ha2, ← hb2]; exact hab
  · unfold getlist
    simp only [hq, List.map_map]
    apply List.map_congr_left
    intro e he
    obtain ⟨f, h1, _⟩ := hmem e he
    have ef : fileAt nd e = f := by simp [fileAt, List.getD_eq_getElem?_getD, h1]
    have en : r2.1.getD e.id [] = f.path := by
      rw [hnames]; simp [List.getD_eq_getElem?_getD, h1]
    simp only [Function.comp, ef, en, startMsg, sizeAt]
    cases fsFind fs f.path <;> rfl

end Nq.Lemmas.Pop3Heap
