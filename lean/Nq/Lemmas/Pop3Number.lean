/-
  The numbers in command arguments of qmail-pop3d: msgno() and the count of TOP, in terms of the
  unbounded decimal value of a digit run (no modulus, saturation included).  Core Lean only.
-/
import Nq.Pop3

namespace Nq.Lemmas.Pop3
open Nq Nq.Pop3

theorem drop_takeWhile_length {α} (p : α → Bool) (l : List α) : l.drop (l.takeWhile p).length = l.dropWhile p := by
  induction l with
  | nil => rfl
  | cons c l ih =>
    by_cases h : p c = true
    · simp [h, ih]
    · simp [h]

/-- `hs` is `rfl` on a flag that `tools/extractors/c19.py` regenerates from qmail-pop3d.c on every run, as are `hs` of
`junkAfter_eq` (`msgnoStrict`) and `hr` of `limitFor_of_not_top` (`retrWhole`): these three, and with them everything
stated through `msgnoSpec` or `topLimit_spec`, compile only for a source that scans with `scan_ulong_sat`, refuses a
number followed by junk and gives RETR its own handler. -/
theorem scan_sat (arg : Bytes) :
    scanUlong arg = (min (decVal (arg.takeWhile isDigit)) (U64 - 1), (arg.takeWhile isDigit).length) := by
  have hs : Gen.Pop3Tab.scanSaturates = true := rfl
  unfold scanUlong scanWith
  simp only [hs, if_true]

/-- does the argument end after its leading digit run, or go on with a space? -/
def endsOk (arg : Bytes) : Bool :=
  match arg.dropWhile isDigit with
  | [] => true
  | c :: _ => c == SP

/-- msgno() in terms of the unbounded decimal value of the leading digit run -/
def msgnoSpec (s : Sess) (arg : Bytes) : MsgNo :=
  let ds := arg.takeWhile isDigit
  if ds = [] ∨ endsOk arg = false then .err (errLine "syntax error")
  else if decVal ds = 0 then .err (errLine "messages are counted from 1")
  else if decVal ds > s.msgs.length ∨ decVal ds > INT_MAX then .err (errLine "not that many messages")
  else match s.msgs[decVal ds - 1]? with
    | some m => if m.del then .err (errLine "already deleted") else .ok (decVal ds - 1)
    | none => .err (errLine "not that many messages")

theorem junkAfter_eq (arg : Bytes) : junkAfter arg (arg.takeWhile isDigit).length = !endsOk arg := by
  have hs : Gen.Pop3Tab.msgnoStrict = true := rfl
  unfold junkAfter junkAfterWith endsOk
  rw [hs, drop_takeWhile_length]
  cases arg.dropWhile isDigit with
  | nil => rfl
  | cons c t => simp [bne]

theorem msgno_eq_spec (s : Sess) (arg : Bytes) : msgno s arg = msgnoSpec s arg := by
  unfold msgno msgnoSpec
  rw [scan_sat]
  simp only [junkAfter_eq]
  generalize endsOk arg = eo
  generalize arg.takeWhile isDigit = ds
  have c0 : (ds.length = 0 ∨ (!eo) = true) ↔ (ds = [] ∨ eo = false) := by
    rw [List.length_eq_zero_iff, Bool.not_eq_true']
  by_cases h0 : ds = [] ∨ eo = false
  · rw [if_pos (c0.mpr h0), if_pos h0]
  rw [if_neg (mt c0.mp h0), if_neg h0]
  generalize decVal ds = v
  -- the saturating scanner returns the value itself, or both are beyond INT_MAX
  have hu : min v (U64 - 1) = v ∨ (INT_MAX < v ∧ INT_MAX < min v (U64 - 1) - 1) := by
    unfold U64 INT_MAX; omega
  rcases hu with e | ⟨h1, h2⟩
  · rw [e]
    by_cases h1 : v = 0
    · rw [if_pos h1, if_pos h1]
    rw [if_neg h1, if_neg h1]
    have : (v - 1 ≥ s.msgs.length ∨ v - 1 ≥ INT_MAX) ↔ (v > s.msgs.length ∨ v > INT_MAX) := by omega
    exact ite_congr (propext this) (fun _ => rfl) (fun _ => by cases s.msgs[v - 1]? <;> rfl)
  · rw [if_neg (by omega), if_pos (.inr (Nat.le_of_lt h2)), if_neg (by omega), if_pos (.inr h1)]

/-- msgno() by cases on the unbounded value of the leading digit run: the scanner's saturation does not show -/
theorem msgno_cases (s : Sess) (arg : Bytes) :
    (msgno s arg = .err (errLine "syntax error") ∧ (arg.takeWhile isDigit = [] ∨ endsOk arg = false)) ∨
    (arg.takeWhile isDigit ≠ [] ∧ endsOk arg = true ∧
      ((msgno s arg = .err (errLine "messages are counted from 1") ∧ decVal (arg.takeWhile isDigit) = 0) ∨
       (msgno s arg = .err (errLine "not that many messages") ∧
          (decVal (arg.takeWhile isDigit) > s.msgs.length ∨ decVal (arg.takeWhile isDigit) > INT_MAX)) ∨
       ∃ i m, decVal (arg.takeWhile isDigit) = i + 1 ∧ i < s.msgs.length ∧ i < INT_MAX ∧ s.msgs[i]? = some m ∧
         ((msgno s arg = .err (errLine "already deleted") ∧ m.del = true) ∨ (msgno s arg = .ok i ∧ m.del = false)))) := by
  rw [msgno_eq_spec]
  unfold msgnoSpec
  dsimp only
  generalize arg.takeWhile isDigit = ds
  by_cases h0 : ds = [] ∨ endsOk arg = false
  · exact .inl ⟨if_pos h0, h0⟩
  rw [if_neg h0]
  refine .inr ⟨fun e => h0 (.inl e), (Bool.not_eq_false _).mp fun e => h0 (.inr e), ?_⟩
  by_cases h1 : decVal ds = 0
  · exact .inl ⟨if_pos h1, h1⟩
  rw [if_neg h1]
  by_cases h2 : decVal ds > s.msgs.length ∨ decVal ds > INT_MAX
  · exact .inr (.inl ⟨if_pos h2, h2⟩)
  rw [if_neg h2]
  obtain ⟨i, hi⟩ : ∃ i, decVal ds = i + 1 := ⟨decVal ds - 1, by omega⟩
  have hl : i < s.msgs.length := by omega
  rw [hi, Nat.add_sub_cancel, List.getElem?_eq_getElem hl]
  refine .inr (.inr ⟨i, s.msgs[i], rfl, hl, by omega, List.getElem?_eq_getElem hl, ?_⟩)
  dsimp only
  cases s.msgs[i].del
  · exact .inr ⟨rfl, rfl⟩
  · exact .inl ⟨rfl, rfl⟩

theorem msgno_ok_iff (s : Sess) (arg : Bytes) (i : Nat) :
    msgno s arg = .ok i ↔
      (arg.takeWhile isDigit ≠ [] ∧ endsOk arg = true ∧ decVal (arg.takeWhile isDigit) = i + 1 ∧ i < s.msgs.length ∧ i < INT_MAX ∧
        ∃ m, s.msgs[i]? = some m ∧ m.del = false) := by
  rcases msgno_cases s arg with ⟨e, h⟩ | ⟨h0, h1, ⟨e, h⟩ | ⟨e, h⟩ | ⟨j, m, hj, hl, hi, hm, ⟨e, hd⟩ | ⟨e, hd⟩⟩⟩
  · rw [e]
    refine iff_of_false nofun fun ⟨a, b, _⟩ => ?_
    rcases h with h | h
    · exact a h
    · rw [b] at h; cases h
  · rw [e]
    exact iff_of_false nofun fun ⟨_, _, c, _⟩ => by omega
  · rw [e]
    exact iff_of_false nofun fun ⟨_, _, c, _, _, _⟩ => by omega
  · rw [e]
    refine iff_of_false nofun fun ⟨_, _, c, _, _, m', hm', hd'⟩ => ?_
    obtain rfl : j = i := by omega
    rw [hm] at hm'
    cases hm'
    rw [hd] at hd'
    cases hd'
  · rw [e]
    constructor
    · intro hji
      cases hji
      exact ⟨h0, h1, hj, hl, hi, m, hm, hd⟩
    · intro ⟨_, _, c, _⟩
      obtain rfl : j = i := by omega
      rfl

theorem msgno_err_take {s : Sess} {arg r : Bytes} (h : msgno s arg = .err r) : r.take 5 = errSp := by
  rcases msgno_cases s arg with ⟨e, _⟩ | ⟨_, _, ⟨e, _⟩ | ⟨e, _⟩ | ⟨_, _, _, _, _, _, ⟨e, _⟩ | ⟨e, _⟩⟩⟩
  all_goals rw [e] at h
  all_goals cases h
  all_goals rfl

theorem msgno_err_of_not_ok (s : Sess) (arg : Bytes) (h : ∀ i, msgno s arg ≠ .ok i) :
    ∃ r, msgno s arg = .err r ∧ r.take 5 = errSp := by
  cases hm : msgno s arg with
  | err r => exact ⟨r, rfl, msgno_err_take hm⟩
  | ok i => exact absurd hm (h i)

/-! ### TOP: the limit, saturation included -/

/-- the optional second number of TOP (unbounded) -/
def topCount (arg : Bytes) : Option Nat :=
  let a2 := (arg.dropWhile isDigit).dropWhile (· = SP)
  if a2.takeWhile isDigit = [] then none else some (decVal (a2.takeWhile isDigit))

theorem topLimit_spec (arg : Bytes) :
    topLimit arg = match topCount arg with
      | none => 0
      | some k => if k < U64 - 1 then k + 1 else 0 := by
  unfold topLimit topCount
  rw [scan_sat arg]
  simp only [drop_takeWhile_length]
  rw [scan_sat]
  simp only
  generalize ((arg.dropWhile isDigit).dropWhile (fun x => decide (x = SP))).takeWhile isDigit = ds
  by_cases h0 : ds = []
  · simp [h0]
  have h0' : ds.length ≠ 0 := by simpa using h0
  simp only [h0, h0', if_false, ne_eq, not_false_eq_true, if_true]
  by_cases hk : decVal ds < U64 - 1
  · rw [if_pos hk, Nat.min_eq_left (by omega)]
    exact Nat.mod_eq_of_lt (by omega)
  · rw [if_neg hk, Nat.min_eq_right (by omega)]
    unfold U64; rfl

end Nq.Lemmas.Pop3
