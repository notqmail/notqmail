/-
  qmail-popup: main() from the input bytes to descriptor 3, and against the independent pre-authentication
  reference `Pop3Ref.prefStep` / `pwalk` / `popupOk`: every dialogue of the model is accepted.  Core Lean only.
-/
import Nq.Lemmas.Pop3Reply
import Nq.Lemmas.SmtpCmdPop3
namespace Nq.Lemmas.Pop3
open Nq Nq.Pop3 Nq.Pop3Ref Nq.Lemmas.Pop3Fmt

/-! ### qmail-popup: main() from the input bytes to descriptor 3 -/

open Nq.Pop3.Popup in
/-- what commands() of qmail-popup does with one complete line (without its LF) -/
def pstepLine (r : Popup.PRun) (line : Bytes) : Popup.PRun :=
  match r.act with
  | .cont =>
    { s := (Popup.pexec r.s (parseLine line).1 (parseLine line).2).1, cmd := [],
      out := r.out ++ (Popup.pexec r.s (parseLine line).1 (parseLine line).2).2.1,
      act := (Popup.pexec r.s (parseLine line).1 (parseLine line).2).2.2 }
  | _ => r

theorem pfeed_noLF (line : Bytes) (r : Popup.PRun) (hx : r.act = .cont) (hl : LF ∉ line) :
    line.foldl Popup.pfeedByte r = { r with cmd := line.reverse ++ r.cmd } :=
  foldl_collect Popup.pfeedByte (fun l => { r with cmd := l }) (fun l c hc => by unfold Popup.pfeedByte; simp [hx, hc])
    line r.cmd hl

theorem pfeed_line (r : Popup.PRun) (line : Bytes) (ha : r.act = .cont) (hc : r.cmd = []) (hl : LF ∉ line) :
    (line ++ [LF]).foldl Popup.pfeedByte r = pstepLine r line := by
  rw [List.foldl_append, pfeed_noLF line r ha hl]
  simp only [List.foldl_cons, List.foldl_nil]
  unfold Popup.pfeedByte
  simp [ha, hc, pstepLine]

theorem pfeed_stopped (b : Bytes) (r : Popup.PRun) (h : r.act ≠ .cont) : b.foldl Popup.pfeedByte r = r := by
  refine foldl_fixed _ r (fun c => ?_) b
  unfold Popup.pfeedByte
  cases ha : r.act with
  | cont => exact absurd ha h
  | _ => rfl

theorem verb_clean (v t : Bytes) (h : lower v = t) (ht : ∀ c ∈ t, 97 ≤ c ∧ c ≤ 122) :
    ∀ c ∈ v, c ≠ SP ∧ c ≠ NUL ∧ c ≠ LF := by
  intro c hc
  have hm : lowerByte c ∈ t := by rw [← h]; exact List.mem_map_of_mem hc
  have hb := ht _ hm
  refine ⟨?_, ?_, ?_⟩ <;> (intro e; rw [e] at hb; revert hb; decide)

theorem line_noLF (v a : Bytes) (k : Nat) (hv : ∀ c ∈ v, c ≠ SP ∧ c ≠ NUL ∧ c ≠ LF) (ha : ∀ c ∈ a, c ≠ NUL ∧ c ≠ LF) :
    LF ∉ v ++ (List.replicate k SP ++ a) ++ [CR] := by
  intro h
  simp only [List.mem_append, List.mem_replicate, List.mem_singleton] at h
  rcases h with (h | h | h) | h
  · exact (hv _ h).2.2 rfl
  · exact absurd h.2 (by decide)
  · exact (ha _ h).2 rfl
  · exact absurd h (by decide)

theorem pfeed_cmd (r : Popup.PRun) (v t a rest : Bytes) (k : Nat) (hact : r.act = .cont) (hcmd : r.cmd = [])
    (hv : lower v = t) (ht : ∀ c ∈ t, 97 ≤ c ∧ c ≤ 122) (ha : ∀ c ∈ a, c ≠ NUL ∧ c ≠ LF) (hh : a.head? ≠ some SP)
    (hk : k ≠ 0) :
    (v ++ (List.replicate k SP ++ a) ++ [CR] ++ [LF] ++ rest).foldl Popup.pfeedByte r =
      rest.foldl Popup.pfeedByte { s := (Popup.pexec r.s v a).1, cmd := [], out := r.out ++ (Popup.pexec r.s v a).2.1,
                                   act := (Popup.pexec r.s v a).2.2 } := by
  have c := verb_clean v t hv ht
  rw [List.foldl_append, pfeed_line r _ hact hcmd (line_noLF v a k c ha), pstepLine, hact]
  simp only [Nq.Lemmas.SmtpCmd.pop3_parse_words v a [CR] k (fun x hx => ⟨(c x hx).1, (c x hx).2.1⟩)
    (fun x hx => (ha x hx).1) hh (fun _ => hk) (.inl rfl)]

def childMsg : Popup.Child → Bytes
  | .crashed => errLine "aack, child crashed"
  | .exited 0 => []
  | .exited _ => errLine "authorization failed"

theorem pfinish_auth (pid now : Nat) (host : Bytes) (child : Popup.Child) (r : Popup.PRun) (a : Popup.Auth)
    (h : r.act = .auth a) :
    Popup.pfinish pid now host child r = { out := r.out ++ childMsg child, fd3 := some (Popup.fd3 pid now host a), code := 1 } := by
  unfold Popup.pfinish
  rw [h]
  simp only [Popup.PResult.mk.injEq, and_true, List.append_cancel_left_eq]
  cases child with
  | crashed => rfl
  | exited c => cases c <;> rfl

theorem pfinish_fd3 (pid now : Nat) (host : Bytes) (child : Popup.Child) (r : Popup.PRun) (b : Bytes) :
    (Popup.pfinish pid now host child r).fd3 = some b ↔ ∃ a, r.act = .auth a ∧ b = Popup.fd3 pid now host a := by
  unfold Popup.pfinish
  cases r.act <;> simp [eq_comm]

/-! ### against the pre-authentication reference -/

/-- model state and reference state of the dialogue agree on the user name given so far -/
def PRel (s : Popup.PSt) (ps : PRef) : Prop :=
  (ps.user = none ∧ s.seenuser = false) ∨ (ps.user = some s.username ∧ s.seenuser = true)

theorem apop_split (arg : Bytes) :
    match arg.idxOf? SP with
    | none => arg.dropWhile (· ≠ SP) = []
    | some i => arg.takeWhile (· ≠ SP) = arg.take i ∧ arg.dropWhile (· ≠ SP) = SP :: arg.drop (i + 1) := by
  induction arg with
  | nil => simp
  | cons c t ih =>
    rw [List.idxOf?_cons]
    by_cases hc : c = SP
    · simp [hc]
    · have hb : (c == SP) = false := by simpa using hc
      rw [hb]
      simp only [Bool.false_eq_true, if_false]
      cases h : t.idxOf? SP with
      | none => rw [h] at ih; simp [hc]; simpa using ih
      | some i =>
        rw [h] at ih
        simp only [Option.map_some]
        simp only [List.takeWhile_cons, List.dropWhile_cons, hc, ne_eq, not_false_eq_true, decide_true, if_true,
          List.take_succ_cons, List.drop_succ_cons]
        exact ⟨by rw [ih.1], ih.2⟩

theorem pwalk_cons (greet : Bytes) (childOk : Bool) (ps ps' : PRef) (l v a : Bytes) (e : PExpect) (rest : List Bytes)
    (w : Bytes) (fd3 : Option Bytes) (h1 : splitCmd l = (v, a)) (h2 : prefStep greet ps v a = (ps', e)) :
    pwalk greet childOk ps (l :: rest) w fd3 =
      match e with
      | .ok => (match readLine w with
        | some (r, w') => isOk r && pwalk greet childOk ps' rest w' fd3
        | none => false)
      | .err => (match readLine w with
        | some (r, w') => isErr r && pwalk greet childOk ps' rest w' fd3
        | none => false)
      | .quit => (match readLine w with
        | some (r, w') => isOk r && w'.isEmpty && fd3.isNone
        | none => false)
      | .auth expected =>
        (fd3 == some expected &&
        (if childOk then w.isEmpty else match readLine w with
          | some (r, w') => isErr r && w'.isEmpty
          | none => false)) := by
  simp only [pwalk, h1, h2]
  cases e <;> rfl

def childOkOf : Popup.Child → Bool
  | .exited 0 => true
  | _ => false

theorem childMsg_ok (child : Popup.Child) :
    (if childOkOf child then (childMsg child).isEmpty else match readLine (childMsg child) with
      | some (r, w') => isErr r && w'.isEmpty
      | none => false) = true := by
  cases child with
  | crashed =>
    have := readLine_errLine "aack, child crashed" [] noLF_aack
    simp only [List.append_nil] at this
    simp [childOkOf, childMsg, this, isErr_errSp]
  | exited c =>
    cases c with
    | zero => simp [childOkOf, childMsg]
    | succ n =>
      have := readLine_errLine "authorization failed" [] noLF_authfailed
      simp only [List.append_nil] at this
      simp [childOkOf, childMsg, this, isErr_errSp]

theorem pstep_sim (greet : Bytes) (s : Popup.PSt) (ps : PRef) (hrel : PRel s ps) (v a : Bytes) :
    (∃ s' o ps' e, Popup.pexec s v a = (s', o, .cont) ∧ prefStep greet ps (lower v) a = (ps', e) ∧ PRel s' ps' ∧
      ((e = .ok ∧ o = okLine) ∨ (e = .err ∧ ∃ t, o = errLine t ∧ LF ∉ str t))) ∨
    (∃ u pw, Popup.pexec s v a = (s, [], .auth ⟨u, pw⟩) ∧
      prefStep greet ps (lower v) a = (ps, .auth (u ++ [0] ++ pw ++ [0] ++ [60] ++ greet ++ [62, 0]))) ∨
    (Popup.pexec s v a = (s, okLine, .exit 1) ∧ prefStep greet ps (lower v) a = (ps, .quit)) := by
  by_cases hm : lower v ∈ Gen.Pop3Tab.popupCmds.map Prod.fst
  · rcases (mem_popupVerbs _).mp hm with h | h | h | h | h
    · have hex := pexec_user s v a h
      have href : prefStep greet ps (lower v) a = if a = [] then (ps, .err) else ({ user := some a }, .ok) := by
        rw [h]; rfl
      by_cases ha0 : a = []
      · rw [if_pos ha0] at hex href
        exact .inl ⟨_, _, _, _, hex, href, hrel, .inr ⟨rfl, _, rfl, noLF_syntax⟩⟩
      · rw [if_neg ha0] at hex href
        exact .inl ⟨_, _, _, _, hex, href, .inr ⟨rfl, rfl⟩, .inl ⟨rfl, rfl⟩⟩
    · have hex := pexec_pass s v a h
      have href : prefStep greet ps (lower v) a =
          match ps.user with
          | none => (ps, .err)
          | some u => if a = [] then (ps, .err)
            else (ps, .auth (u ++ [0] ++ a ++ [0] ++ [60] ++ greet ++ [62, 0])) := by
        rw [h]; rfl
      rcases hrel with ⟨hu, hs⟩ | ⟨hu, hs⟩
      · rw [hs] at hex
        rw [hu] at href
        exact .inl ⟨_, _, _, _, hex, href, .inl ⟨hu, hs⟩, .inr ⟨rfl, _, rfl, noLF_userfirst⟩⟩
      · rw [hs] at hex
        rw [hu] at href
        simp only [Bool.not_true, Bool.false_eq_true, if_false] at hex
        dsimp only at href
        by_cases ha0 : a = []
        · rw [if_pos ha0] at hex href
          exact .inl ⟨_, _, _, _, hex, href, .inr ⟨hu, hs⟩, .inr ⟨rfl, _, rfl, noLF_syntax⟩⟩
        · rw [if_neg ha0] at hex href
          exact .inr (.inl ⟨_, _, hex, href⟩)
    · have hex := pexec_apop s v a h
      have href : prefStep greet ps (lower v) a =
          match a.idxOf? SP with
          | none => (ps, .err)
          | some i => (ps, .auth (a.take i ++ [0] ++ a.drop (i + 1) ++ [0] ++ [60] ++ greet ++ [62, 0])) := by
        rw [h]; rfl
      have hsp := apop_split a
      cases hi : a.idxOf? SP with
      | none =>
        rw [hi] at hsp href
        rw [hsp] at hex
        exact .inl ⟨_, _, _, _, hex, href, hrel, .inr ⟨rfl, _, rfl, noLF_syntax⟩⟩
      | some i =>
        rw [hi] at hsp href
        rw [hsp.1, hsp.2] at hex
        exact .inr (.inl ⟨_, _, hex, href⟩)
    · exact .inr (.inr ⟨pexec_quit s v a h, by rw [h]; rfl⟩)
    · exact .inl ⟨_, _, _, _, pexec_noop s v a h, by rw [h]; rfl, hrel, .inl ⟨rfl, rfl⟩⟩
  · refine .inl ⟨_, _, _, _, pexec_other s v a hm, ?_, hrel, .inr ⟨rfl, _, rfl, noLF_authfirst⟩⟩
    simp only [Gen.Pop3Tab.popupCmds, List.map_cons, List.map_nil, List.mem_cons, List.not_mem_nil, or_false, not_or] at hm
    simp [prefStep, hm]

theorem pwalk_sim (pid now : Nat) (host : Bytes) (child : Popup.Child) :
    ∀ (lines : List Bytes) (r : Popup.PRun) (ps : PRef) (tail : Bytes), r.act = .cont → r.cmd = [] → PRel r.s ps →
    (∀ l ∈ lines, ∀ c ∈ l, c ≠ NUL ∧ c ≠ LF) → LF ∉ tail →
    ∃ w, (Popup.pfinish pid now host child ((lines.flatMap (· ++ [LF]) ++ tail).foldl Popup.pfeedByte r)).out = r.out ++ w ∧
      pwalk (Popup.unique pid now ++ host) (childOkOf child) ps lines w
        (Popup.pfinish pid now host child ((lines.flatMap (· ++ [LF]) ++ tail).foldl Popup.pfeedByte r)).fd3 = true := by
  intro lines
  induction lines with
  | nil =>
    intro r ps tail ha _ _ _ ht
    refine ⟨[], ?_, ?_⟩
    · simp only [List.flatMap_nil, List.nil_append]
      rw [pfeed_noLF tail r ha ht]
      simp [Popup.pfinish, ha]
    · simp only [List.flatMap_nil, List.nil_append]
      rw [pfeed_noLF tail r ha ht]
      simp [Popup.pfinish, ha, pwalk]
  | cons l ls ih =>
    intro r ps tail ha hc hrel hl ht
    have hl0 := hl l (by simp)
    have hls : ∀ x ∈ ls, ∀ c ∈ x, c ≠ NUL ∧ c ≠ LF := fun x hx => hl x (by simp [hx])
    have hnoLF : LF ∉ l := fun hh => (hl0 LF hh).2 rfl
    have hp := parse_ref l (fun c hc' => (hl0 c hc').1)
    have efold : ((l :: ls).flatMap (· ++ [LF]) ++ tail).foldl Popup.pfeedByte r =
        (ls.flatMap (· ++ [LF]) ++ tail).foldl Popup.pfeedByte (pstepLine r l) := by
      rw [List.flatMap_cons, List.append_assoc, List.foldl_append, pfeed_line r l ha hc hnoLF]
    rw [efold]
    generalize hv : (parseLine l).1 = v at hp
    generalize hav : (parseLine l).2 = a at hp
    have estep : pstepLine r l = { s := (Popup.pexec r.s v a).1, cmd := [], out := r.out ++ (Popup.pexec r.s v a).2.1,
                                   act := (Popup.pexec r.s v a).2.2 } := by
      simp [pstepLine, ha, hv, hav]
    rw [estep]
    rcases pstep_sim (Popup.unique pid now ++ host) r.s ps hrel v a with
      ⟨s', o, ps', e, hex, href, hrel', hshape⟩ | ⟨u, pw, hex, href⟩ | ⟨hex, href⟩
    · -- the loop goes on
      rw [hex]
      obtain ⟨w', hw1, hw2⟩ := ih { s := s', cmd := [], out := r.out ++ o, act := .cont } ps' tail rfl rfl hrel' hls ht
      refine ⟨o ++ w', by rw [hw1]; simp, ?_⟩
      rw [pwalk_cons _ _ ps ps' l _ _ e ls _ _ hp href]
      rcases hshape with ⟨he, ho⟩ | ⟨he, t, ho, hlf⟩
      · subst he; subst ho
        simp only [readLine_okLine]
        simpa [isOk, okSp] using hw2
      · subst he; subst ho
        simp only [readLine_errLine t w' hlf, isErr_errSp]
        simpa using hw2
    · -- the checker is started
      rw [hex, pfeed_stopped _ _ Popup.Act.noConfusion, pfinish_auth pid now host child _ ⟨u, pw⟩ rfl]
      refine ⟨childMsg child, by simp, ?_⟩
      rw [pwalk_cons _ _ ps ps l _ _ _ ls _ _ hp href]
      simp only [childMsg_ok, Bool.and_true]
      simp [Popup.fd3]
    · -- QUIT
      rw [hex, pfeed_stopped _ _ Popup.Act.noConfusion]
      refine ⟨okLine, by simp [Popup.pfinish], ?_⟩
      rw [pwalk_cons _ _ ps ps l _ _ _ ls _ _ hp href]
      have := readLine_okLine []
      simp only [List.append_nil] at this
      simp [this, isOk, okSp, Popup.pfinish]

theorem unique_noLF (pid now : Nat) : LF ∉ Popup.unique pid now := by
  unfold Popup.unique
  exact List.not_mem_append (List.not_mem_append (List.not_mem_append (fmtNat_not_mem pid rfl) (by decide)) (fmtNat_not_mem now rfl)) (by decide)

/-- 60 = '<', 62 = '>'; in the proof 43 79 75 32 = "+OK " is spelled out so that `take` and `drop` in `isOk` reduce -/
theorem popupOk_greeting (host ts : Bytes) (lines : List Bytes) (childOk : Bool) (w : Bytes) (fd3 : Option Bytes)
    (hts : LF ∉ ts) (h1 : ts.drop (ts.length - host.length) = host) (h2 : ts.contains AT = true)
    (h3 : pwalk ts childOk {} lines w fd3 = true) :
    popupOk host lines childOk (okSp ++ [60] ++ ts ++ [62, CR, LF] ++ w) fd3 = true := by
  have hg : okSp ++ [60] ++ ts ++ [62, CR, LF] ++ w = (43 :: 79 :: 75 :: 32 :: 60 :: (ts ++ [62])) ++ [CR, LF] ++ w := by
    simp [okSp]
  have hlf : LF ∉ 43 :: 79 :: 75 :: 32 :: 60 :: (ts ++ [62]) := by
    intro h
    simp only [List.mem_cons, List.mem_append, List.not_mem_nil, or_false] at h
    rcases h with h | h | h | h | h | h | h
    all_goals first | exact hts h | exact absurd h (by decide)
  unfold popupOk
  rw [hg, readLine_line _ w hlf]
  have e2 : (43 :: 79 :: 75 :: 32 :: 60 :: (ts ++ [62])).getLast? = some 62 :=
    List.getLast?_concat (l := 43 :: 79 :: 75 :: 32 :: 60 :: ts)
  have e3 : (ts ++ [62]).dropLast = ts := List.dropLast_concat
  simp only [isOk, List.take, List.drop, e2, e3, h1, h2, h3, beq_self_eq_true, Bool.and_self]
end Nq.Lemmas.Pop3
