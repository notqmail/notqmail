/-
  Reading the way the independent reference `Nq.Pop3Ref` does: its line reader and `matchReply` on every shape
  of reply the model writes, and its command-line splitter against `parseLine`.  Core Lean only.
-/
import Nq.Lemmas.Pop3Stat
import Nq.Lemmas.Pop3Fmt
import Nq.Lemmas.SmtpBytes
import Nq.Spec.Pop3Ref
namespace Nq.Lemmas.Pop3
open Nq Nq.Pop3 Nq.Pop3Ref Nq.Lemmas.Pop3Fmt

theorem readLineGo_line (l : Bytes) : ∀ (cur w : Bytes), LF ∉ l →
    readLineGo cur (l ++ CR :: LF :: w) = some (cur.reverse ++ l, w) := by
  induction l with
  | nil => intro cur w _; simp [readLineGo, CR, LF]
  | cons x l ih =>
    intro cur w h
    have hx : x ≠ LF := fun hh => h (by simp [hh])
    have hl : LF ∉ l := fun hh => h (by simp [hh])
    simp only [List.cons_append, readLineGo, hx, if_false]
    rw [ih (x :: cur) w hl]
    simp

theorem readLine_line (l w : Bytes) (h : LF ∉ l) : readLine (l ++ [CR, LF] ++ w) = some (l, w) := by
  rw [List.append_assoc]
  exact readLineGo_line l [] w h

theorem number_fmtNat (n : Nat) : number? (fmtNat n) = some n := by
  unfold number?
  have h1 : fmtNat n ≠ [] := fmtNat_ne_nil n
  have h2 : (fmtNat n).all isDigit = true := List.all_eq_true.mpr (fmtNat_digits n)
  simp [h1, h2, decVal_fmtNat]

theorem words_eq (b : Bytes) : words b = (splitSep SP b).filter (· ≠ []) := by
  unfold words List.splitOn List.splitOnP
  rw [Nq.Lemmas.Smtp.splitOnPPrepend_eq]
  cases h : splitSep SP b with
  | nil => exact absurd h (splitSep_ne_nil SP b)
  | cons p ps => simp

theorem words_two (a b : Nat) : words ([SP] ++ fmtNat a ++ [SP] ++ fmtNat b) = [fmtNat a, fmtNat b] := by
  have e : [SP] ++ fmtNat a ++ [SP] ++ fmtNat b = [] ++ SP :: (fmtNat a ++ SP :: fmtNat b) := by simp
  rw [words_eq, e, splitSep_append SP _ [] (by simp), splitSep_append SP _ _ (fmtNat_not_mem a rfl),
    splitSep_nosep SP _ (fmtNat_not_mem b rfl)]
  simp [fmtNat_ne_nil]

theorem words_one (a : Nat) : words ([SP] ++ fmtNat a) = [fmtNat a] := by
  have e : [SP] ++ fmtNat a = [] ++ SP :: fmtNat a := by simp
  rw [words_eq, e, splitSep_append SP _ [] (by simp), splitSep_nosep SP _ (fmtNat_not_mem a rfl)]
  simp [fmtNat_ne_nil]

theorem readLine_okLine (w : Bytes) : readLine (okLine ++ w) = some (okSp, w) :=
  readLine_line okSp w (by decide)

theorem readLine_errLine (t : String) (w : Bytes) (h : LF ∉ str t) :
    readLine (errLine t ++ w) = some (errSp ++ str t, w) :=
  readLine_line (errSp ++ str t) w (List.not_mem_append (by decide) h)

theorem isErr_errSp (t : Bytes) : isErr (errSp ++ t) = true := by simp [isErr, errSp]
theorem isOk_okSp (t : Bytes) : isOk (okSp ++ t) = true := by simp [isOk, okSp]
theorem isErr_okSp (t : Bytes) : isErr (okSp ++ t) = false := by simp [isErr, okSp]

theorem match_ok (w : Bytes) : matchReply .ok (okLine ++ w) = some w := by
  unfold matchReply
  rw [readLine_okLine]
  rfl

theorem match_err (t w : Bytes) (h : LF ∉ t) : matchReply .err (errSp ++ t ++ [CR, LF] ++ w) = some w := by
  unfold matchReply
  rw [readLine_line _ w (List.not_mem_append (by decide) h)]
  simp [isErr_errSp]

theorem match_okText (t w : Bytes) (h : LF ∉ t) : matchReply (.okText t) (okSp ++ t ++ [CR, LF] ++ w) = some w := by
  unfold matchReply
  rw [readLine_line _ w (List.not_mem_append (by decide) h)]
  simp [okSp]

theorem match_okStat (c total : Nat) (w : Bytes) :
    matchReply (.okStat total) (okSp ++ fmtNat c ++ [SP] ++ fmtNat total ++ [CR, LF] ++ w) = some w := by
  have hl : LF ∉ okSp ++ fmtNat c ++ [SP] ++ fmtNat total :=
    List.not_mem_append (List.not_mem_append (List.not_mem_append (by decide) (fmtNat_not_mem c rfl)) (by decide)) (fmtNat_not_mem total rfl)
  have hd : (okSp ++ fmtNat c ++ [SP] ++ fmtNat total).drop 3 = [SP] ++ fmtNat c ++ [SP] ++ fmtNat total := by
    simp [okSp]
  have hk : isOk (okSp ++ fmtNat c ++ [SP] ++ fmtNat total) = true := by
    simp only [List.append_assoc, isOk_okSp]
  unfold matchReply
  rw [readLine_line _ w hl]
  simp only [hd, words_two, hk, number_fmtNat]
  simp

theorem match_okNum (n : Nat) (w : Bytes) :
    matchReply (.okNum n) (okSp ++ fmtNat n ++ [CR, LF] ++ w) = some w := by
  have hd : (okSp ++ fmtNat n).drop 3 = [SP] ++ fmtNat n := by simp [okSp]
  unfold matchReply
  rw [readLine_line _ w (List.not_mem_append (by decide) (fmtNat_not_mem n rfl))]
  simp only [hd, words_one, isOk_okSp, number_fmtNat]
  simp

theorem match_multi (ls : List Bytes) (body w : Bytes) (h : popDecode (body ++ w) = some (ls, w)) :
    matchReply (.multi ls) (okLine ++ body ++ w) = some w := by
  unfold matchReply
  rw [List.append_assoc, readLine_okLine]
  simp [isOk, okSp, h]

theorem match_multiOrErr (ls : List Bytes) (body w : Bytes) (h : popDecode (body ++ w) = some (ls, w)) :
    matchReply (.multiOrErr ls) (okLine ++ body ++ w) = some w := by
  unfold matchReply
  rw [List.append_assoc, readLine_okLine]
  simp [isOk, isErr, okSp, h]

theorem takeWhile_all {α} (p : α → Bool) (l : List α) (h : ∀ a ∈ l, p a = true) : l.takeWhile p = l := by
  simpa using List.takeWhile_append_of_pos (l₂ := []) h

theorem parse_ref (line : Bytes) (h : ∀ c ∈ line, c ≠ NUL) :
    splitCmd line = (lower (parseLine line).1, (parseLine line).2) := by
  have hall : ∀ l : Bytes, (∀ c ∈ l, c ≠ NUL) → l.takeWhile (fun x : Byte => decide (x ≠ NUL)) = l := by
    intro l hl
    exact takeWhile_all _ l (by intro c hc; simpa using hl c hc)
  unfold splitCmd parseLine
  split
  · have hd : ∀ c ∈ line.dropLast, c ≠ NUL := fun c hc => h c (List.dropLast_subset _ hc)
    simp only [hall _ hd]
    rfl
  · simp only [hall _ h]
    rfl

end Nq.Lemmas.Pop3
