/-
  Lemmas about the session machine of `Nq.Pop3`: the file-system algebra behind pop3_quit, one equation per
  branch of `exec` and of `Popup.pexec`, and whole runs: no command changes which file a message number
  denotes, a run that has ended stays as it is, and before QUIT the maildir changes only through other processes.
-/
import Nq.Pop3
import Nq.Lemmas.Basic

namespace Nq.Lemmas.Pop3
open Nq Nq.Pop3

/-! ### fsFind / fsUnlink / fsRename -/

theorem find_cons (f : File) (fs : FS) (p : Bytes) :
    fsFind (f :: fs) p = if f.path = p then some f else fsFind fs p := by
  simp only [fsFind, List.find?_cons]
  by_cases h : f.path = p
  · simp [h]
  · have hb : (f.path == p) = false := beq_eq_false_iff_ne.mpr h
    rw [hb]; simp [h]

theorem find_some_of_mem (fs : FS) (f : File) (h : f ∈ fs) : ∃ g, fsFind fs f.path = some g :=
  Option.isSome_iff_exists.mp (List.find?_isSome.mpr ⟨f, h, beq_self_eq_true _⟩)

/-- `h`: names are unique by maildir(5) -/
theorem find_of_nodup (fs : FS) (h : (fs.map (·.path)).Nodup) (f : File) (hf : f ∈ fs) :
    fsFind fs f.path = some f := by
  obtain ⟨g, hg⟩ := find_some_of_mem fs f hf
  have e : g.path = f.path := eq_of_beq (List.find?_some (p := fun x : File => x.path == f.path) hg)
  rw [hg, eq_of_nodup_map (·.path) fs h g (List.mem_of_find?_eq_some hg) f hf e]

theorem find_unlink (fs : FS) (p q : Bytes) : fsFind (fsUnlink fs q) p = if p = q then none else fsFind fs p := by
  unfold fsFind fsUnlink
  rw [List.find?_filter]
  split
  · rename_i h
    rw [List.find?_eq_none]
    intro f _
    simp [h]
  · rename_i h
    congr 1
    funext f
    by_cases hp : f.path = p
    · simp [hp, h]
    · simp [hp]

theorem find_rename (fs : FS) (a b p : Bytes) (f : File) (hf : fsFind fs a = some f) (hab : a ≠ b) :
    fsFind (fsRename fs a b) p =
      if p = b then some { f with path := b } else if p = a then none else fsFind fs p := by
  -- `fsRename` removes the target (rename(2) replaces it), then renames in place: `key` is the second step, on a list
  -- in which `b` does not occur
  have key : ∀ l : FS, fsFind l b = none →
      fsFind (l.map (fun g => if g.path == a then { f with path := b } else g)) p =
        if p = b then (fsFind l a).map (fun _ => { f with path := b }) else if p = a then none else fsFind l p := by
    intro l
    induction l with
    | nil => intro _; simp [fsFind]
    | cons g l ih =>
      intro hb
      rw [find_cons] at hb
      by_cases hgb : g.path = b
      · simp [hgb] at hb
      · rw [if_neg hgb] at hb
        rw [List.map_cons, find_cons, find_cons, find_cons, ih hb]
        have hba : b ≠ a := fun e => hab e.symm
        by_cases hga : g.path = a
        · by_cases hpb : p = b
          · simp [hga, hpb]
          · have hbp : b ≠ p := fun e => hpb e.symm
            by_cases hpa : p = a
            · simp [hga, hpa, hab, hba]
            · have hap : a ≠ p := fun e => hpa e.symm
              simp [hga, hpb, hpa, hbp, hap]
        · by_cases hgp : g.path = p
          · subst hgp
            simp [hga, hgb]
          · simp [hga, hgp]
  unfold fsRename
  rw [hf]
  show fsFind (if (a == b) = true then fs else _) p = _
  rw [if_neg (by simpa using hab), key _ (by rw [find_unlink, if_pos rfl]), find_unlink, find_unlink, if_neg hab, hf]
  by_cases hpb : p = b
  · simp [hpb]
  · simp [hpb]

theorem rename_absent (fs : FS) (a b : Bytes) (h : fsFind fs a = none) : fsRename fs a b = fs := by
  simp [fsRename, h]

theorem find_rename_other (fs : FS) (a b p : Bytes) (ha : p ≠ a) (hb : p ≠ b) :
    fsFind (fsRename fs a b) p = fsFind fs p := by
  cases hf : fsFind fs a with
  | none => rw [rename_absent fs a b hf]
  | some f =>
    by_cases hab : a = b
    · subst hab
      simp [fsRename, hf]
    · rw [find_rename fs a b p f hf hab, if_neg hb, if_neg ha]

/-- the name pop3_quit gives a message found in new/ -/
def seenName (fn : Bytes) : Bytes := curSl ++ fn.drop 4 ++ seenSuffix

theorem seenName_take (fn : Bytes) : (seenName fn).take 4 = curSl := by
  simp [seenName, curSl]

theorem seenName_ne_new (fn p : Bytes) (hp : p.take 4 = newSl) : seenName fn ≠ p := by
  intro h
  have := seenName_take fn
  rw [h, hp] at this
  exact absurd this (by decide)

theorem seenName_inj (a b : Bytes) (ha : a.take 4 = newSl) (hb : b.take 4 = newSl)
    (h : seenName a = seenName b) : a = b := by
  unfold seenName at h
  have h1 : a.drop 4 = b.drop 4 := by
    have := List.append_cancel_right h
    exact List.append_cancel_left this
  rw [← List.take_append_drop 4 a, ← List.take_append_drop 4 b, ha, hb, h1]

theorem unlink_absent (fs : FS) (p : Bytes) (h : fsFind fs p = none) : fsUnlink fs p = fs := by
  refine List.filter_eq_self.mpr fun f hf => ?_
  simpa using List.find?_eq_none.mp h f hf

/-- what pop3_quit does to the maildir for one message -/
def quitFs (fs : FS) (m : Msg) : FS :=
  if m.del then fsUnlink fs m.fn
  else if m.fn.take 4 == newSl then fsRename fs m.fn (seenName m.fn) else fs

/-- `quitLoop` unlinks only a file it has found; unlinking one that is not there changes nothing, so `quitFs`
need not look -/
theorem quitLoop_fs (msgs : List Msg) : ∀ (fs : FS) (out : Bytes), (quitLoop msgs fs out).1 = msgs.foldl quitFs fs := by
  induction msgs with
  | nil => intro fs out; rfl
  | cons m rest ih =>
    intro fs out
    rw [List.foldl_cons]
    unfold quitLoop quitFs
    split
    · cases hf : fsFind fs m.fn with
      | some g => exact ih _ _
      | none => rw [unlink_absent fs m.fn hf]; exact ih _ _
    · split
      · exact ih _ _
      · exact ih _ _

theorem find_quitFs_other (fs : FS) (m : Msg) (p : Bytes)
    (h1 : m.fn = p → m.del = false ∧ (m.fn.take 4 == newSl) = false)
    (h2 : m.del = false → (m.fn.take 4 == newSl) = true → seenName m.fn ≠ p) :
    fsFind (quitFs fs m) p = fsFind fs p := by
  unfold quitFs
  cases hd : m.del with
  | true =>
    refine (find_unlink fs p m.fn).trans (if_neg fun e => ?_)
    rw [(h1 e.symm).1] at hd
    cases hd
  | false =>
    cases hn : m.fn.take 4 == newSl with
    | true =>
      refine find_rename_other fs m.fn _ p (fun e => ?_) (fun e => h2 hd hn e.symm)
      rw [(h1 e.symm).2] at hn
      cases hn
    | false => rfl

theorem find_quitFs_absent (fs : FS) (m : Msg) (p : Bytes) (h : fsFind fs p = none) (h2 : seenName m.fn ≠ p) :
    fsFind (quitFs fs m) p = none := by
  unfold quitFs
  split
  · rw [find_unlink, h, ite_self]
  · split
    · by_cases ha : p = m.fn
      · rw [rename_absent fs _ _ (ha ▸ h), h]
      · rw [find_rename_other fs m.fn _ p ha fun e => h2 e.symm, h]
    · exact h

theorem quit_keeps (msgs : List Msg) : ∀ (fs : FS) (p : Bytes) (f : File),
    fsFind fs p = some f →
    (∀ m ∈ msgs, m.fn = p → m.del = false ∧ (m.fn.take 4 == newSl) = false) →
    (∀ m ∈ msgs, m.del = false → (m.fn.take 4 == newSl) = true → seenName m.fn ≠ p) →
    fsFind (msgs.foldl quitFs fs) p = some f := by
  induction msgs with
  | nil => intro fs p f h _ _; exact h
  | cons m rest ih =>
    intro fs p f h h1 h2
    refine ih _ p f ?_ (fun x hx => h1 x (List.mem_cons_of_mem _ hx)) (fun x hx => h2 x (List.mem_cons_of_mem _ hx))
    rw [find_quitFs_other fs m p (h1 m List.mem_cons_self) (h2 m List.mem_cons_self)]
    exact h

theorem quit_absent (msgs : List Msg) : ∀ (fs : FS) (p : Bytes),
    fsFind fs p = none → (∀ m ∈ msgs, seenName m.fn ≠ p) →
    fsFind (msgs.foldl quitFs fs) p = none := by
  induction msgs with
  | nil => intro fs p h _; exact h
  | cons m rest ih =>
    intro fs p h h2
    exact ih _ p (find_quitFs_absent fs m p h (h2 m List.mem_cons_self)) (fun x hx => h2 x (List.mem_cons_of_mem _ hx))

theorem quit_removes (msgs : List Msg) : ∀ (fs : FS) (m : Msg),
    m ∈ msgs → m.del = true → (∀ x ∈ msgs, seenName x.fn ≠ m.fn) →
    fsFind (msgs.foldl quitFs fs) m.fn = none := by
  induction msgs with
  | nil => intro fs m hm; simp at hm
  | cons x rest ih =>
    intro fs m hm hd h2
    have h2' : ∀ y ∈ rest, seenName y.fn ≠ m.fn := fun y hy => h2 y (List.mem_cons_of_mem _ hy)
    rcases List.mem_cons.mp hm with hx | hx
    · subst hx
      refine quit_absent rest _ m.fn ?_ h2'
      rw [quitFs, if_pos hd, find_unlink, if_pos rfl]
    · exact ih _ m hx hd h2'

theorem quit_renames (msgs : List Msg) : ∀ (fs : FS) (m : Msg) (f : File),
    m ∈ msgs → m.del = false → m.fn.take 4 = newSl → fsFind fs m.fn = some f →
    (msgs.map (·.fn)).Nodup → (∀ x ∈ msgs, x.fn = seenName m.fn → x.del = false) →
    fsFind (msgs.foldl quitFs fs) (seenName m.fn) = some { f with path := seenName m.fn } ∧
    fsFind (msgs.foldl quitFs fs) m.fn = none := by
  induction msgs with
  | nil => intro fs m f hm; simp at hm
  | cons x rest ih =>
    intro fs m f hm hd hn hf hu h2
    simp only [List.map_cons, List.nodup_cons] at hu
    have h2' : ∀ y ∈ rest, y.fn = seenName m.fn → y.del = false := fun y hy => h2 y (List.mem_cons_of_mem _ hy)
    rcases List.mem_cons.mp hm with hx | hx
    · subst hx
      have hab : m.fn ≠ seenName m.fn := fun e => seenName_ne_new m.fn m.fn hn e.symm
      have t1 := (find_rename fs m.fn (seenName m.fn) _ f hf hab).trans (if_pos rfl)
      have t2 := (find_rename fs m.fn (seenName m.fn) m.fn f hf hab).trans ((if_neg hab).trans (if_pos rfl))
      have e : quitFs fs m = fsRename fs m.fn (seenName m.fn) := by
        rw [quitFs, hd, hn]
        rfl
      rw [List.foldl_cons, e]
      refine ⟨?_, ?_⟩
      · apply quit_keeps rest _ _ _ t1
        · intro y hy e
          refine ⟨h2' y hy e, ?_⟩
          rw [e, seenName_take]; decide
        · intro y hy yd yn e
          have : y.fn = m.fn := seenName_inj y.fn m.fn (by simpa using yn) hn e
          exact hu.1 (this ▸ List.mem_map_of_mem hy)
      · exact quit_absent rest _ m.fn t2 (fun y _ => seenName_ne_new y.fn m.fn hn)
    · have hne : x.fn ≠ m.fn := fun e => hu.1 (e ▸ List.mem_map_of_mem hx)
      refine ih _ m f hx hd hn ?_ hu.2 h2'
      rw [find_quitFs_other fs x m.fn (fun e => absurd e hne) (fun _ _ => seenName_ne_new x.fn m.fn hn)]
      exact hf

/-! ### one equation per branch of `exec` and of `Popup.pexec`

`exec` tests the verb only through `lower verb`; once that is known every test is a comparison of two
constants, which `rfl` evaluates. -/

theorem lower_of_verbIs {t verb : Bytes} (h : verbIs t verb = true) : lower verb = t := eq_of_beq h

theorem verbIs_of_lower {t verb : Bytes} (h : lower verb = t) : verbIs t verb = true := by
  rw [verbIs, h]
  exact beq_self_eq_true t

theorem verbIs_eq_false {t verb : Bytes} : verbIs t verb = false ↔ lower verb ≠ t := beq_eq_false_iff_ne

theorem exec_quit (s : Sess) (verb arg : Bytes) (h : lower verb = vQuit) :
    exec s verb arg =
      ({ s with fs := (quitLoop s.msgs s.fs []).1 }, (quitLoop s.msgs s.fs []).2 ++ okLine, some 0) := by
  unfold exec verbIs
  rw [h]
  rfl

theorem exec_quit_fs (s : Sess) (verb arg : Bytes) (h : verbIs vQuit verb = true) :
    (exec s verb arg).1.fs = s.msgs.foldl quitFs s.fs := by
  rw [exec_quit s verb arg (lower_of_verbIs h)]
  exact quitLoop_fs s.msgs s.fs []

theorem exec_stat (s : Sess) (verb arg : Bytes) (h : lower verb = vStat) :
    exec s verb arg =
      (s, okSp ++ fmtNat (s.msgs.length % U32) ++ [SP] ++
          fmtNat (s.msgs.foldl (fun t m => if m.del then t else (t + m.size) % U64) 0) ++ [CR, LF], none) := by
  unfold exec verbIs
  rw [h]
  rfl

theorem exec_list (s : Sess) (verb arg : Bytes) (h : lower verb = vList ∨ lower verb = vUidl) :
    exec s verb arg =
      if arg ≠ [] then
        match msgno s arg with
        | .err r => (s, r, none)
        | .ok i => match s.msgs[i]? with
          | some m => (s, okSp ++ listLine i m (verbIs vUidl verb), none)
          | none => (s, [], none)
      else (s, okLine ++ listAll (verbIs vUidl verb) 0 s.msgs ++ [DOT, CR, LF], none) := by
  unfold exec verbIs
  rcases h with h | h <;> rw [h] <;> rfl

theorem exec_dele (s : Sess) (verb arg : Bytes) (h : lower verb = vDele) :
    exec s verb arg =
      match msgno s arg with
      | .err r => (s, r, none)
      | .ok i => ({ s with msgs := setDel s.msgs i, last := if i + 1 > s.last then i + 1 else s.last }, okLine, none) := by
  unfold exec verbIs
  rw [h]
  rfl

theorem exec_retr (s : Sess) (verb arg : Bytes) (h : lower verb = vRetr ∨ lower verb = vTop) :
    exec s verb arg =
      match msgno s arg with
      | .err r => (s, r, none)
      | .ok i => match s.msgs[i]? with
        | none => (s, [], none)
        | some m => match fsFind s.fs m.fn with
          | none => (s, errLine "unable to open that message", none)
          | some f => (s, okLine ++ blast (limitFor verb arg) f.data, none) := by
  unfold exec verbIs
  rcases h with h | h <;> rw [h] <;> rfl

theorem exec_rset (s : Sess) (verb arg : Bytes) (h : lower verb = vRset) :
    exec s verb arg = ({ s with msgs := s.msgs.map (fun m => { m with del := false }), last := 0 }, okLine, none) := by
  unfold exec verbIs
  rw [h]
  rfl

theorem exec_last (s : Sess) (verb arg : Bytes) (h : lower verb = vLast) :
    exec s verb arg = (s, okSp ++ fmtNat s.last ++ [CR, LF], none) := by
  unfold exec verbIs
  rw [h]
  rfl

theorem exec_noop (s : Sess) (verb arg : Bytes) (h : lower verb = vNoop) :
    exec s verb arg = (s, okLine, none) := by
  unfold exec verbIs
  rw [h]
  rfl

theorem mem_pop3dVerbs (v : Bytes) : v ∈ Gen.Pop3Tab.pop3dCmds.map Prod.fst ↔
    v = vQuit ∨ v = vStat ∨ v = vList ∨ v = vUidl ∨ v = vDele ∨ v = vRetr ∨ v = vRset ∨ v = vLast ∨ v = vTop ∨
      v = vNoop := by
  simp only [Gen.Pop3Tab.pop3dCmds, List.map_cons, List.map_nil, List.mem_cons, List.not_mem_nil, or_false]
  exact Iff.rfl

theorem mem_popupVerbs (v : Bytes) : v ∈ Gen.Pop3Tab.popupCmds.map Prod.fst ↔
    v = vUser ∨ v = vPass ∨ v = vApop ∨ v = vQuit ∨ v = vNoop := by
  simp only [Gen.Pop3Tab.popupCmds, List.map_cons, List.map_nil, List.mem_cons, List.not_mem_nil, or_false]
  exact Iff.rfl

theorem exec_other (s : Sess) (verb arg : Bytes) (h : lower verb ∉ Gen.Pop3Tab.pop3dCmds.map Prod.fst) :
    exec s verb arg = (s, errLine "unimplemented", none) := by
  simp only [mem_pop3dVerbs, not_or] at h
  simp [exec, verbIs, h]

/-- what one command does to the state and whether it ends the session, by the four kinds of command: QUIT, an
accepted DELE, RSET, and everything else (refused DELE included) -/
inductive Effect (s : Sess) (verb arg : Bytes) : Prop
  | quit (hv : lower verb = vQuit) (st : (exec s verb arg).1 = { s with fs := (quitLoop s.msgs s.fs []).1 })
      (ex : (exec s verb arg).2.2 = some 0)
  | dele (hv : lower verb = vDele) (i : Nat) (ok : msgno s arg = .ok i)
      (st : (exec s verb arg).1 = { s with msgs := setDel s.msgs i, last := if i + 1 > s.last then i + 1 else s.last })
      (ex : (exec s verb arg).2.2 = none)
  | rset (hv : lower verb = vRset)
      (st : (exec s verb arg).1 = { s with msgs := s.msgs.map (fun m => { m with del := false }), last := 0 })
      (ex : (exec s verb arg).2.2 = none)
  | same (st : (exec s verb arg).1 = s) (ex : (exec s verb arg).2.2 = none)

theorem Effect.of_same {s : Sess} {verb arg out : Bytes} (e : exec s verb arg = (s, out, none)) : Effect s verb arg :=
  .same (by rw [e]) (by rw [e])

theorem exec_effect (s : Sess) (verb arg : Bytes) : Effect s verb arg := by
  have list (h : lower verb = vList ∨ lower verb = vUidl) : Effect s verb arg := by
    refine .same ?_ ?_
    all_goals rw [exec_list s verb arg h]
    all_goals repeat' split
    all_goals rfl
  have retr (h : lower verb = vRetr ∨ lower verb = vTop) : Effect s verb arg := by
    refine .same ?_ ?_
    all_goals rw [exec_retr s verb arg h]
    all_goals repeat' split
    all_goals rfl
  by_cases hm : lower verb ∈ Gen.Pop3Tab.pop3dCmds.map Prod.fst
  · rcases (mem_pop3dVerbs _).mp hm with h | h | h | h | h | h | h | h | h | h
    · have e := exec_quit s verb arg h
      exact .quit h (by rw [e]) (by rw [e])
    · exact .of_same (exec_stat s verb arg h)
    · exact list (.inl h)
    · exact list (.inr h)
    · have e := exec_dele s verb arg h
      cases hn : msgno s arg with
      | err r => exact .of_same (e.trans (by rw [hn]))
      | ok i => exact .dele h i hn (by rw [e, hn]) (by rw [e, hn])
    · exact retr (.inl h)
    · have e := exec_rset s verb arg h
      exact .rset h (by rw [e]) (by rw [e])
    · exact .of_same (exec_last s verb arg h)
    · exact retr (.inr h)
    · exact .of_same (exec_noop s verb arg h)
  · exact .of_same (exec_other s verb arg hm)

theorem pexec_user (s : Popup.PSt) (verb arg : Bytes) (h : lower verb = vUser) :
    Popup.pexec s verb arg =
      if arg = [] then (s, errLine "syntax error", .cont)
      else ({ seenuser := true, username := arg }, okLine, .cont) := by
  unfold Popup.pexec verbIs
  rw [h]
  rfl

theorem pexec_pass (s : Popup.PSt) (verb arg : Bytes) (h : lower verb = vPass) :
    Popup.pexec s verb arg =
      if !s.seenuser then (s, errLine "USER first", .cont)
      else if arg = [] then (s, errLine "syntax error", .cont)
      else (s, [], .auth ⟨s.username, arg⟩) := by
  unfold Popup.pexec verbIs
  rw [h]
  rfl

theorem pexec_apop (s : Popup.PSt) (verb arg : Bytes) (h : lower verb = vApop) :
    Popup.pexec s verb arg =
      match arg.dropWhile (· ≠ SP) with
      | [] => (s, errLine "syntax error", .cont)
      | _ :: p => (s, [], .auth ⟨arg.takeWhile (· ≠ SP), p⟩) := by
  unfold Popup.pexec verbIs
  rw [h]
  rfl

theorem pexec_apop_split (s : Popup.PSt) (verb name digest : Bytes) (h : lower verb = vApop) (hn : SP ∉ name) :
    Popup.pexec s verb (name ++ SP :: digest) = (s, [], .auth ⟨name, digest⟩) := by
  have hall : ∀ a ∈ name, (fun x : Byte => decide (x ≠ SP)) a = true := by
    intro a ha
    simpa using fun hh : a = SP => hn (hh ▸ ha)
  rw [pexec_apop _ _ _ h, takeWhile_stop _ name digest SP hall (by simp), dropWhile_stop _ name digest SP hall (by simp)]

theorem pexec_quit (s : Popup.PSt) (verb arg : Bytes) (h : lower verb = vQuit) :
    Popup.pexec s verb arg = (s, okLine, .exit 1) := by
  unfold Popup.pexec verbIs
  rw [h]
  rfl

theorem pexec_noop (s : Popup.PSt) (verb arg : Bytes) (h : lower verb = vNoop) :
    Popup.pexec s verb arg = (s, okLine, .cont) := by
  unfold Popup.pexec verbIs
  rw [h]
  rfl

theorem pexec_other (s : Popup.PSt) (verb arg : Bytes) (h : lower verb ∉ Gen.Pop3Tab.popupCmds.map Prod.fst) :
    Popup.pexec s verb arg = (s, errLine "authorization first", .cont) := by
  simp only [mem_popupVerbs, not_or] at h
  simp [Popup.pexec, verbIs, h]

/-! ### the message table -/

/-- what a message number denotes: the file and the size announced for it -/
def ident (m : Msg) : Bytes × Nat := (m.fn, m.size)

theorem setDel_ident (msgs : List Msg) : ∀ i, (setDel msgs i).map ident = msgs.map ident := by
  induction msgs with
  | nil => intro i; rfl
  | cons m rest ih =>
    intro i
    cases i with
    | zero => simp [setDel, ident]
    | succ i => simp [setDel, ih]

theorem unmark_ident (msgs : List Msg) :
    (msgs.map (fun m => { m with del := false })).map ident = msgs.map ident := by
  induction msgs with
  | nil => rfl
  | cons m rest ih => simp_all [ident]

theorem exec_ident (s : Sess) (verb arg : Bytes) :
    (exec s verb arg).1.msgs.map ident = s.msgs.map ident := by
  match exec_effect s verb arg with
  | .quit (st := e) .. | .same (st := e) .. => rw [e]
  | .dele (i := i) (st := e) .. => rw [e]; exact setDel_ident s.msgs i
  | .rset (st := e) .. => rw [e]; exact unmark_ident s.msgs

/-! ### whole runs -/

theorem feedByte_cases (r : Run) (c : Byte) :
    ((feedByte r c).s = r.s ∧ (feedByte r c).exit = r.exit) ∨
    (r.exit = none ∧ ∃ verb arg,
      (feedByte r c).s = (exec r.s verb arg).1 ∧ (feedByte r c).exit = (exec r.s verb arg).2.2) := by
  unfold feedByte
  cases hx : r.exit with
  | some x => exact .inl ⟨rfl, hx⟩
  | none =>
    by_cases hc : c = LF
    · rw [if_pos hc]
      obtain ⟨verb, arg⟩ := parseLine r.cmd.reverse
      refine .inr ⟨rfl, verb, arg, ?_⟩
      dsimp only
      obtain ⟨s', o, e⟩ := exec r.s verb arg
      exact ⟨rfl, rfl⟩
    · rw [if_neg hc]
      exact .inl ⟨rfl, rfl⟩

/-- `hfs`: `P` must not speak of the maildir, which other processes change between two commands -/
theorem feedEvs_inv (P : Sess → Prop) (hexec : ∀ s verb arg, P s → P (exec s verb arg).1)
    (hfs : ∀ s fs, P s → P { s with fs := fs }) (evs : List Ev) (r : Run) (h : P r.s) :
    P (evs.foldl feedEv r).s := by
  refine foldl_inv feedEv (fun r => P r.s) (fun r e h => ?_) evs r h
  cases e with
  | data b =>
    refine foldl_inv feedByte (fun r => P r.s) (fun r c h => ?_) b r h
    rcases feedByte_cases r c with ⟨e, _⟩ | ⟨_, verb, arg, e, _⟩
    · rw [e]
      exact h
    · rw [e]
      exact hexec r.s verb arg h
  | vanish p =>
    rw [feedEv_vanish]
    cases r.exit with
    | none => exact hfs r.s _ h
    | some x => exact h

theorem exec_nonquit (s : Sess) (verb arg : Bytes) (h : verbIs vQuit verb = false) :
    (exec s verb arg).1.fs = s.fs ∧ (exec s verb arg).2.2 = none := by
  match exec_effect s verb arg with
  | .quit (hv := hq) .. =>
    rw [verbIs_of_lower hq] at h
    cases h
  | .dele (st := e) (ex := x) .. | .rset (st := e) (ex := x) .. | .same (st := e) (ex := x) => exact ⟨by rw [e], x⟩

/-- the maildir if only other processes touched it -/
def vanished : List Ev → FS → FS
  | [], fs => fs
  | .data _ :: rest, fs => vanished rest fs
  | .vanish p :: rest, fs => vanished rest (fsUnlink fs p)

theorem feedByte_exit_some (r : Run) (c : Byte) (x : Nat) (h : r.exit = some x) : feedByte r c = r := by
  unfold feedByte; simp [h]

theorem feedBytes_exit_some (b : Bytes) (r : Run) (x : Nat) (h : r.exit = some x) : b.foldl feedByte r = r :=
  foldl_fixed _ r (fun c => feedByte_exit_some r c x h) b

theorem feedEv_exit_some (e : Ev) (r : Run) (x : Nat) (h : r.exit = some x) : feedEv r e = r := by
  cases e with
  | data b => exact feedBytes_exit_some b r x h
  | vanish p => rw [feedEv_vanish]; simp [h]

theorem feedEvs_exit_some (evs : List Ev) (r : Run) (x : Nat) (h : r.exit = some x) : evs.foldl feedEv r = r :=
  foldl_fixed _ r (fun e => feedEv_exit_some e r x h) evs

theorem exit_none_of_foldl {β} (f : Run → β → Run) (hf : ∀ r b x, r.exit = some x → f r b = r) (l : List β) (r : Run)
    (h : (l.foldl f r).exit = none) : r.exit = none := by
  cases hx : r.exit with
  | none => rfl
  | some x =>
    rw [foldl_fixed f r (fun b => hf r b x hx), hx] at h
    cases h

theorem feedByte_fs (r : Run) (c : Byte) (h : (feedByte r c).exit = none) : (feedByte r c).s.fs = r.s.fs := by
  rcases feedByte_cases r c with ⟨e, _⟩ | ⟨_, verb, arg, e, x⟩
  · rw [e]
  · rw [e]
    match exec_effect r.s verb arg with
    | .quit (ex := q) .. =>
      rw [x, q] at h
      cases h
    | .dele (st := e') .. | .rset (st := e') .. | .same (st := e') .. => rw [e']

theorem feedBytes_fs (b : Bytes) : ∀ r : Run, (b.foldl feedByte r).exit = none → (b.foldl feedByte r).s.fs = r.s.fs := by
  induction b with
  | nil => intro r _; rfl
  | cons c b ih =>
    intro r h
    rw [List.foldl_cons] at h ⊢
    rw [ih _ h, feedByte_fs r c (exit_none_of_foldl feedByte feedByte_exit_some b _ h)]

theorem errLine_take (t : String) : (errLine t).take 5 = errSp := by simp [errLine, errSp]

end Nq.Lemmas.Pop3
