/-
  Lemmas about the session machine of `Nq.Pop3`: STAT's total, the value LAST reports, the byte loop as
  "one handler per LF-terminated line", and the start-up state.  Core Lean only.
-/
import Nq.Pop3
import Nq.Lemmas.Pop3Sess
import Nq.Lemmas.Pop3Heap
import Nq.Lemmas.Pop3Number

namespace Nq.Lemmas.Pop3
open Nq Nq.Pop3 Nq.Lemmas.Pop3Heap

/-! ### STAT -/

/-- the sum of the announced sizes of the messages that are not marked -/
def liveTotal (msgs : List Msg) : Nat := ((msgs.filter (fun m => !m.del)).map (·.size)).sum

theorem liveTotal_cons (m : Msg) (ms : List Msg) :
    liveTotal (m :: ms) = (if m.del = true then 0 else m.size) + liveTotal ms := by
  cases hd : m.del <;> simp [liveTotal, hd]

theorem stat_fold (msgs : List Msg) : ∀ t : Nat,
    msgs.foldl (fun t m => if m.del then t else (t + m.size) % U64) (t % U64) = (t + liveTotal msgs) % U64 := by
  induction msgs with
  | nil => intro t; simp [liveTotal]
  | cons m rest ih =>
    intro t
    rw [List.foldl_cons, liveTotal_cons]
    by_cases hd : m.del = true
    · rw [if_pos hd, if_pos hd, Nat.zero_add]
      exact ih t
    · rw [if_neg hd, if_neg hd, Nat.mod_add_mod, ih, Nat.add_assoc]

theorem stat_total (msgs : List Msg) :
    msgs.foldl (fun t m => if m.del then t else (t + m.size) % U64) 0 = liveTotal msgs % U64 := by
  have := stat_fold msgs 0
  simpa using this

/-! ### LAST -/

/-- the highest message number that is marked (message numbers start at `i + 1`); 0 if none is -/
def highMark : Nat → List Msg → Nat
  | _, [] => 0
  | i, m :: rest => max (if m.del then i + 1 else 0) (highMark (i + 1) rest)

theorem highMark_clear (msgs : List Msg) (h : ∀ m ∈ msgs, m.del = false) : ∀ k, highMark k msgs = 0 := by
  induction msgs with
  | nil => intro k; rfl
  | cons m rest ih =>
    intro k
    have h1 : m.del = false := h m (by simp)
    simp [highMark, h1, ih (fun x hx => h x (by simp [hx]))]

theorem highMark_unmark (msgs : List Msg) (k : Nat) :
    highMark k (msgs.map (fun m => { m with del := false })) = 0 :=
  highMark_clear _ (by intro m hm; simp only [List.mem_map] at hm; obtain ⟨x, _, rfl⟩ := hm; rfl) k

theorem highMark_setDel (msgs : List Msg) : ∀ k i, i < msgs.length →
    highMark k (setDel msgs i) = max (highMark k msgs) (k + i + 1) := by
  induction msgs with
  | nil => intro k i h; simp at h
  | cons m rest ih =>
    intro k i h
    cases i with
    | zero =>
      have : (if m.del = true then k + 1 else 0) ≤ k + 1 := by split <;> omega
      simp only [setDel, highMark, if_true, Nat.add_zero]
      generalize (if m.del = true then k + 1 else 0) = a at this ⊢
      omega
    | succ i =>
      simp only [setDel, highMark]
      rw [ih (k + 1) i (Nat.lt_of_succ_lt_succ h), Nat.max_assoc, Nat.add_right_comm k 1 i, Nat.add_assoc k i 1]

theorem highMark_ge (msgs : List Msg) : ∀ k i m, msgs[i]? = some m → m.del = true → k + i + 1 ≤ highMark k msgs := by
  induction msgs with
  | nil => intro k i m h; simp at h
  | cons x rest ih =>
    intro k i m h hd
    cases i with
    | zero =>
      simp only [List.getElem?_cons_zero, Option.some.injEq] at h
      subst h
      simp only [highMark, hd, if_true]; omega
    | succ i =>
      simp only [List.getElem?_cons_succ] at h
      have := ih (k + 1) i m h hd
      simp only [highMark]; omega

theorem highMark_attained (msgs : List Msg) : ∀ k, highMark k msgs = 0 ∨
    ∃ i m, msgs[i]? = some m ∧ m.del = true ∧ highMark k msgs = k + i + 1 := by
  induction msgs with
  | nil => intro k; left; rfl
  | cons x rest ih =>
    intro k
    simp only [highMark]
    rcases ih (k + 1) with h | ⟨i, m, h1, h2, h3⟩
    · by_cases hd : x.del = true
      · right; exact ⟨0, x, by simp, hd, by simp [hd, h]⟩
      · left; simp [hd, h]
    · right
      by_cases hd : x.del = true
      · refine ⟨i + 1, m, by simpa using h1, h2, ?_⟩
        simp only [hd, if_true]; omega
      · refine ⟨i + 1, m, by simpa using h1, h2, ?_⟩
        simp only [hd]; simp; omega

/-- the session keeps `last` = highest marked message number -/
def LastInv (s : Sess) : Prop := s.last = highMark 0 s.msgs

theorem exec_lastInv (s : Sess) (verb arg : Bytes) (h : LastInv s) : LastInv (exec s verb arg).1 := by
  unfold LastInv at h ⊢
  match exec_effect s verb arg with
  | .quit (st := e) .. | .same (st := e) .. =>
    rw [e]
    exact h
  | .dele (i := i) (ok := hn) (st := e) .. =>
    rw [e]
    show (if i + 1 > s.last then i + 1 else s.last) = highMark 0 (setDel s.msgs i)
    rw [highMark_setDel _ 0 i ((msgno_ok_iff s arg i).mp hn).2.2.2.1, ← h]
    split <;> omega
  | .rset (st := e) .. =>
    rw [e]
    exact (highMark_unmark s.msgs 0).symm

/-! ### the start-up state -/

/-- the state in which main() enters commands(): tmp/ cleaned, the maildir scanned, greeting sent -/
def start (now : Nat) (fs : FS) : Run :=
  { s := { msgs := getlist now (cleanTmp now fs), last := 0, fs := cleanTmp now fs }, out := okLine }

theorem getlist_entry (now : Nat) (fs : FS) : ∀ m ∈ getlist now fs, m.size = sizeAt fs m.fn ∧ m.del = false := by
  intro m hm
  unfold getlist at hm
  simp only [List.mem_map] at hm
  obtain ⟨e, _, rfl⟩ := hm
  exact ⟨rfl, rfl⟩

theorem start_lastInv (now : Nat) (fs : FS) : LastInv (start now fs).s := by
  unfold LastInv start
  simp only
  rw [highMark_clear _ fun m hm => (getlist_entry now _ m hm).2]

/-! maildir_clean touches tmp/ only: it changes neither which messages are eligible nor their sizes -/

theorem dir_ne (f : File) (a b : Bytes) (hab : a ≠ b) (h : inDir a f = true) : inDir b f = false := by
  unfold inDir at *
  have : f.path.take 4 = a := by simpa using h
  rw [this]
  simpa using hab

theorem filter_cleanTmp (now : Nat) (fs : FS) (q : File → Bool) (h : ∀ f, q f = true → inDir tmpSl f = false) :
    (cleanTmp now fs).filter q = fs.filter q := by
  unfold cleanTmp
  rw [List.filter_filter]
  refine List.filter_congr fun f _ => ?_
  cases hq : q f
  · rfl
  · rw [h f hq]
    rfl

theorem eligible_cleanTmp (now : Nat) (fs : FS) : eligible now (cleanTmp now fs) = eligible now fs := by
  unfold eligible
  rw [filter_cleanTmp now fs (inDir newSl) fun f => dir_ne f newSl tmpSl (by decide),
    filter_cleanTmp now fs (inDir curSl) fun f => dir_ne f curSl tmpSl (by decide)]

theorem sizeAt_cleanTmp (now : Nat) (fs : FS) (p : Bytes) (hp : p.take 4 ≠ tmpSl) :
    sizeAt (cleanTmp now fs) p = sizeAt fs p := by
  unfold sizeAt fsFind
  rw [← List.head?_filter, ← List.head?_filter, filter_cleanTmp]
  intro f hf
  unfold inDir
  rw [eq_of_beq hf]
  simpa using hp

theorem start_table (now : Nat) (fs : FS) :
    ∃ L : List File, L.Perm (eligible now fs) ∧ L.Pairwise (fun a b => a.mtime ≤ b.mtime) ∧
      getlist now (cleanTmp now fs) = L.map (startMsg (cleanTmp now fs)) ∧
      ∀ f ∈ L, f ∈ cleanTmp now fs ∧ sizeAt (cleanTmp now fs) f.path = sizeAt fs f.path := by
  obtain ⟨L, h1, h2, h3⟩ := getlist_sorted_perm now (cleanTmp now fs)
  refine ⟨L, eligible_cleanTmp now fs ▸ h1, h2, h3, fun f hf => ?_⟩
  obtain ⟨hmem, hdir, _⟩ := (mem_eligible now _ f).mp (h1.subset hf)
  refine ⟨hmem, sizeAt_cleanTmp now fs f.path ?_⟩
  rcases hdir with hd | hd
  · have : f.path.take 4 = newSl := by simpa [inDir] using hd
    rw [this]; decide
  · have : f.path.take 4 = curSl := by simpa [inDir] using hd
    rw [this]; decide

/-! ### commands(): one handler per LF-terminated line -/

/-- what commands() does with one complete line (without its LF) -/
def stepLine (r : Run) (line : Bytes) : Run :=
  match r.exit with
  | some _ => r
  | none =>
    { s := (exec r.s (parseLine line).1 (parseLine line).2).1, cmd := [],
      out := r.out ++ (exec r.s (parseLine line).1 (parseLine line).2).2.1,
      exit := (exec r.s (parseLine line).1 (parseLine line).2).2.2 }

/-- a byte loop that puts every byte but LF in front of the line collected so far; `P l` is the state with `l`
collected (reversed), everything else as at the beginning -/
theorem foldl_collect {ρ} (step : ρ → Byte → ρ) (P : Bytes → ρ) (h : ∀ l c, c ≠ LF → step (P l) c = P (c :: l)) :
    ∀ line l : Bytes, LF ∉ line → line.foldl step (P l) = P (line.reverse ++ l)
  | [], _, _ => rfl
  | c :: line, l, hl => by
    rw [List.foldl_cons, h l c (fun e => hl (by simp [e])), foldl_collect step P h line (c :: l) (fun e => hl (by simp [e]))]
    simp

theorem feed_noLF (line : Bytes) (r : Run) (hx : r.exit = none) (hl : LF ∉ line) :
    line.foldl feedByte r = { r with cmd := line.reverse ++ r.cmd } :=
  foldl_collect feedByte (fun l => { r with cmd := l }) (fun l c hc => by unfold feedByte; simp [hx, hc]) line r.cmd hl

theorem feed_line (r : Run) (line : Bytes) (hc : r.cmd = []) (hl : LF ∉ line) :
    (line ++ [LF]).foldl feedByte r = stepLine r line := by
  cases hx : r.exit with
  | some x =>
    rw [feedBytes_exit_some _ r x hx]
    simp [stepLine, hx]
  | none =>
    rw [List.foldl_append, feed_noLF line r hx hl]
    simp only [List.foldl_cons, List.foldl_nil]
    unfold feedByte
    simp [hx, hc, stepLine]

theorem stepLine_cmd (r : Run) (line : Bytes) (hc : r.cmd = []) : (stepLine r line).cmd = [] := by
  unfold stepLine
  cases r.exit <;> simp [hc]

end Nq.Lemmas.Pop3
