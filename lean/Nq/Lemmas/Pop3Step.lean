/-
  One command of qmail-pop3d against the reference `Pop3Ref.refStep`: the relation `Sim` between a model state
  and a reference state, and the step simulation `step_sim` (the reply is what the reference expects, the
  successor states are related again).  Core Lean only.
-/
import Nq.Lemmas.Pop3Reply
import Nq.Lemmas.Pop3Blast
namespace Nq.Lemmas.Pop3
open Nq Nq.Pop3 Nq.Pop3Ref Nq.Pop3FRef Nq.Lemmas.Pop3Fmt

/-! ### the relation between the model's session state and the reference's -/

/-- message by message, from number `k + 1` on: same path, the announced size is the length of the
reference's data, marked in the model iff the 0-based number is in the reference's `marked` -/
def Rel (marked : List Nat) : Nat → List Msg → List RMsg → Prop
  | _, [], [] => True
  | k, m :: ms, r :: rs => r.path = m.fn ∧ m.size = r.data.length ∧ (m.del = true ↔ k ∈ marked) ∧ Rel marked (k + 1) ms rs
  | _, _, _ => False

@[elab_as_elim]
theorem Rel.ind {marked : List Nat} {P : Nat → List Msg → List RMsg → Prop} (nil : ∀ k, P k [] [])
    (cons : ∀ k m ms r rs, r.path = m.fn → m.size = r.data.length → (m.del = true ↔ k ∈ marked) →
      Rel marked (k + 1) ms rs → P (k + 1) ms rs → P k (m :: ms) (r :: rs))
    {k : Nat} {ms : List Msg} {rs : List RMsg} (h : Rel marked k ms rs) : P k ms rs := by
  induction ms generalizing k rs with
  | nil => cases rs with
    | nil => exact nil k
    | cons _ _ => exact h.elim
  | cons m ms ih => cases rs with
    | nil => exact h.elim
    | cons r rs => exact cons k m ms r rs h.1 h.2.1 h.2.2.1 h.2.2.2 (ih h.2.2.2)

theorem Rel.length {marked : List Nat} : ∀ {k : Nat} {ms : List Msg} {rs : List RMsg}, Rel marked k ms rs → rs.length = ms.length := by
  intro k ms rs h
  refine Rel.ind (fun _ => rfl) (fun k m ms r rs _ _ _ _ ih => ?_) h
  simp [ih]

theorem Rel.get {marked : List Nat} {k : Nat} {ms : List Msg} {rs : List RMsg} (h : Rel marked k ms rs) :
    ∀ i m, ms[i]? = some m → ∃ r, rs[i]? = some r ∧ r.path = m.fn ∧ m.size = r.data.length ∧ (m.del = true ↔ k + i ∈ marked) := by
  refine Rel.ind ?_ ?_ h
  · intro k i m hm
    simp at hm
  · intro k x ms r rs hp hs hd _ ih i m hm
    cases i with
    | zero =>
      simp only [List.getElem?_cons_zero, Option.some.injEq] at hm
      subst hm
      exact ⟨r, rfl, hp, hs, hd⟩
    | succ i =>
      rw [List.getElem?_cons_succ] at hm ⊢
      rw [← Nat.add_assoc, Nat.add_right_comm]
      exact ih i m hm

theorem Rel.mark_below {marked : List Nat} {k : Nat} {ms : List Msg} {rs : List RMsg} (h : Rel marked k ms rs) :
    ∀ n, n < k → Rel (n :: marked) k ms rs := by
  refine Rel.ind ?_ ?_ h
  · intro k n _
    trivial
  · intro k m ms r rs hp hs hd _ ih n hn
    refine ⟨hp, hs, ?_, ih n (by omega)⟩
    rw [hd, List.mem_cons]
    exact ⟨.inr, fun hh => hh.resolve_left (by omega)⟩

theorem Rel.setDel {marked : List Nat} {k : Nat} {ms : List Msg} {rs : List RMsg} (h : Rel marked k ms rs) :
    ∀ i, i < ms.length → Rel ((k + i) :: marked) k (setDel ms i) rs := by
  refine Rel.ind ?_ ?_ h
  · intro k i hi
    simp at hi
  · intro k m ms r rs hp hs hd hrest ih i hi
    cases i with
    | zero => exact ⟨hp, hs, by simp, hrest.mark_below k (by omega)⟩
    | succ i =>
      refine ⟨hp, hs, ?_, ?_⟩
      · rw [hd, List.mem_cons]
        exact ⟨.inr, fun hh => hh.resolve_left (by omega)⟩
      · rw [← Nat.add_assoc, Nat.add_right_comm]
        exact ih i (Nat.lt_of_succ_lt_succ hi)

theorem Rel.unmark {marked : List Nat} {k : Nat} {ms : List Msg} {rs : List RMsg} (h : Rel marked k ms rs) :
    Rel [] k (ms.map (fun m => { m with del := false })) rs := by
  refine Rel.ind ?_ ?_ h
  · intro k
    trivial
  · intro k m ms r rs hp hs _ _ ih
    exact ⟨hp, hs, by simp, ih⟩

/-- the relation of the simulation. `modz`: the reference reads numbers unbounded. `small`: with it msgno()'s `int` range
test refuses nothing that the count test lets through. `noLF`: else a UIDL reply is not one line. `total`: STAT's sum does
not wrap, and every message is shorter than the count at which TOP's limit saturates (`top_decoded`). `file`: the file of
a message is absent iff the reference has it as gone, and otherwise holds the reference's data. -/
structure Sim (s : Sess) (rs : RSt) : Prop where
  rel : Rel rs.marked 0 s.msgs rs.msgs
  modz : rs.modulus = 0
  last : LastInv s
  small : s.msgs.length ≤ INT_MAX
  inrange : ∀ i ∈ rs.marked, i < s.msgs.length
  noLF : ∀ r ∈ rs.msgs, LF ∉ r.path
  total : (rs.msgs.map (fun r => r.data.length)).sum < U64 - 1
  file : ∀ r ∈ rs.msgs, (r.path ∈ rs.gone → fsFind s.fs r.path = none) ∧
           (r.path ∉ rs.gone → ∃ f, fsFind s.fs r.path = some f ∧ f.data = r.data)

/-! ### message numbers -/

theorem takeWhile_all_p {α} (p : α → Bool) (l : List α) : (l.takeWhile p).all p = true := by
  exact List.all_takeWhile

theorem number_takeWhile (a : Bytes) :
    number? (a.takeWhile isDigit) = if a.takeWhile isDigit = [] then none else some (decVal (a.takeWhile isDigit)) := by
  unfold number?
  by_cases h : a.takeWhile isDigit = []
  · simp [h]
  · simp [h]

theorem num_eq (rs : RSt) (hz : rs.modulus = 0) (a : Bytes) :
    rs.num a = if a.takeWhile isDigit = [] then none else some (decVal (a.takeWhile isDigit)) := by
  unfold RSt.num leadNumber
  simp only [number_takeWhile]
  by_cases h : a.takeWhile isDigit = []
  · simp [h]
  · simp [h, hz]

theorem msgNum_eq (rs : RSt) (hz : rs.modulus = 0) (a : Bytes) :
    rs.msgNum a = if a.takeWhile isDigit = [] ∨ endsOk a = false then none else some (decVal (a.takeWhile isDigit)) := by
  have hn := num_eq rs hz a
  unfold RSt.num leadNumber at hn
  unfold RSt.msgNum msgArg endsOk
  cases a.dropWhile isDigit with
  | nil => simpa using hn
  | cons c t =>
    by_cases hc : c = SP
    · simpa [hc] using hn
    · simp [hc]

theorem valid_msgno {s : Sess} {rs : RSt} (h : Sim s rs) (arg : Bytes) :
    (∃ t, msgno s arg = .err (errSp ++ t ++ [CR, LF]) ∧ LF ∉ t ∧ rs.valid arg = none) ∨
    (∃ i m r, msgno s arg = .ok i ∧ rs.valid arg = some i ∧ s.msgs[i]? = some m ∧ rs.msgs[i]? = some r ∧ m.del = false ∧
      r.path = m.fn ∧ m.size = r.data.length) := by
  have hlen := h.rel.length
  have hsmall := h.small
  unfold RSt.valid
  rw [msgNum_eq rs h.modz]
  rcases msgno_cases s arg with ⟨e, c⟩ | ⟨h0, h1, ⟨e, c⟩ | ⟨e, c⟩ | ⟨i, m, hi, hl, _, hm, hd⟩⟩
  · exact .inl ⟨_, e, noLF_syntax, by rw [if_pos c]⟩
  all_goals rw [if_neg (fun c => c.elim h0 (by simp [h1]))]
  all_goals dsimp only
  · exact .inl ⟨_, e, noLF_counted, if_neg (by omega)⟩
  · exact .inl ⟨_, e, noLF_notmany, if_neg (by omega)⟩
  · obtain ⟨r, hr, hp, hs, hmk⟩ := h.rel.get i m hm
    rw [Nat.zero_add] at hmk
    rw [hi, Nat.add_sub_cancel]
    rcases hd with ⟨e, hd⟩ | ⟨e, hd⟩
    · exact .inl ⟨_, e, noLF_deleted, if_neg (by simp [hmk.mp hd])⟩
    · refine .inr ⟨i, m, r, e, if_pos ⟨by omega, by omega, ?_⟩, hm, hr, hd, hp, hs⟩
      simpa [hd] using hmk

/-! ### LIST / UIDL without argument -/

theorem fmtNat_head (n : Nat) : ∃ c t, fmtNat n = c :: t ∧ isDigit c = true := by
  cases h : fmtNat n with
  | nil => exact absurd h (fmtNat_ne_nil n)
  | cons c t => exact ⟨c, t, rfl, fmtNat_digits n c (by rw [h]; simp)⟩

theorem uid_noLF (fn : Bytes) (h : LF ∉ fn) : LF ∉ uidOf fn := by
  intro hh
  unfold uidOf at hh
  exact h ((List.drop_sublist 4 fn).subset ((List.takeWhile_sublist _).subset hh))

/-- the text after the message number in a listing line -/
def listText : Bool → RMsg → Bytes
  | true => fun r => uidOfPath r.path
  | false => sizeText

theorem listLine_eq (i : Nat) (m : Msg) (r : RMsg) (uidl : Bool) (hp : r.path = m.fn) (hs : m.size = r.data.length) :
    listLine i m uidl = (fmtNat (i + 1) ++ [SP] ++ listText uidl r) ++ [CR, LF] := by
  cases uidl
  · simp [listLine, listText, sizeText, hs]
  · simp only [listLine, listText, uidOfPath, uidOf, hp]
    rfl

theorem listText_noLF (uidl : Bool) (r : RMsg) (h : LF ∉ r.path) : LF ∉ listText uidl r := by
  cases uidl
  · exact fmtNat_not_mem _ rfl
  · exact uid_noLF r.path h

theorem listline_noLF (i : Nat) (uidl : Bool) (r : RMsg) (h : LF ∉ r.path) : LF ∉ fmtNat (i + 1) ++ [SP] ++ listText uidl r :=
  List.not_mem_append (List.not_mem_append (fmtNat_not_mem _ rfl) (by decide)) (listText_noLF uidl r h)

/-- a listing line begins with a digit: stuffing leaves it as it is -/
theorem encLine_listing (i : Nat) (t : Bytes) :
    encLine (fmtNat (i + 1) ++ [SP] ++ t) = fmtNat (i + 1) ++ [SP] ++ t ++ [CR, LF] := by
  obtain ⟨c, r, hc, hcd⟩ := fmtNat_head (i + 1)
  rw [hc]
  simp [encLine, stuff, digit_ne c DOT hcd (by decide)]

theorem listAll_encode (marked : List Nat) (uidl : Bool) : ∀ (ms : List Msg) (k : Nat) (rms : List RMsg),
    Rel marked k ms rms →
    listAll uidl k ms = (((rms.zipIdx k).filter (fun (x : RMsg × Nat) => !marked.contains x.2)).map
              (fun (x : RMsg × Nat) => fmtNat (x.2 + 1) ++ [SP] ++ listText uidl x.1)).flatMap encLine := by
  intro ms k rms h
  refine Rel.ind ?_ ?_ h
  · intro k
    rfl
  · intro k m ms r rms hp hs hd _ ih
    rw [List.zipIdx_cons, List.filter_cons, listAll, ih]
    by_cases hdel : m.del = true
    · rw [if_pos hdel, if_neg (by simpa using hd.mp hdel)]
      rfl
    · rw [if_neg hdel, if_pos (by simpa using fun hh => hdel (hd.mpr hh)), List.map_cons, List.flatMap_cons,
        encLine_listing, listLine_eq k m r uidl hp hs]

theorem listing_noLF (rs : RSt) (uidl : Bool) (h : ∀ r ∈ rs.msgs, LF ∉ r.path) :
    ∀ l ∈ listing rs (listText uidl), LF ∉ l := by
  intro l hl
  simp only [listing, List.mem_map, List.mem_filter] at hl
  obtain ⟨⟨r, i⟩, ⟨hm, _⟩, rfl⟩ := hl
  exact listline_noLF i uidl r (h r (List.fst_mem_of_mem_zipIdx hm))

/-! ### STAT -/

theorem stat_ref (marked : List Nat) : ∀ (ms : List Msg) (k : Nat) (rms : List RMsg) (t : Nat), Rel marked k ms rms →
    ((rms.zipIdx k).filter (fun (x : RMsg × Nat) => !marked.contains x.2)).foldl (fun t (x : RMsg × Nat) => t + x.1.data.length) t
      = t + liveTotal ms := by
  intro ms k rms t h
  revert t
  refine Rel.ind ?_ ?_ h
  · intro k t
    simp [liveTotal]
  · intro k m ms r rms _ hs hd _ ih t
    rw [List.zipIdx_cons, List.filter_cons, liveTotal_cons]
    by_cases hdel : m.del = true
    · have hc : marked.contains k = true := by simpa using hd.mp hdel
      simp only [hc, hdel, Bool.not_true, Bool.false_eq_true, if_false, if_true, Nat.zero_add]
      exact ih t
    · have hc : marked.contains k = false := by simpa using fun hh => hdel (hd.mpr hh)
      simp only [hc, hdel, Bool.not_false, if_true, if_false, List.foldl_cons, Bool.false_eq_true]
      rw [ih, hs, Nat.add_assoc]

theorem liveTotal_le (marked : List Nat) : ∀ (ms : List Msg) (k : Nat) (rms : List RMsg), Rel marked k ms rms →
    liveTotal ms ≤ (rms.map (fun r => r.data.length)).sum := by
  intro ms k rms h
  refine Rel.ind ?_ ?_ h
  · intro k
    simp [liveTotal]
  · intro k m ms r rms _ hs _ _ ih
    rw [liveTotal_cons, List.map_cons, List.sum_cons, ← hs]
    split <;> omega

theorem mem_le_sum (rms : List RMsg) (r : RMsg) (h : r ∈ rms) : r.data.length ≤ (rms.map (fun r => r.data.length)).sum := by
  induction rms with
  | nil => simp at h
  | cons x rms ih =>
    rcases List.mem_cons.mp h with e | e
    · subst e; simp
    · have := ih e; simp; omega

/-! ### LAST -/

theorem last_ref (s : Sess) (rs : RSt) (h : Sim s rs) : rs.marked.foldl (fun a i => max a (i + 1)) 0 = s.last := by
  rw [h.last]
  apply Nat.le_antisymm
  · rcases foldl_max_attained rs.marked 0 with e | ⟨i, hi, e⟩
    · rw [e]; omega
    · rw [e]
      have hlt := h.inrange i hi
      cases hm : s.msgs[i]? with
      | none => rw [List.getElem?_eq_none_iff] at hm; omega
      | some m =>
        obtain ⟨r, _, _, _, hd⟩ := h.rel.get i m hm
        simp only [Nat.zero_add] at hd
        have := highMark_ge s.msgs 0 i m hm (hd.mpr hi)
        omega
  · rcases highMark_attained s.msgs 0 with e | ⟨i, m, hm, hd, e⟩
    · rw [e]; omega
    · rw [e]
      obtain ⟨r, _, _, _, hd'⟩ := h.rel.get i m hm
      simp only [Nat.zero_add] at hd'
      have := (foldl_max_ge rs.marked 0).2 i (hd'.mp hd)
      omega

/-! ### one command -/

/-- the conclusion of the step simulation for one command that is not QUIT -/
structure StepOk (s : Sess) (rs : RSt) (verb arg : Bytes) : Prop where
  reply : ∀ w, matchReply (refStep rs (lower verb) arg).2 ((exec s verb arg).2.1 ++ w) = some w
  next : Sim (exec s verb arg).1 (refStep rs (lower verb) arg).1
  goes_on : (exec s verb arg).2.2 = none
  not_quit : (refStep rs (lower verb) arg).2 ≠ .quit

theorem setDel_length (ms : List Msg) (i : Nat) : (setDel ms i).length = ms.length := by
  have := congrArg List.length (setDel_ident ms i)
  simpa using this

theorem sim_same (s : Sess) (rs : RSt) (h : Sim s rs) : Sim s rs := h

theorem StepOk.of_eq {s s' : Sess} {rs rs' : RSt} {verb arg out : Bytes} {e : Expect}
    (e1 : exec s verb arg = (s', out, none)) (e2 : refStep rs (lower verb) arg = (rs', e))
    (hm : ∀ w, matchReply e (out ++ w) = some w) (hq : e ≠ .quit) (h : Sim s' rs') : StepOk s rs verb arg :=
  ⟨fun w => by rw [e1, e2]; exact hm w, by rw [e1, e2]; exact h, by rw [e1], by rw [e2]; exact hq⟩

theorem StepOk.same {s : Sess} {rs : RSt} {verb arg out : Bytes} {e : Expect} (h : Sim s rs)
    (e1 : exec s verb arg = (s, out, none)) (e2 : refStep rs (lower verb) arg = (rs, e))
    (hm : ∀ w, matchReply e (out ++ w) = some w) (hq : e ≠ .quit) : StepOk s rs verb arg :=
  .of_eq e1 e2 hm hq h

theorem StepOk.refused {s : Sess} {rs : RSt} {verb arg t : Bytes} (h : Sim s rs)
    (e1 : exec s verb arg = (s, errSp ++ t ++ [CR, LF], none)) (e2 : refStep rs (lower verb) arg = (rs, .err))
    (ht : LF ∉ t) : StepOk s rs verb arg :=
  .same h e1 e2 (fun w => match_err t w ht) nofun

theorem step_noop (s : Sess) (rs : RSt) (h : Sim s rs) (verb arg : Bytes) (hL : lower verb = vNoop) :
    StepOk s rs verb arg :=
  .same h (exec_noop s verb arg hL) (by rw [hL]; rfl) match_ok nofun

theorem step_unknown (s : Sess) (rs : RSt) (h : Sim s rs) (verb arg : Bytes)
    (hL : lower verb ∉ Gen.Pop3Tab.pop3dCmds.map Prod.fst) : StepOk s rs verb arg := by
  refine .refused h (exec_other s verb arg hL) ?_ noLF_unimpl
  simp only [Gen.Pop3Tab.pop3dCmds, List.map_cons, List.map_nil, List.mem_cons, List.not_mem_nil, or_false, not_or] at hL
  simp [refStep, hL]

theorem step_rset (s : Sess) (rs : RSt) (h : Sim s rs) (verb arg : Bytes) (hL : lower verb = vRset) :
    StepOk s rs verb arg := by
  have e1 := exec_rset s verb arg hL
  have e2 : refStep rs (lower verb) arg = ({ rs with marked := [] }, .ok) := by rw [hL]; rfl
  have hl := exec_lastInv s verb arg h.last
  rw [e1] at hl
  exact .of_eq e1 e2 match_ok nofun
    { h with rel := h.rel.unmark, last := hl, small := by simpa using h.small, inrange := nofun }

theorem step_dele (s : Sess) (rs : RSt) (h : Sim s rs) (verb arg : Bytes) (hL : lower verb = vDele) :
    StepOk s rs verb arg := by
  have e1 := exec_dele s verb arg hL
  have e2 : refStep rs (lower verb) arg = match rs.valid arg with
      | some i => ({ rs with marked := i :: rs.marked }, .ok)
      | none => (rs, .err) := by rw [hL]; rfl
  have hl := exec_lastInv s verb arg h.last
  rcases valid_msgno h arg with ⟨t, hm, ht, hval⟩ | ⟨i, m, r, hm, hval, hmi, hri, hd, hp, hs⟩
  · rw [hm] at e1
    rw [hval] at e2
    exact .refused h e1 e2 ht
  · rw [hm] at e1
    rw [hval] at e2
    rw [e1] at hl
    have hi : i < s.msgs.length := (List.getElem?_eq_some_iff.mp hmi).1
    have hrel := h.rel.setDel i hi
    rw [Nat.zero_add] at hrel
    exact .of_eq e1 e2 match_ok nofun { h with
      rel := hrel, last := hl, small := by simpa [setDel_length] using h.small
      inrange := by
        intro j hj
        rw [setDel_length]
        rcases List.mem_cons.mp hj with e | e
        · rw [e]; exact hi
        · exact h.inrange j e }

theorem step_stat (s : Sess) (rs : RSt) (h : Sim s rs) (verb arg : Bytes) (hL : lower verb = vStat) :
    StepOk s rs verb arg := by
  have hlt : liveTotal s.msgs < U64 := by
    have := liveTotal_le rs.marked s.msgs 0 rs.msgs h.rel
    have := h.total
    omega
  have e1 := exec_stat s verb arg hL
  rw [stat_total, Nat.mod_eq_of_lt hlt] at e1
  have e2 : refStep rs (lower verb) arg = (rs, .okStat (liveTotal s.msgs)) := by
    rw [← Nat.zero_add (liveTotal s.msgs), ← stat_ref rs.marked s.msgs 0 rs.msgs 0 h.rel, hL]
    rfl
  exact .same h e1 e2 (match_okStat _ _) nofun

theorem step_last (s : Sess) (rs : RSt) (h : Sim s rs) (verb arg : Bytes) (hL : lower verb = vLast) :
    StepOk s rs verb arg := by
  have e2 : refStep rs (lower verb) arg = (rs, .okNum s.last) := by
    rw [← last_ref s rs h, hL]
    rfl
  exact .same h (exec_last s verb arg hL) e2 (match_okNum _) nofun

theorem mem_of_getElem? {α} (l : List α) (i : Nat) (x : α) (h : l[i]? = some x) : x ∈ l :=
  List.mem_of_getElem? h

theorem step_list (s : Sess) (rs : RSt) (h : Sim s rs) (verb arg : Bytes) (uidl : Bool)
    (hL : lower verb = if uidl then vUidl else vList) : StepOk s rs verb arg := by
  have e1 : exec s verb arg = _ := exec_list s verb arg (by cases uidl; exact .inl hL; exact .inr hL)
  have hu : verbIs vUidl verb = uidl := by rw [verbIs, hL]; cases uidl <;> rfl
  have e2 : refStep rs (lower verb) arg =
      if arg = [] then (rs, .multi (listing rs (listText uidl)))
      else match rs.valid arg with
        | some i => match rs.msgs[i]? with
          | some m => (rs, .okText (fmtNat (i + 1) ++ [SP] ++ listText uidl m))
          | none => (rs, .err)
        | none => (rs, .err) := by
    rw [hL]; cases uidl <;> rfl
  rw [hu] at e1
  by_cases ha : arg = []
  · rw [if_neg (fun c => c ha)] at e1
    rw [if_pos ha] at e2
    refine .same h e1 e2 (fun w => ?_) nofun
    rw [List.append_assoc okLine]
    apply match_multi
    rw [listAll_encode rs.marked uidl s.msgs 0 rs.msgs h.rel, ← refEncode_eq]
    exact decode_encode w _ (listing_noLF rs uidl h.noLF)
  · rw [if_pos ha] at e1
    rw [if_neg ha] at e2
    rcases valid_msgno h arg with ⟨t, hm, ht, hval⟩ | ⟨i, m, r, hm, hval, hmi, hri, hd, hp, hs⟩
    · rw [hm] at e1
      rw [hval] at e2
      exact .refused h e1 e2 ht
    · simp only [hval, hri] at e2
      simp only [hm, hmi, listLine_eq i m r uidl hp hs, ← List.append_assoc] at e1
      exact .same h e1 e2 (fun w => match_okText _ w (listline_noLF i uidl r (h.noLF r (mem_of_getElem? _ _ _ hri)))) nofun

theorem step_retr (s : Sess) (rs : RSt) (h : Sim s rs) (verb arg : Bytes) (top : Bool)
    (hL : lower verb = if top then vTop else vRetr) : StepOk s rs verb arg := by
  have e1 : exec s verb arg = _ := exec_retr s verb arg (by cases top; exact .inl hL; exact .inr hL)
  have hlim : limitFor verb arg = if top then topLimit arg else 0 := by
    cases top
    · exact limitFor_of_not_top verb arg (by rw [verbIs, hL]; rfl)
    · exact limitFor_top verb arg (verbIs_of_lower hL)
  have e2 : refStep rs (lower verb) arg =
      match rs.valid arg with
      | none => (rs, .err)
      | some i => match rs.msgs[i]? with
        | none => (rs, .err)
        | some m =>
          if rs.gone.contains m.path then (rs, .err)
          else if top then
            match topCount arg with
            | some k => (rs, .multi (topLines k (lines m.data) ++ [[]]))
            | none => (rs, .multiOrErr (lines m.data ++ [[]]))
          else (rs, .multi (lines m.data ++ [[]])) := by
    have hnum : topCount arg = rs.num (((leadNumber arg).2).dropWhile (· = SP)) := (num_eq rs h.modz _).symm
    rw [hnum, hL]; cases top <;> rfl
  rcases valid_msgno h arg with ⟨t, hm, ht, hval⟩ | ⟨i, m, r, hm, hval, hmi, hri, hd, hp, hs⟩
  · rw [hm] at e1
    rw [hval] at e2
    exact .refused h e1 e2 ht
  have hr : r ∈ rs.msgs := mem_of_getElem? _ _ _ hri
  obtain ⟨fgone, fhere⟩ := h.file r hr
  simp only [hval, hri] at e2
  simp only [hm, hmi, ← hp] at e1
  by_cases hg : r.path ∈ rs.gone
  · rw [if_pos (List.contains_iff_mem.mpr hg)] at e2
    simp only [fgone hg] at e1
    exact .refused h e1 e2 noLF_open
  · obtain ⟨f, hf, hdata⟩ := fhere hg
    rw [if_neg (fun c => hg (List.contains_iff_mem.mp c))] at e2
    simp only [hf, hlim] at e1
    have hlen : f.data.length < U64 - 1 := by
      rw [hdata]
      have := mem_le_sum rs.msgs r hr
      have := h.total
      omega
    have hdec := fun w => top_decoded arg f.data w hlen
    rw [← hdata] at e2
    cases top with
    | false => exact .same h e1 e2 (fun w => match_multi _ _ w (blast_decoded 0 f.data w)) nofun
    | true =>
      simp only [if_true] at e1 e2
      cases hc : topCount arg with
      | some k =>
        rw [hc] at e2 hdec
        exact .same h e1 e2 (fun w => match_multi _ _ w (hdec w)) nofun
      | none =>
        rw [hc] at e2 hdec
        exact .same h e1 e2 (fun w => match_multiOrErr _ _ w (hdec w)) nofun

theorem step_sim (s : Sess) (rs : RSt) (h : Sim s rs) (verb arg : Bytes) (hq : lower verb ≠ vQuit) :
    StepOk s rs verb arg := by
  by_cases hm : lower verb ∈ Gen.Pop3Tab.pop3dCmds.map Prod.fst
  · rcases (mem_pop3dVerbs _).mp hm with hL | hL | hL | hL | hL | hL | hL | hL | hL | hL
    · exact absurd hL hq
    · exact step_stat s rs h verb arg hL
    · exact step_list s rs h verb arg false hL
    · exact step_list s rs h verb arg true hL
    · exact step_dele s rs h verb arg hL
    · exact step_retr s rs h verb arg false hL
    · exact step_rset s rs h verb arg hL
    · exact step_last s rs h verb arg hL
    · exact step_retr s rs h verb arg true hL
    · exact step_noop s rs h verb arg hL
  · exact step_unknown s rs h verb arg hm

end Nq.Lemmas.Pop3
