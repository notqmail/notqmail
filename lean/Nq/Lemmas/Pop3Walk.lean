/-
  Whole sessions of qmail-pop3d against the reference: what pop3_quit writes (`matchQuit`), the session
  simulation `walk_sim` (the reference `walk` accepts the model's transcript), and the start state.
  Core Lean only.
-/
import Nq.Lemmas.Pop3Step
namespace Nq.Lemmas.Pop3
open Nq Nq.Pop3 Nq.Pop3Ref Nq.Lemmas.Pop3Fmt Nq.Lemmas.Pop3Heap

/-! ### QUIT: what pop3_quit writes -/

/-- the line pop3_quit writes for a marked message whose file is no longer there -/
def errUnlink : Bytes := errLine "unable to unlink all deleted messages"

/-- maildir names: no two messages share a name, and no message carries the name pop3_quit would
give to another (maildir(5): the part before ":2," is unique) -/
def NamesOk (names : List Bytes) : Prop := names.Nodup ∧ ∀ a ∈ names, ∀ b ∈ names, seenName a ≠ b

theorem NamesOk.tail {a : Bytes} {l : List Bytes} (h : NamesOk (a :: l)) : NamesOk l :=
  ⟨(List.nodup_cons.mp h.1).2, fun x hx y hy => h.2 x (by simp [hx]) y (by simp [hy])⟩

/-- the marked messages whose file is missing (`F` = the maildir pop3_quit starts from) -/
def lostCount (F : Bytes → Option File) (ms : List Msg) : Nat :=
  (ms.filter (fun m => m.del && (F m.fn).isNone)).length

theorem lostCount_cons (F : Bytes → Option File) (m : Msg) (ms : List Msg) :
    lostCount F (m :: ms) = (if m.del = true ∧ F m.fn = none then 1 else 0) + lostCount F ms := by
  cases hd : m.del <;> cases hF : F m.fn <;> simp [lostCount, hd, hF, Nat.add_comm]

/-- `j` copies of pop3_quit's error line: what it writes before "+OK" when `j` marked messages have lost their file -/
def rep (j : Nat) : Bytes := (List.replicate j errUnlink).flatten

theorem rep_succ (j : Nat) : rep (j + 1) = errUnlink ++ rep j := by simp [rep, List.replicate_succ]

theorem rep_add_one (j : Nat) (out : Bytes) : out ++ errUnlink ++ rep j = out ++ rep (j + 1) := by
  rw [rep_succ]; simp

theorem quit_out : ∀ (ms : List Msg) (fs : FS) (out : Bytes) (F : Bytes → Option File),
    (∀ m ∈ ms, fsFind fs m.fn = F m.fn) → NamesOk (ms.map (·.fn)) →
    (quitLoop ms fs out).2 = out ++ rep (lostCount F ms) := by
  intro ms
  induction ms with
  | nil => intro fs out F _ _; simp [quitLoop, rep, lostCount]
  | cons m ms ih =>
    intro fs out F hF hn
    -- `hF`: on the names still to come the maildir is the one pop3_quit started from (`F`). It survives what is done
    -- for `m`: no later message has `m`'s name (`hnd`, for the unlink) or the name `m` is given (`hns`, for the rename)
    have hn' : NamesOk (ms.map (·.fn)) := by
      have := hn; simp only [List.map_cons] at this; exact this.tail
    have hnd : ∀ x ∈ ms, x.fn ≠ m.fn := by
      intro x hx e
      have := hn.1; simp only [List.map_cons, List.nodup_cons] at this
      exact this.1 (e ▸ List.mem_map_of_mem hx)
    have hns : ∀ x ∈ ms, x.fn ≠ seenName m.fn := by
      intro x hx e
      exact hn.2 m.fn (by simp) x.fn (by simp [List.mem_map_of_mem hx]) e.symm
    have hm := hF m (by simp)
    rw [quitLoop, lostCount_cons, ← hm]
    by_cases hd : m.del = true
    · rw [if_pos hd]
      cases hfm : fsFind fs m.fn with
      | some g =>
        rw [if_neg (fun c : _ ∧ _ => nomatch c.2), Nat.zero_add]
        apply ih _ _ F _ hn'
        intro x hx
        rw [find_unlink, if_neg (hnd x hx)]
        exact hF x (by simp [hx])
      | none =>
        rw [if_pos ⟨hd, rfl⟩, Nat.add_comm]
        dsimp only
        rw [ih fs _ F (fun x hx => hF x (by simp [hx])) hn']
        exact rep_add_one _ _
    · rw [if_neg hd, if_neg (fun c : _ ∧ _ => hd c.1), Nat.zero_add]
      split
      · apply ih _ _ F _ hn'
        intro x hx
        rw [show curSl ++ m.fn.drop 4 ++ seenSuffix = seenName m.fn from rfl,
          find_rename_other fs m.fn _ x.fn (hnd x hx) (hns x hx)]
        exact hF x (by simp [hx])
      · exact ih fs out F (fun x hx => hF x (by simp [hx])) hn'

theorem lost_iff (marked : List Nat) (gone : List Bytes) (F : Bytes → Option File) :
    ∀ (ms : List Msg) (k : Nat) (rms : List RMsg), Rel marked k ms rms →
    (∀ r ∈ rms, (F r.path = none ↔ r.path ∈ gone)) →
    (rms.zipIdx k).any (fun (x : RMsg × Nat) => marked.contains x.2 && gone.contains x.1.path) = decide (lostCount F ms ≠ 0) := by
  intro ms k rms h
  refine Rel.ind ?_ ?_ h
  · intro k _
    simp [lostCount]
  · intro k m ms r rms hp _ hd _ ih hg
    have hgr := hg r (by simp)
    rw [hp] at hgr
    rw [List.zipIdx_cons, List.any_cons, ih (fun x hx => hg x (by simp [hx])), lostCount_cons]
    have key : (marked.contains k && gone.contains r.path) = decide (m.del = true ∧ F m.fn = none) := by
      rw [Bool.eq_iff_iff]
      simp [hd, hgr, hp]
    rw [key]
    by_cases c : m.del = true ∧ F m.fn = none
    · simp [c]
    · simp [c]

theorem go_line (f : Nat) (l w : Bytes) (hl : LF ∉ l) (h : (isOk l || isErr l) = true) :
    matchQuit.go (f + 1) (l ++ [CR, LF] ++ w) = matchQuit.go f w := by
  have hne : (l ++ [CR, LF] ++ w).isEmpty = false := by cases l <;> rfl
  rw [matchQuit.go, hne, readLine_line l w hl]
  simp only [Bool.false_eq_true, if_false, h, Bool.true_and]

/-- `matchQuit.go` spends one unit of fuel on each of the `j + 1` lines and one more on seeing that nothing is left -/
theorem go_rep : ∀ (j f : Nat), j + 2 ≤ f → matchQuit.go f (rep j ++ okLine) = true := by
  intro j
  induction j with
  | zero =>
    intro f hf
    obtain ⟨f', rfl⟩ : ∃ f', f = f' + 1 + 1 := ⟨f - 2, by omega⟩
    exact go_line (f' + 1) okSp [] (by decide) (by decide)
  | succ j ih =>
    intro f hf
    obtain ⟨f', rfl⟩ : ∃ f', f = f' + 1 := ⟨f - 1, by omega⟩
    rw [rep_succ, List.append_assoc]
    exact (go_line f' _ _ (List.not_mem_append (by decide) noLF_unlink) (by rw [isErr_errSp, Bool.or_true])).trans
      (ih f' (by omega))

/-- `matchQuit` gives `go` the length of the text as fuel, which exceeds the number of lines (for `go_rep`) -/
theorem rep_len (j : Nat) : j ≤ (rep j).length := by
  induction j with
  | zero => simp
  | succ j ih =>
    rw [rep_succ, List.length_append]
    have : 1 ≤ errUnlink.length := by simp [errUnlink, errLine, errSp]
    omega

theorem matchQuit_rep (j : Nat) : matchQuit (decide (j = 0)) (rep j ++ okLine) = true := by
  unfold matchQuit
  cases j with
  | zero =>
    rw [show rep 0 ++ okLine = okLine ++ [] from rfl, readLine_okLine]
    rfl
  | succ j =>
    have hl : j + 2 ≤ (rep j ++ okLine).length := by
      have := rep_len j
      rw [List.length_append]
      exact Nat.add_le_add this (by decide)
    rw [rep_succ, List.append_assoc, errUnlink, readLine_errLine _ _ noLF_unlink, decide_eq_false (Nat.succ_ne_zero j)]
    simp only [isErr_errSp, Bool.or_true, Bool.true_and, Bool.false_eq_true, if_false]
    exact go_rep j _ hl

/-! ### whole sessions: the reference `walk` accepts the model's transcript -/

/-- a session at line granularity: complete command lines (without LF) and removals of files by third
parties, in order -/
inductive LEv
  | line (l : Bytes)
  | vanish (p : Bytes)

def LEv.toEv : LEv → Ev
  | .line l => .data (l ++ [LF])
  | .vanish p => .vanish p

def LEv.toREv : LEv → REv
  | .line l => .line l
  | .vanish p => .vanish p

def stepLEv (r : Run) : LEv → Run
  | .line l => stepLine r l
  | .vanish p => feedEv r (.vanish p)

theorem sim_vanish (s : Sess) (rs : RSt) (h : Sim s rs) (p : Bytes) :
    Sim { s with fs := fsUnlink s.fs p } { rs with gone := p :: rs.gone } :=
  { rel := h.rel, modz := h.modz, last := h.last, small := h.small, inrange := h.inrange, noLF := h.noLF,
    total := h.total,
    file := by
      intro r hr
      obtain ⟨f1, f2⟩ := h.file r hr
      constructor
      · intro hg
        rcases List.mem_cons.mp hg with e | e
        · show fsFind (fsUnlink s.fs p) r.path = none
          rw [e, find_unlink, if_pos rfl]
        · rw [find_unlink, f1 e, ite_self]
      · intro hg
        have hne : r.path ≠ p := fun e => hg (by simp [e])
        have hng : r.path ∉ rs.gone := fun e => hg (by simp [e])
        obtain ⟨f, hf, hd⟩ := f2 hng
        exact ⟨f, by show fsFind (fsUnlink s.fs p) r.path = some f; rw [find_unlink, if_neg hne]; exact hf, hd⟩ }

theorem names_exec (s : Sess) (verb arg : Bytes) : (exec s verb arg).1.msgs.map (·.fn) = s.msgs.map (·.fn) := by
  have key : ∀ ms : List Msg, ms.map (·.fn) = (ms.map ident).map Prod.fst := by
    intro ms; induction ms <;> simp_all [ident]
  rw [key, key, exec_ident]

theorem ref_quit (rs : RSt) (arg : Bytes) : refStep rs vQuit arg = (rs, .quit) := by
  simp [refStep, vQuit]

theorem walk_line (rs rs' : RSt) (l v a : Bytes) (e : Expect) (rest : List REv) (w : Bytes)
    (h1 : splitCmd l = (v, a)) (h2 : refStep rs v a = (rs', e)) :
    (e = .quit → walk rs (.line l :: rest) w =
      if matchQuit (!(rs.msgs.zipIdx.any (fun (x : RMsg × Nat) => rs.marked.contains x.2 && rs.gone.contains x.1.path))) w
      then some (rs', true) else none) ∧
    (e ≠ .quit → walk rs (.line l :: rest) w =
      match matchReply e w with
      | some w' => walk rs' rest w'
      | none => none) := by
  constructor
  · intro he
    subst he
    simp only [walk, h1, h2]
  · intro he
    cases e <;> first | exact absurd rfl he | (simp only [walk, h1, h2]; try rfl)

theorem stepLEv_done (e : LEv) (r : Run) (x : Nat) (h : r.exit = some x) : stepLEv r e = r := by
  cases e with
  | line l => simp [stepLEv, stepLine, h]
  | vanish p => exact feedEv_exit_some (.vanish p) r x h

theorem steps_done (evs : List LEv) (r : Run) (x : Nat) (h : r.exit = some x) : evs.foldl stepLEv r = r :=
  foldl_fixed _ r (fun e => stepLEv_done e r x h) evs

/-- the maildir after the removals among `evs` (nothing else touches it before QUIT) -/
def vanishedL : List LEv → FS → FS
  | [], fs => fs
  | .line _ :: rest, fs => vanishedL rest fs
  | .vanish p :: rest, fs => vanishedL rest (fsUnlink fs p)

/-- `pre`/`post` split the events at the first QUIT line (`post = []` if there is none) and `s'` is the state in
between: the final maildir is stated as pop3_quit's loop on `s'`, whose maildir and message table are given. -/
theorem walk_sim : ∀ (evs : List LEv) (r : Run) (rs : RSt), Sim r.s rs → r.exit = none →
    NamesOk (r.s.msgs.map (·.fn)) → (∀ l, LEv.line l ∈ evs → ∀ c ∈ l, c ≠ NUL) →
    ∃ w rs' q pre post s', evs = pre ++ post ∧
      (evs.foldl stepLEv r).out = r.out ++ w ∧ walk rs (evs.map LEv.toREv) w = some (rs', q) ∧
      Sim s' rs' ∧ NamesOk (s'.msgs.map (·.fn)) ∧ s'.fs = vanishedL pre r.s.fs ∧
      s'.msgs.map ident = r.s.msgs.map ident ∧
      (∀ l, LEv.line l ∈ pre → lower (parseLine l).1 ≠ vQuit) ∧
      (q = false → post = [] ∧ (evs.foldl stepLEv r).s = s' ∧ (evs.foldl stepLEv r).exit = none) ∧
      (q = true → (∃ l rest, post = .line l :: rest ∧ lower (parseLine l).1 = vQuit) ∧
        (evs.foldl stepLEv r).exit = some 0 ∧
        (evs.foldl stepLEv r).s.fs = (quitLoop s'.msgs s'.fs []).1) := by
  intro evs
  induction evs with
  | nil =>
    intro r rs h hx hn _
    exact ⟨[], rs, false, [], [], r.s, rfl, by simp, by simp [walk], h, hn, rfl, rfl, by simp,
      fun _ => ⟨rfl, rfl, hx⟩, fun hh => by cases hh⟩
  | cons ev evs ih =>
    intro r rs h hx hn hnul
    have hnul' : ∀ l, LEv.line l ∈ evs → ∀ c ∈ l, c ≠ NUL := fun l hl => hnul l (by simp [hl])
    cases ev with
    | vanish p =>
      have e1 : stepLEv r (.vanish p) = { r with s := { r.s with fs := fsUnlink r.s.fs p } } := by
        simp [stepLEv, feedEv_vanish, hx]
      obtain ⟨w, rs', q, pre, post, s', hsplit, hwritten, hwalk, hsim, hnames, hmaildir, htable, hpre, hopen, hquit⟩ :=
        ih { r with s := { r.s with fs := fsUnlink r.s.fs p } }
          { rs with gone := p :: rs.gone } (sim_vanish r.s rs h p) hx hn hnul'
      refine ⟨w, rs', q, .vanish p :: pre, post, s', by rw [hsplit]; rfl, ?_, ?_, hsim, hnames, hmaildir, htable,
        ?_, ?_, ?_⟩
      · rw [List.foldl_cons, e1]; exact hwritten
      · simp only [List.map_cons, LEv.toREv, walk]; exact hwalk
      · intro l hl
        rcases List.mem_cons.mp hl with e | e
        · cases e
        · exact hpre l e
      · rw [List.foldl_cons, e1]; exact hopen
      · rw [List.foldl_cons, e1]; exact hquit
    | line l =>
      have hl : ∀ c ∈ l, c ≠ NUL := hnul l (by simp)
      have hp := parse_ref l hl
      have e1 : stepLEv r (.line l) = { s := (exec r.s (parseLine l).1 (parseLine l).2).1, cmd := [],
                                        out := r.out ++ (exec r.s (parseLine l).1 (parseLine l).2).2.1,
                                        exit := (exec r.s (parseLine l).1 (parseLine l).2).2.2 } := by
        simp [stepLEv, stepLine, hx]
      generalize hv : (parseLine l).1 = v at hp e1
      generalize ha : (parseLine l).2 = a at hp e1
      by_cases hq : lower v = vQuit
      · -- QUIT
        have ex := exec_quit r.s v a hq
        have hout := quit_out r.s.msgs r.s.fs [] (fsFind r.s.fs) (fun _ _ => rfl) hn
        simp only [List.nil_append] at hout
        have hfin : (ev_rest : List LEv) → ev_rest.foldl stepLEv (stepLEv r (.line l)) = stepLEv r (.line l) :=
          fun ev_rest => steps_done ev_rest _ 0 (by rw [e1, ex])
        have hlost := lost_iff rs.marked rs.gone (fsFind r.s.fs) r.s.msgs 0 rs.msgs h.rel (by
          intro x hxm
          obtain ⟨f1, f2⟩ := h.file x hxm
          constructor
          · intro hnone
            rcases Classical.em (x.path ∈ rs.gone) with hg | hg
            · exact hg
            · obtain ⟨f, hf, _⟩ := f2 hg; rw [hf] at hnone; cases hnone
          · exact f1)
        refine ⟨rep (lostCount (fsFind r.s.fs) r.s.msgs) ++ okLine, rs, true, [], .line l :: evs, r.s, rfl, ?_, ?_,
          h, hn, rfl, rfl, by simp, (fun hh => by cases hh), fun _ => ?_⟩
        · rw [List.foldl_cons, hfin, e1, ex, hout]
        · have hw := (walk_line rs rs l vQuit a .quit (evs.map LEv.toREv) (rep (lostCount (fsFind r.s.fs) r.s.msgs) ++ okLine)
            (by rw [hp, hq]) (ref_quit rs a)).1 rfl
          simp only [List.map_cons, LEv.toREv]
          rw [hw, hlost]
          have : (!decide (lostCount (fsFind r.s.fs) r.s.msgs ≠ 0)) = decide (lostCount (fsFind r.s.fs) r.s.msgs = 0) := by
            by_cases hz : lostCount (fsFind r.s.fs) r.s.msgs = 0 <;> simp [hz]
          rw [this, matchQuit_rep]
          rfl
        · rw [List.foldl_cons, hfin, e1, ex]
          exact ⟨⟨l, evs, rfl, by rw [hv]; exact hq⟩, rfl, rfl⟩
      · -- any other command
        have st := step_sim r.s rs h v a hq
        have hx' : (exec r.s v a).2.2 = none := st.goes_on
        have hn' : NamesOk ((exec r.s v a).1.msgs.map (·.fn)) := by rw [names_exec]; exact hn
        have hfs : (exec r.s v a).1.fs = r.s.fs := (exec_nonquit r.s v a (verbIs_eq_false.mpr hq)).1
        obtain ⟨w', rs', q, pre, post, s', hsplit, hwritten, hwalk, hsim, hnames, hmaildir, htable, hpre, hopen, hquit⟩ := ih
          { s := (exec r.s v a).1, cmd := [], out := r.out ++ (exec r.s v a).2.1, exit := (exec r.s v a).2.2 }
          (refStep rs (lower v) a).1 st.next hx' hn' hnul'
        refine ⟨(exec r.s v a).2.1 ++ w', rs', q, .line l :: pre, post, s', by rw [hsplit]; rfl, ?_, ?_, hsim, hnames,
          ?_, ?_, ?_, ?_, ?_⟩
        · rw [List.foldl_cons, e1, hwritten]; simp
        · have hw := (walk_line rs (refStep rs (lower v) a).1 l (lower v) a (refStep rs (lower v) a).2 (evs.map LEv.toREv)
            ((exec r.s v a).2.1 ++ w') hp rfl).2 st.not_quit
          simp only [List.map_cons, LEv.toREv]
          rw [hw, st.reply w']
          exact hwalk
        · rw [hmaildir]; simp only [vanishedL]; rw [hfs]
        · rw [htable]; exact exec_ident r.s v a
        · intro l' hl'
          rcases List.mem_cons.mp hl' with e | e
          · cases e; rw [hv]; exact hq
          · exact hpre l' e
        · rw [List.foldl_cons, e1]; exact hopen
        · rw [List.foldl_cons, e1]; exact hquit

theorem feed_levs : ∀ (evs : List LEv) (r : Run), r.cmd = [] → (∀ l, LEv.line l ∈ evs → LF ∉ l) →
    (evs.map LEv.toEv).foldl feedEv r = evs.foldl stepLEv r := by
  intro evs
  induction evs with
  | nil => intro r _ _; rfl
  | cons e evs ih =>
    intro r hc hl
    have hl' : ∀ l, LEv.line l ∈ evs → LF ∉ l := fun l h => hl l (by simp [h])
    cases e with
    | line l =>
      simp only [List.map_cons, List.foldl_cons, LEv.toEv, stepLEv, feedEv_data]
      rw [feed_line r l hc (hl l (by simp))]
      exact ih _ (stepLine_cmd r l hc) hl'
    | vanish p =>
      simp only [List.map_cons, List.foldl_cons, LEv.toEv, stepLEv]
      apply ih _ _ hl'
      rw [feedEv_vanish]; cases r.exit <;> exact hc

/-! ### the start state is related to the reference's initial state -/

def toR (f : File) : RMsg := { path := f.path, data := f.data }

/-- the numbering the reference is run with: message by message, the path and the data of the file
of that name in the maildir at start-up -/
def numberingOf (fs : FS) (msgs : List Msg) : List RMsg :=
  msgs.map (fun m => { path := m.fn, data := match fsFind fs m.fn with | some f => f.data | none => [] })

theorem rel_start (fs : FS) : ∀ (k : Nat) (L : List File),
    Rel [] k (L.map (startMsg fs)) (numberingOf fs (L.map (startMsg fs))) := by
  intro k L
  induction L generalizing k with
  | nil => simp [numberingOf, Rel]
  | cons f L ih =>
    simp only [List.map_cons, numberingOf, Rel]
    refine ⟨trivial, ?_, by simp [startMsg], ih (k + 1)⟩
    simp only [startMsg, sizeAt]
    cases fsFind fs f.path <;> rfl

end Nq.Lemmas.Pop3
