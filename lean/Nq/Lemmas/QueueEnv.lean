/-
  The envelope scanner of qmail-queue accepts exactly the documented envelope format:
  F sender NUL (T recipient NUL)* NUL, every address NUL-free and shorter than ADDR bytes.
-/
import Nq.QueueInject

namespace Nq.Lemmas.QI
open Nq Nq.QueueInject

theorem scanFrom_terminal (addr : Nat) (s : SSt) (w : Bytes) (h : s = .done ∨ s = .bad ∨ s = .long) :
    scanFrom addr s w = (s, []) := by
  induction w with
  | nil => simp [scanFrom]
  | cons c w ih => rcases h with rfl | rfl | rfl <;> simp [scanFrom, sstep, ih]

theorem scanFrom_append (addr : Nat) : ∀ (a b : Bytes) (s : SSt),
    scanFrom addr s (a ++ b) =
      ((scanFrom addr (scanFrom addr s a).1 b).1, (scanFrom addr s a).2 ++ (scanFrom addr (scanFrom addr s a).1 b).2)
  | [], b, s => by simp [scanFrom]
  | c :: a, b, s => by
    simp only [List.cons_append, scanFrom]
    rw [scanFrom_append addr a b]
    simp

theorem scan_take (env : Bytes) (k : Nat) (h : (scan (env.take k)).1 = .done ∨ (scan (env.take k)).1 = .bad ∨ (scan (env.take k)).1 = .long) :
    scan env = scan (env.take k) := by
  have : env = env.take k ++ env.drop k := (List.take_append_drop k env).symm
  conv => lhs; rw [this]
  unfold scan at *
  rw [scanFrom_append, scanFrom_terminal _ _ _ h]
  simp

/-- `T r NUL` for each recipient -/
def encRcpts : List Bytes → Bytes
  | [] => []
  | r :: rs => 84 :: r ++ 0 :: encRcpts rs

/-- an address qmail-queue accepts: no NUL, at most `addr - 1` bytes -/
def AddrOk (addr : Nat) (a : Bytes) : Prop := (0 : Byte) ∉ a ∧ a.length < addr

theorem scanFrom_inAddr (addr : Nat) : ∀ (a : Bytes) (len : Nat), (0 : Byte) ∉ a → len + a.length < addr →
    scanFrom addr (.inAddr len) a = (.inAddr (len + a.length), a)
  | [], _, _, _ => rfl
  | c :: a, len, h0, hl => by
    have hc : c ≠ 0 := fun hc => h0 (by simp [hc])
    have ha : (0 : Byte) ∉ a := fun hm => h0 (List.mem_cons_of_mem _ hm)
    simp only [List.length_cons] at hl
    have hne : len + 1 ≠ addr := by omega
    simp only [scanFrom, sstep, hc, hne, if_false]
    rw [scanFrom_inAddr addr a (len + 1) ha (by omega)]
    simp only [List.length_cons, List.singleton_append, Nat.add_assoc, Nat.add_comm 1]

theorem scan_addr (addr : Nat) (a : Bytes) (len : Nat) (w : Bytes) (h0 : (0 : Byte) ∉ a) (hl : len + a.length < addr) :
    scanFrom addr (.inAddr len) (a ++ 0 :: w) =
      ((scanFrom addr .expectT w).1, a ++ 0 :: (scanFrom addr .expectT w).2) := by
  rw [scanFrom_append, scanFrom_inAddr addr a len h0 hl]
  simp [scanFrom, sstep]

theorem scanFrom_long (addr : Nat) (a w : Bytes) (len : Nat) (h0 : (0 : Byte) ∉ a) (hl : len + a.length = addr)
    (hlen : len < addr) : (scanFrom addr (.inAddr len) (a ++ w)).1 = .long := by
  have hne : a ≠ [] := by rintro rfl; simp at hl; omega
  obtain ⟨b, c, rfl⟩ : ∃ b c, a = b ++ [c] := ⟨_, _, (List.dropLast_concat_getLast hne).symm⟩
  simp only [List.mem_append, List.mem_singleton, not_or, List.length_append, List.length_singleton] at h0 hl
  rw [List.append_assoc, scanFrom_append, scanFrom_inAddr addr b len h0.1 (by omega)]
  simp [scanFrom, sstep, Ne.symm h0.2, show len + b.length + 1 = addr by omega,
    scanFrom_terminal addr .long w (.inr (.inr rfl))]

theorem scan_rcpts (addr : Nat) : ∀ (rs : List Bytes) (rest : Bytes), (∀ r ∈ rs, AddrOk addr r) →
    scanFrom addr .expectT (encRcpts rs ++ 0 :: rest) = (.done, encRcpts rs)
  | [], rest, _ => by
    simp [encRcpts, scanFrom, sstep, scanFrom_terminal addr .done rest (Or.inl rfl)]
  | r :: rs, rest, h => by
    have hr := h r (by simp)
    have ih := scan_rcpts addr rs rest (fun x hx => h x (by simp [hx]))
    simp only [encRcpts, List.cons_append, List.append_assoc, scanFrom, sstep]
    have : (84 : Byte) ≠ 0 := by decide
    simp only [this, if_false, if_true]
    rw [scan_addr addr r 0 _ hr.1 (by simpa using hr.2), ih]
    simp

theorem scan_complete (addr : Nat) (sender : Bytes) (rs : List Bytes) (rest : Bytes)
    (hs : AddrOk addr sender) (hr : ∀ r ∈ rs, AddrOk addr r) :
    scanFrom addr .expectF (70 :: sender ++ 0 :: (encRcpts rs ++ 0 :: rest)) =
      (.done, 70 :: sender ++ 0 :: encRcpts rs) := by
  simp only [List.cons_append, scanFrom, sstep, if_true]
  rw [scan_addr addr sender 0 _ hs.1 (by simpa using hs.2), scan_rcpts addr rs rest hr]
  simp

theorem scanFrom_cons_done {addr : Nat} {s : SSt} {c : Byte} {w out : Bytes} (h : scanFrom addr s (c :: w) = (.done, out)) :
    ∃ out', scanFrom addr (sstep addr s c).1 w = (.done, out') ∧ out = (sstep addr s c).2 ++ out' := by
  simp only [scanFrom, Prod.mk.injEq] at h
  exact ⟨_, Prod.ext h.1 rfl, h.2.symm⟩

/-- Soundness, stated for every scanner state so that the induction goes through.  Inside an address the counter stays
below `addr`: the byte that would bring it to `addr` is refused (`len + 1 = addr`). -/
theorem scan_sound_from (addr : Nat) (hpos : 0 < addr) : ∀ (w : Bytes) (s : SSt) (out : Bytes), scanFrom addr s w = (.done, out) →
    match s with
    | .expectT => ∃ rs rest, w = encRcpts rs ++ 0 :: rest ∧ out = encRcpts rs ∧ ∀ r ∈ rs, AddrOk addr r
    | .inAddr len => len < addr → ∃ a rs rest, w = a ++ 0 :: (encRcpts rs ++ 0 :: rest) ∧ out = a ++ 0 :: encRcpts rs ∧
        (0 : Byte) ∉ a ∧ len + a.length < addr ∧ ∀ r ∈ rs, AddrOk addr r
    | .expectF => ∃ a rs rest, w = 70 :: a ++ 0 :: (encRcpts rs ++ 0 :: rest) ∧ out = 70 :: a ++ 0 :: encRcpts rs ∧
        AddrOk addr a ∧ ∀ r ∈ rs, AddrOk addr r
    | _ => True
  | [], s, out, h => by
    cases s <;> simp [scanFrom] at h ⊢
  | c :: w, s, out, h => by
    obtain ⟨out', hq, rfl⟩ := scanFrom_cons_done h
    have ih := scan_sound_from addr hpos w _ out' hq
    cases s with
    | expectT =>
      by_cases h0 : c = 0
      · subst h0
        rw [show sstep addr .expectT 0 = (.done, []) from rfl, scanFrom_terminal addr .done w (Or.inl rfl)] at hq
        cases hq
        exact ⟨[], w, rfl, rfl, by simp⟩
      · by_cases hT : c = 84
        · subst hT
          obtain ⟨a, rs, rest, e1, e2, e3, e4, e5⟩ := ih hpos
          refine ⟨a :: rs, rest, by simp [encRcpts, e1], by simp [sstep, encRcpts, e2], fun r hr => ?_⟩
          rcases List.mem_cons.1 hr with rfl | hr
          · exact ⟨e3, by simpa using e4⟩
          · exact e5 r hr
        · simp [sstep, h0, hT, scanFrom_terminal addr .bad w (Or.inr (Or.inl rfl))] at hq
    | inAddr len =>
      intro hlen
      by_cases h0 : c = 0
      · subst h0
        obtain ⟨rs, rest, e1, e2, e3⟩ := ih
        exact ⟨[], rs, rest, by simp [e1], by simp [sstep, e2], by simp, by simpa using hlen, e3⟩
      · by_cases hl : len + 1 = addr
        · simp [sstep, h0, hl, scanFrom_terminal addr .long w (Or.inr (Or.inr rfl))] at hq
        · simp only [sstep, h0, hl, if_false] at ih
          obtain ⟨a, rs, rest, e1, e2, e3, e4, e5⟩ := ih (by omega)
          refine ⟨c :: a, rs, rest, by simp [e1], by simp [sstep, h0, hl, e2], ?_, by simp; omega, e5⟩
          intro hm
          rcases List.mem_cons.1 hm with hm | hm
          · exact h0 hm.symm
          · exact e3 hm
    | expectF =>
      by_cases hF : c = 70
      · subst hF
        obtain ⟨a, rs, rest, e1, e2, e3, e4, e5⟩ := ih hpos
        exact ⟨a, rs, rest, by simp [e1], by simp [sstep, e2], ⟨e3, by simpa using e4⟩, e5⟩
      · simp [sstep, hF, scanFrom_terminal addr .bad w (Or.inr (Or.inl rfl))] at hq
    | done => trivial
    | bad => trivial
    | long => trivial

end Nq.Lemmas.QI
