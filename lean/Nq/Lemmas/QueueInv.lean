/-
  The acceptor of qmail-queue's traces as a relation: `Step p s e s'` has one constructor for each call `main` may
  issue, with the control point it is issued from, the guards checked and the resulting state.  On it rest the
  inductive invariants: `QInv` couples each control point to the state of the queue entry being built, `CodeInv`
  ties the exit code to the envelope scanner's verdict.  Accepted traces are `List.foldlM (accept p)` (`acceptAll_eq`).
-/
import Nq.Lemmas.QueueEnv
import Nq.Lemmas.Basic
import Nq.Lemmas.Acceptor

namespace Nq.Lemmas.QI
open Nq Nq.QueueInject Nq.Acceptor

inductive Step (p : Params) (s : St) : Ev → St → Prop
  | alarm (h : s.pc = .start) : Step p s (.alarm Gen.DEATH) { s with pc := .pidOpen 1 }
  | openPid (k : Nat) (ok : Bool) (h : s.pc = .pidOpen k) :
      Step p s (.openPid k ok)
        { s with pc := if ok then .fstat else if k + 1 < 10 then .pidOpen (k + 1) else .dying 63 }
  | fstatPid (ok : Bool) (h : s.pc = .fstat) : Step p s (.fstatPid ok) { s with pc := if ok then .linkMess else .dying 63 }
  | linkMess (ok : Bool) (h : s.pc = .linkMess) :
      Step p s (.linkMess ok) { s with pc := if ok then .unlinkPid else .dying 64 }
  | unlinkPid (ok : Bool) (h : s.pc = .unlinkPid) :
      Step p s (.unlinkPid ok) (if ok then { s with pc := .messCopy, madeMess := true } else { s with pc := .dying 63 })
  | readMsg (n : Nat) (h : s.pc = .messCopy)
      (hg : !s.msgEof ∧ s.msgRead + n ≤ p.msg.length ∧ (n = 0 → s.msgRead = p.msg.length)) :
      Step p s (.read 0 n) { s with msgRead := s.msgRead + n, msgEof := n == 0 }
  | readEnv (n : Nat) (h : s.pc = .envCopy) (hn : n ≠ 0) (hg : s.envRead + n ≤ p.env.length) :
      Step p s (.read 1 n) { s with envRead := s.envRead + n }
  /-- the envelope stream ends before the scanner has reached a verdict: `die_read` -/
  | envEof (h : s.pc = .envCopy) (hlen : s.envRead = p.env.length)
      (hv : docCode (scan (p.env.take s.envRead)).1 = 54) : Step p s (.read 1 0) (cleanupFrom s 54)
  | readErr (fd : Nat) (intr : Bool) (h : fd = 0 ∧ s.pc = .messCopy ∧ !s.msgEof ∨ fd = 1 ∧ s.pc = .envCopy) :
      Step p s (.readErr fd intr) (if intr then s else cleanupFrom s 54)
  | writeMess (bs : Bytes) (h : s.pc = .messCopy)
      (hg : bs ≠ [] ∧ isPrefix (s.messW ++ bs) (p.received ++ p.msg.take s.msgRead)) :
      Step p s (.write .mess bs) { s with messW := s.messW ++ bs }
  | writeIntd (bs : Bytes) (h : s.pc = .envCopy)
      (hg : bs ≠ [] ∧ isPrefix (s.intdW ++ bs) (p.hdr ++ (scan (p.env.take s.envRead)).2)) :
      Step p s (.write .intd bs) { s with intdW := s.intdW ++ bs }
  | writeErr (f : FileId) (intr : Bool) (h : f = .mess ∧ s.pc = .messCopy ∨ f = .intd ∧ s.pc = .envCopy) :
      Step p s (.writeErr f intr) (if intr then s else cleanupFrom s 53)
  | fsyncMess (ok : Bool) (h : s.pc = .messCopy) (hg : s.msgEof ∧ s.messW = p.received ++ p.msg) :
      Step p s (.fsync .mess ok) (if ok then { s with pc := .intdOpen } else cleanupFrom s 53)
  | openIntd (ok : Bool) (h : s.pc = .intdOpen) :
      Step p s (.openIntd ok) (if ok then { s with pc := .envCopy, madeIntd := true } else { s with pc := .dying 65 })
  | fsyncIntd (ok : Bool) (h : s.pc = .envCopy)
      (hg : (scan (p.env.take s.envRead)).1 = .done ∧ s.intdW = p.hdr ++ (scan (p.env.take s.envRead)).2) :
      Step p s (.fsync .intd ok) (if ok then { s with pc := .linkTodo } else cleanupFrom s 53)
  | linkTodo (ok : Bool) (h : s.pc = .linkTodo) : Step p s (.linkTodo ok) { s with pc := if ok then .trig else .dying 66 }
  | trigOpen (ok : Bool) (h : s.pc = .trig) : Step p s (.trigOpen ok) { s with pc := if ok then .trigW else .dying 0 }
  | trigWrite (h : s.pc = .trigW) : Step p s .trigWrite { s with pc := .trigC }
  | trigClose (h : s.pc = .trigC) : Step p s .trigClose { s with pc := .dying 0 }
  | ftruncIntd (ok : Bool) (c : Nat) (h : s.pc = .clIntdTrunc c) : Step p s (.ftrunc .intd ok) { s with pc := .clIntdUnlink c }
  | unlinkIntd (ok : Bool) (c : Nat) (h : s.pc = .clIntdUnlink c) :
      Step p s (.unlinkF .intd ok) { s with pc := if ok && s.madeMess then .clMessTrunc c else .dying c }
  | ftruncMess (ok : Bool) (c : Nat) (h : s.pc = .clMessTrunc c) : Step p s (.ftrunc .mess ok) { s with pc := .clMessUnlink c }
  | unlinkMess (ok : Bool) (c : Nat) (h : s.pc = .clMessUnlink c) : Step p s (.unlinkF .mess ok) { s with pc := .dying c }
  | signal (g : Sig) (h : s.pc ≠ .start ∧ (∀ c, s.pc ≠ .handler c) ∧ ∀ c, s.pc ≠ .exited c) :
      Step p s (.signal g) { s with pc := .handler (sigCode g) }
  /-- `die(c)` after `cleanup()` or a failing call; the end of a signal handler; 61/62/51 before `alarm`; 51 in
  `pidopen()` and in `fnnum()`; the scanner's verdicts 91 and 11 -/
  | exit (c : Nat)
      (h : s.pc = .dying c ∨ s.pc = .handler c ∨ (s.pc = .start ∧ (c = 61 ∨ c = 62 ∨ c = 51)) ∨
        (s.pc = .pidOpen 1 ∧ c = 51) ∨ (s.pc = .linkMess ∧ c = 51) ∨
        (s.pc = .envCopy ∧ ((scan (p.env.take s.envRead)).1 = .bad ∧ c = 91 ∨ (scan (p.env.take s.envRead)).1 = .long ∧ c = 11))) :
      Step p s (.exit c) { s with pc := .exited c }

/- `accept.fun_cases_unfolding` has one case per branch of `accept`, numbered in the order of its text: a refusing branch
   contradicts `some s'`, an accepting one is the constructor of `Step` for that branch applied to the guards in scope.
   Named are the branches that are not literally one constructor:
   4-6 `openPid` (succeeded; failed with a further try left; failed for the last time), which `Step.openPid` writes as one
   `if`; 19 the envelope ending before a verdict, where `Step.envEof` states the scanner's code; 23/24 `readErr` and 30/32
   `writeErr` on the message and on the envelope, merged under a disjunction; 50 `unlink` of intd/ in `cleanup()`, whose
   next control point `Step.unlinkIntd` writes with `&&`; 60-72 the six control points `exit` is issued from, one
   disjunct of `Step.exit` each (70 and 72 are the verdicts 91 and 11 inside the one `envCopy` disjunct). -/
theorem accept_step (p : Params) (s s' : St) (e : Ev) (hacc : accept p s e = some s') : Step p s e s' := by
  revert hacc
  apply accept.fun_cases_unfolding p s (motive := fun e r => r = some s' → Step p s e s')
  all_goals intros
  all_goals try contradiction
  all_goals rename_i h; injection h with h; subst h
  all_goals repeat cases ‹_ ∧ _›
  all_goals subst_vars
  case case4 hpc hk => cases Decidable.of_not_not hk; exact .openPid _ true hpc
  case case5 hpc hk hok hlt =>
    cases Decidable.of_not_not hk; cases Bool.eq_false_iff.2 hok
    simpa only [Bool.false_eq_true, if_false, if_pos hlt] using Step.openPid (p := p) _ false hpc
  case case6 hpc hk hok hlt =>
    cases Decidable.of_not_not hk; cases Bool.eq_false_iff.2 hok
    simpa only [Bool.false_eq_true, if_false, if_neg hlt] using Step.openPid (p := p) _ false hpc
  case case19 hpc _ hlen =>
    refine .envEof hpc (hlen rfl) ?_
    cases hv : (scan (p.env.take s.envRead)).1 <;> first | rfl | exact absurd hv ‹_›
  case case23 => exact .readErr _ _ (.inl ⟨rfl, ‹_›, ‹_›⟩)
  case case24 => exact .readErr _ _ (.inr ⟨rfl, ‹_›⟩)
  case case30 => exact .writeErr _ _ (.inl ⟨rfl, ‹_›⟩)
  case case32 => exact .writeErr _ _ (.inr ⟨rfl, ‹_›⟩)
  case case50 ok c h =>
    have := Step.unlinkIntd (p := p) ok c h
    cases ok <;> cases hm : s.madeMess <;> simpa [hm] using this
  case case60 | case62 | case64 | case66 | case68 | case70 | case72 => exact .exit _ (by simp [*])
  all_goals constructor <;> and_intros <;> first | assumption | rfl

theorem _root_.Nq.QueueInject.CrashOf.todoName {fs fs' : FS} (h : CrashOf fs fs') : fs'.todoName = fs.todoName :=
  h.2.2.2.1

/-- which of the four names exist -/
def N (fs : FS) (pid mess intd todo : Bool) : Prop :=
  fs.pidName = pid ∧ fs.messName = mess ∧ fs.intdName = intd ∧ fs.todoName = todo

def Complete (p : Params) (fs : FS) : Prop := fs.messF = { cur := p.received ++ p.msg, synced := true }

def EnvOk (p : Params) (s : St) (fs : FS) : Prop :=
  (scan (p.env.take s.envRead)).1 = .done ∧
  fs.intdF = { cur := p.hdr ++ (scan (p.env.take s.envRead)).2, synced := true }

/-- states in which the entry is not visible and only collectable leftovers exist -/
def Leftover (fs : FS) : Prop :=
  fs.todoName = false ∧ (fs.intdName = true → fs.messName = true) ∧ (fs.pidName = true → fs.intdName = false)

def Queued (p : Params) (s : St) (fs : FS) : Prop := N fs false true true true ∧ Complete p fs ∧ EnvOk p s fs

/-- the shape of the names of one entry at any instant: the complete entry, or a leftover the
daemon collects -/
def Names (fs : FS) : Prop :=
  (fs.todoName = true → fs.intdName = true ∧ fs.messName = true ∧ fs.pidName = false) ∧
  (fs.intdName = true → fs.messName = true) ∧ (fs.pidName = true → fs.intdName = false)

/-- what is known when the process is stopped at an arbitrary point by a signal handler (which does
not clean up): if the entry is visible it is complete and durable; the names are collectable -/
def Weak (p : Params) (s : St) (fs : FS) : Prop := (fs.todoName = true → Queued p s fs) ∧ Names fs

def QInv (p : Params) (s : St) (fs : FS) : Prop :=
  match s.pc with
  | .start | .pidOpen _ => N fs false false false false ∧ s.madeMess = false ∧ s.madeIntd = false ∧ s.messW = [] ∧ s.intdW = []
  | .fstat | .linkMess =>
    N fs true false false false ∧ s.madeMess = false ∧ s.madeIntd = false ∧ s.messW = [] ∧ s.intdW = [] ∧ fs.messF.cur = []
  | .unlinkPid => N fs true true false false ∧ s.madeMess = false ∧ s.madeIntd = false ∧ s.messW = [] ∧ s.intdW = [] ∧ fs.messF.cur = []
  | .messCopy => N fs false true false false ∧ s.madeMess = true ∧ s.madeIntd = false ∧ s.intdW = [] ∧ fs.messF.cur = s.messW
  | .intdOpen => N fs false true false false ∧ s.madeMess = true ∧ s.madeIntd = false ∧ s.intdW = [] ∧ Complete p fs
  | .envCopy => N fs false true true false ∧ s.madeMess = true ∧ s.madeIntd = true ∧ Complete p fs ∧ fs.intdF.cur = s.intdW
  | .linkTodo => N fs false true true false ∧ Complete p fs ∧ EnvOk p s fs
  | .trig | .trigW | .trigC => Queued p s fs
  | .clIntdTrunc c | .clIntdUnlink c => N fs false true fs.intdName false ∧ c ≠ 0 ∧ s.madeMess = true
  | .clMessTrunc c | .clMessUnlink c => N fs false fs.messName false false ∧ c ≠ 0
  | .dying c => if c = 0 then Queued p s fs else Leftover fs
  | .exited c => if c = 0 then Queued p s fs else if c = 52 ∨ c = 81 then Weak p s fs else Leftover fs
  | .handler c => (c = 52 ∨ c = 81) ∧ Weak p s fs

theorem leftover_of_N {fs : FS} {pid mess intd : Bool} (h : N fs pid mess intd false) (h1 : intd = true → mess = true)
    (h2 : pid = true → intd = false) : Leftover fs := by
  obtain ⟨rfl, rfl, rfl, d⟩ := h
  exact ⟨d, h1, h2⟩

theorem weak_of_leftover (p : Params) (s : St) (fs : FS) (h : Leftover fs) : Weak p s fs := by
  obtain ⟨a, b, c⟩ := h
  exact ⟨fun ht => by simp [a] at ht, fun ht => by simp [a] at ht, b, c⟩

theorem weak_of_queued {p : Params} {s : St} {fs : FS} (h : Queued p s fs) : Weak p s fs := by
  obtain ⟨a, b, c, _⟩ := h.1
  exact ⟨fun _ => h, fun _ => ⟨c, b, a⟩, fun _ => b, fun hp => by simp [a] at hp⟩

theorem weak_of_inv (p : Params) (s : St) (fs : FS) (h : QInv p s fs) : Weak p s fs := by
  cases hpc : s.pc <;> simp only [QInv, hpc] at h
  case trig | trigW | trigC => exact weak_of_queued h
  case dying =>
    split at h
    · exact weak_of_queued h
    · exact weak_of_leftover p s fs h
  case exited =>
    split at h
    · exact weak_of_queued h
    · split at h
      · exact h
      · exact weak_of_leftover p s fs h
  case handler => exact h.2
  all_goals exact weak_of_leftover p s fs (leftover_of_N h.1 (by simp) (by simp))

theorem inv_todo (p : Params) (s : St) (fs : FS) (h : QInv p s fs) (ht : fs.todoName = true) : Queued p s fs :=
  (weak_of_inv p s fs h).1 ht

theorem inv_names (p : Params) (s : St) (fs : FS) (h : QInv p s fs) : Names fs := (weak_of_inv p s fs h).2

theorem inv_init (p : Params) : QInv p {} {} := by simp [QInv, N]

theorem cleanupFrom_inv (p : Params) (s : St) (fs : FS) (c : Nat) (hc : c ≠ 0) (hinv : QInv p s fs)
    (h : s.pc = .messCopy ∨ s.pc = .envCopy) : QInv p (cleanupFrom s c) fs := by
  unfold cleanupFrom
  rcases h with h | h <;> simp only [QInv, h] at hinv <;> obtain ⟨⟨a, b, c', d⟩, mM, mI, _⟩ := hinv
  · simp [mI, mM, QInv, N, hc, a, b, c', d]
  · simp [mI, QInv, N, hc, a, b, c', d, mM]

theorem step_inv (p : Params) (s s' : St) (fs : FS) (e : Ev)
    (hinv : QInv p s fs) (hacc : accept p s e = some s') : QInv p s' (apply fs e) := by
  -- the conjuncts of `QInv` are named after what they speak of: `a b c d` the four names, `mM mI` `madeMess`/`madeIntd`,
  -- `wM wI` the bytes written, `fM fI` the files' contents, `cM` `Complete`, `eo` `EnvOk`
  cases accept_step p s s' e hacc with
  | alarm h | trigWrite h | trigClose h =>
    simp only [QInv, h] at hinv
    exact hinv
  | openPid k ok h =>
    simp only [QInv, h] at hinv
    obtain ⟨⟨a, b, c, d⟩, mM, mI, wM, wI⟩ := hinv
    cases ok
    · by_cases hk : k + 1 < 10 <;> simp [hk, QInv, apply, N, Leftover, a, b, c, d, mM, mI, wM, wI]
    · simp [QInv, apply, N, b, c, d, mM, mI, wM, wI]
  | fstatPid ok h | linkMess ok h | unlinkPid ok h =>
    simp only [QInv, h] at hinv
    obtain ⟨⟨a, b, c, d⟩, mM, mI, wM, wI, fM⟩ := hinv
    cases ok <;> simp [QInv, apply, N, Leftover, a, b, c, d, mM, mI, wM, wI, fM]
  | readMsg n h | readEnv n h =>
    simp only [QInv, h] at hinv ⊢
    exact hinv
  | envEof h hlen hv => exact cleanupFrom_inv p s fs 54 (by decide) hinv (Or.inr h)
  | readErr fd intr h =>
    cases intr
    · exact cleanupFrom_inv p s fs 54 (by decide) hinv (h.imp (·.2.1) (·.2))
    · exact hinv
  | writeMess bs h hg =>
    simp only [QInv, h] at hinv ⊢
    obtain ⟨⟨a, b, c, d⟩, mM, mI, wI, fM⟩ := hinv
    simp [apply, N, a, b, c, d, mM, mI, wI, fM]
  | writeIntd bs h hg =>
    simp only [QInv, h] at hinv ⊢
    obtain ⟨⟨a, b, c, d⟩, mM, mI, cM, fI⟩ := hinv
    simp [apply, N, a, b, c, d, mM, mI, fI]
    exact cM
  | writeErr f intr h =>
    cases intr
    · exact cleanupFrom_inv p s fs 53 (by decide) hinv (h.imp (·.2) (·.2))
    · exact hinv
  | fsyncMess ok h hg =>
    cases ok
    · exact cleanupFrom_inv p s fs 53 (by decide) hinv (Or.inl h)
    · simp only [QInv, h] at hinv
      obtain ⟨⟨a, b, c, d⟩, mM, mI, wI, fM⟩ := hinv
      simp [QInv, apply, N, Complete, a, b, c, d, mM, mI, wI, fM, hg.2]
  | openIntd ok h =>
    simp only [QInv, h] at hinv
    obtain ⟨⟨a, b, c, d⟩, mM, mI, wI, cM⟩ := hinv
    cases ok <;> simp [QInv, apply, N, Leftover, Complete, a, b, c, d, mM, mI, wI] at cM ⊢ <;> exact cM
  | fsyncIntd ok h hg =>
    cases ok
    · exact cleanupFrom_inv p s fs 53 (by decide) hinv (Or.inr h)
    · simp only [QInv, h] at hinv
      obtain ⟨⟨a, b, c, d⟩, mM, mI, cM, fI⟩ := hinv
      simp [QInv, apply, N, Complete, EnvOk, a, b, c, d, fI, hg.2, hg.1] at cM ⊢
      exact cM
  | linkTodo ok h =>
    simp only [QInv, h] at hinv
    obtain ⟨⟨a, b, c, d⟩, cM, eo⟩ := hinv
    cases ok
    · simp [QInv, apply, Leftover, a, b, c, d]
    · exact ⟨⟨a, b, c, rfl⟩, cM, eo⟩
  | trigOpen ok h =>
    simp only [QInv, h] at hinv
    cases ok <;> exact hinv
  | ftruncIntd ok c h =>
    simp only [QInv, h] at hinv
    obtain ⟨⟨a, b, c', d⟩, hc, mM⟩ := hinv
    cases ok <;> simp [QInv, apply, N, hc, a, b, d, mM]
  | unlinkIntd ok c h =>
    simp only [QInv, h] at hinv
    obtain ⟨⟨a, b, c', d⟩, hc, mM⟩ := hinv
    cases ok <;> simp [mM, QInv, apply, N, Leftover, hc, a, b, d]
  | ftruncMess ok c h =>
    simp only [QInv, h] at hinv
    obtain ⟨⟨a, b, c', d⟩, hc⟩ := hinv
    cases ok <;> simp [QInv, apply, N, hc, a, c', d]
  | unlinkMess ok c h =>
    simp only [QInv, h] at hinv
    obtain ⟨⟨a, b, c', d⟩, hc⟩ := hinv
    cases ok <;> simp [QInv, apply, Leftover, hc, a, c', d]
  | signal g h => exact ⟨by cases g <;> simp [sigCode], weak_of_inv p s fs hinv⟩
  | exit c h =>
    show if c = 0 then Queued p s fs else if c = 52 ∨ c = 81 then Weak p s fs else Leftover fs
    rcases h with h | h | ⟨h, hc⟩ | ⟨h, hc⟩ | ⟨h, hc⟩ | ⟨h, hc⟩ <;> simp only [QInv, h] at hinv
    · by_cases h0 : c = 0
      · rw [if_pos h0] at hinv ⊢; exact hinv
      · rw [if_neg h0] at hinv ⊢
        split
        · exact weak_of_leftover p s fs hinv
        · exact hinv
    · rw [if_neg (by omega), if_pos hinv.1]; exact hinv.2
    -- `c` is none of 0, 52, 81 and no cleanup is owed
    all_goals rw [if_neg (by omega), if_neg (by omega)]; exact leftover_of_N hinv.1 (by simp) (by simp)

theorem acceptAll_eq (p : Params) : ∀ (evs : List Ev) (s : St), acceptAll p s evs = evs.foldlM (accept p) s :=
  eq_foldlM (fun _ => rfl) (fun s e es => by rw [acceptAll]; cases accept p s e <;> rfl)

theorem applyAll_eq : ∀ (evs : List Ev) (fs : FS), applyAll fs evs = evs.foldl apply fs
  | [], _ => rfl
  | e :: es, fs => applyAll_eq es (apply fs e)

theorem run_inv (p : Params) (evs : List Ev) (s s' : St) (fs : FS) (h : QInv p s fs) (ha : acceptAll p s evs = some s') :
    QInv p s' (applyAll fs evs) := by
  rw [acceptAll_eq] at ha; rw [applyAll_eq]
  exact foldlM_induct₂ apply (QInv p) (fun _ => True) (fun s fs e s' h _ => step_inv p s s' fs e h) evs s s' fs h
    (fun _ _ => trivial) ha

/-! ### The exit code and the envelope scanner's verdict -/

/-- where an exit code comes from: it is the documented verdict on the whole envelope stream supplied, or a call has
failed (`F`) and the code is not one of the scanner's own, 91 and 11 -/
def CodeOk (p : Params) (F : Prop) (c : Nat) : Prop := c = docCode (scan p.env).1 ∨ F ∧ c ≠ 91 ∧ c ≠ 11

/-- in a run whose `Faulty` events imply `F`: the code the program is going to exit with -/
def CodeInv (p : Params) (F : Prop) (s : St) : Prop :=
  match s.pc with
  | .linkTodo | .trig | .trigW | .trigC => (scan p.env).1 = .done
  | .clIntdTrunc c | .clIntdUnlink c | .clMessTrunc c | .clMessUnlink c | .dying c | .exited c | .handler c => CodeOk p F c
  | _ => True

theorem cleanupFrom_code (p : Params) (F : Prop) (s : St) (c : Nat) (h : CodeOk p F c) : CodeInv p F (cleanupFrom s c) := by
  unfold cleanupFrom
  split
  · exact h
  · split <;> exact h

theorem step_code (p : Params) (F : Prop) (s s' : St) (e : Ev) (hinv : CodeInv p F s) (hf : Faulty e = true → F)
    (hacc : accept p s e = some s') : CodeInv p F s' := by
  have flt : ∀ c, Faulty e = true → c ≠ 91 → c ≠ 11 → CodeOk p F c := fun c h h1 h2 => .inr ⟨hf h, h1, h2⟩
  cases accept_step p s s' e hacc with
  | openPid k ok h =>
    cases ok
    · by_cases hk : k + 1 < 10
      · simp [CodeInv, hk]
      · simp only [CodeInv, hk, if_false]; exact flt 63 (by simp [Faulty]; omega) (by decide) (by decide)
    · trivial
  | fstatPid ok h | linkMess ok h | unlinkPid ok h | openIntd ok h =>
    cases ok
    · exact flt _ rfl (by decide) (by decide)
    · trivial
  | envEof h hlen hv =>
    rw [hlen, List.take_length] at hv
    exact cleanupFrom_code p F s 54 (.inl hv.symm)
  | readErr _ intr h | writeErr _ intr h =>
    cases intr
    · exact cleanupFrom_code p F s _ (flt _ rfl (by decide) (by decide))
    · exact hinv
  | fsyncMess ok h hg =>
    cases ok
    · exact cleanupFrom_code p F s 53 (flt 53 rfl (by decide) (by decide))
    · trivial
  | fsyncIntd ok h hg =>
    cases ok
    · exact cleanupFrom_code p F s 53 (flt 53 rfl (by decide) (by decide))
    · show (scan p.env).1 = .done
      rw [scan_take p.env s.envRead (Or.inl hg.1)]; exact hg.1
  | linkTodo ok h =>
    simp only [CodeInv, h] at hinv
    cases ok
    · exact flt 66 rfl (by decide) (by decide)
    · exact hinv
  | trigOpen ok h =>
    simp only [CodeInv, h] at hinv
    cases ok
    · exact .inl (by rw [hinv]; rfl)
    · exact hinv
  | trigWrite h =>
    simp only [CodeInv, h] at hinv
    exact hinv
  | trigClose h =>
    simp only [CodeInv, h] at hinv
    exact .inl (by rw [hinv]; rfl)
  | ftruncIntd ok c h | ftruncMess ok c h | unlinkMess ok c h =>
    simp only [CodeInv, h] at hinv
    exact hinv
  | unlinkIntd ok c h =>
    simp only [CodeInv, h] at hinv
    show CodeInv p F { s with pc := if (ok && s.madeMess) = true then _ else _ }
    split <;> exact hinv
  | signal g h => exact flt _ rfl (by cases g <;> decide) (by cases g <;> decide)
  | exit c h =>
    show CodeOk p F c
    rcases h with h | h | ⟨h, hc⟩ | ⟨h, hc⟩ | ⟨h, hc⟩ | ⟨h, hc⟩
    · simp only [CodeInv, h] at hinv
      exact hinv
    · simp only [CodeInv, h] at hinv
      exact hinv
    · exact flt c (by rcases hc with rfl | rfl | rfl <;> rfl) (by omega) (by omega)
    · exact flt c (by rw [hc]; rfl) (by omega) (by omega)
    · exact flt c (by rw [hc]; rfl) (by omega) (by omega)
    · rcases hc with ⟨hv, rfl⟩ | ⟨hv, rfl⟩
      · exact .inl (by rw [scan_take p.env s.envRead (Or.inr (Or.inl hv)), hv]; rfl)
      · exact .inl (by rw [scan_take p.env s.envRead (Or.inr (Or.inr hv)), hv]; rfl)
  | alarm h | readMsg n h | readEnv n h | writeMess bs h | writeIntd bs h => simp [CodeInv, h]

theorem run_code (p : Params) (F : Prop) (evs : List Ev) (s s' : St) (h : CodeInv p F s) (hf : ∀ e ∈ evs, Faulty e = true → F)
    (ha : acceptAll p s evs = some s') : CodeInv p F s' :=
  foldlM_induct_guard (CodeInv p F) (Faulty · = true → F) (fun s e s' h => step_code p F s s' e h) evs s s' h hf
    (acceptAll_eq p evs s ▸ ha)

theorem accept_exited (p : Params) (s : St) (c : Nat) (h : s.pc = .exited c) (e : Ev) : accept p s e = none := by
  cases hacc : accept p s e with
  | none => rfl
  | some s' => cases accept_step p s s' e hacc <;> simp_all

theorem run_exited (p : Params) (s s' : St) (c : Nat) (h : s.pc = .exited c) :
    ∀ evs : List Ev, evs.foldlM (accept p) s = some s' → evs = []
  | [], _ => rfl
  | e :: es, ha => by
    obtain ⟨s1, h1, _⟩ := foldlM_cons.1 ha
    rw [accept_exited p s c h e] at h1; cases h1

theorem step_of_handler {p : Params} {s s' : St} {e : Ev} {c : Nat} (h : Step p s e s') (hpc : s.pc = .handler c) :
    e = .exit c ∧ s'.pc = .exited c := by
  cases h <;> simp_all

theorem step_of_start {p : Params} {s s' : St} {e : Ev} (h : Step p s e s') (hpc : s.pc = .start) :
    e = .alarm Gen.DEATH ∨ ∃ c, (c = 61 ∨ c = 62 ∨ c = 51) ∧ e = .exit c ∧ s'.pc = .exited c := by
  cases h <;> simp_all

theorem apply_todo (fs : FS) (e : Ev) (h : (apply fs e).todoName = true) : fs.todoName = true ∨ e = .linkTodo true := by
  unfold apply at h
  split at h <;> first | exact .inl h | exact .inr rfl

theorem todo_needs_link : ∀ (evs : List Ev) (fs : FS), (applyAll fs evs).todoName = true →
    fs.todoName = true ∨ Ev.linkTodo true ∈ evs
  | [], _, h => .inl h
  | e :: es, fs, h => by
    rcases todo_needs_link es (apply fs e) h with h1 | h1
    · exact (apply_todo fs e h1).imp_right fun he => by simp [he]
    · exact .inr (List.mem_cons_of_mem e h1)

end Nq.Lemmas.QI
