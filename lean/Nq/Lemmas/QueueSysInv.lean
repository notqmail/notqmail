/-
  The invariant `Inv` of Nq.QueueSys (DESIGN.md Appendix B) and its preservation by every event.
  `accept` is first turned into the relation `Step` (`accept_step`); `Step.inv` goes by cases on it and hands each
  case to one of three master lemmas: `inv_injector` (a qmail-queue instance works on its own number),
  `inv_relax` (no file changes: clock, instances retiring, stale pid/ files) and `inv_daemon` (qmail-send or
  qmail-clean changes the files of one message).
-/
import Nq.QueueSys
import Nq.Lemmas.Acceptor

namespace Nq.QueueSys

def IPc.num : IPc → Option Nat
  | .opened _ n | .linked _ n | .s2 _ n | .s3 _ n | .clean1 _ n => some n
  | _ => none

def IPc.t0 : IPc → Nat
  | .started t | .opened t _ | .linked t _ | .s2 t _ | .s3 t _ | .clean1 t _ => t
  | _ => 0

/-- the files of its number that exist while an injector is at this control point -/
def IPc.flags : IPc → Flags
  | .linked _ _ | .s2 _ _ | .clean1 _ _ => { mess := true }
  | .s3 _ _ => { mess := true, intd := true }
  | _ => {}

def IPc.holdsPid : IPc → Bool
  | .opened _ _ | .linked _ _ => true
  | _ => false

/-- no running qmail-queue is working on number n -/
def noLiveOwner (s : St) (n : Nat) : Prop :=
  ∀ i, (s.inj i).num = some n → s.alive (s.inj i).t0 = false

/-- The files of message `n` while qmail-send or qmail-clean is in the middle of working on it.
    * `inTodo n mi`: todo_do has opened todo/n; `mi`: info/n has been written.
    * `todoC1..3 n`: qmail-clean's control points of "todo done": before unlink intd/n, before unlink todo/n, both gone
      (then `n` has the pattern `Inv.known` asks for).
    * `foopC1..3 n`: its control points of "remove message"; no running qmail-queue owns `n`, so nobody recreates a
      file behind the cleaner's back. -/
def ModeInv (s : St) : Prop :=
  match s.mode with
  | .none => True
  | .inTodo n mi => s.up = true ∧ (s.fl n).mess = true ∧ (s.fl n).todo = true ∧ (s.fl n).bounce = false ∧ (mi = true → (s.fl n).info = true)
  | .todoC1 n => s.up = true ∧ (s.fl n).mess = true ∧ (s.fl n).todo = true ∧ (s.fl n).bounce = false ∧ (s.fl n).info = true
  | .todoC2 n => s.up = true ∧ (s.fl n).mess = true ∧ (s.fl n).todo = true ∧ (s.fl n).bounce = false ∧ (s.fl n).info = true ∧ (s.fl n).intd = false
  | .todoC3 n => s.up = true ∧ (s.fl n).mess = true ∧ (s.fl n).info = true ∧ (s.fl n).todo = false ∧ (s.fl n).intd = false
  | .foopC1 n => s.up = true ∧ (s.fl n).mess = true ∧ (s.fl n).todo = false ∧ (s.fl n).info = false ∧ noLiveOwner s n
  | .foopC2 n => s.up = true ∧ s.fl n = { mess := true } ∧ noLiveOwner s n
  | .foopC3 _ => s.up = true

/-- What qmail-send has learnt by `stat`/`unlink` about the one message `s.k.cur` is still true.
    * `todoAbs`: "todo/ was absent" stays true only for a message nobody can still inject into, i.e. one that already
      has info/ (preprocessed) or whose mess/ is stale; a young message without info/ may get its todo/ any moment.
    * `messPres`: likewise "mess/ was there" is kept only for a stale message (its injector is dead and cannot clean up). -/
structure KnowInv (s : St) : Prop where
  infoPres : s.k.infoPres = true → (s.fl s.k.cur).info = true
  infoAbs : s.k.infoAbs = true → (s.fl s.k.cur).info = false
  locAbs : s.k.locAbs = true → (s.fl s.k.cur).loc = false
  remAbs : s.k.remAbs = true → (s.fl s.k.cur).rem = false
  bounceAbs : s.k.bounceAbs = true → (s.fl s.k.cur).bounce = false
  todoAbs : s.k.todoAbs = true → ((s.fl s.k.cur).info = true ∨ s.stale s.k.cur = true) → (s.fl s.k.cur).todo = false
  messPres : s.k.messPres = true → s.stale s.k.cur = true → (s.fl s.k.cur).mess = true
  unlinkedInfo : s.k.unlinkedInfo = true → s.fl s.k.cur = { mess := true } ∧ noLiveOwner s s.k.cur

/-- * `doc`: every number has one of the file patterns of INTERNALS.md section 2.
    * `ino`: mess/n names inode n (qmail-queue calls the message after the inode of its pid/ file).
    * `own`: a live qmail-queue instance that holds number `n` accounts for every file of `n` (`IPc.flags`); inode `n` was
      stamped after the instance started, so `n` is not stale while the instance lives (`alive_not_stale`); until its
      `unlink` of the pid/ file that file exists.  `started` (no instance started in the future) gives the second part
      at the moment the pid/ file is created.
    * `distinct`: two live instances never hold the same number.
    * `known`: a number qmail-send has registered as preprocessed has mess/ and info/, no todo/, no intd/.
    * `mode`, `kn`: see `ModeInv`, `KnowInv`.
    * `quiet`: while a todo_do or a cleaning job is in progress the observation bits are all cleared (every event that
      enters such a mode resets `k`), so `KnowInv` need not be carried through those steps. -/
structure Inv (s : St) : Prop where
  doc : ∀ n, (s.fl n).documented = true
  ino : ∀ n, (s.fl n).mess = true → s.messIno n = n
  started : ∀ i, (s.inj i).t0 ≤ s.now
  own : ∀ i n, (s.inj i).num = some n → s.alive (s.inj i).t0 = true →
        s.fl n = (s.inj i).flags ∧ (s.inj i).t0 ≤ s.atime n ∧ ((s.inj i).holdsPid = true → s.pidf n = true)
  distinct : ∀ i j n, i ≠ j → (s.inj i).num = some n → (s.inj j).num = some n →
        s.alive (s.inj i).t0 = true → s.alive (s.inj j).t0 = true → False
  known : ∀ n, s.known n = true →
        s.up = true ∧ (s.fl n).mess = true ∧ (s.fl n).info = true ∧ (s.fl n).todo = false ∧ (s.fl n).intd = false
  mode : ModeInv s
  kn : KnowInv s
  quiet : s.mode ≠ .none → s.k = { cur := s.k.cur }

/-! ### flag-pattern facts (the INTERNALS.md table) -/

theorem Flags.ext' {a b : Flags} (h1 : a.mess = b.mess) (h2 : a.intd = b.intd) (h3 : a.todo = b.todo)
    (h4 : a.info = b.info) (h5 : a.loc = b.loc) (h6 : a.rem = b.rem) (h7 : a.bounce = b.bounce) : a = b := by
  cases a; cases b; simp_all

theorem doc_nomess {f : Flags} (h : f.documented = true) (hm : f.mess = false) : f = {} := by
  obtain ⟨a, b, c, d, e, g, k⟩ := f
  simp only at hm; subst hm
  simp [Flags.documented, Flags.isS1, Flags.isS2, Flags.isS3, Flags.isS4, Flags.isS5, and_assoc] at h
  obtain ⟨rfl, rfl, rfl, rfl, rfl, rfl⟩ := h
  rfl

theorem doc_s5 {f : Flags} (h : f.documented = true) (hi : f.info = true) (ht : f.todo = false) :
    f.mess = true ∧ f.intd = false := by
  obtain ⟨a, b, c, d, e, g, k⟩ := f
  simp only at hi ht; subst hi ht
  cases a <;> cases b <;> simp_all [Flags.documented, Flags.isS1, Flags.isS2, Flags.isS3, Flags.isS4, Flags.isS5]

theorem doc_s23 {f : Flags} (h : f.documented = true) (hm : f.mess = true) (hi : f.info = false) (ht : f.todo = false) :
    f.loc = false ∧ f.rem = false ∧ f.bounce = false := by
  obtain ⟨a, b, c, d, e, g, k⟩ := f
  simp only at hm hi ht; subst hm hi ht
  simp [Flags.documented, Flags.isS1, Flags.isS2, Flags.isS3, Flags.isS4, Flags.isS5, and_assoc] at h
  rcases h with ⟨_, h⟩ | ⟨_, h⟩ <;> exact h

theorem doc_s4 {f : Flags} (hm : f.mess = true) (ht : f.todo = true) (hb : f.bounce = false) : f.documented = true := by
  simp [Flags.documented, Flags.isS4, hm, ht, hb]

theorem doc_s5' {f : Flags} (hm : f.mess = true) (hi : f.info = true) (ht : f.todo = false) (hd : f.intd = false) :
    f.documented = true := by
  simp [Flags.documented, Flags.isS5, hm, ht, hi, hd]

@[simp] theorem doc_empty : ({} : Flags).documented = true := by decide
@[simp] theorem doc_m : ({ mess := true } : Flags).documented = true := by decide
@[simp] theorem doc_mi : ({ mess := true, intd := true } : Flags).documented = true := by decide

theorem Flags.get_set_ne (f : Flags) (b : Bool) {x y : File} (h : x ≠ y) : (f.set x b).get y = f.get y := by
  cases x <;> cases y <;> first | rfl | exact absurd rfl h

theorem Flags.set_lrb (f : Flags) (b : Bool) {x : File} (hx : x = .loc ∨ x = .rem ∨ x = .bounce) :
    (f.set x b).mess = f.mess ∧ (f.set x b).intd = f.intd ∧ (f.set x b).todo = f.todo ∧ (f.set x b).info = f.info := by
  rcases hx with rfl | rfl | rfl <;> exact ⟨rfl, rfl, rfl, rfl⟩

@[simp] theorem setF_fl_same (s : St) (n : Nat) (x : File) (b : Bool) : (s.setF n x b).fl n = (s.fl n).set x b := by
  simp [St.setF]
theorem setF_other_fl (s : St) (n : Nat) (x : File) (b : Bool) : ∀ m, m ≠ n → (s.setF n x b).fl m = s.fl m :=
  fun m hm => by simp [St.setF, upd, hm]
@[simp] theorem setF_inj (s : St) (n : Nat) (x : File) (b : Bool) : (s.setF n x b).inj = s.inj := rfl
@[simp] theorem setF_now (s : St) (n : Nat) (x : File) (b : Bool) : (s.setF n x b).now = s.now := rfl
@[simp] theorem setF_pidf (s : St) (n : Nat) (x : File) (b : Bool) : (s.setF n x b).pidf = s.pidf := rfl
@[simp] theorem setF_atime (s : St) (n : Nat) (x : File) (b : Bool) : (s.setF n x b).atime = s.atime := rfl
@[simp] theorem setF_messIno (s : St) (n : Nat) (x : File) (b : Bool) : (s.setF n x b).messIno = s.messIno := rfl
@[simp] theorem setF_up (s : St) (n : Nat) (x : File) (b : Bool) : (s.setF n x b).up = s.up := rfl
@[simp] theorem setF_mode (s : St) (n : Nat) (x : File) (b : Bool) : (s.setF n x b).mode = s.mode := rfl
@[simp] theorem setF_k (s : St) (n : Nat) (x : File) (b : Bool) : (s.setF n x b).k = s.k := rfl
@[simp] theorem setF_known (s : St) (n : Nat) (x : File) (b : Bool) : (s.setF n x b).known = s.known := rfl

/-- A qmail-queue instance is killed by its alarm (DEATH, one day) long before qmail-clean may regard its files as
    abandoned (OSSIFIED, 36 hours): this is why `alive` and `stale` exclude each other (`alive_not_stale`). -/
theorem death_lt_oss : DEATH < OSSIFIED := by decide

theorem alive_not_stale (s : St) (t0 n : Nat) (ha : s.alive t0 = true) (ht : t0 ≤ s.atime n) : s.stale n = false := by
  have := death_lt_oss
  simp [St.alive, St.stale] at *
  omega

theorem alive_congr {s s' : St} (h : s'.now = s.now) (t : Nat) : s'.alive t = s.alive t := by
  simp only [St.alive, h]

theorem IPc.flags_rest (pc : IPc) :
    pc.flags.todo = false ∧ pc.flags.info = false ∧ pc.flags.loc = false ∧ pc.flags.rem = false ∧ pc.flags.bounce = false := by
  cases pc <;> exact ⟨rfl, rfl, rfl, rfl, rfl⟩

theorem IPc.mess_or_pid {pc : IPc} {n : Nat} (h : pc.num = some n) : pc.flags.mess = true ∨ pc.holdsPid = true := by
  cases pc <;> cases h <;> first | exact Or.inl rfl | exact Or.inr rfl

theorem owner_flags (s : St) (h : Inv s) (i n : Nat) (hn : (s.inj i).num = some n) (ha : s.alive (s.inj i).t0 = true) :
    (s.fl n).todo = false ∧ (s.fl n).info = false ∧ (s.fl n).loc = false ∧ (s.fl n).rem = false ∧ (s.fl n).bounce = false ∧
    s.stale n = false := by
  obtain ⟨hf, ht, _⟩ := h.own i n hn ha
  obtain ⟨h1, h2, h3, h4, h5⟩ := (s.inj i).flags_rest
  rw [hf]
  exact ⟨h1, h2, h3, h4, h5, alive_not_stale s _ n ha ht⟩

theorem noLiveOwner_of (s : St) (h : Inv s) (n : Nat)
    (hf : (s.fl n).todo = true ∨ (s.fl n).info = true ∨ s.stale n = true) : noLiveOwner s n := by
  intro i hn
  cases ha : s.alive (s.inj i).t0 with
  | false => rfl
  | true =>
    obtain ⟨h1, h2, _, _, _, h6⟩ := owner_flags s h i n hn ha
    rw [h1, h2, h6] at hf
    simp at hf

theorem KnowInv.reset (s : St) (c : Nat) (hk : s.k = { cur := c }) : KnowInv s := by
  constructor <;> simp [hk]

theorem KnowInv.congr {s s' : St} (hk : KnowInv s) (hkk : s'.k = s.k) (hfl : s'.fl s.k.cur = s.fl s.k.cur)
    (hst : s'.stale s.k.cur = s.stale s.k.cur) (hno : noLiveOwner s s.k.cur → noLiveOwner s' s.k.cur) : KnowInv s' := by
  obtain ⟨h1, h2, h3, h4, h5, h6, h7, h8⟩ := hk
  have h8' := fun hu => And.imp_right hno (h8 hu)
  constructor <;> rw [hkk, hfl] <;> (try rw [hst]) <;> assumption

def DMode.msg : DMode → Option Nat
  | .none | .foopC3 _ => Option.none
  | .inTodo m _ | .todoC1 m | .todoC2 m | .todoC3 m | .foopC1 m | .foopC2 m => some m

theorem ModeInv.congr {s s' : St} (hm : ModeInv s) (hmode : s'.mode = s.mode) (hup : s'.up = s.up)
    (hfl : ∀ m, s.mode.msg = some m → s'.fl m = s.fl m ∧ (noLiveOwner s m → noLiveOwner s' m)) : ModeInv s' := by
  unfold ModeInv at hm ⊢
  rw [hmode, hup]
  cases hmd : s.mode <;> rw [hmd] at hm hfl <;> try exact hm
  all_goals
    obtain ⟨hf, hno⟩ := hfl _ rfl
    simp only [hf]
  -- only the two clauses that mention `noLiveOwner` speak of more than `up` and `fl m`
  case foopC1 =>
    obtain ⟨hup', hmess, htodo, hinfo, hown⟩ := hm
    exact ⟨hup', hmess, htodo, hinfo, hno hown⟩
  case foopC2 =>
    obtain ⟨hup', hflm, hown⟩ := hm
    exact ⟨hup', hflm, hno hown⟩
  all_goals exact hm

theorem mode_up {s : St} (h : ModeInv s) (hm : s.mode ≠ .none) : s.up = true := by
  unfold ModeInv at h
  cases hmd : s.mode <;> rw [hmd] at h
  · exact absurd hmd hm
  all_goals first | exact h.1 | exact h

theorem mode_msg {s : St} (h : Inv s) {m : Nat} (hm : s.mode.msg = some m) :
    (s.fl m).mess = true ∧ noLiveOwner s m := by
  have hmi := h.mode
  unfold ModeInv at hmi
  cases hmd : s.mode <;> rw [hmd] at hm hmi <;> cases hm
  -- a message with todo/ or info/ has no live owner; the foop clauses say so themselves
  case inTodo | todoC1 | todoC2 =>
    obtain ⟨_, hmess, htodo, _⟩ := hmi
    exact ⟨hmess, noLiveOwner_of s h m (Or.inl htodo)⟩
  case todoC3 =>
    obtain ⟨_, hmess, hinfo, _⟩ := hmi
    exact ⟨hmess, noLiveOwner_of s h m (Or.inr (Or.inl hinfo))⟩
  case foopC1 =>
    obtain ⟨_, hmess, _, _, hown⟩ := hmi
    exact ⟨hmess, hown⟩
  case foopC2 =>
    obtain ⟨_, hflm, hown⟩ := hmi
    rw [hflm]; exact ⟨rfl, hown⟩

/-- One step of a live qmail-queue instance `i0` on its number `n0` (or acquiring the fresh number `n0`). -/
theorem inv_injector (s s' : St) (h : Inv s) (i0 n0 : Nat)
    (hup : s'.up = s.up) (hmode : s'.mode = s.mode) (hk : s'.k = s.k) (hknown : s'.known = s.known) (hnow : s'.now = s.now)
    (hfl : ∀ m, m ≠ n0 → s'.fl m = s.fl m) (hpidf : ∀ m, m ≠ n0 → s'.pidf m = s.pidf m)
    (hat : ∀ m, m ≠ n0 → s'.atime m = s.atime m) (hmi : ∀ m, m ≠ n0 → s'.messIno m = s.messIno m)
    (hinj : ∀ j, j ≠ i0 → s'.inj j = s.inj j)
    (hal : s.alive (s.inj i0).t0 = true)
    (hsrc : (s.inj i0).num = some n0 ∨ ((s.inj i0).num = none ∧ (s.fl n0).mess = false ∧ s.pidf n0 = false))
    (hF : (s'.fl n0).info = false ∧ (s'.fl n0).loc = false ∧ (s'.fl n0).rem = false ∧ (s'.fl n0).bounce = false)
    (hdoc : (s'.fl n0).documented = true)
    (hmino : (s'.fl n0).mess = true → s'.messIno n0 = n0)
    (hat0 : (s.inj i0).t0 ≤ s'.atime n0)
    (hpc : s'.inj i0 = .fin ∨ ((s'.inj i0).num = some n0 ∧ (s'.inj i0).t0 = (s.inj i0).t0 ∧
            s'.fl n0 = (s'.inj i0).flags ∧ ((s'.inj i0).holdsPid = true → s'.pidf n0 = true))) : Inv s' := by
  have halive := alive_congr hnow
  -- no other live instance has anything to do with n0
  have hother : ∀ j, j ≠ i0 → (s.inj j).num = some n0 → s.alive (s.inj j).t0 = true → False := by
    intro j hj hn ha
    rcases hsrc with hs | ⟨_, hm, hp⟩
    · exact h.distinct j i0 n0 hj hn hs ha hal
    · obtain ⟨hf, _, hpid⟩ := h.own j n0 hn ha
      rcases IPc.mess_or_pid hn with hx | hx
      · rw [hf, hx] at hm; cases hm
      · rw [hpid hx] at hp; cases hp
  have hnum' : ∀ n, (s'.inj i0).num = some n → n = n0 := by
    intro n hn
    rcases hpc with hp | hp
    · rw [hp] at hn; cases hn
    · exact Option.some.inj (hn.symm.trans hp.1)
  have hstale' : s'.stale n0 = false := alive_not_stale s' _ n0 ((halive _).trans hal) hat0
  have hsinfo : (s.fl n0).info = false := by
    rcases hsrc with hs | ⟨_, hm, _⟩
    · exact (owner_flags s h i0 n0 hs hal).2.1
    · rw [doc_nomess (h.doc n0) hm]
  -- n0 is held by the live instance i0, or has no mess/ yet
  have hfree : (s.fl n0).mess = true → noLiveOwner s n0 → False := by
    intro hmess hno
    rcases hsrc with hs | ⟨_, hm0, _⟩
    · have := hno i0 hs; rw [hal] at this; cases this
    · rw [hm0] at hmess; cases hmess
  -- so the daemon is not busy with n0
  have hmode_ne : ∀ m, s.mode.msg = some m → m ≠ n0 := by
    intro m hm e
    subst e
    exact hfree (mode_msg h hm).1 (mode_msg h hm).2
  have hnlo : ∀ n, n ≠ n0 → noLiveOwner s n → noLiveOwner s' n := by
    intro n hn hno j hj
    by_cases hji : j = i0
    · subst hji; exact absurd (hnum' n hj) hn
    · rw [hinj j hji] at hj ⊢; rw [halive]; exact hno j hj
  constructor
  · intro n; by_cases hn : n = n0
    · subst hn; exact hdoc
    · rw [hfl n hn]; exact h.doc n
  · intro n; by_cases hn : n = n0
    · subst hn; exact hmino
    · rw [hfl n hn, hmi n hn]; exact h.ino n
  · intro j; rw [hnow]; by_cases hj : j = i0
    · subst hj; rcases hpc with hp | hp
      · rw [hp]; exact Nat.zero_le _
      · rw [hp.2.1]; exact h.started j
    · rw [hinj j hj]; exact h.started j
  · intro j n hn ha; rw [halive] at ha
    by_cases hj : j = i0
    · subst hj
      rcases hpc with hp | hp
      · rw [hp] at hn; cases hn
      · cases hnum' n hn
        refine ⟨hp.2.2.1, ?_, hp.2.2.2⟩
        rw [hp.2.1]; exact hat0
    · rw [hinj j hj] at hn ha ⊢
      by_cases hnn : n = n0
      · subst hnn; exact (hother j hj hn ha).elim
      · rw [hfl n hnn, hat n hnn, hpidf n hnn]; exact h.own j n hn ha
  · intro a b n hab hna hnb haa hab'
    rw [halive] at haa hab'
    by_cases ha0 : a = i0
    · subst ha0
      have hb0 : b ≠ a := fun e => hab e.symm
      rw [hinj b hb0] at hnb hab'
      cases hnum' n hna
      exact hother b hb0 hnb hab'
    · rw [hinj a ha0] at hna haa
      by_cases hb0 : b = i0
      · subst hb0
        cases hnum' n hnb
        exact hother a ha0 hna haa
      · rw [hinj b hb0] at hnb hab'
        exact h.distinct a b n hab hna hnb haa hab'
  · intro n hkn; rw [hknown] at hkn; rw [hup]
    have hk' := h.known n hkn
    by_cases hn : n = n0
    · subst hn; rw [hsinfo] at hk'; cases hk'.2.2.1
    · rw [hfl n hn]; exact hk'
  · exact h.mode.congr hmode hup fun m hm => ⟨hfl m (hmode_ne m hm), hnlo m (hmode_ne m hm)⟩
  · have hkn := h.kn
    by_cases hc : s.k.cur = n0
    · constructor <;> rw [hk, hc]
      · intro hp; have := hkn.infoPres hp; rw [hc, hsinfo] at this; cases this
      · intro _; exact hF.1
      · intro _; exact hF.2.1
      · intro _; exact hF.2.2.1
      · intro _; exact hF.2.2.2
      · intro _ hp; rw [hF.1, hstale'] at hp; simp at hp
      · intro _ hp; rw [hstale'] at hp; cases hp
      · intro hu
        have := hkn.unlinkedInfo hu
        rw [hc] at this
        exact (hfree (by rw [this.1]) this.2).elim
    · exact hkn.congr hk (hfl _ hc) (by simp only [St.stale, hat _ hc, hnow]) (hnlo _ hc)
  · rw [hmode, hk]; exact h.quiet

/-- One constructor for each way an event is accepted, with the state that results and those of the checked guards
    that the proofs about events need. -/
inductive Step (s : St) : Ev → St → Prop
  | tick (t : Nat) (h : s.now ≤ t) : Step s (.tick t) { s with now := t, k := { cur := s.k.cur } }
  | iStart (i : Nat) : Step s (.iStart i DEATH) { s with inj := upd s.inj i (.started s.now) }
  | iOpenPid (i n t0 : Nat) (hpc : s.inj i = .started t0) (hal : s.alive t0 = true) (hp : s.pidf n = false)
      (hm : (s.fl n).mess = false) :
      Step s (.iOpenPid i n)
        { s with pidf := upd s.pidf n true, atime := upd s.atime n s.now, inj := upd s.inj i (.opened t0 n) }
  | iLinkMess (i n t0 : Nat) (hpc : s.inj i = .opened t0 n) (hal : s.alive t0 = true) (hp : s.pidf n = true)
      (hm : (s.fl n).mess = false) :
      Step s (.iLinkMess i n) { (s.setF n .mess true) with messIno := upd s.messIno n n, inj := upd s.inj i (.linked t0 n) }
  | iUnlinkPid (i n t0 : Nat) (hpc : s.inj i = .linked t0 n) (hal : s.alive t0 = true) (hp : s.pidf n = true) :
      Step s (.iUnlinkPid i) { s with pidf := upd s.pidf n false, inj := upd s.inj i (.s2 t0 n) }
  | iCreatIntd (i n t0 : Nat) (hpc : s.inj i = .s2 t0 n) (hal : s.alive t0 = true) :
      Step s (.iCreatIntd i n) { (s.setF n .intd true) with inj := upd s.inj i (.s3 t0 n) }
  | iLinkTodo (i n t0 : Nat) (hpc : s.inj i = .s3 t0 n) (hal : s.alive t0 = true) :
      Step s (.iLinkTodo i n) { (s.setF n .todo true) with inj := upd s.inj i .fin }
  | iUnIntd (i n t0 : Nat) (hpc : s.inj i = .s3 t0 n) (hal : s.alive t0 = true) :
      Step s (.iUnIntd i n) { (s.setF n .intd false) with inj := upd s.inj i (.clean1 t0 n) }
  /-- cleanup() unlinks mess/ from two control points in the same way -/
  | iUnMess (i n t0 : Nat) (hpc : s.inj i = .s2 t0 n ∨ s.inj i = .clean1 t0 n) (hal : s.alive t0 = true) :
      Step s (.iUnMess i n) { (s.setF n .mess false) with inj := upd s.inj i .fin }
  | iDie (i : Nat) : Step s (.iDie i) { s with inj := upd s.inj i .fin }
  | dStart (h : s.up = false) : Step s .dStart { s with up := true, mode := .none, k := {}, known := fun _ => false }
  | dRefused (h : s.up = true) : Step s .dRefused s
  | dDie : Step s .dDie { s with up := false, mode := .none, k := {}, known := fun _ => false }
  /-- todo_do looks at the files of the message it is working on -/
  | dObsTodo (n : Nat) (f : File) : Step s (.dObs n f ((s.fl n).get f)) s
  | dObs (n : Nat) (f : File) (hup : s.up = true) :
      Step s (.dObs n f ((s.fl n).get f))
        { s with mode := .none, k := (s.k.at n).see f ((s.fl n).get f),
                 known := upd s.known n (s.known n || (((s.k.at n).see f ((s.fl n).get f)).infoPres &&
                                                        ((s.k.at n).see f ((s.fl n).get f)).todoAbs)) }
  | dOpenTodo (n : Nat) (hup : s.up = true) (ht : (s.fl n).todo = true) :
      Step s (.dOpenTodo n) { s with mode := .inTodo n false, k := { cur := n } }
  | dAbortTodo : Step s .dAbortTodo { s with mode := .none }
  | dUnlinkTodo (n : Nat) (f : File) (hup : s.up = true) (hm : s.mode = .inTodo n false)
      (hf : f = .loc ∨ f = .rem ∨ f = .info) : Step s (.dUnlink n f) (s.setF n f false)
  | dUnlinkChan (n : Nat) (f : File) (hup : s.up = true) (hm : s.mode = .none)
      (hf : f = .loc ∨ f = .rem) (hk : s.known n = true) :
      Step s (.dUnlink n f) { (s.setF n f false) with k := (s.k.at n).see f false }
  | dUnlinkBounce (n : Nat) (hup : s.up = true) (hm : s.mode = .none)
      (hk : s.k.cur = n ∧ s.k.locAbs ∧ s.k.remAbs ∧ s.k.todoAbs ∧ s.k.infoPres) :
      Step s (.dUnlink n .bounce) { (s.setF n .bounce false) with k := { s.k with bounceAbs := true } }
  | dUnlinkInfo (n : Nat) (hup : s.up = true) (hm : s.mode = .none)
      (hk : s.k.cur = n ∧ s.k.locAbs ∧ s.k.remAbs ∧ s.k.todoAbs ∧ s.k.infoPres ∧ s.k.bounceAbs) :
      Step s (.dUnlink n .info)
        { (s.setF n .info false) with
          k := { s.k with infoPres := false, infoAbs := true, unlinkedInfo := true }, known := upd s.known n false }
  | dCreatInfo (n : Nat) (hup : s.up = true) (hm : s.mode = .inTodo n false) :
      Step s (.dCreat n .info) { (s.setF n .info true) with mode := .inTodo n true }
  | dCreatChan (n : Nat) (f : File) (hup : s.up = true) (hm : s.mode = .inTodo n true) (hf : f = .loc ∨ f = .rem) :
      Step s (.dCreat n f) (s.setF n f true)
  | dCreatBounce (n : Nat) (hup : s.up = true) (hm : s.mode = .none) (hk : s.known n = true) :
      Step s (.dCreat n .bounce) { (s.setF n .bounce true) with k := { (s.k.at n) with bounceAbs := false } }
  | dReqTodo (n : Nat) (hup : s.up = true) (hm : s.mode = .inTodo n true) :
      Step s (.dReq true n) { s with mode := .todoC1 n, k := { cur := n } }
  | dReqFoop (n : Nat) (hup : s.up = true) (hc : s.k.cur = n)
      (hk : s.k.unlinkedInfo ∨ (s.k.messPres ∧ s.k.infoAbs ∧ s.k.todoAbs ∧ s.stale n)) :
      Step s (.dReq false n) { s with mode := .foopC1 n, k := { cur := n } }
  | cTodoIntd (n : Nat) (hm : s.mode = .todoC1 n) :
      Step s (.cUnlink n .intd (s.fl n).intd) { (s.setF n .intd false) with mode := .todoC2 n }
  | cTodoTodo (n : Nat) (hm : s.mode = .todoC2 n) :
      Step s (.cUnlink n .todo (s.fl n).todo) { (s.setF n .todo false) with mode := .todoC3 n }
  | cFoopIntd (n : Nat) (hm : s.mode = .foopC1 n) :
      Step s (.cUnlink n .intd (s.fl n).intd) { (s.setF n .intd false) with mode := .foopC2 n }
  | cFoopMess (n : Nat) (hm : s.mode = .foopC2 n) :
      Step s (.cUnlink n .mess (s.fl n).mess) { (s.setF n .mess false) with mode := .foopC3 n }
  | cDoneTodo (n : Nat) (plus : Bool) (hm : s.mode = .todoC3 n) :
      Step s (.cDone plus) { s with mode := .none, known := upd s.known n (s.known n || plus) }
  /-- a cleaner that has finished "remove message" (`foopC3`) answers either way; one that has not finished any job
      answers "-" (neither the mode nor `plus = false` is kept: the proofs do not need them) -/
  | cDone (plus : Bool) : Step s (.cDone plus) { s with mode := .none }
  | cUnlinkPid (n : Nat) (hst : s.stale n = true) :
      Step s (.cUnlinkPid n) { s with pidf := upd s.pidf n false }
  | crash : Step s .crash
      { s with inj := fun i => crashPc (s.inj i), up := false, mode := .none, k := {}, known := fun _ => false }

/- `accept.fun_cases_unfolding` has one case per branch of `accept`, numbered in the order of its text.  A refusing branch
   contradicts `some s'`; an accepting one is the constructor of `Step` for that branch, and its arguments are the guards
   in scope.  Three branches are not literally a constructor and are named: 23 and 25 are `iUnMess` from the control
   points `s2` and `clean1`, which `Step.iUnMess` merges under a disjunction; 37 is `dObs` outside todo_do, where
   `accept` leaves `mode` alone and `Step.dObs` writes `.none` (the mode is neither `inTodo` nor cleaning). -/
theorem accept_step {s s' : St} {e : Ev} : accept s e = some s' → Step s e s' := by
  apply accept.fun_cases_unfolding s (motive := fun e r => r = some s' → Step s e s')
  all_goals intros
  all_goals try contradiction
  all_goals rename_i h
  -- `dCreat` of local/ and remote/ share a branch whose `if` the case principle leaves unsplit
  all_goals try split at h
  all_goals try contradiction
  all_goals injection h with h; subst h
  all_goals repeat cases ‹_ ∧ _›
  all_goals subst_vars
  case case23 hpc hal _ => exact .iUnMess _ _ _ (.inl hpc) hal
  case case25 hpc hal _ => exact .iUnMess _ _ _ (.inr hpc) hal
  case case37 n f hno hup hcl _ =>
    have hm : s.mode = .none := by cases hmd : s.mode <;> simp_all [DMode.cleaning]
    have := Step.dObs n f hup
    rwa [← hm] at this
  all_goals constructor <;> and_intros <;> first | assumption | rfl | decide

theorem inv_inj_setF (s : St) (h : Inv s) (i n : Nat) (x : File) (b : Bool) {pc : IPc} (pc' : IPc)
    (hi : s.inj i = pc) (hn : pc.num = some n) (hal : s.alive pc.t0 = true)
    (hx : (x = .mess ∧ b = false) ∨ x = .intd ∨ x = .todo)
    (hdoc : (pc.flags.set x b).documented = true)
    (hpc : pc' = .fin ∨ (pc'.num = some n ∧ pc'.t0 = pc.t0 ∧ pc.flags.set x b = pc'.flags ∧ pc'.holdsPid = false)) :
    Inv { (s.setF n x b) with inj := upd s.inj i pc' } := by
  subst hi
  obtain ⟨hf, hat, _⟩ := h.own i n hn hal
  obtain ⟨_, h2, h3, h4, h5, _⟩ := owner_flags s h i n hn hal
  have hfl : ({ (s.setF n x b) with inj := upd s.inj i pc' } : St).fl n = (s.inj i).flags.set x b := by
    rw [← hf]; exact setF_fl_same ..
  refine inv_injector s _ h i n rfl rfl rfl rfl rfl (setF_other_fl s n x b) (fun _ _ => rfl)
    (fun _ _ => rfl) (fun _ _ => rfl) (fun j hj => upd_other _ _ _ _ hj) hal (Or.inl hn) ?_ ?_ ?_ hat ?_
  · rw [hfl, ← hf]
    rcases hx with ⟨rfl, _⟩ | rfl | rfl <;> exact ⟨h2, h3, h4, h5⟩
  · rw [hfl]; exact hdoc
  · rw [hfl, ← hf]
    rcases hx with ⟨rfl, rfl⟩ | rfl | rfl
    · nofun
    · exact h.ino n
    · exact h.ino n
  · rcases hpc with rfl | ⟨g1, g2, g3, g4⟩
    · exact Or.inl (upd_same ..)
    · refine Or.inr ?_
      rw [show ({ (s.setF n x b) with inj := upd s.inj i pc' } : St).inj i = pc' from upd_same ..]
      exact ⟨g1, g2, hfl.trans g3, fun hh => by rw [g4] at hh; cases hh⟩

theorem inv_relax (s s' : St) (h : Inv s) (hfl : s'.fl = s.fl) (hmi : s'.messIno = s.messIno) (hat : s'.atime = s.atime)
    (hup : s'.up = s.up) (hmode : s'.mode = s.mode) (hknown : s'.known = s.known) (hnow : s.now ≤ s'.now)
    (hinj : ∀ i, s'.inj i = s.inj i ∨ ((s'.inj i).num = none ∧ (s'.inj i).t0 ≤ s'.now))
    (hpid : ∀ n, s'.pidf n = s.pidf n ∨ s.stale n = true)
    (hk : (s'.k = s.k ∧ s'.now = s.now) ∨ s'.k = { cur := s.k.cur }) : Inv s' := by
  have hal : ∀ t0, s'.alive t0 = true → s.alive t0 = true := by
    intro t0; simp only [St.alive, decide_eq_true_eq]; omega
  have hnlo : ∀ n, noLiveOwner s n → noLiveOwner s' n := by
    intro n hno j hj
    rcases hinj j with e | ⟨e, _⟩
    · rw [e] at hj ⊢
      exact Bool.eq_false_iff.2 fun hx => by have := hno j hj; rw [hal _ hx] at this; cases this
    · rw [e] at hj; cases hj
  constructor
  · intro n; rw [hfl]; exact h.doc n
  · intro n; rw [hfl, hmi]; exact h.ino n
  · intro j
    rcases hinj j with e | ⟨_, e⟩
    · rw [e]; exact Nat.le_trans (h.started j) hnow
    · exact e
  · intro j n hjn hx
    rcases hinj j with e | ⟨e, _⟩
    · rw [e] at hjn hx ⊢
      have ha := hal _ hx
      obtain ⟨hf, ht, hp⟩ := h.own j n hjn ha
      rw [hfl, hat]
      refine ⟨hf, ht, fun hh => ?_⟩
      rcases hpid n with ep | est
      · rw [ep]; exact hp hh
      · rw [alive_not_stale s _ n ha ht] at est; cases est
    · rw [e] at hjn; cases hjn
  · intro a b n hab hna hnb haa hbb
    rcases hinj a with ea | ⟨ea, _⟩
    · rcases hinj b with eb | ⟨eb, _⟩
      · rw [ea] at hna haa; rw [eb] at hnb hbb; exact h.distinct a b n hab hna hnb (hal _ haa) (hal _ hbb)
      · rw [eb] at hnb; cases hnb
    · rw [ea] at hna; cases hna
  · intro n hk; rw [hknown] at hk; rw [hup, hfl]; exact h.known n hk
  · exact h.mode.congr hmode hup fun m _ => ⟨by rw [hfl], hnlo m⟩
  · rcases hk with ⟨ek, en⟩ | ek
    · exact h.kn.congr ek (by rw [hfl]) (by simp only [St.stale, hat, en]) (hnlo _)
    · exact KnowInv.reset _ _ ek
  · intro hm
    rcases hk with ⟨ek, _⟩ | ek
    · rw [ek]; exact h.quiet (hmode ▸ hm)
    · rw [ek]

theorem inv_inj_drop (s : St) (h : Inv s) (i : Nat) (pc' : IPc) (hn : pc'.num = none) (ht : pc'.t0 ≤ s.now) :
    Inv { s with inj := upd s.inj i pc' } := by
  refine inv_relax s _ h rfl rfl rfl rfl rfl rfl (Nat.le_refl _) (fun j => ?_) (fun _ => Or.inl rfl) (Or.inl ⟨rfl, rfl⟩)
  by_cases hj : j = i
  · subst hj; exact Or.inr (by rw [show ({ s with inj := upd s.inj j pc' } : St).inj j = pc' from upd_same ..]; exact ⟨hn, ht⟩)
  · exact Or.inl (upd_other _ _ _ _ hj)

/-- One step of qmail-send / qmail-clean on message `n0`.  Proved here are the clauses about files and injector
    instances (`doc`, `ino`, `started`, `own`, `distinct`); those about the daemon's own state (`known`, `mode`, `kn`,
    `quiet`) are the caller's, as hypotheses. -/
theorem inv_daemon (s s' : St) (h : Inv s) (n0 : Nat)
    (hfl : ∀ m, m ≠ n0 → s'.fl m = s.fl m)
    (hinj : s'.inj = s.inj) (hpidf : s'.pidf = s.pidf) (hat : s'.atime = s.atime) (hmi : s'.messIno = s.messIno)
    (hnow : s'.now = s.now)
    (hdoc : (s'.fl n0).documented = true)
    (hmess : (s'.fl n0).mess = true → (s.fl n0).mess = true)
    (hown : s'.fl n0 = s.fl n0 ∨ noLiveOwner s n0)
    (hknown : ∀ n, s'.known n = true →
        s'.up = true ∧ (s'.fl n).mess = true ∧ (s'.fl n).info = true ∧ (s'.fl n).todo = false ∧ (s'.fl n).intd = false)
    (hmode : ModeInv s') (hkn : KnowInv s') (hq : s'.mode ≠ .none → s'.k = { cur := s'.k.cur }) : Inv s' := by
  have halive := alive_congr hnow
  constructor
  · intro n; by_cases hn : n = n0
    · subst hn; exact hdoc
    · rw [hfl n hn]; exact h.doc n
  · intro n; rw [hmi]; by_cases hn : n = n0
    · subst hn; intro hm; exact h.ino n (hmess hm)
    · rw [hfl n hn]; exact h.ino n
  · intro i; rw [hinj, hnow]; exact h.started i
  · intro i n hn hal
    rw [hinj] at hn hal ⊢; rw [halive] at hal; rw [hpidf, hat]
    have ho := h.own i n hn hal
    by_cases hnn : n = n0
    · subst hnn
      rcases hown with he | hno
      · rw [he]; exact ho
      · have := hno i hn; simp_all
    · rw [hfl n hnn]; exact ho
  · intro a b n hab hna hnb haa hbb
    rw [hinj] at hna hnb haa hbb; rw [halive] at haa hbb
    exact h.distinct a b n hab hna hnb haa hbb
  · exact hknown
  · exact hmode
  · exact hkn
  · exact hq

/-- A step of qmail-send / qmail-clean that touches no file. -/
theorem inv_daemon_ctl (s : St) (h : Inv s) {u : Bool} {md : DMode} {k' : Know} {kn' : Nat → Bool}
    (hknown : ∀ n, kn' n = true →
      u = true ∧ (s.fl n).mess = true ∧ (s.fl n).info = true ∧ (s.fl n).todo = false ∧ (s.fl n).intd = false)
    (hmode : ModeInv { s with up := u, mode := md, k := k', known := kn' })
    (hkn : KnowInv { s with up := u, mode := md, k := k', known := kn' })
    (hq : md ≠ .none → k' = { cur := k'.cur }) :
    Inv { s with up := u, mode := md, k := k', known := kn' } :=
  inv_daemon s _ h 0 (fun _ _ => rfl) rfl rfl rfl rfl rfl (h.doc 0) id (Or.inl rfl) hknown hmode hkn hq

theorem inv_dStartStop (s : St) (h : Inv s) (u : Bool) :
    Inv { s with up := u, mode := .none, k := {}, known := fun _ => false } :=
  inv_daemon_ctl s h nofun trivial (KnowInv.reset _ 0 rfl) (fun hm => absurd rfl hm)

theorem inv_mode_none (s : St) (h : Inv s) (kn' : Nat → Bool)
    (hk : ∀ n, kn' n = true →
      s.up = true ∧ (s.fl n).mess = true ∧ (s.fl n).info = true ∧ (s.fl n).todo = false ∧ (s.fl n).intd = false) :
    Inv { s with mode := .none, known := kn' } :=
  inv_daemon_ctl s h hk trivial (h.kn.congr rfl rfl rfl id) (fun hm => absurd rfl hm)

theorem KnowInv.at_ (s : St) (n : Nat) (hk : KnowInv s) : KnowInv { s with k := s.k.at n } := by
  unfold Know.at
  split
  · exact hk
  · exact KnowInv.reset _ n rfl

theorem Know.at_cur (k : Know) (n : Nat) : (k.at n).cur = n := by
  unfold Know.at; split <;> simp_all

theorem Know.see_cur (k : Know) (f : File) (p : Bool) : (k.see f p).cur = k.cur := by
  unfold Know.see; split <;> rfl

theorem KnowInv.see (s : St) (f : File) (p : Bool) (hk : KnowInv s) (hg : (s.fl s.k.cur).get f = p) :
    KnowInv { s with k := s.k.see f p } := by
  obtain ⟨h1, h2, h3, h4, h5, h6, h7, h8⟩ := hk
  unfold Know.see
  split
  · exact ⟨h1, h2, h3, h4, h5, h6, fun _ _ => hg, h8⟩
  · exact ⟨fun _ => hg, nofun, h3, h4, h5, h6, h7, h8⟩
  · exact ⟨nofun, fun _ => hg, h3, h4, h5, h6, h7, h8⟩
  · exact ⟨h1, h2, h3, h4, h5, fun _ _ => hg, h7, h8⟩
  · exact ⟨h1, h2, fun _ => hg, h4, h5, h6, h7, h8⟩
  · exact ⟨h1, h2, h3, fun _ => hg, h5, h6, h7, h8⟩
  · exact ⟨h1, h2, h3, h4, fun _ => hg, h6, h7, h8⟩
  · exact ⟨h1, h2, h3, h4, h5, h6, h7, h8⟩

theorem doc_todo {f : Flags} (h : f.documented = true) (ht : f.todo = true) : f.mess = true ∧ f.bounce = false := by
  obtain ⟨a, b, c, d, e, g, k⟩ := f
  simp only at ht; subst ht
  cases a <;> cases k <;> simp_all [Flags.documented, Flags.isS1, Flags.isS2, Flags.isS3, Flags.isS4, Flags.isS5]

/-- qmail-send saw info/ and no todo/ of its current message `n`: `n` is preprocessed -/
theorem KnowInv.seen_s5 {s : St} (hk : KnowInv s) {n : Nat} (hcur : s.k.cur = n) (hd : (s.fl n).documented = true)
    (ht : s.k.todoAbs = true) (hi : s.k.infoPres = true) :
    (s.fl n).mess = true ∧ (s.fl n).info = true ∧ (s.fl n).todo = false ∧ (s.fl n).intd = false := by
  subst hcur
  have hinfo := hk.infoPres hi
  have htodo := hk.todoAbs ht (Or.inl hinfo)
  have hmi := doc_s5 hd hinfo htodo
  exact ⟨hmi.1, hinfo, htodo, hmi.2⟩

/-- a `stat`, or an unlink failing with ENOENT, outside todo_do's own message -/
theorem inv_obs (s : St) (h : Inv s) (n : Nat) (f : File) (hup : s.up = true) :
    Inv { s with mode := .none, k := (s.k.at n).see f ((s.fl n).get f),
                 known := upd s.known n (s.known n || (((s.k.at n).see f ((s.fl n).get f)).infoPres &&
                                                        ((s.k.at n).see f ((s.fl n).get f)).todoAbs)) } := by
  have hkn : KnowInv { s with k := (s.k.at n).see f ((s.fl n).get f) } :=
    KnowInv.see { s with k := s.k.at n } f _ (KnowInv.at_ s n h.kn) (by simp [Know.at_cur])
  have hcur : ((s.k.at n).see f ((s.fl n).get f)).cur = n := by rw [Know.see_cur, Know.at_cur]
  refine inv_daemon_ctl s h ?_ trivial (hkn.congr rfl rfl rfl id) (fun hm => absurd rfl hm)
  intro m hm
  by_cases hmn : m = n
  · subst hmn
    simp only [upd_same, Bool.or_eq_true, Bool.and_eq_true] at hm
    rcases hm with hm | ⟨hi, ht⟩
    · exact h.known m hm
    · exact ⟨hup, hkn.seen_s5 hcur (h.doc m) ht hi⟩
  · rw [upd_other _ _ _ _ hmn] at hm; exact h.known m hm

/-- A step of qmail-send / qmail-clean that sets one file of a message `n` no running qmail-queue owns.  Of the
    registered messages only `n` has to be looked at again. -/
theorem inv_daemon_setF (s : St) (h : Inv s) (n : Nat) (x : File) (b : Bool) {md : DMode} {k' : Know} {kn' : Nat → Bool}
    (hdoc : ((s.fl n).set x b).documented = true)
    (hmess : (s.fl n).mess = true)
    (hno : noLiveOwner s n)
    (hother : ∀ m, m ≠ n → kn' m = true → s.known m = true)
    (hn : kn' n = true → s.up = true ∧ ((s.fl n).set x b).mess = true ∧ ((s.fl n).set x b).info = true ∧
      ((s.fl n).set x b).todo = false ∧ ((s.fl n).set x b).intd = false)
    (hmode : ModeInv { (s.setF n x b) with mode := md, k := k', known := kn' })
    (hkn : KnowInv { (s.setF n x b) with mode := md, k := k', known := kn' })
    (hq : md ≠ .none → k' = { cur := k'.cur }) :
    Inv { (s.setF n x b) with mode := md, k := k', known := kn' } := by
  refine inv_daemon s _ h n (setF_other_fl s n x b) rfl rfl rfl rfl rfl (by simpa using hdoc) (fun _ => hmess)
    (Or.inr hno) (fun m hk => ?_) hmode hkn hq
  by_cases hmn : m = n
  · subst hmn; simpa using hn hk
  · rw [show _ = s.fl m from setF_other_fl s n x b m hmn]; exact h.known m (hother m hmn hk)

/-- todo_do: (re)moving info/local/remote of a message that has todo/n -/
theorem inv_inTodo_set (s : St) (h : Inv s) (n : Nat) (x : File) (b mi mi' : Bool) (hmode : s.mode = .inTodo n mi)
    (hx : x = .loc ∨ x = .rem ∨ x = .info) (hmi' : mi' = true → ((s.fl n).set x b).info = true) :
    Inv { (s.setF n x b) with mode := .inTodo n mi' } := by
  have hm := h.mode
  rw [ModeInv, hmode] at hm
  obtain ⟨hup, hmess, htodo, hb, _⟩ := hm
  have hq := h.quiet (by rw [hmode]; simp)
  have hset : ((s.fl n).set x b).mess = true ∧ ((s.fl n).set x b).todo = true ∧ ((s.fl n).set x b).bounce = false := by
    rcases hx with rfl | rfl | rfl <;> exact ⟨hmess, htodo, hb⟩
  refine inv_daemon_setF s h n x b (doc_s4 hset.1 hset.2.1 hset.2.2) hmess
    (noLiveOwner_of s h n (Or.inl htodo)) (fun _ _ hk => hk) (fun hk => ?_) ?_ (KnowInv.reset _ s.k.cur hq) (fun _ => hq)
  · -- a registered message has no todo/, so it is not `n`
    obtain ⟨_, _, _, ht, _⟩ := h.known n hk
    rw [ht] at htodo; cases htodo
  · simp only [ModeInv, setF_fl_same, setF_up]
    exact ⟨hup, hset.1, hset.2.1, hset.2.2, hmi'⟩

/-- delivery phase: a change to local/remote/bounce of a preprocessed message `n`; what qmail-send knows about `n`
    stays valid when the matching bit is adjusted -/
theorem inv_s5_set (s : St) (h : Inv s) (n : Nat) (x : File) (b : Bool) (k' : Know)
    (hmode : s.mode = .none) (hup : s.up = true)
    (hcore : (s.fl n).mess = true ∧ (s.fl n).info = true ∧ (s.fl n).todo = false ∧ (s.fl n).intd = false)
    (hx : x = .loc ∨ x = .rem ∨ x = .bounce)
    (hcur : k'.cur = n)
    (h1 : k'.infoPres = (s.k.at n).infoPres) (h2 : k'.infoAbs = (s.k.at n).infoAbs)
    (h3 : k'.locAbs = true → (x = .loc ∧ b = false) ∨ (x ≠ .loc ∧ (s.k.at n).locAbs = true))
    (h4 : k'.remAbs = true → (x = .rem ∧ b = false) ∨ (x ≠ .rem ∧ (s.k.at n).remAbs = true))
    (h5 : k'.bounceAbs = true → (x = .bounce ∧ b = false) ∨ (x ≠ .bounce ∧ (s.k.at n).bounceAbs = true))
    (h6 : k'.todoAbs = (s.k.at n).todoAbs) (h7 : k'.messPres = (s.k.at n).messPres)
    (h8 : k'.unlinkedInfo = (s.k.at n).unlinkedInfo) :
    Inv { (s.setF n x b) with k := k' } := by
  obtain ⟨hmess, hinfo, htodo, hintd⟩ := hcore
  obtain ⟨em, ed, et, ei⟩ := Flags.set_lrb (s.fl n) b hx
  have hkn : KnowInv { (s.setF n x b) with k := k' } := by
    obtain ⟨g1, g2, g3, g4, g5, g6, g7, g8⟩ := KnowInv.at_ s n h.kn
    simp only [Know.at_cur] at g1 g2 g3 g4 g5 g6 g7 g8
    have hne : ∀ {y}, x ≠ y → ((s.fl n).set x b).get y = (s.fl n).get y := Flags.get_set_ne _ _
    constructor <;> simp only [hcur, setF_fl_same, St.stale, setF_atime, setF_now]
    · rw [h1, ei]; exact g1
    · rw [h2, ei]; exact g2
    · intro hp; rcases h3 hp with ⟨rfl, rfl⟩ | ⟨hx', hh⟩
      · rfl
      · exact (hne hx').trans (g3 hh)
    · intro hp; rcases h4 hp with ⟨rfl, rfl⟩ | ⟨hx', hh⟩
      · rfl
      · exact (hne hx').trans (g4 hh)
    · intro hp; rcases h5 hp with ⟨rfl, rfl⟩ | ⟨hx', hh⟩
      · rfl
      · exact (hne hx').trans (g5 hh)
    · rw [h6, et]; intro hp _; exact g6 hp (Or.inl hinfo)
    · rw [h7, em]; exact g7
    · rw [h8]; intro hp
      rw [(g8 hp).1] at hinfo; cases hinfo
  have hmess' := em.trans hmess; have hinfo' := ei.trans hinfo
  have htodo' := et.trans htodo; have hintd' := ed.trans hintd
  exact inv_daemon_setF s h n x b (doc_s5' hmess' hinfo' htodo' hintd') hmess
    (noLiveOwner_of s h n (Or.inr (Or.inl hinfo))) (fun _ _ hk => hk) (fun _ => ⟨hup, hmess', hinfo', htodo', hintd'⟩)
    (by simp [ModeInv, hmode]) hkn (fun hm => absurd hmode hm)

/-- what stands behind a request to remove intd/n and mess/n: qmail-send has just unlinked info/n itself, or it saw
    mess/n without info/n and todo/n more than OSSIFIED after inode n was made -/
theorem foop_facts {s : St} (h : Inv s) {n : Nat} (hcur : s.k.cur = n)
    (hk : s.k.unlinkedInfo ∨ (s.k.messPres ∧ s.k.infoAbs ∧ s.k.todoAbs ∧ s.stale n)) :
    (s.fl n).mess = true ∧ (s.fl n).todo = false ∧ (s.fl n).info = false ∧ noLiveOwner s n := by
  have hkn := h.kn
  rcases hk with hu | ⟨hmp, hia, hta, hst⟩
  · have := hkn.unlinkedInfo hu
    rw [hcur] at this
    rw [this.1]; exact ⟨rfl, rfl, rfl, this.2⟩
  · have h1 := hkn.messPres hmp; have h2 := hkn.infoAbs hia; have h3 := hkn.todoAbs hta
    rw [hcur] at h1 h2 h3
    exact ⟨h1 hst, h3 (Or.inr hst), h2, noLiveOwner_of s h n (Or.inr (Or.inr hst))⟩

theorem inv_dUnlinkInfo (s : St) (h : Inv s) (n : Nat) (hm : s.mode = .none)
    (hk : s.k.cur = n ∧ s.k.locAbs ∧ s.k.remAbs ∧ s.k.todoAbs ∧ s.k.infoPres ∧ s.k.bounceAbs) :
    Inv { (s.setF n .info false) with
          k := { s.k with infoPres := false, infoAbs := true, unlinkedInfo := true }, known := upd s.known n false } := by
  obtain ⟨rfl, hl, hr, ht, hi, hb⟩ := hk
  obtain ⟨hmess, hinfo, htodo, hintd⟩ := h.kn.seen_s5 rfl (h.doc _) ht hi
  have hfl' : (s.fl s.k.cur).set .info false = { mess := true } :=
    Flags.ext' hmess hintd htodo rfl (h.kn.locAbs hl) (h.kn.remAbs hr) (h.kn.bounceAbs hb)
  have hnlo := noLiveOwner_of s h _ (Or.inr (Or.inl hinfo))
  refine inv_daemon_setF s h _ .info false (by rw [hfl']; decide) hmess hnlo
    (fun m hmn hk => by rwa [upd_other _ _ _ _ hmn] at hk) (fun hk => by simp at hk) (by simp [ModeInv, hm]) ?_
    (fun hm' => absurd hm hm')
  -- every bit of the new knowledge is read off `fl n = { mess := true }`
  refine ⟨?_, ?_, ?_, ?_, ?_, ?_, ?_, fun _ => ⟨?_, hnlo⟩⟩ <;> simp [hfl']

/-- qmail-clean's unlinks: the clauses shared by the four cases -/
theorem inv_clean_set (s : St) (h : Inv s) (n : Nat) (x : File) (md' : DMode)
    (hmsg : s.mode.msg = some n)
    (hdoc : ((s.fl n).set x false).documented = true)
    (hnk : (s.fl n).todo = true ∨ (s.fl n).info = false)
    (hmode : ModeInv { (s.setF n x false) with mode := md' }) :
    Inv { (s.setF n x false) with mode := md' } := by
  obtain ⟨hmess, hno⟩ := mode_msg h hmsg
  have hq := h.quiet fun hm => by rw [hm] at hmsg; cases hmsg
  refine inv_daemon_setF s h n x false hdoc hmess hno (fun _ _ hk => hk) (fun hk => ?_) hmode
    (KnowInv.reset _ s.k.cur hq) (fun _ => hq)
  -- a message qmail-clean works on is not registered as preprocessed: it has todo/n, or no info/n
  obtain ⟨_, _, hi, ht, _⟩ := h.known n hk
  rw [hi, ht] at hnk; simp at hnk

theorem setF_mode_eq (s : St) (n : Nat) (x : File) (b : Bool) (md : DMode) (h : s.mode = md) :
    s.setF n x b = { (s.setF n x b) with mode := md } := by
  cases s; simp_all [St.setF]

/-! ### the invariant holds in every reachable state -/

theorem inv_init : Inv {} := by
  constructor
  · intro n; exact doc_empty
  · intro n hm; simp at hm
  · intro i; simp [IPc.t0]
  · intro i n hn; simp [IPc.num] at hn
  · intro a b n _ hn; simp [IPc.num] at hn
  · intro n hk; simp at hk
  · simp [ModeInv]
  · exact KnowInv.reset _ 0 rfl
  · intro hm; simp at hm

theorem Step.inv {s s' : St} {e : Ev} (h : Inv s) (hs : Step s e s') : Inv s' := by
  have hmi := h.mode
  cases hs with
  | tick t hle =>
    exact inv_relax s _ h rfl rfl rfl rfl rfl rfl hle (fun _ => Or.inl rfl) (fun _ => Or.inl rfl) (Or.inr rfl)
  | iStart i => exact inv_inj_drop s h i _ rfl (Nat.le_refl _)
  | iOpenPid i n t0 hpc hal hp hm =>
    have hst := h.started i
    have hfl0 : s.fl n = {} := doc_nomess (h.doc n) hm
    -- `simp` evaluates the control points before and after; left are the frame facts for the three maps the event
    -- updates at `n` or `i`, and `hat0`: pid/n is stamped now, not before the instance started
    apply inv_injector s _ h i n <;> simp [hpc, IPc.t0, IPc.num, IPc.flags, IPc.holdsPid, hal, hp, hfl0]
    case hpidf => exact fun m hm => upd_other _ _ _ _ hm
    case hat => exact fun m hm => upd_other _ _ _ _ hm
    case hinj => exact fun j hj => upd_other _ _ _ _ hj
    case hat0 => simpa [hpc, IPc.t0] using hst
  | iLinkMess i n t0 hpc hal hp hm =>
    have hal' : s.alive (s.inj i).t0 = true := by simpa [hpc, IPc.t0] using hal
    obtain ⟨hf, hat, _⟩ := h.own i n (by simp [hpc, IPc.num]) hal'
    simp only [hpc, IPc.flags, IPc.t0] at hf hat
    -- as for `iOpenPid`, here and in the next case: with the flags of `n` known (`hf`: those of the control point
    -- before) `simp` computes the hypotheses about `n` and `i`; left are the frame facts for the maps updated there
    apply inv_injector s _ h i n <;> simp [hpc, IPc.t0, IPc.num, IPc.flags, IPc.holdsPid, hal, hp, hf, Flags.set, hat]
    case hfl => exact setF_other_fl s n .mess true
    case hmi => exact fun m hm => upd_other _ _ _ _ hm
    case hinj => exact fun j hj => upd_other _ _ _ _ hj
  | iUnlinkPid i n t0 hpc hal hp =>
    have hal' : s.alive (s.inj i).t0 = true := by simpa [hpc, IPc.t0] using hal
    obtain ⟨hf, hat, _⟩ := h.own i n (by simp [hpc, IPc.num]) hal'
    simp only [hpc, IPc.flags, IPc.t0] at hf hat
    have hi := h.ino n (by simp [hf])
    apply inv_injector s _ h i n <;> simp [hpc, IPc.t0, IPc.num, IPc.flags, IPc.holdsPid, hal, hp, hf, Flags.set, hat, hi]
    case hpidf => exact fun m hm => upd_other _ _ _ _ hm
    case hinj => exact fun j hj => upd_other _ _ _ _ hj
  | iCreatIntd i n t0 hpc hal =>
    exact inv_inj_setF s h i n .intd true _ hpc rfl hal (Or.inr (Or.inl rfl)) rfl (Or.inr ⟨rfl, rfl, rfl, rfl⟩)
  | iLinkTodo i n t0 hpc hal =>
    exact inv_inj_setF s h i n .todo true _ hpc rfl hal (Or.inr (Or.inr rfl)) rfl (Or.inl rfl)
  | iUnIntd i n t0 hpc hal =>
    exact inv_inj_setF s h i n .intd false _ hpc rfl hal (Or.inr (Or.inl rfl)) rfl (Or.inr ⟨rfl, rfl, rfl, rfl⟩)
  | iUnMess i n t0 hpc hal =>
    rcases hpc with hpc | hpc <;>
      exact inv_inj_setF s h i n .mess false _ hpc rfl hal (Or.inl ⟨rfl, rfl⟩) rfl (Or.inl rfl)
  | iDie i => exact inv_inj_drop s h i _ rfl (Nat.zero_le _)
  | dStart => exact inv_dStartStop s h true
  | dRefused => exact h
  | dDie => exact inv_dStartStop s h false
  | dObsTodo => exact h
  | dObs n f hup => exact inv_obs s h n f hup
  | dOpenTodo n hup ht =>
    have hd := doc_todo (h.doc n) ht
    exact inv_daemon_ctl s h h.known ⟨hup, hd.1, ht, hd.2, nofun⟩ (KnowInv.reset _ n rfl) (fun _ => rfl)
  | dAbortTodo => exact inv_mode_none s h _ h.known
  | dUnlinkTodo n f hup hm hf =>
    rw [setF_mode_eq s _ f false _ hm]
    exact inv_inTodo_set s h _ f false false false hm hf nofun
  | dUnlinkChan n f hup hm hf hk =>
    obtain ⟨_, hcore⟩ := h.known _ hk
    apply inv_s5_set s h _ f false _ hm hup hcore (hf.imp_right Or.inl) <;>
      rcases hf with rfl | rfl <;> simp [Know.see, Know.at_cur]
  | dUnlinkBounce n hup hm hk =>
    obtain ⟨hcur, hl, hr, ht, hi⟩ := hk
    have hcore := h.kn.seen_s5 hcur (h.doc n) ht hi
    have hat : s.k.at n = s.k := by simp [Know.at, hcur]
    apply inv_s5_set s h _ .bounce false _ hm hup hcore (by simp) <;> simp [hat, hcur]
  | dUnlinkInfo n hup hm hk => exact inv_dUnlinkInfo s h n hm hk
  | dCreatInfo n hup hm => exact inv_inTodo_set s h _ .info true false true hm (by simp) (by simp [Flags.set])
  | dCreatChan n f hup hm hf =>
    rw [ModeInv, hm] at hmi
    rw [setF_mode_eq s _ f true _ hm]
    refine inv_inTodo_set s h _ f true true true hm (hf.imp_right Or.inl) fun _ => ?_
    obtain ⟨_, _, _, _, hinfo⟩ := hmi
    rcases hf with rfl | rfl <;> exact hinfo rfl
  | dCreatBounce n hup hm hk =>
    obtain ⟨_, hcore⟩ := h.known _ hk
    apply inv_s5_set s h _ .bounce true _ hm hup hcore (by simp) <;> simp [Know.at_cur]
  | dReqTodo n hup hm =>
    rw [ModeInv, hm] at hmi
    obtain ⟨hup', hmess, htodo, hbounce, hinfo⟩ := hmi
    exact inv_daemon_ctl s h h.known ⟨hup', hmess, htodo, hbounce, hinfo rfl⟩ (KnowInv.reset _ n rfl) (fun _ => rfl)
  | dReqFoop n hup hcur hk =>
    exact inv_daemon_ctl s h h.known ⟨hup, foop_facts h hcur hk⟩ (KnowInv.reset _ n rfl) (fun _ => rfl)
  | cTodoIntd n hm =>
    rw [ModeInv, hm] at hmi
    obtain ⟨hup, hmess, htodo, hb, hinfo⟩ := hmi
    apply inv_clean_set s h n .intd _ (by rw [hm]; rfl) (doc_s4 hmess htodo hb) (Or.inl htodo)
    simp [ModeInv, Flags.set, hup, hmess, htodo, hb, hinfo]
  | cTodoTodo n hm =>
    rw [ModeInv, hm] at hmi
    obtain ⟨hup, hmess, htodo, hb, hinfo, hintd⟩ := hmi
    apply inv_clean_set s h n .todo _ (by rw [hm]; rfl) (doc_s5' hmess hinfo rfl hintd) (Or.inl htodo)
    simp [ModeInv, Flags.set, hup, hmess, hinfo, hintd]
  | cFoopIntd n hm =>
    rw [ModeInv, hm] at hmi
    obtain ⟨hup, hmess, htodo, hinfo, hno⟩ := hmi
    have h23 := doc_s23 (h.doc n) hmess hinfo htodo
    have hfl' : (s.fl n).set .intd false = { mess := true } :=
      Flags.ext' hmess rfl htodo hinfo h23.1 h23.2.1 h23.2.2
    apply inv_clean_set s h n .intd _ (by rw [hm]; rfl) (by rw [hfl']; rfl) (Or.inr hinfo)
    simp only [ModeInv, setF_fl_same, setF_up, hfl']
    exact ⟨hup, trivial, hno⟩
  | cFoopMess n hm =>
    rw [ModeInv, hm] at hmi
    obtain ⟨hup, hfl, hno⟩ := hmi
    apply inv_clean_set s h n .mess _ (by rw [hm]; rfl) (by rw [hfl]; rfl) (Or.inr (by rw [hfl]))
    simp [ModeInv, hup]
  | cDoneTodo n plus hm =>
    rw [ModeInv, hm] at hmi
    refine inv_mode_none s h _ fun m hk => ?_
    by_cases hmn : m = n
    · subst hmn; exact hmi
    · rw [upd_other _ _ _ _ hmn] at hk; exact h.known m hk
  | cDone => exact inv_mode_none s h _ h.known
  | cUnlinkPid n hst =>
    refine inv_relax s _ h rfl rfl rfl rfl rfl rfl (Nat.le_refl _) (fun _ => Or.inl rfl) (fun m => ?_) (Or.inl ⟨rfl, rfl⟩)
    by_cases hm : m = n
    · subst hm; exact Or.inr hst
    · exact Or.inl (upd_other _ _ _ _ hm)
  | crash =>
    have hr : ∀ i, (crashPc (s.inj i)).num = none ∧ (crashPc (s.inj i)).t0 ≤ s.now := fun i => by
      cases s.inj i <;> exact ⟨rfl, Nat.zero_le _⟩
    exact inv_dStartStop _ (inv_relax s { s with inj := fun i => crashPc (s.inj i) } h rfl rfl rfl rfl rfl rfl
      (Nat.le_refl _) (fun i => Or.inr (hr i)) (fun _ => Or.inl rfl) (Or.inl ⟨rfl, rfl⟩)) false

theorem inv_step (s s' : St) (e : Ev) (h : Inv s) (ha : accept s e = some s') : Inv s' :=
  (accept_step ha).inv h

theorem acceptAll_eq : ∀ (es : List Ev) (s : St), acceptAll s es = es.foldlM accept s :=
  Acceptor.eq_foldlM (fun _ => rfl) fun s e es => by rw [acceptAll]; cases accept s e <;> rfl

theorem inv_acceptAll (s s' : St) (es : List Ev) (h : Inv s) (ha : acceptAll s es = some s') : Inv s' :=
  Acceptor.foldlM_induct Inv (fun s e s' => inv_step s s' e) es s s' h (acceptAll_eq es s ▸ ha)

end Nq.QueueSys
