/- Lemmas for C09: qmail-remote blast() over the `smtpto` buffer (`Nq.RemoteBuf`).
   What the socket has taken plus the bytes of the failing write, against the pure encoder; on which
   side of `flagcritical = 1` a failing write falls. -/
import Nq.RemoteBuf
import Nq.Lemmas.SmtpIO

namespace Nq.Lemmas.RemoteBuf
open Nq Nq.Substdio Nq.SmtpOut Nq.SmtpIO Nq.RemoteSmtp Nq.RemoteBuf Nq.Lemmas Nq.Lemmas.C20 Nq.Lemmas.SmtpIO

/-! ## a failing `allwrite` / `substdio_flush` / `substdio_put` -/

theorem flushTry_eq (s : OSt) : (allwrite s.ws s.buf).2.1 ++ flushTry s = s.buf := by
  obtain ⟨⟨t, ht⟩, _⟩ := allwrite_spec s.ws s.buf
  have : flushTry s = t := by
    unfold flushTry
    have := congrArg (List.drop (allwrite s.ws s.buf).2.1.length) ht
    simpa using this
  rw [this]; exact ht.symm

theorem flush_fail (s : OSt) (h : (flush s).2 = false) :
    (flush s).1.buf = [] ∧ flushTry s ≠ [] ∧ (flush s).1.out ++ flushTry s = s.out ++ s.buf ∧ 0 ∈ s.ws := by
  unfold flush at h ⊢
  by_cases hp : s.p = 0
  · rw [if_pos hp] at h; simp at h
  · rw [if_neg hp] at h ⊢
    simp only at h ⊢
    have hlt := allwrite_fail _ _ h
    have he := flushTry_eq s
    refine ⟨trivial, ?_, ?_, (allwrite_ws _ _).1 h⟩
    · intro e
      rw [e, List.append_nil] at he
      rw [he] at hlt; omega
    · rw [List.append_assoc, he]

/-- `hd`: the piece fits the buffer, so `put` does not take the branch that writes it directly; it can then fail only in
the flush that makes room -/
theorem put_fail (s : OSt) (d : Bytes) (hd : d.length ≤ s.n) (h : (put s d).2 = false) :
    (put s d).1.buf = [] ∧ flushTry s ≠ [] ∧ (put s d).1.out ++ flushTry s = s.out ++ s.buf ∧ 0 ∈ s.ws ∧
    d ≠ [] := by
  unfold put at h ⊢
  by_cases hl : d.length > usub32 s.n s.p
  · rw [if_pos hl] at h ⊢
    by_cases hr : (flush s).2 = true
    · rw [if_pos hr] at h
      exfalso
      have hn := flush_n s
      have : (putLoop (d.length + 1) (if s.n < OUTSIZE then OUTSIZE else s.n) (flush s).1 d).2.2 = true := by
        simp only [putLoop]
        rw [if_neg (by rw [hn]; omega)]
      rw [if_pos this] at h; simp at h
    · rw [if_neg hr]
      have hf := flush_fail s (by simpa using hr)
      exact ⟨hf.1, hf.2.1, hf.2.2.1, hf.2.2.2, by intro e; subst e; simp at hl⟩
  · rw [if_neg hl] at h; simp at h

/-- The step of `bloop_spec`. A put that fails does so in the flush that makes room for its piece (`put_fail`), so the
piece is not among the bytes tried and `rest ≠ []`: a write failing inside the loop of `blast()` carries a strict
prefix of the body (`BAgree`, `dropped _ false _`). -/
theorem putAllT_spec (o : OSt) (ds : List Bytes) (h : OWF o) (hd : ∀ d ∈ ds, d.length ≤ o.n) :
    (∃ o1, putAllT o ds = (o1, none) ∧ OPostW o ds.flatten (o1, true)) ∨
    ∃ o1 t, putAllT o ds = (o1, some t) ∧ 0 ∈ o.ws ∧ o1.buf = [] ∧ t ≠ [] ∧
      ∃ rest, rest ≠ [] ∧ o1.out ++ t ++ rest = o.out ++ o.buf ++ ds.flatten := by
  induction ds generalizing o with
  | nil => exact Or.inl ⟨o, rfl, .refl h⟩
  | cons d ds ih =>
    simp only [putAllT]
    have p := put_post o d h
    by_cases hr : (put o d).2 = true
    · rw [if_pos hr]
      rcases ih (put o d).1 p.wf (by intro x hx; rw [p.n]; exact hd x (by simp [hx])) with
        ⟨o1, e, w⟩ | ⟨o1, t, e, j1, j2, j3, rest, j4, j5⟩
      · exact Or.inl ⟨o1, e, p.trans hr w rfl⟩
      · exact Or.inr ⟨o1, t, e, p.ws j1, j2, j3, rest, j4, by rw [j5, p.eq hr]; simp⟩
    · rw [if_neg hr]
      obtain ⟨f1, f2, f3, f4, f5⟩ := put_fail o d (hd d (by simp)) (by simpa using hr)
      exact Or.inr ⟨_, _, rfl, f4, f1, f2, d ++ ds.flatten, by simp [f5], by rw [f3]; simp⟩

/-! ## the encoder's output before the terminating dot line -/

/-- everything `blast()` puts before the statement `flagcritical = 1` when the message is read to its end -/
def rbody (st : RSt) (m : Bytes) : Bytes :=
  rpart st m ++ (match rstate st m with | .cr => [CR, LF] | _ => [])

theorem rbody_nil (st : RSt) : rbody st [] = match st with | .cr => [CR, LF] | _ => [] := rfl

theorem rbody_cons (st : RSt) (c : Byte) (m : Bytes) :
    rbody st (c :: m) = (rstep st c).2 ++ rbody (rstep st c).1 m := by
  simp [rbody, rpart, rstate]

theorem rrun_rbody (st : RSt) (m e : Bytes) (h : rrun st m = some e) : e = rbody st m ++ [DOT, CR, LF] := by
  rw [rrun_eq] at h
  unfold rbody
  -- the finish is `.` CR LF, behind the CR LF that a pending CR still needs
  cases hs : rstate st m <;> simp [hs, rfinish] at h ⊢ <;> exact h.symm

/-! ## `blast()` over the buffer against the pure encoder -/

/-- `pre` = on the wire or in the buffer before; `ws` = the write script.
    * `sent`: the message is complete and the wire has all of it;
    * a failing write *before* `flagcritical = 1`: wire ++ tried is a **strict** prefix of the body part;
    * a failing write *after* it: no read error, the message is complete, and wire ++ tried is the whole body
      part (the flush forced by the put of the terminator) or the whole encoding (the final flush). -/
def BAgree (pre : Bytes) (err : Bool) (st : RSt) (m : Bytes) (ws : List Nat) : BRes → Prop
  | .sent o' => err = false ∧ rrun st m = some (rbody st m ++ [DOT, CR, LF]) ∧
      o'.out = pre ++ rbody st m ++ [DOT, CR, LF] ∧ o'.buf = []
  | .partialLine o' => err = false ∧ rrun st m = none ∧ o'.out ++ o'.buf = pre ++ rpart st m
  | .tempRead o' => err = true ∧ o'.out ++ o'.buf = pre ++ rpart st m
  | .dropped o' false t => 0 ∈ ws ∧ o'.buf = [] ∧ t ≠ [] ∧
      ∃ rest, rest ≠ [] ∧ o'.out ++ t ++ rest = pre ++ rbody st m
  | .dropped o' true t => 0 ∈ ws ∧ o'.buf = [] ∧ t ≠ [] ∧ err = false ∧
      rrun st m = some (rbody st m ++ [DOT, CR, LF]) ∧
      (o'.out ++ t = pre ++ rbody st m ∨ o'.out ++ t = pre ++ rbody st m ++ [DOT, CR, LF])

theorem BAgree_step (pre : Bytes) (err : Bool) (st : RSt) (c : Byte) (m : Bytes) (ws ws' : List Nat) (R : BRes)
    (hw : 0 ∈ ws' → 0 ∈ ws)
    (h : BAgree (pre ++ (rstep st c).2) err (rstep st c).1 m ws' R) : BAgree pre err st (c :: m) ws R := by
  cases R with
  | sent o' =>
    obtain ⟨h1, h2, h3, h4⟩ := h
    exact ⟨h1, by rw [rrun_cons, h2, rbody_cons]; simp, by rw [h3, rbody_cons]; simp, h4⟩
  | partialLine o' =>
    obtain ⟨h1, h2, h3⟩ := h
    exact ⟨h1, by rw [rrun_cons, h2]; rfl, by rw [h3]; simp [rpart]⟩
  | tempRead o' =>
    obtain ⟨h1, h3⟩ := h
    exact ⟨h1, by rw [h3]; simp [rpart]⟩
  | dropped o' crit t =>
    cases crit with
    | false =>
      obtain ⟨h1, h2, h3, rest, h4, h5⟩ := h
      exact ⟨hw h1, h2, h3, rest, h4, by rw [h5, rbody_cons]; simp⟩
    | true =>
      obtain ⟨h1, h2, h3, h4, h5, h6⟩ := h
      refine ⟨hw h1, h2, h3, h4, by rw [rrun_cons, h5, rbody_cons]; simp, ?_⟩
      rcases h6 with h6 | h6
      · left; rw [h6, rbody_cons]; simp
      · right; rw [h6, rbody_cons]; simp

theorem rputs_length (st : RSt) (c : Byte) : ∀ d ∈ rputs st c, d.length ≤ 2 := by
  rcases byte_class c with rfl | rfl | rfl | ⟨h1, h2, h3⟩
  · cases st <;> decide
  · cases st <;> decide
  · cases st <;> decide
  · cases st <;> simp [rputs, h1, h2, h3]

/-- `flagcritical = 1; put(".\r\n",3); flush`.  With a buffer of at least three bytes (`hn`) the put fails only in its
flush (`put_fail`), before any of the three bytes is written. -/
theorem bfinish_spec (o : OSt) (h : OWF o) (hn : 3 ≤ o.n) :
    match bfinish o with
    | .sent o' => o'.out = o.out ++ o.buf ++ [DOT, CR, LF] ∧ o'.buf = []
    | .dropped o' crit t => crit = true ∧ 0 ∈ o.ws ∧ o'.buf = [] ∧ t ≠ [] ∧
        (o'.out ++ t = o.out ++ o.buf ∨ o'.out ++ t = o.out ++ o.buf ++ [DOT, CR, LF])
    | _ => False := by
  unfold bfinish
  simp only [putAllT]
  have p := put_post o [DOT, CR, LF] h
  by_cases hr : (put o [DOT, CR, LF]).2 = true
  · rw [if_pos hr]
    simp only
    have p4' := p.eq hr
    obtain ⟨f, fb, -⟩ := flush_post _ p.wf
    by_cases hfl : (flush (put o [DOT, CR, LF]).1).2 = true
    · rw [if_pos hfl]
      simp only
      refine ⟨?_, fb⟩
      have := f.eq hfl
      rw [fb, List.append_nil, List.append_nil, p4'] at this
      exact this
    · rw [if_neg hfl]
      simp only
      obtain ⟨g1, g2, g3, g4⟩ := flush_fail _ (by simpa using hfl)
      exact ⟨trivial, p.ws g4, g1, g2, Or.inr (by rw [g3, p4'])⟩
  · rw [if_neg hr]
    simp only
    obtain ⟨f1, f2, f3, f4, _⟩ := put_fail o [DOT, CR, LF] (by simpa using hn) (by simpa using hr)
    exact ⟨trivial, f4, f1, f2, Or.inl f3⟩

theorem bloop_spec (err : Bool) (m : Bytes) : ∀ (o : OSt) (st : RSt), OWF o → 3 ≤ o.n →
    BAgree (o.out ++ o.buf) err st m o.ws (bloop err o st m) := by
  induction m with
  | nil =>
    intro o st h hn
    simp only [bloop]
    cases err with
    | true => simp [BAgree, rpart]
    | false =>
      simp only [Bool.false_eq_true, if_false]
      -- both ends of the loop with a complete message (`top`; `cr`, after the put of CR LF) run `bfinish`, from an `o1`
      -- that holds `body` behind what `o` held
      have fin : ∀ (o1 : OSt) (body : Bytes) (st' : RSt), OWF o1 → 3 ≤ o1.n → (0 ∈ o1.ws → 0 ∈ o.ws) →
          o1.out ++ o1.buf = o.out ++ o.buf ++ body → rbody st' [] = body →
          rrun st' [] = some (body ++ [DOT, CR, LF]) →
          BAgree (o.out ++ o.buf) false st' [] o.ws (bfinish o1) := by
        intro o1 body st' h1 hn1 hw he hb hrr
        have := bfinish_spec o1 h1 hn1
        generalize bfinish o1 = R at this
        cases R with
        | sent o' =>
          obtain ⟨a1, a2⟩ := this
          exact ⟨rfl, by rw [hb]; exact hrr, by rw [a1, he, hb], a2⟩
        | partialLine o' => exact this.elim
        | tempRead o' => exact this.elim
        | dropped o' crit t =>
          obtain ⟨a1, a2, a3, a4, a5⟩ := this
          subst a1
          refine ⟨hw a2, a3, a4, rfl, by rw [hb]; exact hrr, ?_⟩
          rcases a5 with a5 | a5
          · left; rw [a5, he, hb]
          · right; rw [a5, he, hb]
      cases st with
      | top =>
        exact fin o [] .top h hn id (by simp) (rbody_nil .top) (by simp [rrun, rfinish])
      | mid => simp [BAgree, rrun, rfinish, rpart]
      | cr =>
        simp only
        rcases putAllT_spec o [[CR, LF]] h (by intro d hd; simp at hd; subst hd; simp; omega) with
          ⟨o1, e, w⟩ | ⟨o1, t, e, j1, j2, j3, rest, j4, j5⟩
        · rw [e]
          exact fin o1 [CR, LF] .cr w.wf (by rw [w.n]; exact hn) w.ws (by simpa using w.eq rfl)
            (rbody_nil .cr) (by simp [rrun, rfinish])
        · rw [e]
          exact ⟨j1, j2, j3, rest, j4, by rw [j5, rbody_nil]; simp⟩
  | cons c m ih =>
    intro o st h hn
    simp only [bloop]
    rcases putAllT_spec o (rputs st c) h (fun d hd => Nat.le_trans (rputs_length st c d hd) (by omega)) with
      ⟨o1, e, w⟩ | ⟨o1, t, e, j1, j2, j3, rest, j4, j5⟩
    · rw [e]
      have := ih o1 (rstep st c).1 w.wf (by rw [w.n]; exact hn)
      rw [w.eq rfl, rputs_flatten] at this
      exact BAgree_step _ _ _ _ _ _ _ _ w.ws this
    · rw [e]
      rw [rputs_flatten] at j5
      exact ⟨j1, j2, j3, rest ++ rbody (rstep st c).1 m, by simp [j4], by rw [rbody_cons, ← List.append_assoc, j5]; simp⟩

theorem ostart_wf (n : Nat) (ws : List Nat) (h0 : 0 < n) (h1 : n < 2147483648) : OWF (ostart n ws) :=
  ⟨Nat.zero_le n, rfl, h0, h1⟩

theorem bblast_spec (ws : List Nat) (msg : Bytes) (err : Bool) :
    BAgree [] err .top msg ws (bblast ws msg err) := by
  have := bloop_spec err msg (ostart SMTPTO ws) .top (ostart_wf SMTPTO ws (by decide) (by decide))
    (show 3 ≤ SMTPTO by decide)
  simpa [ostart, bblast] using this

theorem bblast_nofail (ws : List Nat) (msg : Bytes) (err : Bool) (h : 0 ∉ ws) :
    blastLabel (bblast ws msg err) = none := by
  have := bblast_spec ws msg err
  generalize bblast ws msg err = R at this
  cases R with
  | dropped o crit t =>
    cases crit with
    | false => exact absurd this.1 h
    | true => exact absurd this.1 h
  | _ => rfl

theorem rbody_prefix_rfull (st : RSt) (m : Bytes) : rbody st m <+: rfull st m := by
  unfold rbody rfull
  apply (List.prefix_append_right_inj _).mpr
  cases rstate st m <;> simp [rfinish]

theorem bblast_prefix (ws : List Nat) (msg : Bytes) (err : Bool) :
    (bblast ws msg err).ost.out <+: rfull .top msg ∧
    (∀ o crit t, bblast ws msg err = .dropped o crit t → 0 ∈ ws ∧ t ≠ [] ∧ o.out ++ t <+: rfull .top msg) ∧
    (∀ o, bblast ws msg err = .sent o → err = false ∧ rblast msg = some o.out ∧ o.buf = []) := by
  have h := bblast_spec ws msg err
  generalize bblast ws msg err = R at h
  have hb := rbody_prefix_rfull .top msg
  have hpart : ∀ o : OSt, o.out ++ o.buf = [] ++ rpart .top msg → o.out <+: rfull .top msg := fun o h3 =>
    (show o.out <+: rpart .top msg from ⟨o.buf, by simpa using h3⟩).trans (by unfold rfull; exact List.prefix_append _ _)
  cases R with
  | sent o =>
    obtain ⟨h1, h2, h3, h4⟩ := h
    have h3' : o.out = rbody .top msg ++ [DOT, CR, LF] := by simpa using h3
    refine ⟨?_, fun _ _ _ e => (by cases e), fun o' e => ?_⟩
    · show o.out <+: _
      rw [h3', rfull_of_some _ _ _ h2]; exact List.prefix_refl _
    · cases e; exact ⟨h1, by rw [h3']; exact h2, h4⟩
  | partialLine o => exact ⟨hpart o h.2.2, fun _ _ _ e => (by cases e), fun _ e => (by cases e)⟩
  | tempRead o => exact ⟨hpart o h.2, fun _ _ _ e => (by cases e), fun _ e => (by cases e)⟩
  | dropped o crit t =>
    have key : 0 ∈ ws ∧ t ≠ [] ∧ o.out ++ t <+: rfull .top msg := by
      cases crit with
      | false =>
        obtain ⟨h0, _, h2, rest, _, h4⟩ := h
        exact ⟨h0, h2, (show o.out ++ t <+: rbody .top msg from ⟨rest, by simpa using h4⟩).trans hb⟩
      | true =>
        obtain ⟨h0, _, h2, _, h4, h5⟩ := h
        refine ⟨h0, h2, ?_⟩
        rw [rfull_of_some _ _ _ h4]
        rcases h5 with h5 | h5
        · exact ⟨[DOT, CR, LF], by rw [h5]; simp⟩
        · exact ⟨[], by rw [h5]; simp⟩
    refine ⟨(List.prefix_append _ _).trans key.2.2, fun o' c' t' e => ?_, fun _ e => (by cases e)⟩
    cases e; exact key

end Nq.Lemmas.RemoteBuf
