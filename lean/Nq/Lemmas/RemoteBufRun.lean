/- Lemmas for C09: `smtp()` with the buffered `blast()` (`Nq.RemoteBuf.runB`) against the
   unbuffered model `Nq.RemoteSmtp.run` run with the *computed* label of the failing write. -/
import Nq.Lemmas.RemoteBuf
import Nq.Lemmas.RemoteEndToEnd

namespace Nq.Lemmas.RemoteBuf
open Nq Nq.Substdio Nq.SmtpOut Nq.SmtpIO Nq.RemoteSmtp Nq.RemoteBuf Nq.Spec.RemoteVerdict Nq.Lemmas.RemoteSmtp
open Nq.RspawnReport Nq.Lemmas

/-- same reports; same wire where the unbuffered model knows it; where it leaves the wire open (`wireOpen`: the
    run stopped inside `blast()`) the unbuffered wire is exactly the commands, the verdict is not `K`, and the buffered
    model adds a prefix of the encoded message; a failing write of `blast()` (`tried`) is the `dropped` outcome of
    `bblast`, with the wire up to it and `dropped()`'s report (what `C09_flag_computed` reads) -/
structure RelB (a : Args) (wb : WB) (r : Res) (rb : ResB) : Prop where
  rcpt : rb.rcpt = r.rcpt
  msg : rb.msg = r.msg
  quit : rb.quit = r.quit
  closed : r.wireOpen = false → rb.wire = r.wire
  opened : r.wireOpen = true → r.wire = fullCmds a ∧ headB r.msg ≠ cK ∧
    ∃ x, rb.wire = r.wire ++ x ∧ x <+: rfull .top a.msg
  tried : ∀ t, rb.tried = some t → ∃ o crit, bblast wb.ws a.msg a.msgErr = .dropped o crit t ∧
    rb.wire = fullCmds a ++ o.out ∧ rb.msg = droppedRep a.host crit

theorem rel_lost (a : Args) (wb : WB) (rs : List Bytes) (w : Bytes) (c : Bool) :
    RelB a wb (lost a rs w c) (ofRes (lost a rs w c)) :=
  ⟨rfl, rfl, rfl, fun _ => rfl, fun h => by simp [lost] at h, fun t h => by simp [ofRes] at h⟩

theorem rel_quit (a : Args) (wb : WB) (wf cw : Option WPoint) (h : wf = some .quit ↔ cw = some .quit) (rs : List Bytes)
    (w pre app txt : Bytes) : RelB a wb (quitWith a wf rs w pre app txt) (ofRes (quitWith a cw rs w pre app txt)) := by
  refine ⟨rfl, rfl, rfl, fun _ => ?_, fun h => by simp [quitWith] at h, fun t h => by simp [ofRes] at h⟩
  exact ite_rel_iff (· = ·) h.symm (fun _ => rfl) fun _ => rfl

theorem rel_open (a : Args) (wb : WB) (rs : List Bytes) (m w x : Bytes) (hw : w = fullCmds a) (hm : headB m ≠ cK)
    (hx : x <+: rfull .top a.msg) :
    RelB a wb { rcpt := rs, msg := m, wire := w, wireOpen := true } { rcpt := rs, msg := m, wire := w ++ x } :=
  ⟨rfl, rfl, rfl, nofun, fun _ => ⟨hw, hm, x, rfl, hx⟩, nofun⟩

theorem rel_dropped (a : Args) (wb : WB) (rs : List Bytes) (w : Bytes) (o : Substdio.OSt) (crit : Bool) (t : Bytes)
    (hw : w = fullCmds a) (hR : bblast wb.ws a.msg a.msgErr = .dropped o crit t) (hx : o.out <+: rfull .top a.msg) :
    RelB a wb (lost a rs w crit true) { rcpt := rs, msg := droppedRep a.host crit, wire := w ++ o.out, tried := some t } :=
  ⟨rfl, rfl, rfl, nofun, fun _ => ⟨hw, by simp only [lost, headB_dropped]; decide, o.out, rfl, hx⟩,
    fun t' ht' => ⟨o, crit, Option.some.inj ht' ▸ hR, by rw [hw], rfl⟩⟩

/-- how the script of the unbuffered model (`wf`) and the buffered one (`wb`) correspond -/
structure WfRel (a : Args) (wf : Option WPoint) (wb : WB) : Prop where
  helo : wf = some .helo ↔ wb.cmdWf = some .helo
  mail : wf = some .mail ↔ wb.cmdWf = some .mail
  rcpt : ∀ i, wf = some (.rcpt i) ↔ wb.cmdWf = some (.rcpt i)
  data : wf = some .data ↔ wb.cmdWf = some .data
  quit : wf = some .quit ↔ wb.cmdWf = some .quit
  body : wf = some .body ↔ blastLabel (bblast wb.ws a.msg a.msgErr) = some .body
  final : wf = some .final ↔ blastLabel (bblast wb.ws a.msg a.msgErr) = some .final

theorem data_rel (a : Args) (wf : Option WPoint) (wb : WB) (hrel : WfRel a wf wb)
    (rs : List Bytes) (w : Bytes) (bother : Bool) (txt : Bytes) (fs : List Bytes)
    (hw1 : w ++ lit "DATA\r\n" = fullCmds a) :
    RelB a wb (dataPhase a wf rs w bother txt fs) (dataPhaseB a wb rs w bother txt fs) := by
  unfold dataPhase dataPhaseB
  dsimp only
  refine ite_rel _ (fun _ => rel_quit a wb _ _ hrel.quit ..) fun _ =>
    ite_rel_iff _ hrel.data (fun _ => rel_lost ..) fun _ => ?_
  cases fs with
  | nil => exact rel_lost ..
  | cons d fs =>
    refine ite_rel _ (fun _ => rel_quit a wb _ _ hrel.quit ..) fun _ =>
      ite_rel _ (fun _ => rel_quit a wb _ _ hrel.quit ..) fun _ => ?_
    have hsp := bblast_spec wb.ws a.msg a.msgErr
    have hbody := hrel.body
    have hfinal := hrel.final
    have hpre := (bblast_prefix wb.ws a.msg a.msgErr).1
    -- at `blast()` `dataPhase` branches on the label `wf`, `dataPhaseB` on the outcome `R` of `bblast`: go by `R`; `hrel.body`
    -- and `hrel.final` say which `wf` that is. `hw1`, the invariant `w = cmdsUpTo a i` of `rcpt_rel`, gives `RelB` its `fullCmds a`
    generalize hR : bblast wb.ws a.msg a.msgErr = R at hsp hbody hfinal hpre ⊢
    have hnb : blastLabel R = none → ¬ wf = some .body := fun hn e => nomatch (hbody.mp e).symm.trans hn
    cases R with
    | dropped o crit t =>
      cases crit with
      | false =>
        have hwb : wf = some .body := hbody.mpr rfl
        simp only [hwb, if_true]
        exact rel_dropped a wb rs _ o false t hw1 hR hpre
      | true =>
        have hwf : wf = some .final := hfinal.mpr rfl
        obtain ⟨_, _, _, he, hr, _⟩ := hsp
        have hnb : ¬ (some WPoint.final = some WPoint.body) := by decide
        have hbl : rblast a.msg = some (rbody .top a.msg ++ [DOT, CR, LF]) := hr
        simp only [hwf, hnb, if_false, he, Bool.false_eq_true, hbl, if_true]
        exact rel_dropped a wb rs _ o true t hw1 hR hpre
    | tempRead o =>
      have he := hsp.1
      simp only [hnb rfl, if_false, he, if_true]
      exact rel_open a wb rs _ _ o.out hw1 (by rw [tempReadRep_spec.1]; decide) hpre
    | partialLine o =>
      obtain ⟨he, hr, _⟩ := hsp
      have hbl : rblast a.msg = none := hr
      simp only [hnb rfl, if_false, he, Bool.false_eq_true, hbl]
      exact rel_open a wb rs _ _ o.out hw1 (by rw [permPartialRep_spec.1]; decide) hpre
    | sent o =>
      have hnf : ¬ wf = some .final := fun e => by have := hfinal.mp e; simp [blastLabel] at this
      obtain ⟨he, hr, h6, _⟩ := hsp
      have hbl : rblast a.msg = some (rbody .top a.msg ++ [DOT, CR, LF]) := hr
      have hout : o.out = rbody .top a.msg ++ [DOT, CR, LF] := by simpa using h6
      simp only [hnb rfl, hnf, if_false, he, Bool.false_eq_true, hbl, hout]
      cases fs with
      | nil => exact rel_lost ..
      | cons f fs =>
        exact ite_rel _ (fun _ => rel_quit a wb _ _ hrel.quit ..) fun _ =>
          ite_rel _ (fun _ => rel_quit a wb _ _ hrel.quit ..) fun _ => rel_quit a wb _ _ hrel.quit ..

theorem rcpt_rel (a : Args) (wf : Option WPoint) (wb : WB) (hrel : WfRel a wf wb) (more : List Bytes) :
    ∀ (i : Nat) (rs : List Bytes) (w : Bytes) (bother : Bool) (txt : Bytes) (fs : List Bytes),
    a.rcpts.drop i = more → w = cmdsUpTo a i →
    RelB a wb (rcptLoop a wf i more rs w bother txt fs) (rcptLoopB a wb i more rs w bother txt fs) := by
  induction more with
  | nil =>
    intro i rs w bother txt fs hd hw
    simp only [rcptLoop, rcptLoopB]
    exact data_rel a wf wb hrel rs w bother txt fs (by rw [hw]; exact cmdsUpTo_all a i hd)
  | cons r more ih =>
    intro i rs w bother txt fs hd hw
    simp only [rcptLoop, rcptLoopB]
    have step := fun rs' b t fs' => ih (i + 1) rs' (w ++ (lit "RCPT TO:<" ++ r ++ lit ">\r\n")) b t fs'
      (by rw [← List.tail_drop, hd]; rfl) (by rw [hw]; exact (cmdsUpTo_succ a i r more hd).symm)
    refine ite_rel_iff _ (hrel.rcpt _) (fun _ => rel_lost ..) fun _ => ?_
    cases fs with
    | nil => exact rel_lost ..
    | cons p fs => exact ite_rel _ (fun _ => step ..) fun _ => ite_rel _ (fun _ => step ..) fun _ => step ..

theorem run_rel (a : Args) (wf : Option WPoint) (wb : WB) (hrel : WfRel a wf wb) (fs : List Bytes) :
    RelB a wb (run a wf fs) (runB a wb fs) := by
  unfold run runB
  dsimp only
  cases fs with
  | nil => exact rel_lost ..
  | cons g fs =>
    refine ite_rel _ (fun _ => rel_quit a wb _ _ hrel.quit ..) fun _ =>
      ite_rel_iff _ hrel.helo (fun _ => rel_lost ..) fun _ => ?_
    cases fs with
    | nil => exact rel_lost ..
    | cons h fs =>
      refine ite_rel _ (fun _ => rel_quit a wb _ _ hrel.quit ..) fun _ =>
        ite_rel_iff _ hrel.mail (fun _ => rel_lost ..) fun _ => ?_
      cases fs with
      | nil => exact rel_lost ..
      | cons m fs =>
        exact ite_rel _ (fun _ => rel_quit a wb _ _ hrel.quit ..) fun _ =>
          ite_rel _ (fun _ => rel_quit a wb _ _ hrel.quit ..) fun _ =>
          rcpt_rel a wf wb hrel a.rcpts 0 [] _ false _ fs rfl (cmdsUpTo_zero a).symm

theorem cmdWf_ne (w : Option WPoint) : (WB.cmd w).cmdWf ≠ some .body ∧ (WB.cmd w).cmdWf ≠ some .final := by
  cases w with
  | none => exact ⟨nofun, nofun⟩
  | some p => cases p <;> exact ⟨nofun, nofun⟩

theorem effWf_rel (a : Args) (wb : WB) : WfRel a (effWf a wb) wb := by
  cases wb with
  | cmd w =>
    have hn : blastLabel (bblast [] a.msg a.msgErr) = none := bblast_nofail [] a.msg a.msgErr (by simp)
    obtain ⟨hb, hf⟩ := cmdWf_ne w
    refine ⟨Iff.rfl, Iff.rfl, fun _ => Iff.rfl, Iff.rfl, Iff.rfl, ?_, ?_⟩
    · simp only [effWf, WB.ws, hn]; exact ⟨fun e => absurd e hb, fun e => by simp at e⟩
    · simp only [effWf, WB.ws, hn]; exact ⟨fun e => absurd e hf, fun e => by simp at e⟩
  | blast ws =>
    have hl : ∀ p, blastLabel (bblast ws a.msg a.msgErr) = some p → p = .body ∨ p = .final := by
      intro p
      generalize bblast ws a.msg a.msgErr = R
      cases R with
      | dropped o crit t => cases crit <;> simp [blastLabel] <;> intro e <;> simp [← e]
      | _ => simp [blastLabel]
    have hx : ∀ p, p ≠ .body → p ≠ .final → (effWf a (.blast ws) = some p ↔ (WB.blast ws).cmdWf = some p) := by
      intro p h1 h2
      simp only [effWf, WB.cmdWf]
      constructor
      · intro e; rcases hl p e with e' | e'
        · exact absurd e' h1
        · exact absurd e' h2
      · intro e; simp at e
    refine ⟨hx _ (by simp) (by simp), hx _ (by simp) (by simp), fun i => hx _ (by simp) (by simp),
      hx _ (by simp) (by simp), hx _ (by simp) (by simp), Iff.rfl, Iff.rfl⟩

theorem smtpRunB_rel (a : Args) (sb : ScriptB) : RelB a sb.wb (smtpRun a (toScript a sb)) (smtpRunB a sb) :=
  run_rel a (effWf a sb.wb) sb.wb (effWf_rel a sb.wb) _

/-- the result as a `Res` with an exact wire -/
def toRes (rb : ResB) : Res := { rcpt := rb.rcpt, msg := rb.msg, wire := rb.wire, quit := rb.quit }

theorem wireOK_B (a : Args) (sb : ScriptB) :
    WireOK a (effWf a sb.wb) (fullCmds a ++ rfull .top a.msg) (toRes (smtpRunB a sb)) := by
  have hr := smtpRunB_rel a sb
  -- `run_exit` with `enc := rfull .top a.msg`, which a partial or unreadable message has too: where the unbuffered wire is
  -- open it is `fullCmds a`, and what the buffered run adds is a prefix of that `enc` (`RelB`), so the wire stays one of `F`
  have hw := (run_exit a (effWf a sb.wb) (rfull .top a.msg) (fun e he => (rfull_of_some _ _ _ he).symm)
    (frames .d1 [] sb.stream)).wire
  change WireOK a _ _ (smtpRun a (toScript a sb)) at hw
  generalize smtpRun a (toScript a sb) = r at hr hw
  generalize smtpRunB a sb = rb at hr
  obtain ⟨w, q, h1, h2, h3, h4⟩ := hw
  cases ho : r.wireOpen with
  | false =>
    refine ⟨w, q, ?_, h2, ?_, ?_⟩
    · simp only [toRes]; rw [hr.closed ho]; exact h1
    · simp only [toRes]; rw [hr.rcpt]; exact h3
    · simp only [toRes]; rw [hr.msg]; exact h4
  | true =>
    obtain ⟨o1, o2, x, o3, o4⟩ := hr.opened ho
    refine ⟨rb.wire, false, by simp [toRes], ?_, ?_, ?_⟩
    · rw [o3, o1]; exact (List.prefix_append_right_inj _).mpr o4
    · simp only [toRes]; rw [hr.rcpt]
      refine h3.imp id (fun h => ?_)
      have hwp : w <+: r.wire := by rw [h1]; exact List.prefix_append _ _
      exact (h.trans hwp).trans (by rw [o3]; exact List.prefix_append _ _)
    · simp only [toRes]; rw [hr.msg]; intro hk; exact absurd hk o2

end Nq.Lemmas.RemoteBuf
