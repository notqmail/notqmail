/-
  Helper lemmas for C09 about `Nq.RemoteConnect` (qmail-remote.c `main()` between the lookup and `smtp()`).
-/
import Nq.RemoteConnect
import Nq.Lemmas.RemoteSmtp

namespace Nq.Lemmas.RemoteConnect
open Nq Nq.RemoteSmtp Nq.RspawnReport Nq.RemoteConnect Nq.Spec.RemoteVerdict Nq.Lemmas.RemoteSmtp

theorem tryLoop_spec (pm : Nat) (cs : List Cand) : ∀ k : Nat,
    (tryLoop pm k cs = .report tempNoconnRep ∧ ∀ c ∈ cs, c.pref < pm → c.skip = true ∨ c.conn ≠ 0) ∨
    ∃ j c, tryLoop pm k cs = .connected (k + j) c.host ∧ cs[j]? = some c ∧ c.pref < pm ∧ c.skip = false ∧ c.conn = 0 ∧
      ∀ j' c', j' < j → cs[j']? = some c' → c'.pref < pm → c'.skip = true ∨ c'.conn ≠ 0 := by
  induction cs with
  | nil => intro k; exact Or.inl ⟨rfl, nofun⟩
  | cons c rest ih =>
    intro k
    by_cases hc : c.pref < pm ∧ c.skip = false ∧ c.conn = 0
    · exact Or.inr ⟨0, c, by simp [tryLoop, hc], rfl, hc.1, hc.2.1, hc.2.2, by intro j' c' hj; omega⟩
    · have hc' : c.pref < pm → c.skip = true ∨ c.conn ≠ 0 := by
        intro hp
        cases hs : c.skip with
        | true => exact Or.inl rfl
        | false => exact Or.inr fun h0 => hc ⟨hp, hs, h0⟩
      have step : tryLoop pm k (c :: rest) = tryLoop pm (k + 1) rest := by
        simp only [tryLoop]
        split
        · rcases hc' ‹_› with h | h <;> simp [h]
        · rfl
      rw [step]
      rcases ih (k + 1) with ⟨h1, h2⟩ | ⟨j, c0, h1, h2, h3, h4, h5, h6⟩
      · exact Or.inl ⟨h1, fun c' hm => (List.mem_cons.mp hm).elim (fun e => e ▸ hc') (h2 c')⟩
      · refine Or.inr ⟨j + 1, c0, by rw [h1, Nat.add_right_comm, Nat.add_assoc], by simpa using h2, h3, h4, h5, ?_⟩
        intro j' c' hj hget hp
        cases j' with
        | zero => simp at hget; exact hget ▸ hc' (hget ▸ hp)
        | succ j'' => exact h6 j'' c' (by omega) (by simpa using hget) hp

theorem tryLoop_report (pm : Nat) (cs : List Cand) (k : Nat) (r : Bytes) (h : tryLoop pm k cs = .report r) :
    r = tempNoconnRep := by
  rcases tryLoop_spec pm cs k with ⟨h', _⟩ | ⟨_, _, h', _⟩ <;> rw [h'] at h
  · exact (Pre.report.inj h).symm
  · cases h

theorem tryLoop_noconn (pm : Nat) (cs : List Cand) (h : ∀ c ∈ cs, c.pref < pm → c.skip = true ∨ c.conn ≠ 0) (k : Nat) :
    tryLoop pm k cs = .report tempNoconnRep := by
  rcases tryLoop_spec pm cs k with ⟨h', _⟩ | ⟨j, c, _, hj, hp, hs, hc, _⟩
  · exact h'
  · rcases h c (List.mem_of_getElem? hj) hp with h | h
    · rw [hs] at h; cases h
    · exact absurd hc h

theorem tryLoop_connected (pm : Nat) (cs : List Cand) (k i : Nat) (hst : Bytes) (h : tryLoop pm k cs = .connected i hst) :
    ∃ j c, i = k + j ∧ cs[j]? = some c ∧ c.host = hst ∧ c.pref < pm ∧ c.skip = false ∧ c.conn = 0 ∧
      ∀ j' c', j' < j → cs[j']? = some c' → c'.pref < pm → c'.skip = true ∨ c'.conn ≠ 0 := by
  rcases tryLoop_spec pm cs k with ⟨h', _⟩ | ⟨j, c, h', rest⟩ <;> rw [h'] at h
  · cases h
  · obtain ⟨e1, e2⟩ := Pre.connected.inj h
    exact ⟨j, c, e1.symm, rest.1, e2, rest.2⟩

theorem all_not_any (pm : Nat) (l : List Cand) :
    l.all (fun c => decide (pm ≤ c.pref)) = !(l.any (fun c => decide (c.pref < pm))) := by
  induction l with
  | nil => rfl
  | cons c l ih =>
    simp only [List.all_cons, List.any_cons, ih, Bool.not_or]
    congr 1
    by_cases h : pm ≤ c.pref
    · simp [h]
    · simp [h]; omega

theorem all_iff_not_any_eligible (cs : List Cand) :
    cs.all (fun c => decide (prefme cs ≤ c.pref)) = !(cs.any (eligible cs)) := all_not_any (prefme cs) cs

theorem headB_tempNomemRep : headB tempNomemRep = cZ := headB_lit _ 'Z' (by decide +kernel)
theorem headB_tempDnsRep : headB tempDnsRep = cZ := headB_lit _ 'Z' (by decide +kernel)
theorem headB_permNomxRep : headB permNomxRep = cD := headB_lit _ 'D' (by decide +kernel)
theorem headB_permAmbigRep : headB permAmbigRep = cD := headB_lit _ 'D' (by decide +kernel)
theorem headB_tempNoconnRep : headB tempNoconnRep = cZ := headB_lit _ 'Z' (by decide +kernel)

theorem headB_permDnsRep (hostArg : Bytes) : headB (permDnsRep hostArg) = cD := by
  unfold permDnsRep
  rw [List.append_assoc, headB_append _ _ (by decide +kernel)]
  exact headB_lit _ 'D' (by decide +kernel)

theorem connectPhase_ok (dnsret : Int) (hostArg : Bytes) (cs : List Cand) :
    match connectPhase dnsret hostArg cs with
    | .report r => (headB r = cZ ∨ headB r = cD) ∧ ∀ dup, preOK dnsret cs ⟨[], headB r, dup⟩ = true
    | .connected _ _ => ∀ o, preOK dnsret cs o = true := by
  unfold connectPhase
  by_cases h3 : dnsret = -3
  · rw [if_pos h3]; simp [preOK, h3, headB_tempNomemRep]
  rw [if_neg h3]
  by_cases h1 : dnsret = -1
  · rw [if_pos h1]; simp [preOK, h1, headB_tempDnsRep]
  rw [if_neg h1]
  by_cases h2 : dnsret = -2
  · rw [if_pos h2]; simp [preOK, h2, headB_permDnsRep]
  rw [if_neg h2]
  by_cases hd : dnsret = 1 ∧ cs = []
  · rw [if_pos hd]; simp [preOK, hd, headB_tempDnsRep]
  rw [if_neg hd]
  by_cases he : cs = []
  · have hd1 : dnsret ≠ 1 := fun e => hd ⟨e, he⟩
    rw [if_pos he]; simp [preOK, h3, h1, h2, he, hd1, headB_permNomxRep]
  rw [if_neg he, all_iff_not_any_eligible]
  have hne : cs.isEmpty = false := by simpa using he
  cases ha : cs.any (eligible cs) with
  | false => simp [preOK, h3, h1, h2, hne, ha, headB_permAmbigRep]
  | true =>
    rw [Bool.not_true, if_neg Bool.false_ne_true]
    rcases tryLoop_spec (prefme cs) cs 0 with ⟨h, _⟩ | ⟨j, c, h, hj, hp, hs, hc, _⟩
    · rw [h]; simp [preOK, h3, h1, h2, hne, ha, headB_tempNoconnRep]
    · have hany : cs.any (fun c => eligible cs c && connects c) = true :=
        List.any_eq_true.mpr ⟨c, List.mem_of_getElem? hj, by simp [eligible, connects, hp, hs, hc]⟩
      rw [h]; simp [preOK, h3, h1, h2, hne, ha, hany]

end Nq.Lemmas.RemoteConnect
