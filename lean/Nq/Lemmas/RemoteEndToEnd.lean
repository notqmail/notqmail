/-
  Helper lemmas for C09: the shape of qmail-remote's output (NUL-free reports, first letters), the exits of
  `run` as a relation (`Exit`) with what each shows (class rules, output shape, wire order), the walk through
  the control flow that reaches them, and the composition with the spawner's `report()`.
-/
import Nq.Lemmas.RemoteRules
import Nq.Lemmas.RemoteWire
import Nq.Lemmas.RspawnReport

namespace Nq.Lemmas.RemoteSmtp
open Nq Nq.SmtpOut Nq.RemoteSmtp Nq.RspawnReport Nq.Spec.RemoteVerdict

/-! ### shape of qmail-remote's output: NUL-free reports with the right first letters -/

def RcptOK (r : Bytes) : Prop := NUL ∉ r ∧ (headB r = lR ∨ headB r = lH ∨ headB r = lS)
def MsgOK (m : Bytes) : Prop := NUL ∉ m ∧ isKZD (headB m) = true
def ResOK (r : Res) : Prop := (∀ x ∈ r.rcpt, RcptOK x) ∧ MsgOK r.msg

theorem said_nulfree (t : Bytes) : NUL ∉ said t := by
  unfold said
  by_cases h : t = []
  · simp [h]
  · simp only [h, if_false, List.mem_append, not_or]
    refine ⟨by decide +kernel, ?_⟩
    intro hm
    obtain ⟨c, _, hc⟩ := List.mem_map.mp hm
    by_cases h0 : c = NUL
    · simp [h0, QM, NUL] at hc
    · simp [h0] at hc

theorem rcptRep_ok (a : Args) (c : Byte) (hc : c = lH ∨ c = lS) (txt : Bytes) (hh : NUL ∉ a.host) :
    RcptOK ([c] ++ a.host ++ notLike ++ said txt) := by
  refine ⟨?_, ?_⟩
  · simp only [List.mem_append, not_or]
    refine ⟨⟨⟨?_, hh⟩, by decide +kernel⟩, said_nulfree txt⟩
    rcases hc with h | h <;> subst h <;> decide
  · simp only [List.append_assoc, List.singleton_append, headB, List.headD_cons]
    rcases hc with h | h
    · exact Or.inr (Or.inl h)
    · exact Or.inr (Or.inr h)

theorem isKZD_vLetter (v : Verdict) : isKZD (vLetter v) = true := by cases v <;> rfl

/-! ### the exits of `smtp()` and the walk to them -/

/-- what the control flow maintains about the reports printed so far (`rs`) and the bytes written so far (`w`) -/
structure Ctx (a : Args) (F : Bytes) (rs : List Bytes) (w : Bytes) : Prop where
  rcpt : NUL ∉ a.host → ∀ x ∈ rs, RcptOK x
  pre : w <+: F
  cmds : rs = [] ∨ cmdsUpTo a rs.length <+: w

theorem Ctx.write {a : Args} {F : Bytes} {rs : List Bytes} {w : Bytes} (h : Ctx a F rs w) (x : Bytes)
    (hp : w ++ x <+: F) : Ctx a F rs (w ++ x) :=
  ⟨h.rcpt, hp, h.cmds.imp id fun hc => hc.trans (List.prefix_append _ _)⟩

/-- the exits of `smtp()`, each with what the rules say there: `rs`, `w` = the reports printed and the bytes written so
far; `dropped()`; `quit()` with a verdict `v` decided by a reply (`K` only with everything written); a message that
cannot be sent -/
inductive Exit (a : Args) (wf : Option WPoint) (F : Bytes) : Exp → Res → Prop
  | lost {rs : List Bytes} {w : Bytes} (h : Ctx a F rs w) (crit wopen : Bool) :
      Exit a wf F ⟨rs.map headB, .lost crit⟩ (lost a rs w crit wopen)
  | quit {rs : List Bytes} {w : Bytes} (h : Ctx a F rs w) (pre app txt : Bytes) (v : Verdict)
      (hl : pre ≠ [] ∧ headB pre = vLetter v ∧ v.decided = true ∧ NUL ∉ pre ∧ NUL ∉ app) (hK : v = .K → w = F) :
      Exit a wf F ⟨rs.map headB, v⟩ (quitWith a wf rs w pre app txt)
  | msg {rs : List Bytes} {w : Bytes} (h : Ctx a F rs w) (m : Bytes) (wo : Bool) (v : Verdict)
      (hl : headB m = vLetter v ∧ v.decided = true ∧ v ≠ .K ∧ NUL ∉ m) :
      Exit a wf F ⟨rs.map headB, v⟩ { rcpt := rs, msg := m, wire := w, wireOpen := wo }

theorem headB_quit (a : Args) (wf : Option WPoint) (rs : List Bytes) (w pre app txt : Bytes) (hne : pre ≠ []) :
    headB (quitWith a wf rs w pre app txt).msg = headB pre := by
  simp only [quitWith, List.append_assoc]; exact headB_append _ _ hne

theorem Exit.good {a : Args} {wf : Option WPoint} {F : Bytes} {e : Exp} {r : Res} (h : Exit a wf F e r)
    : Good e r := by
  cases h with
  | lost h crit wopen =>
    refine ⟨?_, rfl⟩
    simp only [verdictOK, obsOf, Nq.RemoteSmtp.lost, headB_dropped, beq_self_eq_true, Bool.true_and]
    cases crit with
    | false => rfl
    | true =>
      simp only [Bool.not_true, Bool.false_or]
      unfold droppedRep
      simp only [if_true, List.append_assoc]
      exact hasInfix_append_left _ _ _ (hasInfix_append_left _ _ _ (hasInfix_append_left _ _ _
        (hasInfix_self_append _ _)))
  | quit h pre app txt v hl hK =>
    exact ⟨verdictOK_of_letter v _ ((headB_quit _ _ _ _ _ _ _ hl.1).trans hl.2.1) hl.2.2.1, rfl⟩
  | msg h m wo v hl => exact ⟨verdictOK_of_letter v _ hl.1 hl.2.1, rfl⟩

theorem Exit.ok {a : Args} {wf : Option WPoint} {F : Bytes} {e : Exp} {r : Res} (h : Exit a wf F e r)
    (hh : NUL ∉ a.host) : ResOK r := by
  cases h with
  | lost h crit wopen =>
    refine ⟨h.rcpt hh, ?_, ?_⟩
    · simp only [Nq.RemoteSmtp.lost, droppedRep, List.mem_append, not_or]
      refine ⟨⟨⟨by decide +kernel, hh⟩, by decide +kernel⟩, ?_, by decide +kernel⟩
      cases crit
      · simp
      · decide +kernel
    · simp only [Nq.RemoteSmtp.lost, headB_dropped]; rfl
  | quit h pre app txt v hl hK =>
    refine ⟨h.rcpt hh, ?_, ?_⟩
    · simp only [quitWith, List.mem_append, not_or]
      exact ⟨⟨⟨⟨hl.2.2.2.1, hh⟩, hl.2.2.2.2⟩, by decide⟩, said_nulfree txt⟩
    · rw [headB_quit _ _ _ _ _ _ _ hl.1, hl.2.1]; exact isKZD_vLetter v
  | msg h m wo v hl => exact ⟨h.rcpt hh, hl.2.2.2, by rw [hl.1]; exact isKZD_vLetter v⟩

theorem Exit.wire {a : Args} {wf : Option WPoint} {F : Bytes} {e : Exp} {r : Res} (h : Exit a wf F e r)
    : WireOK a wf F r := by
  cases h with
  | lost h crit wopen =>
    exact ⟨_, false, by simp [Nq.RemoteSmtp.lost], h.pre, h.cmds, by
      intro hk; simp only [Nq.RemoteSmtp.lost, headB_dropped] at hk; exact absurd hk (by decide)⟩
  | @quit rs w h pre app txt v hl hK =>
    have hK' : headB (quitWith a wf rs w pre app txt).msg = cK → w = F := fun hk =>
      hK (vLetter_eq_cK v (hl.2.1 ▸ (headB_quit _ _ _ _ _ _ _ hl.1) ▸ hk))
    by_cases hq : wf = some .quit
    · exact ⟨w, false, by simp [quitWith, hq], h.pre, h.cmds, fun hk => ⟨Or.inr hq, hK' hk⟩⟩
    · exact ⟨w, true, by simp [quitWith, hq, quitCmd], h.pre, h.cmds, fun hk => ⟨Or.inl rfl, hK' hk⟩⟩
  | msg h m wo v hl =>
    exact ⟨_, false, by simp, h.pre, h.cmds, fun hk => absurd (vLetter_eq_cK v (hl.1 ▸ hk)) hl.2.2.1⟩

theorem data_exit (a : Args) (s : AScript) (he : s.msgErr = a.msgErr) (hp : s.msgPartial = (rblast a.msg).isNone)
    (enc : Bytes) (henc : ∀ e, rblast a.msg = some e → e = enc)
    (rs : List Bytes) (w : Bytes) (bother : Bool) (txt : Bytes) (fs : List Bytes)
    (h : Ctx a (fullCmds a ++ enc) rs w) (hw1 : w ++ lit "DATA\r\n" = fullCmds a) :
    Exit a s.wfail (fullCmds a ++ enc) (expData s (rs.map headB) bother (fs.map codeNat))
      (dataPhase a s.wfail rs w bother txt fs) := by
  have h1 := h.write (lit "DATA\r\n") (by rw [hw1]; exact List.prefix_append _ _)
  have e2 : w ++ lit "DATA\r\n" ++ enc = fullCmds a ++ enc := by rw [hw1]
  have h2 := h1.write enc (by rw [e2]; exact List.prefix_refl _)
  -- `enc` is free: it is written only where `rblast a.msg = some enc'` (there `henc` identifies it); a message without
  -- encoding leaves the wire at `fullCmds a`, a prefix of `F` whatever `enc` is (`wireOK_B` takes `rfull .top a.msg`)
  unfold expData dataPhase
  rw [he, hp]
  refine ite_rel _ (fun _ => .quit h _ _ _ .D (by decide +kernel) nofun) fun _ =>
    ite_rel _ (fun _ => .lost h _ _) fun _ => ?_
  cases fs with
  | nil => exact .lost h1 _ _
  | cons d fs =>
    refine ite_rel _ (fun _ => .quit h1 _ _ _ .D (by decide +kernel) nofun) fun _ =>
      ite_rel _ (fun _ => .quit h1 _ _ _ .Z (by decide +kernel) nofun) fun _ =>
      ite_rel _ (fun _ => .lost h1 _ _) fun _ =>
      ite_rel _ (fun _ => .msg h1 _ _ .Z ⟨tempReadRep_spec.1, rfl, nofun, tempReadRep_spec.2⟩) fun _ => ?_
    cases hbl : rblast a.msg with
    | none => exact .msg h1 _ _ .D ⟨permPartialRep_spec.1, rfl, nofun, permPartialRep_spec.2⟩
    | some enc' =>
      obtain rfl := henc enc' hbl
      refine ite_rel _ (fun _ => .lost h1 _ _) fun _ => ?_
      cases fs with
      | nil => exact .lost h2 _ _
      | cons f fs =>
        exact ite_rel _ (fun _ => .quit h2 _ _ _ .D (by decide +kernel) nofun) fun _ =>
          ite_rel _ (fun _ => .quit h2 _ _ _ .Z (by decide +kernel) nofun) fun _ =>
          .quit h2 _ _ _ .K (by decide +kernel) fun _ => e2

theorem rcpt_exit (a : Args) (s : AScript) (he : s.msgErr = a.msgErr) (hp : s.msgPartial = (rblast a.msg).isNone)
    (enc : Bytes) (henc : ∀ e, rblast a.msg = some e → e = enc) (more : List Bytes) :
    ∀ (i : Nat) (rs : List Bytes) (w : Bytes) (bother : Bool) (txt : Bytes) (fs : List Bytes),
    a.rcpts.drop i = more → rs.length = i → w = cmdsUpTo a i → (NUL ∉ a.host → ∀ x ∈ rs, RcptOK x) →
    Exit a s.wfail (fullCmds a ++ enc) (expRcpt s i more.length (rs.map headB) bother (fs.map codeNat))
      (rcptLoop a s.wfail i more rs w bother txt fs) := by
  -- the loop invariant is the exact wire `w = cmdsUpTo a i`, with one report per RCPT sent (`rs.length = i`). `Ctx`, all
  -- that an exit needs, is rebuilt from it each time round; alone it would not give `w ++ RCPT… <+: F` for the next round
  induction more with
  | nil =>
    intro i rs w bother txt fs hd hlen hw hrs
    simp only [List.length_nil, expRcpt, rcptLoop]
    exact data_exit a s he hp enc henc rs w bother txt fs
      ⟨hrs, by rw [hw]; exact cmdsUpTo_prefix_full a enc _, Or.inr (by rw [hlen, hw]; exact List.prefix_refl _)⟩
      (by rw [hw]; exact cmdsUpTo_all a i hd)
  | cons r more ih =>
    intro i rs w bother txt fs hd hlen hw hrs
    have h : Ctx a (fullCmds a ++ enc) rs w :=
      ⟨hrs, by rw [hw]; exact cmdsUpTo_prefix_full a enc _, Or.inr (by rw [hlen, hw]; exact List.prefix_refl _)⟩
    have hw1 : w ++ (lit "RCPT TO:<" ++ r ++ lit ">\r\n") = cmdsUpTo a (i + 1) := by
      rw [hw]; exact (cmdsUpTo_succ a i r more hd).symm
    have h1 := h.write (lit "RCPT TO:<" ++ r ++ lit ">\r\n") (by rw [hw1]; exact cmdsUpTo_prefix_full a enc _)
    have step : ∀ (rep : Bytes) (l : Byte) (b : Bool) (t : Bytes) (fs' : List Bytes), headB rep = l →
        (NUL ∉ a.host → RcptOK rep) →
        Exit a s.wfail (fullCmds a ++ enc)
          (expRcpt s (i + 1) more.length (rs.map headB ++ [l]) b (fs'.map codeNat))
          (rcptLoop a s.wfail (i + 1) more (rs ++ [rep]) (w ++ (lit "RCPT TO:<" ++ r ++ lit ">\r\n")) b t fs') := by
      intro rep l b t fs' hl hrep
      have := ih (i + 1) (rs ++ [rep]) _ b t fs' (by rw [← List.tail_drop, hd]; rfl) (by simp [hlen]) hw1
        (fun hh x hx => (List.mem_append.mp hx).elim (hrs hh x) fun hx => List.mem_singleton.mp hx ▸ hrep hh)
      rwa [List.map_append, List.map_singleton, hl] at this
    simp only [List.length_cons, expRcpt, rcptLoop]
    refine ite_rel _ (fun _ => .lost h _ _) fun _ => ?_
    cases fs with
    | nil => exact .lost h1 _ _
    | cons p fs =>
      exact ite_rel _ (fun _ => step _ lH _ _ _ rfl fun hh => rcptRep_ok a lH (Or.inl rfl) _ hh) fun _ =>
        ite_rel _ (fun _ => step _ lS _ _ _ rfl fun hh => rcptRep_ok a lS (Or.inr rfl) _ hh) fun _ =>
        step _ lR _ _ _ rfl fun _ => ⟨by decide, Or.inl rfl⟩

/-- `smtp()` against the rules: `expect` and `run` test the same conditions in the same order, so the proof pairs their
branches (`ite_rel`) and closes each with the exit it reaches, from the context of the point where it leaves -/
theorem run_exit (a : Args) (wf : Option WPoint) (enc : Bytes) (henc : ∀ e, rblast a.msg = some e → e = enc)
    (fs : List Bytes) : Exit a wf (fullCmds a ++ enc) (expect (abstrF a wf fs)) (run a wf fs) := by
  have w2 : lit "HELO " ++ a.helo ++ lit "\r\n" ++ (lit "MAIL FROM:<" ++ a.sender ++ lit ">\r\n") <+: fullCmds a ++ enc := by
    rw [← cmdsUpTo_zero a]; exact cmdsUpTo_prefix_full a enc 0
  have h0 : Ctx a (fullCmds a ++ enc) [] [] := ⟨fun _ => nofun, List.nil_prefix, Or.inl rfl⟩
  have h1 : Ctx a (fullCmds a ++ enc) [] (lit "HELO " ++ a.helo ++ lit "\r\n") :=
    ⟨fun _ => nofun, (List.prefix_append _ _).trans w2, Or.inl rfl⟩
  have h2 : Ctx a (fullCmds a ++ enc) [] _ := ⟨fun _ => nofun, w2, Or.inl rfl⟩
  unfold expect run abstrF
  cases fs with
  | nil => exact .lost h0 _ _
  | cons g fs =>
    refine ite_rel _ (fun _ => .quit h0 _ _ _ .Z (by decide +kernel) nofun) fun _ =>
      ite_rel _ (fun _ => .lost h0 _ _) fun _ => ?_
    cases fs with
    | nil => exact .lost h1 _ _
    | cons h fs =>
      refine ite_rel _ (fun _ => .quit h1 _ _ _ .Z (by decide +kernel) nofun) fun _ =>
        ite_rel _ (fun _ => .lost h1 _ _) fun _ => ?_
      cases fs with
      | nil => exact .lost h2 _ _
      | cons m fs =>
        exact ite_rel _ (fun _ => .quit h2 _ _ _ .D (by decide +kernel) nofun) fun _ =>
          ite_rel _ (fun _ => .quit h2 _ _ _ .Z (by decide +kernel) nofun) fun _ =>
          rcpt_exit a (abstrF a wf (g :: h :: m :: fs)) rfl rfl enc henc a.rcpts 0 [] _ false _ fs rfl rfl (cmdsUpTo_zero a).symm (fun _ => nofun)

theorem run_exit' (a : Args) (wf : Option WPoint) (fs : List Bytes) :
    Exit a wf (fullCmds a ++ (rblast a.msg).getD []) (expect (abstrF a wf fs)) (run a wf fs) :=
  run_exit a wf _ (fun e h => by rw [h]; rfl) fs

/-! ### from qmail-remote's output to the spawner's verdict -/

theorem records_of_ok (r : Res) (h : ResOK r) : records [] (render r) = r.rcpt ++ [r.msg] :=
  records_render _ fun x hx => (List.mem_append.mp hx).elim (fun hx => (h.1 x hx).1)
    fun hx => List.mem_singleton.mp hx ▸ h.2.1

theorem firstKZD_rcpts (rs : List Bytes) (m : Bytes) (hrs : ∀ x ∈ rs, RcptOK x) (hm : isKZD (headB m) = true) :
    firstKZD (rs ++ [m]) = some (headB m) := by
  induction rs with
  | nil => simp [Nq.Lemmas.Rspawn.firstKZD_cons, hm]
  | cons r rs ih =>
    have hr := (hrs r (by simp)).2
    have : isKZD (headB r) = false := by
      rcases hr with h | h | h <;> rw [h] <;> decide
    rw [List.cons_append, Nq.Lemmas.Rspawn.firstKZD_cons, this]
    simpa using ih (fun x hx => hrs x (by simp [hx]))

/-! ### the class of the relayed line as a function of the server's replies -/

theorem vLetter_not_hs (v : Verdict) : vLetter v ≠ lS ∧ vLetter v ≠ lH := by
  cases v <;> simp [vLetter, cK, cZ, cD, lS, lH]

/-- `relayClass` is `report()`'s fold -/
theorem relayOf_vLetter (c : Byte) (v : Verdict) :
    Nq.Lemmas.Rspawn.relayOf c (some (vLetter v)) = if c = lS then cZ else if c = lH then cD else vLetter v := by
  cases v <;> rfl

/-- `C09_relay_class`. The output splits at its NULs into the printed reports (`records_of_ok`), the first K/Z/D
one among them is the message report (`firstKZD_rcpts`), and the first byte of the output is the first recipient's
letter or, without recipient reports, the message letter: `report()`'s fold of the two is `relayClass`. -/
theorem relay_class (wstat : Nat) (a : Args) (sc : Script) (h1 : wstat % 128 = 0) (h2 : wstat / 256 = 0)
    (hh : NUL ∉ a.host) : headB (rreport wstat (render (smtpRun a sc))) = relayClass (expect (abstr a sc)) := by
  have hok : ResOK (smtpRun a sc) := (run_exit' a sc.wfail _).ok hh
  have good : Good (expect (abstr a sc)) (smtpRun a sc) := (run_exit' a sc.wfail _).good
  generalize smtpRun a sc = res at hok good
  generalize expect (abstr a sc) = e at good
  have hml : headB res.msg = vLetter e.v := verdict_letter e.v (obsOf res) good.1
  have hrl : res.rcpt.map headB = e.rl := good.2
  have hne : render res ≠ [] := by
    unfold render
    cases res.rcpt <;> simp
  rw [Nq.Lemmas.Rspawn.headB_rreport_normal wstat (render res) h1 h2 hne, records_of_ok res hok,
      firstKZD_rcpts _ _ hok.1 hok.2.2, hml, relayOf_vLetter]
  unfold relayClass
  rw [← hrl]
  cases hr : res.rcpt with
  | nil =>
    have hmne : res.msg ≠ [] := fun e0 => by have := hok.2.2; rw [e0] at this; cases this
    have hhead : headB (render res) = vLetter e.v := by
      simp only [render, hr, List.nil_append, List.flatMap_cons, List.flatMap_nil, List.append_nil]
      rw [headB_append _ _ hmne]; exact hml
    rw [hhead, if_neg (vLetter_not_hs e.v).1, if_neg (vLetter_not_hs e.v).2]; rfl
  | cons r0 rest =>
    have hr0 : r0 ≠ [] := fun e0 => by
      rcases (hok.1 r0 (by simp [hr])).2 with h | h | h <;> rw [e0] at h <;> cases h
    have hhead : headB (render res) = headB r0 := by
      simp only [render, hr, List.cons_append, List.flatMap_cons, List.append_assoc]
      exact headB_append _ _ hr0
    rw [hhead]; rfl

theorem relayClass_eq_cK (e : Exp) (h : relayClass e = cK) :
    e.v = .K ∧ e.rl.head? ≠ some lS ∧ e.rl.head? ≠ some lH := by
  unfold relayClass at h
  cases hr : e.rl.head? with
  | none => rw [hr] at h; exact ⟨vLetter_eq_cK _ h, nofun, nofun⟩
  | some c =>
    rw [hr] at h
    obtain ⟨hS, hH, hK⟩ := Nq.Lemmas.Rspawn.relayOf_eq_cK ((relayOf_vLetter c e.v).trans h)
    exact ⟨vLetter_eq_cK _ (Option.some.inj hK), fun e => hS (Option.some.inj e), fun e => hH (Option.some.inj e)⟩

end Nq.Lemmas.RemoteSmtp
