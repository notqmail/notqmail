/-
  C09, the class rules `expect` of `Nq.Spec.RemoteVerdict` alone, no run of the client: what an outcome `K` implies
  about the script, the shape of the recipient letters, the Boolean predicates `kSound` and `rcptOrder` from the two
  conjuncts of `Good` (`Nq.Lemmas.RemoteSmtp`), the QUIT write, the rules on a script of the expected shape.
-/
import Nq.Spec.RemoteVerdict

namespace Nq.Lemmas.RemoteSmtp
open Nq Nq.SmtpOut Nq.RemoteSmtp Nq.RspawnReport Nq.Spec.RemoteVerdict

theorem rl_ite {c : Prop} [Decidable c] {x y : Exp} {rl : List Byte} (hx : x.rl = rl) (hy : y.rl = rl) :
    (if c then x else y).rl = rl := by
  split
  · exact hx
  · exact hy

theorem expData_rl (s : AScript) (rl : List Byte) (b : Bool) (cs : List Nat) : (expData s rl b cs).rl = rl := by
  unfold expData
  refine rl_ite rfl (rl_ite rfl ?_)
  cases cs with
  | nil => rfl
  | cons d cs =>
    refine rl_ite rfl (rl_ite rfl (rl_ite rfl (rl_ite rfl (rl_ite rfl (rl_ite rfl ?_)))))
    cases cs with
    | nil => rfl
    | cons f _ => exact rl_ite rfl (rl_ite rfl rfl)

theorem ite_K {c : Prop} [Decidable c] {x y : Exp} {C : Prop} (hx : c → x.v = .K → C) (hy : ¬ c → y.v = .K → C) :
    (if c then x else y).v = .K → C := by
  by_cases hc : c
  · rw [if_pos hc]; exact hx hc
  · rw [if_neg hc]; exact hy hc

theorem expData_K (s : AScript) (rl : List Byte) (b : Bool) (cs : List Nat) (h : (expData s rl b cs).v = .K) :
    b = true ∧ lt400 cs[0]? = true ∧ lt400 cs[1]? = true ∧ s.wfail ≠ some .data ∧ s.wfail ≠ some .body ∧
    s.wfail ≠ some .final ∧ s.msgErr = false ∧ s.msgPartial = false := by
  revert h
  unfold expData
  refine ite_K (fun _ => nofun) fun hb => ite_K (fun _ => nofun) fun hw => ?_
  cases cs with
  | nil => exact nofun
  | cons d cs =>
    refine ite_K (fun _ => nofun) fun h5 => ite_K (fun _ => nofun) fun h4 => ite_K (fun _ => nofun) fun hwb =>
      ite_K (fun _ => nofun) fun hme => ite_K (fun _ => nofun) fun hmp => ite_K (fun _ => nofun) fun hwf => ?_
    cases cs with
    | nil => exact nofun
    | cons f cs =>
      refine ite_K (fun _ => nofun) fun g5 => ite_K (fun _ => nofun) fun g4 _ => ?_
      exact ⟨by simpa using hb, by simp [lt400]; omega, by simp [lt400]; omega, hw, hwb, hwf,
        by simpa using hme, by simpa using hmp⟩

theorem clsLetter_eq_lR (c : Nat) : clsLetter c = lR ↔ c < 400 := by
  unfold clsLetter
  by_cases h5 : c ≥ 500
  · rw [if_pos h5]; exact ⟨fun h => absurd h (by decide), fun h => by omega⟩
  · by_cases h4 : c ≥ 400
    · rw [if_neg h5, if_pos h4]; exact ⟨fun h => absurd h (by decide), fun h => by omega⟩
    · rw [if_neg h5, if_neg h4]; exact ⟨fun _ => by omega, fun _ => rfl⟩

theorem expRcpt_succ (s : AScript) (i k : Nat) (rl : List Byte) (b : Bool) (p : Nat) (cs : List Nat)
    (hw : s.wfail ≠ some (.rcpt i)) :
    expRcpt s i (k + 1) rl b (p :: cs) = expRcpt s (i + 1) k (rl ++ [clsLetter p]) (b || decide (p < 400)) cs := by
  simp only [expRcpt, hw, if_false, clsLetter]
  by_cases h5 : p ≥ 500
  · have : ¬ p < 400 := by omega
    simp [h5, this]
  · by_cases h4 : p ≥ 400
    · have : ¬ p < 400 := by omega
      simp [h5, h4, this]
    · have : p < 400 := by omega
      simp [h5, h4, this]

theorem expRcpt_rl (s : AScript) : ∀ (k i : Nat) (rl : List Byte) (b : Bool) (cs : List Nat),
    ∃ m, m ≤ k ∧ m ≤ cs.length ∧ (expRcpt s i k rl b cs).rl = rl ++ (cs.take m).map clsLetter := by
  intro k
  induction k with
  | zero => intro i rl b cs; exact ⟨0, by simp, by simp, by simp [expRcpt, expData_rl]⟩
  | succ k ih =>
    intro i rl b cs
    by_cases hw : s.wfail = some (.rcpt i)
    · exact ⟨0, by simp, by simp, by simp [expRcpt, hw]⟩
    · cases cs with
      | nil => exact ⟨0, by simp, by simp, by simp [expRcpt, hw]⟩
      | cons p cs =>
        obtain ⟨m, h1, h2, h3⟩ := ih (i + 1) (rl ++ [clsLetter p]) (b || decide (p < 400)) cs
        exact ⟨m + 1, by omega, by simp; omega, by rw [expRcpt_succ s i k rl b p cs hw, h3]; simp⟩

theorem expRcpt_K (s : AScript) : ∀ (k i : Nat) (rl : List Byte) (b : Bool) (cs : List Nat),
    (expRcpt s i k rl b cs).v = .K →
    k ≤ cs.length ∧ (expRcpt s i k rl b cs).rl = rl ++ (cs.take k).map clsLetter ∧
    (b = true ∨ ∃ c ∈ cs.take k, c < 400) ∧ lt400 cs[k]? = true ∧ lt400 cs[k + 1]? = true ∧
    (∀ j, i ≤ j → j < i + k → s.wfail ≠ some (.rcpt j)) ∧
    s.wfail ≠ some .data ∧ s.wfail ≠ some .body ∧ s.wfail ≠ some .final ∧
    s.msgErr = false ∧ s.msgPartial = false := by
  intro k
  induction k with
  | zero =>
    intro i rl b cs h
    simp only [expRcpt] at h ⊢
    obtain ⟨h1, h2, h3, h4⟩ := expData_K s rl b cs h
    exact ⟨by simp, by simp [expData_rl], Or.inl h1, h2, h3, by intro j; omega, h4⟩
  | succ k ih =>
    intro i rl b cs h
    by_cases hw : s.wfail = some (.rcpt i)
    · simp [expRcpt, hw] at h
    · cases cs with
      | nil => simp [expRcpt, hw] at h
      | cons p cs =>
        rw [expRcpt_succ s i k rl b p cs hw] at h ⊢
        obtain ⟨a1, a2, a3, a4, a5, a6, a7⟩ := ih (i + 1) _ _ cs h
        refine ⟨by simp; omega, by rw [a2]; simp, ?_, by simpa using a4, by simpa using a5, ?_, a7⟩
        · rcases a3 with a3 | ⟨c, hc, hc'⟩
          · rcases Bool.or_eq_true_iff.mp a3 with a3 | a3
            · exact Or.inl a3
            · exact Or.inr ⟨p, by simp, by simpa using a3⟩
          · exact Or.inr ⟨c, by simp [hc], hc'⟩
        · intro j h1 h2
          by_cases hj : j = i
          · rw [hj]; exact hw
          · exact a6 j (by omega) (by omega)

theorem expect_cases (s : AScript) :
    ((expect s).rl = [] ∧ (expect s).v ≠ .K) ∨
    ∃ m cs, s.codes = 220 :: 250 :: m :: cs ∧ m < 400 ∧ s.wfail ≠ some .helo ∧ s.wfail ≠ some .mail ∧
      expect s = expRcpt s 0 s.n [] false cs := by
  unfold expect
  cases s.codes with
  | nil => exact Or.inl ⟨rfl, nofun⟩
  | cons g cs =>
    dsimp only
    by_cases hg : g ≠ 220
    · rw [if_pos hg]; exact Or.inl ⟨rfl, nofun⟩
    rw [if_neg hg]
    by_cases hw : s.wfail = some .helo
    · rw [if_pos hw]; exact Or.inl ⟨rfl, nofun⟩
    rw [if_neg hw]
    cases cs with
    | nil => exact Or.inl ⟨rfl, nofun⟩
    | cons h cs =>
      dsimp only
      by_cases hh : h ≠ 250
      · rw [if_pos hh]; exact Or.inl ⟨rfl, nofun⟩
      rw [if_neg hh]
      by_cases hwm : s.wfail = some .mail
      · rw [if_pos hwm]; exact Or.inl ⟨rfl, nofun⟩
      rw [if_neg hwm]
      cases cs with
      | nil => exact Or.inl ⟨rfl, nofun⟩
      | cons m cs =>
        dsimp only
        by_cases h5 : m ≥ 500
        · rw [if_pos h5]; exact Or.inl ⟨rfl, nofun⟩
        rw [if_neg h5]
        by_cases h4 : m ≥ 400
        · rw [if_pos h4]; exact Or.inl ⟨rfl, nofun⟩
        rw [if_neg h4]
        exact Or.inr ⟨m, cs, by rw [Decidable.not_not.mp hg, Decidable.not_not.mp hh], by omega, hw, hwm, rfl⟩

theorem expect_K (s : AScript) (h : (expect s).v = .K) :
    s.codes[0]? = some 220 ∧ s.codes[1]? = some 250 ∧ lt400 s.codes[2]? = true ∧
    s.n + 3 ≤ s.codes.length ∧ (expect s).rl = ((s.codes.drop 3).take s.n).map clsLetter ∧
    (∃ c ∈ (s.codes.drop 3).take s.n, c < 400) ∧
    lt400 s.codes[3 + s.n]? = true ∧ lt400 s.codes[4 + s.n]? = true ∧
    wfailUnreached s = true ∧ s.msgErr = false ∧ s.msgPartial = false := by
  rcases expect_cases s with ⟨_, hn⟩ | ⟨m, cs, hc, hm, hw, hwm, he⟩
  · exact absurd h hn
  rw [he] at h ⊢
  obtain ⟨a1, a2, a3, a4, a5, a6, a7, a8, a9, a11, a12⟩ := expRcpt_K s s.n 0 [] false cs h
  have hwu : wfailUnreached s = true := by
    unfold wfailUnreached
    cases hwf : s.wfail with
    | none => rfl
    | some p =>
      cases p with
      | helo => exact absurd hwf hw
      | mail => exact absurd hwf hwm
      | rcpt i =>
        simp only [decide_eq_true_eq]
        by_cases hi : s.n ≤ i
        · exact hi
        · exact absurd hwf (a6 i (by omega) (by omega))
      | data => exact absurd hwf a7
      | body => exact absurd hwf a8
      | final => exact absurd hwf a9
      | quit => rfl
  rw [hc]
  refine ⟨rfl, rfl, by simp [lt400]; omega, by simp; omega, by rw [a2]; simp, ?_, ?_, ?_, hwu, a11, a12⟩
  · simpa using a3
  · rw [show 3 + s.n = s.n + 1 + 1 + 1 by omega]; simpa using a4
  · rw [show 4 + s.n = s.n + 1 + 1 + 1 + 1 by omega]; simpa using a5

theorem expect_rl (s : AScript) :
    ∃ m, m ≤ s.n ∧ (m + 3 ≤ s.codes.length ∨ m = 0) ∧ (expect s).rl = ((s.codes.drop 3).take m).map clsLetter ∧
      (m = 0 ∨ (s.codes[0]? = some 220 ∧ s.codes[1]? = some 250 ∧ lt400 s.codes[2]? = true)) := by
  rcases expect_cases s with ⟨h0, _⟩ | ⟨m, cs, hc, hm, _, _, he⟩
  · exact ⟨0, by simp, Or.inr rfl, by simp [h0], Or.inl rfl⟩
  · obtain ⟨k, k1, k2, k3⟩ := expRcpt_rl s s.n 0 [] false cs
    exact ⟨k, k1, Or.inl (by rw [hc]; simp; omega), by rw [he, k3, hc]; simp,
      Or.inr (by rw [hc]; simp [lt400]; omega)⟩

theorem verdict_letter (v : Verdict) (o : Obs) (h : verdictOK v o = true) : o.ml = vLetter v := by
  cases v with
  | K => simpa [verdictOK, vLetter] using h
  | Z => simpa [verdictOK, vLetter] using h
  | D => simpa [verdictOK, vLetter] using h
  | lost c =>
    simp only [verdictOK, Bool.and_eq_true, beq_iff_eq] at h
    simpa [vLetter] using h.1

theorem vLetter_eq_cK (v : Verdict) (h : vLetter v = cK) : v = .K := by
  cases v with
  | K => rfl
  | Z => exact absurd h (by decide)
  | D => exact absurd h (by decide)
  | lost c => exact absurd (show cZ = cK from h) (by decide)

theorem kSound_of_good (s : AScript) (o : Obs) (h : verdictOK (expect s).v o = true) (hr : o.rl = (expect s).rl) :
    kSound s o = true := by
  unfold kSound
  by_cases hk : o.ml = cK
  · have hv : (expect s).v = .K := vLetter_eq_cK _ ((verdict_letter _ _ h).symm.trans hk)
    obtain ⟨a1, a2, a3, a4, a5, ⟨c, hc, hc'⟩, a7, a8, a9, a10, a11⟩ := expect_K s hv
    have hlen : o.rl.length = s.n := by rw [hr, a5]; simp; omega
    have hmem : lR ∈ o.rl := by
      rw [hr, a5]; exact List.mem_map.mpr ⟨c, hc, (clsLetter_eq_lR c).mpr hc'⟩
    simp [a1, a2, a3, a7, a8, a9, a10, a11, hlen, hmem]
  · simp [hk]

theorem rcptOrder_of_good (s : AScript) (o : Obs) (h : o.rl = (expect s).rl) : rcptOrder s o = true := by
  obtain ⟨m, m1, m2, m3, m4⟩ := expect_rl s
  have e1 : o.rl = ((s.codes.drop 3).take m).map clsLetter := h.trans m3
  have hlen : o.rl.length = m := by
    rw [e1]; simp
    rcases m2 with m2 | m2 <;> omega
  have e2 : m + 3 ≤ s.codes.length ∨ o.rl = [] := m2.imp id fun e => by rw [e1, e]; rfl
  have e3 : o.rl.isEmpty = true ∨ (s.codes[0]? = some 220 ∧ s.codes[1]? = some 250 ∧ lt400 s.codes[2]? = true) :=
    m4.imp (fun e => by rw [e1, e]; rfl) id
  unfold rcptOrder
  rw [hlen]
  rcases e3 with e3 | ⟨b1, b2, b3⟩
  · simp [m1, ← e1, e2, e3]
  · simp [m1, ← e1, e2, b1, b2, b3]

theorem expData_quit (s : AScript) (rl : List Byte) (b : Bool) (cs : List Nat) :
    expData { s with wfail := some .quit } rl b cs = expData { s with wfail := none } rl b cs := by
  simp [expData]

theorem expRcpt_quit (s : AScript) : ∀ (k i : Nat) (rl : List Byte) (b : Bool) (cs : List Nat),
    expRcpt { s with wfail := some .quit } i k rl b cs = expRcpt { s with wfail := none } i k rl b cs := by
  intro k
  induction k with
  | zero => intro i rl b cs; simp only [expRcpt]; exact expData_quit s rl b cs
  | succ k ih =>
    intro i rl b cs
    simp only [expRcpt, Option.some.injEq, reduceCtorEq, if_false]
    cases cs with
    | nil => rfl
    | cons p cs => simp only [ih]

theorem expect_quit (s : AScript) : expect { s with wfail := some .quit } = expect { s with wfail := none } := by
  unfold expect
  simp only [Option.some.injEq, reduceCtorEq, if_false, expRcpt_quit]

/-! ### the rules on a script `220 :: 250 :: m :: (rc ++ rest)`, one RCPT reply per recipient (for `C09_rule_*`) -/

theorem expRcpt_append (s : AScript) (hw : ∀ j, s.wfail ≠ some (.rcpt j)) :
    ∀ (rc : List Nat) (i : Nat) (rl : List Byte) (b : Bool) (rest : List Nat),
    expRcpt s i rc.length rl b (rc ++ rest) =
      expData s (rl ++ rc.map clsLetter) (b || rc.any (fun c => decide (c < 400))) rest := by
  intro rc
  induction rc with
  | nil => intro i rl b rest; simp [expRcpt]
  | cons p rc ih =>
    intro i rl b rest
    rw [List.length_cons, List.cons_append, expRcpt_succ s i rc.length rl b p (rc ++ rest) (hw i), ih]
    simp [Bool.or_assoc]

theorem expect_rcpts (s : AScript) (m : Nat) (rc rest : List Nat) (hc : s.codes = 220 :: 250 :: m :: (rc ++ rest))
    (hm : m < 400) (hn : rc.length = s.n)
    (hw : ∀ w, s.wfail = some w → w ≠ .helo ∧ w ≠ .mail ∧ ∀ j, w ≠ .rcpt j) :
    expect s = expData s (rc.map clsLetter) (rc.any (fun c => decide (c < 400))) rest := by
  have h1 : s.wfail ≠ some .helo := fun e => (hw _ e).1 rfl
  have h2 : s.wfail ≠ some .mail := fun e => (hw _ e).2.1 rfl
  have h3 : ∀ j, s.wfail ≠ some (.rcpt j) := fun j e => (hw _ e).2.2 j rfl
  have m5 : ¬ m ≥ 500 := by omega
  have m4 : ¬ m ≥ 400 := by omega
  unfold expect
  simp only [hc, ne_eq, not_true_eq_false, if_false, h1, h2, m5, m4, ← hn]
  rw [expRcpt_append s h3]; simp

theorem expect_rcpts_nofail (s : AScript) (m : Nat) (rc rest : List Nat) (hc : s.codes = 220 :: 250 :: m :: (rc ++ rest))
    (hm : m < 400) (hn : rc.length = s.n) (hw : s.wfail = none ∨ s.wfail = some .quit) :
    expect s = expData { s with wfail := none } (rc.map clsLetter) (rc.any (fun c => decide (c < 400))) rest := by
  rw [expect_rcpts s m rc rest hc hm hn (by rcases hw with h | h <;> simp [h])]
  rcases hw with h | h <;> simp [expData, h]

theorem any_lt400 (rc : List Nat) (hr : ∃ c ∈ rc, c < 400) : rc.any (fun c => decide (c < 400)) = true := by
  obtain ⟨c, h1, h2⟩ := hr
  exact List.any_eq_true.mpr ⟨c, h1, by simpa using h2⟩

end Nq.Lemmas.RemoteSmtp
