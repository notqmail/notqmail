/-
  C09: what the theorems about `run` (model of qmail-remote.c `smtp()`) are stated with - `abstr`, the script as the
  client itself delimits and reads it, and `Good` -, first bytes of the reports, the QUIT corner (`run_quit`) and
  "partial last line" against the encoder. The walk through the control flow of `run` is in
  `Nq.Lemmas.RemoteEndToEnd`, the rules `expect` alone in `Nq.Lemmas.RemoteRules`, `smtpcode()` in `Nq.Lemmas.RemoteCode`.
-/
import Nq.RemoteSmtp
import Nq.RspawnReport
import Nq.Spec.RemoteVerdict
import Nq.Lemmas.SmtpOutStep

namespace Nq.Lemmas.RemoteSmtp
open Nq Nq.SmtpOut Nq.RemoteSmtp Nq.RspawnReport Nq.Spec.RemoteVerdict

/-- the abstract script of a run over delimited replies `fs` -/
def abstrF (a : Args) (wf : Option WPoint) (fs : List Bytes) : AScript :=
  { codes := fs.map codeNat, n := a.rcpts.length, msgErr := a.msgErr,
    msgPartial := (rblast a.msg).isNone, wfail := wf }

/-- the abstract script of a run: codes as the client itself delimits and computes them -/
def abstr (a : Args) (sc : Script) : AScript := abstrF a sc.wfail (frames .d1 [] sc.stream)

/-- the run shows the outcome `e` -/
def Good (e : Exp) (r : Res) : Prop :=
  verdictOK e.v (obsOf r) = true ∧ (obsOf r).rl = e.rl

theorem hasInfix_self_append (p y : Bytes) : hasInfix p (p ++ y) = true := by
  cases h : p ++ y with
  | nil =>
    have : p = [] := by cases p <;> simp_all
    simp [hasInfix, this]
  | cons c t =>
    have : p.isPrefixOf (c :: t) = true := by rw [← h]; simp [List.isPrefixOf_iff_prefix]
    simp [hasInfix, this]

theorem hasInfix_append_left (p x y : Bytes) (h : hasInfix p y = true) : hasInfix p (x ++ y) = true := by
  induction x with
  | nil => simpa using h
  | cons c x ih => simp [hasInfix, ih]

theorem headB_append (p q : Bytes) (h : p ≠ []) : headB (p ++ q) = headB p := by
  cases p with
  | nil => exact absurd rfl h
  | cons c p => simp [headB]

/-- the first byte of a literal, from its first character: evaluating `lit s` itself decodes all of `s`, which is
slow for the long reports -/
theorem headB_lit (s : String) (c : Char) (h : s.front? = some c) : headB (lit s) = c.toNat.toUInt8 := by
  rw [String.front?_eq] at h
  unfold headB lit
  cases hs : s.toList with
  | nil => rw [hs] at h; cases h
  | cons d t => rw [hs] at h; cases h; rfl

/-- the proofs that follow the control flow of `smtp()` are chains of this -/
theorem ite_rel_iff {α β : Type} (R : α → β → Prop) {c c' : Prop} [Decidable c] [Decidable c'] {x0 y0 : α} {x y : β}
    (h : c ↔ c') (hx : c → R x0 x) (hy : ¬ c → R y0 y) : R (if c then x0 else y0) (if c' then x else y) := by
  by_cases hc : c
  · rw [if_pos hc, if_pos (h.mp hc)]; exact hx hc
  · rw [if_neg hc, if_neg (fun e => hc (h.mpr e))]; exact hy hc

theorem ite_rel {α β : Type} (R : α → β → Prop) {c : Prop} [Decidable c] {x0 y0 : α} {x y : β}
    (hx : c → R x0 x) (hy : ¬ c → R y0 y) : R (if c then x0 else y0) (if c then x else y) :=
  ite_rel_iff R Iff.rfl hx hy

theorem headB_dropped (h : Bytes) (c : Bool) : headB (droppedRep h c) = cZ := by
  unfold droppedRep; simp only [List.append_assoc]; rw [headB_append _ _ (by decide)]; decide

theorem tempReadRep_spec : headB tempReadRep = cZ ∧ NUL ∉ tempReadRep := by decide +kernel
theorem permPartialRep_spec : headB permPartialRep = cD ∧ NUL ∉ permPartialRep := by decide +kernel

theorem verdictOK_of_letter (v : Verdict) (r : Res) (hm : headB r.msg = vLetter v) (hd : v.decided = true) :
    verdictOK v (obsOf r) = true := by
  cases v with
  | lost c => cases hd
  | _ => simp [verdictOK, obsOf, hm, vLetter]

/-- `r` = the run in which the QUIT write fails, `r0` = the same run with it succeeding: the same
reports, recipient and message; the only difference is that the server does not get the QUIT -/
def QuitRel (r0 r : Res) : Prop :=
  r.rcpt = r0.rcpt ∧ r.msg = r0.msg ∧
  (if r0.quit = true then r0.wire = r.wire ++ quitCmd else r.wire = r0.wire)

theorem quitRel_quit (a : Args) (rs : List Bytes) (w pre app txt : Bytes) :
    QuitRel (quitWith a none rs w pre app txt) (quitWith a (some .quit) rs w pre app txt) := by
  simp [QuitRel, quitWith, quitCmd]

theorem quitRel_refl (r : Res) (h : r.quit = false) : QuitRel r r := by simp [QuitRel, h]

theorem data_quit (a : Args) (rs : List Bytes) (w : Bytes) (bother : Bool) (txt : Bytes) (fs : List Bytes) :
    QuitRel (dataPhase a none rs w bother txt fs) (dataPhase a (some .quit) rs w bother txt fs) := by
  unfold dataPhase
  simp only [Option.some.injEq, reduceCtorEq, if_false]
  refine ite_rel _ (fun _ => quitRel_quit ..) fun _ => ?_
  cases fs with
  | nil => exact quitRel_refl _ rfl
  | cons d fs =>
    refine ite_rel _ (fun _ => quitRel_quit ..) fun _ => ite_rel _ (fun _ => quitRel_quit ..) fun _ =>
      ite_rel _ (fun _ => quitRel_refl _ rfl) fun _ => ?_
    cases rblast a.msg with
    | none => exact quitRel_refl _ rfl
    | some enc =>
      cases fs with
      | nil => exact quitRel_refl _ rfl
      | cons f fs =>
        exact ite_rel _ (fun _ => quitRel_quit ..) fun _ => ite_rel _ (fun _ => quitRel_quit ..) fun _ =>
          quitRel_quit ..

theorem rcpt_quit (a : Args) (more : List Bytes) : ∀ (i : Nat) (rs : List Bytes) (w : Bytes) (bother : Bool) (txt : Bytes) (fs : List Bytes),
    QuitRel (rcptLoop a none i more rs w bother txt fs) (rcptLoop a (some .quit) i more rs w bother txt fs) := by
  induction more with
  | nil => intro i rs w bother txt fs; simp only [rcptLoop]; exact data_quit a rs w bother txt fs
  | cons r more ih =>
    intro i rs w bother txt fs
    simp only [rcptLoop, Option.some.injEq, reduceCtorEq, if_false]
    cases fs with
    | nil => exact quitRel_refl _ rfl
    | cons p fs => exact ite_rel _ (fun _ => ih ..) fun _ => ite_rel _ (fun _ => ih ..) fun _ => ih ..

theorem run_quit (a : Args) (fs : List Bytes) : QuitRel (run a none fs) (run a (some .quit) fs) := by
  unfold run
  simp only [Option.some.injEq, reduceCtorEq, if_false]
  cases fs with
  | nil => exact quitRel_refl _ rfl
  | cons g fs =>
    refine ite_rel _ (fun _ => quitRel_quit ..) fun _ => ?_
    cases fs with
    | nil => exact quitRel_refl _ rfl
    | cons h fs =>
      refine ite_rel _ (fun _ => quitRel_quit ..) fun _ => ?_
      cases fs with
      | nil => exact quitRel_refl _ rfl
      | cons m fs =>
        exact ite_rel _ (fun _ => quitRel_quit ..) fun _ => ite_rel _ (fun _ => quitRel_quit ..) fun _ =>
          rcpt_quit ..

/-- the clear-cut cases of "partial last line" agree with the encoder model -/
theorem partialMsg_eq (msg : Bytes) : partialMsg msg (rblast msg).isNone = (rblast msg).isNone := by
  rcases List.eq_nil_or_concat msg with h | ⟨m, c, h⟩
  · subst h; simp [partialMsg, rblast, rrun, rfinish]
  · subst h
    simp only [partialMsg, List.concat_eq_append, List.getLast?_append, List.getLast?_singleton, Option.some_or]
    unfold rblast
    rw [rrun_eq, Option.isNone_map, rstate_append]
    simp only [rstate]
    rcases byte_class c with rfl | rfl | rfl | ⟨h1, h2, h3⟩
    · simp [rstep_LF, rfinish]
    · simp [CR, LF]
    · simp [rstep_DOT, rfinish, DOT, CR, LF]
    · simp [rstep_other _ _ h1 h2 h3, rfinish, h1, h2]

end Nq.Lemmas.RemoteSmtp
