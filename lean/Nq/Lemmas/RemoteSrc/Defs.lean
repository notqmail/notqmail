/-
  The control points of the body extracted from qmail-remote.c `blast()` (`Nq.Gen.RemoteBlast.prog`, meaning
  `Nq.CFlow.advance`): the continuations at its three `substdio_get` calls, found by running the program.  `kOf` pairs
  them with the states of the hand-written automaton `Nq.SmtpOut.rstep`; `eofExpect` is what the end of the input does
  at each.  `Tab` proves the table "resume at a control point with a read result, run to the next read point = one step
  of `rstep` / `rfinish`" (`tab_byte`, `tab_eof`, `tab_err`: what `Main` and `Props/C06` use); `okByte`, `okEof`, `okErr`,
  `allTab` are the same table as an executable Boolean, true by `allTab_true`.
-/
import Nq.CFlow
import Nq.Gen.RemoteBlast
import Nq.SmtpOut

namespace Nq.RemoteSrc
open Nq Nq.CFlow Nq.SmtpOut Nq.Gen.RemoteBlast

/-- more steps than any path between two read points of the program needs (a table entry that ran out of fuel fails its check) -/
def FUEL : Nat := 200

/-- from the start of the function to the first read point -/
def start : Stop := advance FUEL prog .done 0 0 []

def kOfStop : Stop → K
  | .atGet k _ => k
  | _ => .done

/-- the three control points, found by running the extracted program: the first read; the read after an ordinary byte; the read after a CR -/
def kTop : K := kOfStop start
def kMid : K := kOfStop (resume FUEL kTop 97 1)
def kCr : K := kOfStop (resume FUEL kTop 13 1)

def kOf : RSt → K | .top => kTop | .mid => kMid | .cr => kCr
def sOf : Nat → RSt | 0 => .top | 1 => .mid | _ => .cr

def putEvs (bs : Bytes) : List Ev := bs.map (fun b => Ev.put b.toNat)

/-- a byte arrives at control point `s` -/
def okByte (s c : Nat) : Bool :=
  let st := sOf s
  let e := rstep st (UInt8.ofNat c)
  decide (resume FUEL (kOf st) c 1 = .atGet (kOf e.1) (putEvs e.2))

/-- what the end of the input does at each control point -/
def eofExpect : RSt → Stop
  | .top => .finished [.crit, .put 46, .put 13, .put 10, .flush]
  | .mid => .exited 1 []                                  -- perm_partialline()
  | .cr => .atGet kTop [.put 13, .put 10]                 -- completes the line, then reads again at the top

/-- `c` = the stale byte left in `ch` -/
def okEof (s c : Nat) : Bool := decide (resume FUEL (kOf (sOf s)) c 0 = eofExpect (sOf s))

/-- a read error: temp_read() at every read point -/
def okErr (s c : Nat) : Bool := decide (resume FUEL (kOf (sOf s)) c 2 = .exited 0 [])

def allTab : Bool :=
  decide (start = .atGet kTop []) &&
  (List.range 3).all fun s => (List.range 256).all fun c => okByte s c && okEof s c && okErr s c

end Nq.RemoteSrc
