/-
  Nq.Lemmas.RemoteSrc.Main — the whole body EXTRACTED from qmail-remote.c blast(), fed any message and then the end of
  the input, does what the hand-written automaton does: `feed = mrun`, and `mrun` is `rrun`/`rpart` with the position of
  `flagcritical = 1` and of the final flush made explicit.
-/
import Nq.Lemmas.RemoteSrc.Tab

namespace Nq.RemoteSrc
open Nq Nq.CFlow Nq.SmtpOut Nq.Gen.RemoteBlast

def Stop.pre (evs : List Ev) : Stop → Stop
  | .atGet k e => .atGet k (evs ++ e)
  | .finished e => .finished (evs ++ e)
  | .exited f e => .exited f (evs ++ e)
  | .fuel => .fuel

/-- the extracted program from control point `k`: the bytes of the message arrive one by one, then every further read
reports the end of the input (at most two such reads happen) -/
def feed : K → List Nat → Stop
  | k, [] =>
      match resume FUEL k 0 0 with
      | .atGet k' evs => Stop.pre evs (match resume FUEL k' 0 0 with
                                       | .atGet _ _ => .fuel
                                       | s => s)
      | s => s
  | k, c :: rest =>
      match resume FUEL k c 1 with
      | .atGet k' evs => Stop.pre evs (feed k' rest)
      | s => s

/-- the same in terms of the hand-written automaton -/
def mrun : RSt → Bytes → Stop
  | .top, [] => .finished [.crit, .put 46, .put 13, .put 10, .flush]
  | .cr, [] => .finished [.put 13, .put 10, .crit, .put 46, .put 13, .put 10, .flush]
  | .mid, [] => .exited 1 []
  | s, c :: m => Stop.pre (putEvs (rstep s c).2) (mrun (rstep s c).1 m)

theorem feed_eq : ∀ (m : Bytes) (s : RSt), feed (kOf s) (m.map (fun b => b.toNat)) = mrun s m
  | [], s => by
      simp only [List.map_nil, feed, tab_eof]
      cases s
      · simp [eofExpect, mrun]
      · simp [eofExpect, mrun]
      · have h2 := tab_eof .top 0
        simp only [eofExpect, kOf] at h2 ⊢
        simp [h2, Stop.pre, mrun]
  | c :: m, s => by
      simp only [List.map_cons, feed, tab_byte, mrun, feed_eq m (rstep s c).1]

def putsOf : List Ev → Bytes
  | [] => []
  | .put b :: l => UInt8.ofNat b :: putsOf l
  | _ :: l => putsOf l

theorem putsOf_append (a b : List Ev) : putsOf (a ++ b) = putsOf a ++ putsOf b := by
  induction a with
  | nil => rfl
  | cons e a ih => cases e <;> simp [putsOf, ih]

theorem putsOf_putEvs (bs : Bytes) : putsOf (putEvs bs) = bs := by
  induction bs with
  | nil => rfl
  | cons b bs ih => simp [putEvs, putsOf] at ih ⊢; exact ih

/-- what a stop means for the session: accepted message with the bytes written, or refusal with the bytes written so far -/
def view : Stop → Option (Option Bytes × Bytes)
  | .finished evs => some (some (putsOf evs), putsOf evs)
  | .exited 1 evs => some (none, putsOf evs)
  | _ => none

theorem view_pre (evs : List Ev) (s : Stop) :
    view (Stop.pre evs s) = (view s).map (fun p => (p.1.map (fun e => putsOf evs ++ e), putsOf evs ++ p.2)) := by
  cases s with
  | atGet k e => simp [Stop.pre, view]
  | finished e => simp [Stop.pre, view, putsOf_append]
  | exited f e =>
      simp only [Stop.pre]
      match f with
      | 0 => simp [view]
      | 1 => simp [view, putsOf_append]
      | n + 2 => simp [view]
  | fuel => simp [Stop.pre, view]

theorem mrun_view : ∀ (m : Bytes) (s : RSt),
    view (mrun s m) = some (rrun s m, match rrun s m with | some e => e | none => rpart s m)
  | [], .top => by simp [mrun, view, putsOf, rrun, rfinish, DOT, CR, LF]
  | [], .mid => by simp [mrun, view, putsOf, rrun, rfinish, rpart]
  | [], .cr => by simp [mrun, view, putsOf, rrun, rfinish, DOT, CR, LF]
  | c :: m, s => by
      have ih := mrun_view m (rstep s c).1
      simp only [mrun, view_pre, ih, putsOf_putEvs, rrun, rpart]
      cases h : rrun (rstep s c).1 m <;> simp [h]

/-- `flagcritical = 1` comes immediately before the final ". CR LF" and the only flush the function itself issues:
nothing of the message is put after it. -/
theorem mrun_crit : ∀ (m : Bytes) (s : RSt) (evs : List Ev), mrun s m = .finished evs →
    ∃ pre, evs = pre ++ [.crit, .put 46, .put 13, .put 10, .flush] ∧ Ev.crit ∉ pre ∧ Ev.flush ∉ pre
  | [], .top, evs, h => by
      simp only [mrun, Stop.finished.injEq] at h
      exact ⟨[], by simp [← h], by simp, by simp⟩
  | [], .cr, evs, h => by
      simp only [mrun, Stop.finished.injEq] at h
      exact ⟨[.put 13, .put 10], by simp [← h], by simp, by simp⟩
  | [], .mid, evs, h => by simp [mrun] at h
  | c :: m, s, evs, h => by
      simp only [mrun] at h
      cases hr : mrun (rstep s c).1 m with
      | finished e =>
          rw [hr] at h
          simp only [Stop.pre, Stop.finished.injEq] at h
          obtain ⟨pre, h1, h2, h3⟩ := mrun_crit m (rstep s c).1 e hr
          refine ⟨putEvs (rstep s c).2 ++ pre, by simp [← h, h1], ?_, ?_⟩
          · simp [putEvs, h2]
          · simp [putEvs, h3]
      | atGet k e => rw [hr] at h; simp [Stop.pre] at h
      | exited f e => rw [hr] at h; simp [Stop.pre] at h
      | fuel => rw [hr] at h; simp [Stop.pre] at h

end Nq.RemoteSrc
