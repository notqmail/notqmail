/-
  Nq.Lemmas.RemoteSrc.Tab — the table (control point, read result) -> (control point, bytes put) of the body extracted
  from qmail-remote.c blast().  The program compares `ch` with LF, CR and '.' only: those three bytes are run by the
  kernel, every other byte by rewriting with the equations of the interpreter; after the end of the input or a read
  error `ch` is not looked at, so the run is the same for every stale value by computation.
-/
import Nq.Lemmas.RemoteSrc.Defs
namespace Nq.RemoteSrc
open Nq Nq.CFlow Nq.SmtpOut Nq.Gen.RemoteBlast

theorem start_eq : start = .atGet kTop [] := rfl

theorem tab_err (s : RSt) (c : Nat) : resume FUEL (kOf s) c 2 = .exited 0 [] := by
  cases s <;> rfl

theorem tab_eof (s : RSt) (c : Nat) : resume FUEL (kOf s) c 0 = eofExpect s := by
  cases s <;> rfl

theorem tab_special (s : RSt) : ∀ c ∈ [LF, CR, DOT],
    resume FUEL (kOf s) c.toNat 1 = .atGet (kOf (rstep s c).1) (putEvs (rstep s c).2) := by
  cases s <;> decide +kernel

theorem tab_other (s : RSt) (n : Nat) (hl : n ≠ 10) (hc : n ≠ 13) (hd : n ≠ 46) :
    resume FUEL (kOf s) n 1 =
      .atGet kMid (match s with | .cr => [.put 13, .put 10, .put n] | _ => [.put n]) := by
  cases s <;>
    simp [resume, kOf, kTop, kMid, kCr, start, FUEL, kOfStop, prog, advance, cont, eval, b2n, hl, hc, hd]

theorem tab_byte (s : RSt) (c : Byte) :
    resume FUEL (kOf s) c.toNat 1 = .atGet (kOf (rstep s c).1) (putEvs (rstep s c).2) := by
  by_cases h : c ∈ [LF, CR, DOT]
  · exact tab_special s c h
  · simp only [List.mem_cons, List.not_mem_nil, or_false, not_or] at h
    have e : ∀ b : Byte, c ≠ b → c.toNat ≠ b.toNat := fun b hb he => hb (UInt8.toNat_inj.1 he)
    rw [tab_other s _ (e LF h.1) (e CR h.2.1) (e DOT h.2.2)]
    cases s <;> simp [rstep, h, putEvs, kOf, CR, LF]

theorem allTab_true : allTab = true := by
  simp only [allTab, okByte, okEof, okErr, Bool.and_eq_true, List.all_eq_true, List.mem_range, decide_eq_true_eq]
  refine ⟨start_eq, fun s _ c hc => ⟨⟨?_, tab_eof _ c⟩, tab_err _ c⟩⟩
  simpa only [UInt8.toNat_ofNat_of_lt' hc] using tab_byte (sOf s) (UInt8.ofNat c)
end Nq.RemoteSrc
