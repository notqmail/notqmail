/-
  Helper lemmas for C09: the bytes the server receives (`Res.wire`) are, apart from a final QUIT, a
  prefix of HELO, MAIL, the RCPT commands in argument order, DATA and the encoded message — the
  predicate `WireOK`, the command prefixes `cmdsUpTo`, and the driver's Boolean form.
-/
import Nq.Lemmas.RemoteSmtp

namespace Nq.Lemmas.RemoteSmtp
open Nq Nq.SmtpOut Nq.RemoteSmtp Nq.RspawnReport Nq.Spec.RemoteVerdict

/-- `w` (the wire before a possible final QUIT, `q`) is a prefix of the full command sequence `F` and contains the
commands up to the RCPT of the last recipient reported on (containment in the final wire, not an order in time:
the reports go through the buffer `subfdoutsmall`, flushed in `zerodie()`); `K` only with everything sent, QUIT included
unless the QUIT write is the one that fails -/
def WireOK (a : Args) (wf : Option WPoint) (F : Bytes) (r : Res) : Prop :=
  ∃ w q, r.wire = w ++ (if q = true then quitCmd else []) ∧ w <+: F ∧
    (r.rcpt = [] ∨ cmdsUpTo a r.rcpt.length <+: w) ∧ (headB r.msg = cK → (q = true ∨ wf = some .quit) ∧ w = F)

theorem cmdsUpTo_zero (a : Args) :
    cmdsUpTo a 0 = lit "HELO " ++ a.helo ++ lit "\r\n" ++ (lit "MAIL FROM:<" ++ a.sender ++ lit ">\r\n") := by
  simp [cmdsUpTo]

theorem cmdsUpTo_succ (a : Args) (i : Nat) (r : Bytes) (more : List Bytes) (h : a.rcpts.drop i = r :: more) :
    cmdsUpTo a (i + 1) = cmdsUpTo a i ++ (lit "RCPT TO:<" ++ r ++ lit ">\r\n") := by
  have hi : a.rcpts[i]? = some r := by rw [← List.head?_drop, h]; rfl
  unfold cmdsUpTo
  rw [List.take_add_one, hi]; simp [List.flatMap_append]

theorem cmdsUpTo_all (a : Args) (i : Nat) (h : a.rcpts.drop i = []) : cmdsUpTo a i ++ lit "DATA\r\n" = fullCmds a := by
  unfold cmdsUpTo fullCmds
  rw [List.take_of_length_le (List.drop_eq_nil_iff.mp h)]

theorem cmdsUpTo_prefix_full (a : Args) (enc : Bytes) (j : Nat) : cmdsUpTo a j <+: fullCmds a ++ enc := by
  unfold cmdsUpTo fullCmds
  have : a.rcpts = a.rcpts.take j ++ a.rcpts.drop j := (List.take_append_drop j a.rcpts).symm
  conv => rhs; rw [this]
  simp only [List.flatMap_append, List.append_assoc]
  repeat apply (List.prefix_append_right_inj _).mpr
  exact List.prefix_append _ _

theorem wireOrderQ_of_WireOK (a : Args) (wf : Option WPoint) (enc : Bytes) (r : Res) (h : WireOK a wf (fullCmds a ++ enc) r) :
    wireOrderQ a enc r.wire (obsOf r) (wf == some .quit) = true := by
  obtain ⟨w, q, h1, h2, h3, h4⟩ := h
  have hp : w.isPrefixOf (fullCmds a ++ enc) = true := List.isPrefixOf_iff_prefix.mpr h2
  have hr : ((obsOf r).rl.isEmpty || (cmdsUpTo a (obsOf r).rl.length).isPrefixOf w) = true := by
    rcases h3 with h3 | h3
    · simp [obsOf, h3]
    · have : (cmdsUpTo a (obsOf r).rl.length).isPrefixOf w = true := by
        simp only [obsOf, List.length_map]; exact List.isPrefixOf_iff_prefix.mpr h3
      simp [this]
  unfold wireOrderQ wireOrder
  cases q with
  | false =>
    have hw : r.wire = w := by simpa using h1
    by_cases hk : (obsOf r).ml = cK
    · obtain ⟨hq, hF⟩ := h4 hk
      have hq' : wf = some .quit := by
        rcases hq with hq | hq
        · simp at hq
        · exact hq
      have h3' : wireOrderW a enc r.wire (obsOf r) true = true := by
        have he : (w == fullCmds a ++ enc) = true := by simp [hF]
        rw [hw]; unfold wireOrderW; rw [hp, hr, he]; simp
      have hqb : (wf == some WPoint.quit) = true := by simp [hq']
      rw [h3', hqb]; simp
    · have hk' : ((obsOf r).ml != cK) = true := by simpa using hk
      simp [wireOrderW, hw, hp, hr, hk']
  | true =>
    have hw : r.wire = w ++ quitCmd := by simpa using h1
    have hs : quitCmd.isSuffixOf r.wire = true := by rw [hw]; exact List.isSuffixOf_iff_suffix.mpr (List.suffix_append _ _)
    have ht : r.wire.take (r.wire.length - quitCmd.length) = w := by rw [hw]; simp
    have hk : ((obsOf r).ml != cK || w == fullCmds a ++ enc) = true := by
      by_cases hk : (obsOf r).ml = cK
      · have := (h4 hk).2; simp [this]
      · simp [hk]
    rw [hs, ht]
    simp only [wireOrderW, hp, hr, Bool.true_and, hk, Bool.or_true, Bool.true_or]

end Nq.Lemmas.RemoteSmtp
