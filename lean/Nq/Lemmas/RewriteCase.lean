/-
  C10: routing is invariant under ASCII case changes of addresses and keys: every step of `rewriteWith`, for lookups that
  see the probed key only up to case (`CI`); the finite maps of a `Cfg` are such lookups, and see their listed keys only up to case.
-/
import Nq.Lemmas.RewriteSpec

namespace Nq.Lemmas.RewriteCase
open Nq Nq.Rewrite Nq.Route Nq.Lemmas.RewriteMap Nq.Lemmas.RewriteSpec

theorem caseless_at : Caseless AT := caseless_of (by decide)
theorem caseless_pct : Caseless PCT := caseless_of (by decide)
theorem caseless_dot : Caseless DOT := caseless_of (by decide)

theorem rchr_lower {c : Byte} (hc : Caseless c) (s : Bytes) : rchr c (lower s) = rchr c s := by
  induction s with
  | nil => rfl
  | cons x r ih =>
    simp only [lower_cons, rchr, ih, lower_length]
    by_cases hx : x = c
    · have : lowerByte x = c := (hc x).2 hx
      subst hx
      simp [this]
    · have : ¬ lowerByte x = c := fun h => hx ((hc x).1 h)
      simp [hx, this]

theorem rchr_ci {c : Byte} (hc : Caseless c) {a b : Bytes} (h : lower a = lower b) : rchr c a = rchr c b := by
  rw [← rchr_lower hc a, ← rchr_lower hc b, h]

theorem length_ci {a b : Bytes} (h : lower a = lower b) : a.length = b.length := by
  rw [← lower_length a, ← lower_length b, h]

/-- lookups that only depend on the key up to ASCII case (every `constmap` is like that) -/
structure CI (L : Lookups) : Prop where
  ph : ∀ k k', lower k = lower k' → L.ph k = L.ph k'
  locals : ∀ k k', lower k = lower k' → L.locals k = L.locals k'
  vdoms : ∀ k k', lower k = lower k' → L.vdoms k = L.vdoms k'

theorem phLoop_ci {L : Lookups} (ci : CI L) : ∀ (n : Nat) (a a' : Bytes) (i : Nat), lower a = lower a' →
    lower (phLoop L.ph n a i) = lower (phLoop L.ph n a' i) := by
  intro n
  induction n with
  | zero => intro a a' i h; exact h
  | succ n ih =>
    intro a a' i h
    simp only [phLoop]
    have h1 : L.ph (a.drop (i + 1)) = L.ph (a'.drop (i + 1)) := ci.ph _ _ (by rw [lower_drop, lower_drop, h])
    have h2 : rchr PCT (a.take i) = rchr PCT (a'.take i) := rchr_ci caseless_pct (by rw [lower_take, lower_take, h])
    rw [h1, h2]
    split
    · split
      · exact h
      · apply ih
        rw [lower_set, lower_set, lower_take, lower_take, h]
    · exact h

theorem cand_lower (a : Bytes) (at_ i : Nat) : cand (lower a) at_ i = cand a at_ i := by
  unfold cand
  rw [lower_length]
  have : ((lower a)[i]? == some DOT) = (a[i]? == some DOT) := by
    unfold lower
    rw [List.getElem?_map]
    cases a[i]? with
    | none => rfl
    | some x =>
      simp only [Option.map_some]
      rw [Bool.eq_iff_iff]
      simp only [beq_iff_eq, Option.some.injEq]
      exact caseless_dot x
  rw [this]

theorem vscan_ci {L : Lookups} (ci : CI L) (a a' : Bytes) (at_ : Nat) (h : lower a = lower a') :
    ∀ (n i : Nat), vscan L.vdoms a at_ n i = vscan L.vdoms a' at_ n i := by
  intro n
  induction n with
  | zero => intro i; rfl
  | succ n ih =>
    intro i
    simp only [vscan]
    have hc : cand a at_ i = cand a' at_ i := by rw [← cand_lower a, ← cand_lower a', h]
    have hv : L.vdoms (a.drop i) = L.vdoms (a'.drop i) := ci.vdoms _ _ (by rw [lower_drop, lower_drop, h])
    rw [hc, hv, ih]

theorem tailPart_ci {L : Lookups} (ci : CI L) (a a' : Bytes) (h : lower a = lower a') :
    (tailPart L a).chan = (tailPart L a').chan ∧ (tailPart L a).tag = (tailPart L a').tag ∧
      lower (tailPart L a).addr = lower (tailPart L a').addr := by
  unfold tailPart
  have hat : rchr AT a = rchr AT a' := rchr_ci caseless_at h
  have hl : L.locals (a.drop (rchr AT a + 1)) = L.locals (a'.drop (rchr AT a' + 1)) :=
    ci.locals _ _ (by rw [lower_drop, lower_drop, h, hat])
  have hv := vscan_ci ci a a' (rchr AT a') h (a'.length + 1) 0
  rw [hl, hat, length_ci h, hv]
  split
  · exact ⟨rfl, rfl, h⟩
  · split
    · split
      · exact ⟨rfl, rfl, h⟩
      · exact ⟨rfl, rfl, h⟩
    · exact ⟨rfl, rfl, h⟩

theorem rewriteWith_ci {L : Lookups} (ci : CI L) (env env' r r' : Bytes)
    (he : lower env = lower env') (hr : lower r = lower r') :
    (rewriteWith L env r).chan = (rewriteWith L env' r').chan ∧
    (rewriteWith L env r).tag = (rewriteWith L env' r').tag ∧
    lower (rewriteWith L env r).addr = lower (rewriteWith L env' r').addr := by
  rw [rewriteWith_eq, rewriteWith_eq]
  apply tailPart_ci ci
  have hi : rchr AT r = rchr AT r' := rchr_ci caseless_at hr
  have hlen := length_ci hr
  have h0 : lower (if rchr AT r = r.length then r ++ AT :: env else r) =
      lower (if rchr AT r' = r'.length then r' ++ AT :: env' else r') := by
    rw [hi, hlen]
    split
    · rw [lower_append, lower_append, lower_cons, lower_cons, hr, he]
    · exact hr
  rw [hi] at h0 ⊢
  rw [length_ci h0]
  exact phLoop_ci ci _ _ _ _ h0

/-! ### the finite maps only see keys up to case -/

def lowerKeys (es : List Ent) : List Ent := es.map (fun e => ⟨lower e.key, e.val⟩)

theorem mapLookupRev_ci (es : List Ent) {k k' : Bytes} (h : lower k = lower k') :
    mapLookupRev k es = mapLookupRev k' es := by
  induction es with
  | nil => rfl
  | cons e r ih =>
    have hk : keyEq k e = keyEq k' e := by unfold keyEq; rw [h]
    simp only [mapLookupRev]
    rw [hk, ih]

theorem mapLookupRev_lowerKeys (es : List Ent) (k : Bytes) :
    mapLookupRev k (lowerKeys es) = mapLookupRev k es := by
  induction es with
  | nil => rfl
  | cons e r ih =>
    have hk : keyEq k (⟨lower e.key, e.val⟩ : Ent) = keyEq k e := by unfold keyEq; simp only [lower_idem]
    unfold lowerKeys at ih
    simp only [lowerKeys, List.map_cons, mapLookupRev]
    rw [hk, ih]

theorem mapLookup_lowerKeys (es : List Ent) (k : Bytes) : mapLookup (lowerKeys es) k = mapLookup es k := by
  unfold mapLookup
  have : (lowerKeys es).reverse = lowerKeys es.reverse := by simp [lowerKeys]
  rw [this, mapLookupRev_lowerKeys]

theorem mapLookup_keys_ci {es es' : List Ent} (h : lowerKeys es = lowerKeys es') (k : Bytes) :
    mapLookup es k = mapLookup es' k := by
  rw [← mapLookup_lowerKeys es, ← mapLookup_lowerKeys es', h]

theorem cfg_ci (c : Cfg) : CI c.lookups where
  ph := fun k k' h => by simp only [Cfg.lookups, mapLookup, mapLookupRev_ci _ h]
  locals := fun k k' h => by simp only [Cfg.lookups, mapLookup, mapLookupRev_ci _ h]
  vdoms := fun k k' h => by simp only [Cfg.lookups, mapLookup, mapLookupRev_ci _ h]

theorem lookups_keys_ci {c c' : Cfg} (hp : lowerKeys c.ph = lowerKeys c'.ph)
    (hl : lowerKeys c.locals = lowerKeys c'.locals) (hv : lowerKeys c.vdoms = lowerKeys c'.vdoms) :
    c.lookups = c'.lookups := by
  unfold Cfg.lookups
  congr 1
  · funext k; rw [mapLookup_keys_ci hp]
  · funext k; rw [mapLookup_keys_ci hl]
  · funext k; rw [mapLookup_keys_ci hv]

end Nq.Lemmas.RewriteCase
