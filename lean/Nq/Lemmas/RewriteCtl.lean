/-
  C10: the control-file readers of control.c (`readline`, `readfile`) followed by
  `constmap_init`'s entry splitting produce exactly the documented entries (one per line, trailing
  blanks stripped, `#` comments and empty lines ignored), for files without NUL bytes; so `getcontrols()`
  is `specCfg` (`getcontrols_eq_spec`) and `regetcontrols()` is `specHup` (`reget_eq_spec`).
-/
import Nq.Lemmas.RewriteTodo

namespace Nq.Lemmas.RewriteCtl
open Nq Nq.Rewrite Nq.Route Nq.Lemmas.RewriteTodo

theorem linesOf_cons (c : Byte) (s : Bytes) :
    linesOf (c :: s) = if c = LF then [] :: linesOf s else
      match linesOf s with
      | l :: r => (c :: l) :: r
      | [] => [[c]] := rfl

theorem linesOf_head (s : Bytes) : ∃ r, linesOf s = s.takeWhile (· != LF) :: r := by
  induction s with
  | nil => exact ⟨[], rfl⟩
  | cons c s ih =>
    obtain ⟨r, h⟩ := ih
    by_cases hc : c = LF
    · refine ⟨linesOf s, ?_⟩
      rw [linesOf_cons, if_pos hc, List.takeWhile_cons]
      simp [hc]
    · refine ⟨r, ?_⟩
      rw [linesOf_cons, if_neg hc, h, List.takeWhile_cons]
      simp [hc]

theorem linesOf_ne_nil (s : Bytes) : ∃ l r, linesOf s = l :: r :=
  let ⟨r, h⟩ := linesOf_head s; ⟨_, r, h⟩

theorem splitLinesGo_eq (s acc l : Bytes) (r : List Bytes) (h : linesOf s = l :: r) :
    splitLinesGo s acc = (acc.reverse ++ l) :: r := by
  induction s generalizing acc l r with
  | nil =>
    simp only [linesOf, List.foldr_nil, List.cons.injEq] at h
    obtain ⟨rfl, rfl⟩ := h
    simp [splitLinesGo]
  | cons c s ih =>
    obtain ⟨l', r', h'⟩ := linesOf_ne_nil s
    rw [linesOf_cons, h'] at h
    by_cases hc : c = LF
    · simp only [hc, if_true, List.cons.injEq] at h
      obtain ⟨rfl, rfl⟩ := h
      simp only [splitLinesGo, hc, if_true, List.append_nil]
      rw [ih [] l' r' h']
      simp
    · simp only [hc, if_false, List.cons.injEq] at h
      obtain ⟨rfl, rfl⟩ := h
      simp only [splitLinesGo, hc, if_false]
      rw [ih (c :: acc) l' r' h']
      simp

theorem splitLines_eq (s : Bytes) : splitLines s = linesOf s := by
  obtain ⟨l, r, h⟩ := linesOf_ne_nil s
  unfold splitLines
  rw [splitLinesGo_eq s [] l r h, h]; simp

theorem linesOf_eq : ∀ s : Bytes, linesOf s = splitSep LF s
  | [] => rfl
  | c :: r => by
    rw [linesOf_cons, linesOf_eq r, splitSep]
    split
    · rfl
    · cases splitSep LF r <;> rfl

theorem linesOf_mem (s : Bytes) : ∀ l ∈ linesOf s, LF ∉ l ∧ ∀ x ∈ l, x ∈ s :=
  fun l hl => splitSep_mem LF s l (linesOf_eq s ▸ hl)

theorem stripWs_eq_rstrip (l : Bytes) (h : LF ∉ l) : stripWs l = rstrip l := rstripWs_lffree l h

theorem mem_rstrip (l : Bytes) (x : Byte) (h : x ∈ rstrip l) : x ∈ l := by
  unfold rstrip at h
  rw [List.mem_reverse] at h
  simpa using (List.dropWhile_suffix _).subset h

theorem fileLine_eq (l : Bytes) (hlf : LF ∉ l) (hn : NUL ∉ l) :
    fileLine l = if isEntryLine (rstrip l) then rstrip l ++ [NUL] else [] := by
  unfold fileLine
  rw [stripWs_eq_rstrip l hlf]
  cases hr : rstrip l with
  | nil => simp [isEntryLine]
  | cons c r =>
    have hc : ¬ c = NUL := by
      intro e
      exact hn (mem_rstrip l NUL (by rw [hr, e]; simp))
    simp only [isEntryLine]
    by_cases hh : c = HASHC
    · simp [hh]
    · simp [hh, hc]

theorem readfileBody_eq (s : Bytes) (hn : NUL ∉ s) : readfileBody s = encode (specLines s) := by
  unfold readfileBody specLines encode
  rw [splitLines_eq]
  have hm := linesOf_mem s
  generalize linesOf s = ls at hm
  induction ls with
  | nil => rfl
  | cons l r ih =>
    have hl := hm l (by simp)
    have hnl : NUL ∉ l := fun h => hn (hl.2 NUL h)
    simp only [List.flatMap_cons, List.map_cons, List.filter_cons]
    rw [fileLine_eq l hl.1 hnl, ih (fun x hx => hm x (by simp [hx]))]
    by_cases hk : isEntryLine (rstrip l) = true
    · simp [hk]
    · simp [hk]

theorem specLines_nulfree (s : Bytes) (hn : NUL ∉ s) : ∀ l ∈ specLines s, NUL ∉ l := by
  intro l hl
  unfold specLines at hl
  obtain ⟨hl1, _⟩ := List.mem_filter.1 hl
  obtain ⟨x, hx, rfl⟩ := List.mem_map.1 hl1
  intro h
  exact hn ((linesOf_mem s x hx).2 NUL (mem_rstrip x NUL h))

theorem chunks_readfileBody (s : Bytes) (hn : NUL ∉ s) : chunks (readfileBody s) = specLines s := by
  rw [readfileBody_eq s hn]
  have := chunks_encode (specLines s) [] (specLines_nulfree s hn) (by simp)
  simpa using this

theorem parse_plain (s : Bytes) (hn : NUL ∉ s) :
    parseEntries (readfileBody s) false = (specLines s).map specPlain := by
  unfold parseEntries
  rw [chunks_readfileBody s hn]
  induction specLines s with
  | nil => rfl
  | cons l r ih => simp [List.filterMap_cons, entOf, specPlain, ih]

theorem entOf_vdom_eq (l : Bytes) : entOf true l = specVdom l := by
  have key : splitColon l = match l.dropWhile (· != COLON) with
      | _ :: v => some (l.takeWhile (· != COLON), v)
      | [] => none := by
    induction l with
    | nil => rfl
    | cons c r ih =>
      by_cases hc : c = COLON
      · simp [splitColon, hc]
      · have hne : (c != COLON) = true := by simp [hc]
        rw [splitColon, if_neg hc, ih, List.dropWhile_cons, List.takeWhile_cons, hne]
        cases r.dropWhile (· != COLON) <;> rfl
  unfold entOf specVdom
  rw [if_pos rfl, key]
  cases l.dropWhile (· != COLON) <;> rfl

theorem parse_vdoms (s : Bytes) (hn : NUL ∉ s) :
    parseEntries (readfileBody s) true = (specLines s).filterMap specVdom := by
  unfold parseEntries
  rw [chunks_readfileBody s hn]
  congr 1
  funext l; exact entOf_vdom_eq l

theorem specFirstLine_eq (s : Bytes) : specFirstLine s = rstrip (s.takeWhile (· != LF)) := by
  obtain ⟨r, h⟩ := linesOf_head s
  unfold specFirstLine
  rw [h]

theorem firstLine_eq (s : Bytes) : stripWs (s.takeWhile (· != LF)) = specFirstLine s := by
  rw [specFirstLine_eq]
  exact stripWs_eq_rstrip _ (not_mem_takeWhile_ne LF s)

theorem specFirstLine_nulfree (m : Bytes) (h : NUL ∉ m) : NUL ∉ specFirstLine m := by
  rw [specFirstLine_eq]
  intro hm
  exact h ((List.takeWhile_sublist _).subset (mem_rstrip _ _ hm))

theorem parse_me (m : Bytes) (h : NUL ∉ m) : parseEntries (m ++ [NUL]) false = [specPlain m] := by
  unfold parseEntries
  have := chunks_encode [m] [] (by simpa using h) (by simp)
  simp only [encode, List.flatMap_cons, List.flatMap_nil, List.append_nil] at this
  rw [this]
  simp [entOf, specPlain]

/-- NUL-free control directory -/
def nulFreeFiles (f : Files) : Prop :=
  (∀ s, f.me = some s → NUL ∉ s) ∧ (∀ s, f.env = some s → NUL ∉ s) ∧ (∀ s, f.locals = some s → NUL ∉ s) ∧
  (∀ s, f.ph = some s → NUL ∉ s) ∧ (∀ s, f.vdoms = some s → NUL ∉ s)

theorem parseEntries_nil (fc : Bool) : parseEntries [] fc = [] := rfl

theorem readline_spec (o : Option Bytes) : readline o = o.map specFirstLine := by
  cases o
  · rfl
  · exact congrArg some (firstLine_eq _)

theorem parse_locals (f : Files) (hme : ∀ s, f.me = some s → NUL ∉ s) (hloc : ∀ s, f.locals = some s → NUL ∉ s) :
    (readfile f.locals (readline f.me) true).map (parseEntries · false) = specLocals f := by
  unfold specLocals
  cases hl : f.locals with
  | some s => exact congrArg some (parse_plain s (hloc s hl))
  | none =>
    cases hm : f.me with
    | none => rfl
    | some m =>
      show some (parseEntries (stripWs (m.takeWhile (· != LF)) ++ [NUL]) false) = _
      rw [firstLine_eq, parse_me _ (specFirstLine_nulfree m (hme m hm))]

theorem parse_vdoms_file (f : Files) (me : Option Bytes) (hvd : ∀ s, f.vdoms = some s → NUL ∉ s) :
    parseEntries ((readfile f.vdoms me false).getD []) true = specVdoms f := by
  unfold specVdoms
  cases hv : f.vdoms with
  | none => rfl
  | some s => exact parse_vdoms s (hvd s hv)

theorem getcontrols_eq_spec (f : Files) (h : nulFreeFiles f) : (getcontrols f).map RawCfg.cfg = specCfg f := by
  obtain ⟨hme, henv, hloc, hph, hvd⟩ := h
  unfold getcontrols specCfg
  simp only [← parse_locals f hme hloc]
  cases readfile f.locals (readline f.me) true with
  | none => rfl
  | some l =>
    simp only [Option.map_some, RawCfg.cfg, Option.some.injEq, Cfg.mk.injEq]
    refine ⟨?_, ?_, trivial, parse_vdoms_file f _ hvd⟩
    · rw [readline_spec, readline_spec]
      cases f.env <;> cases f.me <;> rfl
    · cases hp : f.ph with
      | none => rfl
      | some s => exact parse_plain s (hph s hp)

theorem reget_eq_spec (f0 f : Files) (old : RawCfg) (h0 : ∀ s, f0.me = some s → NUL ∉ s) (h : nulFreeFiles f) :
    (reget (readline f0.me) old f).cfg = specHup old.cfg f0 f := by
  obtain ⟨-, -, hloc, -, hvd⟩ := h
  unfold reget specHup
  simp only [← parse_locals { f with me := f0.me } h0 hloc]
  cases readfile f.locals (readline f0.me) true with
  | none => rfl
  | some l => simp only [Option.map_some, RawCfg.cfg, parse_vdoms_file f _ hvd]

end Nq.Lemmas.RewriteCtl
