/-
  C10: the record loop of `todo_do` on **every** byte string (`todoDo = specTodo`),
  NUL-freeness of what `rewrite()` produces, and the daemon acceptor: which events can change the
  configuration, and the relation `Sim` between the acceptor's state and the documented state `SpecD`
  (every event keeps it: `sim_stepF` in RewriteIO).
-/
import Nq.Lemmas.RewriteCtl
import Nq.Lemmas.Acceptor

namespace Nq.Lemmas.RewriteDaemon
open Nq Nq.Rewrite Nq.Route Nq.Lemmas.RewriteMap Nq.Lemmas.RewriteSpec Nq.Lemmas.RewriteTodo Nq.Lemmas.RewriteCtl
open Nq.Acceptor

theorem ht_eq (raw : RawCfg) : raw.htLookups = raw.cfg.lookups := by
  unfold RawCfg.htLookups RawCfg.cfg Cfg.lookups
  simp only [lookup_cmInit]
  congr 1
  funext k; exact lookup_cmInit raw.vdoms true k

/-! ### the record loop on arbitrary input -/

theorem chanFile_nil (ch : Chan) : chanFile ch [] = [] := rfl

theorem chanFile_append (ch : Chan) (a b : List Routed) : chanFile ch (a ++ b) = chanFile ch a ++ chanFile ch b := by
  simp [chanFile, chanRecs]

theorem chanFile_eq_flatMap (ch : Chan) (l : List Routed) :
    chanFile ch l = l.flatMap (fun r => if r.chan == ch then r.line else []) := by
  induction l with
  | nil => rfl
  | cons x l ih =>
    rw [List.flatMap_cons, ← ih]
    unfold chanFile chanRecs
    rw [List.filter_cons]
    split <;> simp

theorem specInfo_eq_infoOf (recs : List Bytes) : specInfo recs = infoOf recs := rfl

theorem specInfo_append (a b : List Bytes) : specInfo (a ++ b) = specInfo a ++ specInfo b := by
  simp [specInfo]

/-- what the record loop of `todo_do` adds to the three outputs, in the documents' terms (`todoFold_all`: it does) -/
def foldSpec (L : Lookups) (env : Bytes) (recs : List Bytes) (o : TodoOut) : Option TodoOut :=
  if recs.all recOk then
    some ⟨o.info ++ specInfo recs,
          o.loc ++ chanFile .loc ((recs.filterMap recipOf).map (rewriteWith L env)),
          o.rem ++ chanFile .rem ((recs.filterMap recipOf).map (rewriteWith L env))⟩
  else none

theorem foldSpec_append (L : Lookups) (env : Bytes) (a b : List Bytes) (o : TodoOut) :
    foldSpec L env (a ++ b) o = (foldSpec L env a o).bind (foldSpec L env b) := by
  unfold foldSpec
  rw [List.all_append]
  cases a.all recOk with
  | false => rfl
  | true =>
    simp only [Bool.true_and, if_true, Option.bind_some, List.filterMap_append, List.map_append, specInfo_append,
      chanFile_append, List.append_assoc]

theorem todoStep_eq (L : Lookups) (env : Bytes) (o : TodoOut) (r : Bytes) : todoStep L env o r = foldSpec L env [r] o := by
  cases r with
  | nil => rfl
  | cons t b =>
    simp only [todoStep]
    by_cases h1 : t = 117 ∨ t = 112
    · rw [if_pos h1]
      rcases h1 with h | h <;> (subst h; simp [foldSpec, recOk, recipOf, specInfo, chanFile, chanRecs, TEE])
    · rw [if_neg h1]
      by_cases h2 : t = 70
      · subst h2; simp [foldSpec, recOk, recipOf, specInfo, chanFile, chanRecs, TEE]
      · rw [if_neg h2]
        by_cases h3 : t = TEE
        · subst h3
          cases hc : (rewriteWith L env b).chan <;>
            simp +decide [foldSpec, recOk, recipOf, specInfo, chanFile, chanRecs, TEE, hc]
        · rw [if_neg h3]
          have hok : recOk (t :: b) = false := by
            simp only [recOk, Bool.or_eq_false_iff, beq_eq_false_iff_ne, ne_eq]
            exact ⟨⟨⟨h3, fun e => h1 (Or.inl e)⟩, fun e => h1 (Or.inr e)⟩, h2⟩
          simp [foldSpec, hok]

theorem todoFold_all (L : Lookups) (env : Bytes) (recs : List Bytes) (o : TodoOut) :
    todoFold L env recs o = foldSpec L env recs o := by
  induction recs generalizing o with
  | nil => simp [todoFold, foldSpec, specInfo, chanFile, chanRecs]
  | cons r rs ih =>
    rw [todoFold, todoStep_eq, show r :: rs = [r] ++ rs from rfl, foldSpec_append]
    cases foldSpec L env [r] o with
    | none => rfl
    | some o' => exact ih o'

theorem recOk_hdr (r : Bytes) (h : isHdr r = true) : recOk r = true ∧ recipOf r = none := by
  cases r with
  | nil => cases h
  | cons t b =>
    simp only [isHdr, Bool.or_eq_true, beq_iff_eq] at h
    have ht : (t == TEE) = false := by rcases h with (h | h) | h <;> (rw [h]; rfl)
    constructor
    · simp only [recOk, ht, Bool.false_or, Bool.or_eq_true, beq_iff_eq]; exact h
    · simp only [recipOf, ht]; rfl

theorem hdrT_shape (hdr rs : List Bytes) (hh : ∀ r ∈ hdr, isHdr r = true) :
    (hdr ++ rs.map (fun r => TEE :: r)).all recOk = true ∧
    (hdr ++ rs.map (fun r => TEE :: r)).filterMap recipOf = rs ∧
    specInfo (hdr ++ rs.map (fun r => TEE :: r)) = infoOf hdr := by
  refine ⟨?_, ?_, ?_⟩
  · rw [List.all_append, List.all_map, Bool.and_eq_true]
    exact ⟨List.all_eq_true.2 fun r hr => (recOk_hdr r (hh r hr)).1, List.all_eq_true.2 fun _ _ => rfl⟩
  · rw [List.filterMap_append, List.filterMap_eq_nil_iff.2 fun r hr => (recOk_hdr r (hh r hr)).2, List.filterMap_map]
    exact List.filterMap_some
  · have hT : (rs.map (fun r => TEE :: r)).filter (fun r => r.head? == some 70) = [] :=
      List.filter_eq_nil_iff.2 fun r hr => by
        obtain ⟨x, _, rfl⟩ := List.mem_map.1 hr
        exact (by decide : ¬ ((some TEE : Option Byte) == some 70) = true)
    unfold specInfo infoOf
    rw [List.filter_append, hT, List.append_nil]

theorem specChan_eq (c : Cfg) (h : noDupKeys c.vdoms = true) (ch : Chan) (rs : List Bytes) :
    specChan c ch rs = chanFile ch (routeAll c rs) := by
  unfold specChan routeAll
  rw [chanFile_eq_flatMap, funext fun r => rewrite_eq_routeSpec c r h]

theorem todoDo_eq_specTodo (c : Cfg) (todo : Bytes) (h : noDupKeys c.vdoms = true) :
    todoDo c.lookups c.env todo = specTodo c todo := by
  unfold todoDo specTodo
  rw [todoFold_all]
  unfold foldSpec
  simp only [List.nil_append]
  rw [specChan_eq c h, specChan_eq c h]
  rfl

/-! ### NUL-freeness -/

/-- the percent-hack loop only truncates and writes `@` -/
theorem phLoop_mem (ph : Bytes → Bool) (fuel : Nat) (addr : Bytes) (i : Nat) (x : Byte)
    (h : x ∈ phLoop ph fuel addr i) : x = AT ∨ x ∈ addr := by
  induction fuel generalizing addr i with
  | zero => exact Or.inr h
  | succ n ih =>
    simp only [phLoop] at h
    split at h
    · split at h
      · exact Or.inr h
      · rcases ih _ _ h with h | h
        · exact Or.inl h
        · rcases List.mem_or_eq_of_mem_set h with h | h
          · exact Or.inr (List.mem_of_mem_take h)
          · exact Or.inl h
    · exact Or.inr h

theorem vscan_val (vd : Bytes → Option Bytes) (addr : Bytes) (at_ : Nat) (n i : Nat) (x : Bytes)
    (h : vscan vd addr at_ n i = some x) : ∃ k, vd k = some x := by
  induction n generalizing i with
  | zero => simp [vscan] at h
  | succ n ih =>
    simp only [vscan] at h
    split at h
    · cases hv : vd (addr.drop i) with
      | some y => rw [hv] at h; simp only [Option.some.injEq] at h; exact ⟨_, h ▸ hv⟩
      | none => rw [hv] at h; exact ih _ h
    · exact ih _ h

theorem mapLookupRev_val (k : Bytes) (es : List Ent) (v : Bytes) (h : mapLookupRev k es = some v) :
    ∃ e ∈ es, e.val = v := by
  induction es with
  | nil => simp [mapLookupRev] at h
  | cons e r ih =>
    simp only [mapLookupRev] at h
    split at h
    · simp only [Option.some.injEq] at h; exact ⟨e, by simp, h⟩
    · obtain ⟨e', he', hv⟩ := ih h; exact ⟨e', List.mem_cons_of_mem _ he', hv⟩

theorem mapLookup_val (es : List Ent) (k v : Bytes) (h : mapLookup es k = some v) : ∃ e ∈ es, e.val = v := by
  obtain ⟨e, he, hv⟩ := mapLookupRev_val k es.reverse v h
  exact ⟨e, by simpa using he, hv⟩

theorem tailPart_nulfree (c : Cfg) (addr : Bytes) (ha : NUL ∉ addr) (hv : ∀ e ∈ c.vdoms, NUL ∉ e.val) :
    NUL ∉ (tailPart c.lookups addr).tag ∧ NUL ∉ (tailPart c.lookups addr).addr := by
  unfold tailPart
  split
  · exact ⟨by simp, ha⟩
  · split
    · rename_i x hx
      split
      · exact ⟨by simp, ha⟩
      · refine ⟨?_, ha⟩
        obtain ⟨k, hk⟩ := vscan_val _ _ _ _ _ _ hx
        obtain ⟨e, hem, hev⟩ := mapLookup_val c.vdoms k x hk
        exact hev ▸ hv e hem
    · exact ⟨by simp, ha⟩

theorem rewrite_nulfree (c : Cfg) (r : Bytes) (hr : NUL ∉ r) (he : NUL ∉ c.env)
    (hv : ∀ e ∈ c.vdoms, NUL ∉ e.val) : NUL ∉ (rewrite c r).tag ∧ NUL ∉ (rewrite c r).addr := by
  have haddr0 : NUL ∉ (if rchr AT r = r.length then r ++ AT :: c.env else r) := by
    split
    · simp only [List.mem_append, List.mem_cons, not_or]
      exact ⟨hr, by decide, he⟩
    · exact hr
  have haddr : NUL ∉ phLoop c.lookups.ph ((if rchr AT r = r.length then r ++ AT :: c.env else r).length + 1)
      (if rchr AT r = r.length then r ++ AT :: c.env else r) (rchr AT r) := by
    intro hm
    rcases phLoop_mem _ _ _ _ _ hm with h | h
    · exact absurd h (by decide)
    · exact haddr0 h
  unfold rewrite
  rw [rewriteWith_eq]
  exact tailPart_nulfree c _ haddr hv

theorem chunksGo_nulfree (s acc : Bytes) (ha : NUL ∉ acc) : ∀ r ∈ chunksGo s acc, NUL ∉ r := by
  induction s generalizing acc with
  | nil => intro r hr; simp [chunksGo] at hr
  | cons c t ih =>
    intro r hr
    simp only [chunksGo] at hr
    split at hr
    · rcases List.mem_cons.1 hr with rfl | hr
      · simpa using ha
      · exact ih [] (by simp) r hr
    · rename_i hc
      exact ih (c :: acc) (by simp only [List.mem_cons, not_or]; exact ⟨fun e => hc e.symm, ha⟩) r hr

theorem chunks_nulfree (s : Bytes) : ∀ r ∈ chunks s, NUL ∉ r := chunksGo_nulfree s [] (by simp)

theorem parseEntries_val_nulfree (s : Bytes) (fc : Bool) : ∀ e ∈ parseEntries s fc, NUL ∉ e.val := by
  intro e he
  unfold parseEntries at he
  obtain ⟨ch, hch, hent⟩ := List.mem_filterMap.1 he
  have hnf := chunks_nulfree s ch hch
  cases fc with
  | false =>
    cases hent
    simp
  | true =>
    -- the prepend is what follows the first colon of the chunk
    rw [entOf_vdom_eq, specVdom] at hent
    cases hd : ch.dropWhile (· != COLON) with
    | nil => rw [hd] at hent; cases hent
    | cons c v =>
      rw [hd] at hent
      cases hent
      intro hm
      exact hnf ((List.dropWhile_suffix _).subset (hd ▸ List.mem_cons_of_mem c hm))

theorem readline_nulfree (o : Option Bytes) (h : ∀ s, o = some s → NUL ∉ s) : ∀ l, readline o = some l → NUL ∉ l := by
  intro l hl
  rw [readline_spec] at hl
  cases o with
  | none => cases hl
  | some s => cases hl; exact specFirstLine_nulfree s (h s rfl)

theorem getcontrols_env_nulfree (f : Files) (raw : RawCfg) (hme : ∀ s, f.me = some s → NUL ∉ s)
    (henv : ∀ s, f.env = some s → NUL ∉ s) (hg : getcontrols f = some raw) : NUL ∉ raw.env := by
  unfold getcontrols at hg
  simp only at hg
  split at hg
  · simp at hg
  · simp only [Option.some.injEq] at hg
    subst hg
    simp only
    cases he : readline f.env with
    | some e => exact readline_nulfree f.env henv e he
    | none =>
      simp only
      cases hm : readline f.me with
      | some m => exact readline_nulfree f.me hme m hm
      | none => simp only [ENVDEFAULT]; decide

/-! ### the acceptor: what can change the configuration -/

theorem top_idle (d : Daemon) (h : d.flagread = false) : d.top = d := by simp [Daemon.top, h]

theorem top_flag (d : Daemon) : d.top.flagread = false := by
  unfold Daemon.top; split <;> simp_all

theorem top_top (d : Daemon) : d.top.top = d.top := top_idle _ (top_flag d)

theorem reget_env (me : Option Bytes) (old : RawCfg) (f : Files) : (reget me old f).env = old.env := by
  simp only [reget]; split <;> rfl

theorem reget_ph (me : Option Bytes) (old : RawCfg) (f : Files) : (reget me old f).ph = old.ph := by
  simp only [reget]; split <;> rfl

theorem acceptAll_eq : ∀ (es : List Ev) (d : Daemon), acceptAll d es = es.foldlM accept d :=
  eq_foldlM (fun _ => rfl) (fun d e es => by rw [acceptAll]; cases accept d e <;> rfl)

theorem accept_msg (d d' : Daemon) (todo : Bytes) (out : Option TodoOut) (h : accept d (.msg todo out) = some d') :
    todoDo d.cfg.htLookups d.cfg.env todo = out ∧ d' = d := by
  simp only [accept] at h
  split at h
  · rename_i hq; exact ⟨hq, (Option.some.inj h).symm⟩
  · cases h

theorem start_some (f : Files) (d : Daemon) (h : start f = some d) :
    ∃ c, getcontrols f = some c ∧ d = { me := readline f.me, cfg := c, files := f, flagread := false } := by
  unfold start at h
  cases hg : getcontrols f with
  | none => rw [hg] at h; cases h
  | some c => rw [hg] at h; exact ⟨c, rfl, (Option.some.inj h).symm⟩

def isHup : Ev → Bool
  | .hup => true
  | _ => false

theorem accept_nohup (d d' : Daemon) (e : Ev) (hf : d.flagread = false) (he : isHup e = false) (ha : accept d e = some d') :
    d'.cfg = d.cfg ∧ d'.flagread = false := by
  cases e with
  | edit f => cases ha; exact ⟨rfl, hf⟩
  | hup => cases he
  | top => cases ha; rw [top_idle d hf]; exact ⟨rfl, hf⟩
  | msg todo out => obtain ⟨-, rfl⟩ := accept_msg d d' todo out ha; exact ⟨rfl, hf⟩

theorem foldlM_nohup (es : List Ev) (d dn : Daemon) (hf : d.flagread = false) (hno : es.all (fun e => !isHup e) = true)
    (h : es.foldlM accept d = some dn) : dn.cfg = d.cfg :=
  (foldlM_induct_guard (fun x => x.cfg = d.cfg ∧ x.flagread = false) (isHup · = false)
    (fun x e x' hx he ha => (accept_nohup x x' e hx.2 he ha).imp_left (·.trans hx.1)) es d dn ⟨rfl, hf⟩
    (fun e he => by simpa using List.all_eq_true.1 hno e he) h).1

theorem acceptAll_stable (es : List Ev) (d dn : Daemon) (hf : d.flagread = false) (hno : es.all (fun e => !isHup e) = true)
    (h : acceptAll d es = some dn) :
    dn.cfg = d.cfg ∧ ∀ todo out, Ev.msg todo out ∈ es → out = todoDo d.cfg.htLookups d.cfg.env todo := by
  rw [acceptAll_eq] at h
  refine ⟨foldlM_nohup es d dn hf hno h, fun todo out hm => ?_⟩
  -- a message is judged in the state after the events before it, among which there is no HUP either
  obtain ⟨pre, post, rfl⟩ := List.append_of_mem hm
  obtain ⟨d1, h1, h2⟩ := foldlM_append.1 h
  obtain ⟨d2, h3, -⟩ := foldlM_cons.1 h2
  rw [List.all_append, Bool.and_eq_true] at hno
  rw [← foldlM_nohup pre d d1 hf hno.1 h1]
  exact (accept_msg d1 d2 todo out h3).1.symm

/-! ### simulation: acceptor state vs documented state -/

theorem nulFreeB_iff (f : Files) : nulFreeB f = true ↔ nulFreeFiles f := by
  obtain ⟨me, env, locals, ph, vdoms⟩ := f
  simp only [nulFreeB, nulFreeFiles, List.all_cons, List.all_nil, Bool.and_true, Bool.and_eq_true]
  refine and_congr ?_ (and_congr ?_ (and_congr ?_ (and_congr ?_ ?_)))
  all_goals split <;> simp

/-- the acceptor's state `d` and the documented state `s` describe the same daemon -/
structure Sim (f0 : Files) (d : Daemon) (s : SpecD) : Prop where
  me : d.me = readline f0.me
  me0 : ∀ m, f0.me = some m → NUL ∉ m
  cfg : d.cfg.cfg = s.cfg
  files : d.files = s.files
  flag : d.flagread = s.pending

theorem sim_start (f0 : Files) (d0 : Daemon) (s0 : SpecD) (hd : start f0 = some d0) (hs : specStart f0 = some s0) :
    Sim f0 d0 s0 := by
  obtain ⟨raw, hg, rfl⟩ := start_some f0 d0 hd
  unfold specStart at hs
  split at hs
  · rename_i hnf
    have hnf' := (nulFreeB_iff f0).1 hnf
    have hc := getcontrols_eq_spec f0 hnf'
    rw [hg, Option.map_some] at hc
    rw [← hc] at hs
    cases hs
    exact ⟨rfl, hnf'.1, rfl, rfl, rfl⟩
  · cases hs

end Nq.Lemmas.RewriteDaemon
