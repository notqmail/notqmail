/-
  C10 with failing reads (Nq.RewriteIO / Nq.Spec.RouteIO): the readers and `regetcontrols`/`getcontrols`
  under a fault are their fault-free versions on the files the fault leaves readable; the monitor with failing re-reads
  keeps `me`, `envnoathost`, `percenthack` and is simulated by the documented daemon; locals and virtualdomains of the
  daemon always come from one and the same served state of the files ("one instant"): `one_instant`, for any machine
  over these events, read for the model and for the documents. A plain loop top is the loop top during which no call
  fails (`top_eq_topIO`, `specStepF_top`), so each step lemma treats the loop top once.
-/
import Nq.RewriteIO
import Nq.Spec.RouteIO
import Nq.Lemmas.RewriteDaemon

namespace Nq.Lemmas.RewriteIO
open Nq Nq.Rewrite Nq.Route Nq.Lemmas.RewriteMap Nq.Lemmas.RewriteSpec Nq.Lemmas.RewriteTodo Nq.Lemmas.RewriteCtl
open Nq.Lemmas.RewriteDaemon Nq.Acceptor

/-! ### readers -/

theorem readfileIO_hit (flt : Option RdFault) (f me : Option Bytes) (fm : Bool) (h : fileHits flt f = true) :
    readfileIO flt f me fm = .err := by simp [readfileIO, h]

theorem readfileIO_miss (flt : Option RdFault) (f me : Option Bytes) (fm : Bool) (h : fileHits flt f = false) :
    readfileIO flt f me fm = Rd.ofOpt (readfile f me fm) := by simp [readfileIO, h]

theorem readlineIO_hit (flt : Option RdFault) (f : Option Bytes) (h : lineHits flt f = true) :
    readlineIO flt f = .err := by simp [readlineIO, h]

theorem readlineIO_miss (flt : Option RdFault) (f : Option Bytes) (h : lineHits flt f = false) :
    readlineIO flt f = Rd.ofOpt (readline f) := by simp [readlineIO, h]

/-! ### regetcontrols -/

theorem regetIO_eq (io : IOEnv) (me : Option Bytes) (old : RawCfg) (f : Files) :
    regetIO io me old f = if strikesReread io f then old else reget me old f := by
  unfold regetIO strikesReread reget
  by_cases h0 : io.chdirHome = true
  · simp [h0]
  · have h0' : io.chdirHome = false := by simpa using h0
    by_cases h1 : fileHits io.locals f.locals = true
    · simp [h0', h1, readfileIO_hit]
    · have h1' : fileHits io.locals f.locals = false := by simpa using h1
      rw [readfileIO_miss _ _ _ _ h1']
      by_cases h2 : fileHits io.vdoms f.vdoms = true
      · simp only [h0', h1', h2, readfileIO_hit, Bool.false_or, Bool.or_true, if_true]
        cases readfile f.locals me true <;> simp [Rd.ofOpt]
      · have h2' : fileHits io.vdoms f.vdoms = false := by simpa using h2
        rw [readfileIO_miss _ _ _ _ h2']
        simp only [h0', h1', h2', Bool.or_false]
        cases readfile f.locals me true <;> cases readfile f.vdoms me false <;> simp [Rd.ofOpt]

theorem topIO_eq (d : Daemon) (io : IOEnv) :
    d.topIO io = if d.flagread then
      { d with cfg := if strikesReread io d.files then d.cfg else reget d.me d.cfg d.files, flagread := false } else d := by
  unfold Daemon.topIO; rw [regetIO_eq]

theorem top_eq_topIO (d : Daemon) : d.top = d.topIO {} := by
  rw [topIO_eq]; rfl

theorem specStepF_top (f0 : Files) (s : SpecD) : specStepF f0 s (.ev .top) = specStepF f0 s (.topIO {}) := by
  cases h : s.pending <;> simp [specStepF, specStep, h, strikesReread, fileHits]

/-! ### getcontrols / start-up -/

theorem lineHits_nomem_some {flt : Option RdFault} {s : Bytes} (h : lineHits flt (some s) = false) : flt ≠ some .nomem := by
  rintro rfl; simp [lineHits] at h

theorem rldefIO_eq (flt : Option RdFault) (f : Option Bytes) (d : Bytes) :
    rldefIO flt f d = if envHits flt f = true then none else some ((readline f).getD d) := by
  unfold rldefIO envHits
  cases hl : lineHits flt f
  case true => rw [readlineIO_hit _ _ hl]; rfl
  rw [readlineIO_miss _ _ hl]
  cases f with
  | none => by_cases hn : flt = some .nomem <;> simp [readline, Rd.ofOpt, hn]
  | some s => simp [readline, Rd.ofOpt, lineHits_nomem_some hl]

theorem getcontrolsIO_eq (io : IOEnv) (f : Files) :
    getcontrolsIO io f =
      if (io.other || io.cmNomem || lineHits io.me f.me || envHits io.env f.env ||
          fileHits io.locals f.locals || fileHits io.ph f.ph || fileHits io.vdoms f.vdoms) = true
      then none else getcontrols f := by
  unfold getcontrolsIO
  cases hme : lineHits io.me f.me
  case true => rw [readlineIO_hit _ _ hme]; simp
  rw [readlineIO_miss _ _ hme]
  cases hm : readline f.me <;> simp only [Rd.ofOpt]
  -- for `me` absent and present alike, the reads in the order of `getcontrols()`: a read that the fault hits ends
  -- with `none` and makes the disjunction true (`simp`); one it misses is the fault-free reader (`…_miss`)
  all_goals
    cases ho : io.other
    case true => simp
    rw [if_neg Bool.false_ne_true, rldefIO_eq]
    cases he : envHits io.env f.env
    case true => simp
    rw [if_neg Bool.false_ne_true]
    cases h1 : fileHits io.locals f.locals
    case true => rw [readfileIO_hit _ _ _ _ h1]; simp
    rw [readfileIO_miss _ _ _ _ h1]
    cases hl : readfile f.locals _ true
    case none => simp [Rd.ofOpt, getcontrols, hm, hl]
    cases hc : io.cmNomem
    case true => simp [Rd.ofOpt]
    cases h2 : fileHits io.ph f.ph
    case true => rw [readfileIO_hit _ _ _ _ h2]; simp [Rd.ofOpt]
    rw [readfileIO_miss _ _ _ _ h2]
    cases h3 : fileHits io.vdoms f.vdoms
    case true => rw [readfileIO_hit _ _ _ _ h3]; cases readfile f.ph _ false <;> simp [Rd.ofOpt]
    rw [readfileIO_miss _ _ _ _ h3]
    simp only [getcontrols, hm, hl, Rd.ofOpt]
    cases readfile f.ph _ false <;> cases readfile f.vdoms _ false <;> cases readline f.env <;> rfl

theorem startIO_eq (io : IOEnv) (f : Files) :
    startIO io f = if strikesStart io f then none else start f := by
  unfold startIO strikesStart start
  rw [getcontrolsIO_eq]
  cases io.chdirHome
  case true => rfl
  cases io.chdirQueue
  all_goals
    simp only [Bool.false_or, Bool.true_or, Bool.false_eq_true, if_false, if_true]
    generalize (io.other || io.cmNomem || lineHits io.me f.me || envHits io.env f.env ||
            fileHits io.locals f.locals || fileHits io.ph f.ph || fileHits io.vdoms f.vdoms) = b
    cases b <;> cases getcontrols f <;> rfl

/-! ### the monitor with failing re-reads -/

theorem start_of_startIO (io : IOEnv) (f : Files) (d : Daemon) (h : startIO io f = some d) : start f = some d := by
  rw [startIO_eq] at h
  split at h
  · cases h
  · exact h

theorem acceptFAll_eq : ∀ (es : List EvF) (d : Daemon), acceptFAll d es = es.foldlM acceptF d :=
  eq_foldlM (fun _ => rfl) (fun d e es => by rw [acceptFAll]; cases acceptF d e <;> rfl)

theorem specRunF_eq (f0 : Files) : ∀ (es : List EvF) (s : SpecD), specRunF f0 s es = es.foldlM (specStepF f0) s :=
  eq_foldlM (fun _ => rfl) (fun s e es => by rw [specRunF]; cases specStepF f0 s e <;> rfl)

theorem acceptFAll_ev (es : List Ev) : ∀ d : Daemon, acceptFAll d (es.map .ev) = acceptAll d es := by
  intro d
  rw [acceptFAll_eq, acceptAll_eq, List.foldlM_map]
  rfl

theorem acceptFAll_msg (d0 dn : Daemon) (pre post : List EvF) (todo : Bytes) (out : Option TodoOut)
    (h : acceptFAll d0 (pre ++ .ev (.msg todo out) :: post) = some dn) :
    ∃ d1, acceptFAll d0 pre = some d1 ∧ acceptF d1 (.ev (.msg todo out)) = some d1 ∧
      todoDo d1.cfg.htLookups d1.cfg.env todo = out := by
  obtain ⟨d1, h1, h⟩ := foldlM_append.1 (acceptFAll_eq _ d0 ▸ h)
  obtain ⟨d2, h2, _⟩ := foldlM_cons.1 h
  obtain ⟨hq, rfl⟩ := accept_msg d1 d2 todo out h2
  exact ⟨d2, (acceptFAll_eq pre d0).trans h1, h2, hq⟩

theorem specStepF_topIO_some (f0 : Files) (s s' : SpecD) (io : IOEnv) (h : specStepF f0 s (.topIO io) = some s') :
    (s.pending = false ∧ s' = s) ∨
    (s.pending = true ∧ strikesReread io s.files = true ∧ s' = { s with pending := false }) ∨
    (s.pending = true ∧ strikesReread io s.files = false ∧ nulFreeB s.files = true ∧
      s' = { s with cfg := specHup s.cfg f0 s.files, pending := false }) := by
  simp only [specStepF] at h
  cases hp : s.pending with
  | false => rw [hp] at h; cases h; exact .inl ⟨rfl, rfl⟩
  | true =>
    rw [hp, if_pos rfl] at h
    cases hk : strikesReread io s.files with
    | true => rw [hk, if_pos rfl] at h; cases h; exact .inr (.inl ⟨rfl, rfl, rfl⟩)
    | false =>
      rw [hk, if_neg Bool.false_ne_true] at h
      simp only [specStep, hp, if_true] at h
      split at h
      · rename_i hnf; cases h; exact .inr (.inr ⟨rfl, rfl, hnf, rfl⟩)
      · cases h

theorem sim_topIO (f0 : Files) (d : Daemon) (s s' : SpecD) (io : IOEnv) (hsim : Sim f0 d s)
    (hs' : specStepF f0 s (.topIO io) = some s') : Sim f0 (d.topIO io) s' := by
  rw [topIO_eq, hsim.flag, hsim.files]
  rcases specStepF_topIO_some f0 s s' io hs' with ⟨hp, rfl⟩ | ⟨hp, hk, rfl⟩ | ⟨hp, hk, hnf, rfl⟩
  · rw [hp, if_neg Bool.false_ne_true]; exact hsim
  · rw [hp, if_pos rfl, hk, if_pos rfl]; exact { hsim with files := rfl, flag := rfl }
  · rw [hp, if_pos rfl, hk, if_neg Bool.false_ne_true]
    refine { hsim with cfg := ?_, files := rfl, flag := rfl }
    show (reget d.me d.cfg s.files).cfg = _
    rw [hsim.me, reget_eq_spec f0 s.files d.cfg hsim.me0 ((nulFreeB_iff _).1 hnf), hsim.cfg]

theorem sim_stepF (f0 : Files) (d d' : Daemon) (s : SpecD) (e : EvF) (hsim : Sim f0 d s) (ha : acceptF d e = some d') :
    specJudgeF s e = true ∧ ∀ s', specStepF f0 s e = some s' → Sim f0 d' s' := by
  cases e with
  | topIO io => cases ha; exact ⟨rfl, fun s' => sim_topIO f0 d s s' io hsim⟩
  | ev e =>
    cases e with
    | top =>
      cases ha
      rw [specStepF_top, top_eq_topIO]
      exact ⟨rfl, fun s' => sim_topIO f0 d s s' {} hsim⟩
    | edit f => cases ha; exact ⟨rfl, fun s' hs' => by cases hs'; exact { hsim with files := rfl }⟩
    | hup => cases ha; exact ⟨rfl, fun s' hs' => by cases hs'; exact { hsim with flag := rfl }⟩
    | msg todo out =>
      obtain ⟨hq, rfl⟩ := accept_msg d d' todo out ha
      refine ⟨?_, fun s' hs' => by cases hs'; exact hsim⟩
      simp only [specJudgeF, specJudge, Bool.or_eq_true, Bool.not_eq_true', decide_eq_true_eq]
      cases hnd : noDupKeys s.cfg.vdoms with
      | false => exact Or.inl rfl
      | true => rw [← hq, ht_eq, ← hsim.cfg]; exact Or.inr (todoDo_eq_specTodo _ todo (hsim.cfg ▸ hnd))

theorem sim_run (f0 : Files) (es : List EvF) : ∀ (d dn : Daemon) (s : SpecD), Sim f0 d s → acceptFAll d es = some dn →
    specTraceF f0 (some s) es = true ∧ ∀ sn, specRunF f0 s es = some sn → Sim f0 dn sn := by
  induction es with
  | nil => intro d dn s hsim h; cases h; exact ⟨rfl, fun sn hr => by cases hr; exact hsim⟩
  | cons e es ih =>
    intro d dn s hsim h
    obtain ⟨d', ha, h⟩ := foldlM_cons.1 (acceptFAll_eq _ d ▸ h)
    rw [← acceptFAll_eq] at h
    obtain ⟨hj, hn⟩ := sim_stepF f0 d d' s e hsim ha
    simp only [specTraceF, specRunF, hj, Bool.true_and]
    cases hs : specStepF f0 s e with
    | none => exact ⟨by cases es <;> rfl, fun sn hr => by cases hr⟩
    | some s' => exact ih d' dn s' (hn s' hs) h

theorem sim_trace (f0 : Files) (d0 dn : Daemon) (es : List EvF) (hs : start f0 = some d0) (h : acceptFAll d0 es = some dn) :
    specTraceF f0 (specStart f0) es = true := by
  cases hsp : specStart f0 with
  | none => simp [specTraceF]
  | some s0 => exact (sim_run f0 es d0 dn s0 (sim_start f0 d0 s0 hs hsp) h).1

theorem specTraceF_ev (f0 : Files) (es : List Ev) : ∀ s : Option SpecD,
    specTraceF f0 s (es.map .ev) = specTrace f0 s es := by
  induction es with
  | nil => intro s; cases s <;> rfl
  | cons e es ih =>
    intro s
    cases s with
    | none => rfl
    | some s => simp only [List.map_cons, specTraceF, specTrace, specJudgeF, specStepF, ih]

/-! ### one instant -/

theorem reget_tables (me : Option Bytes) (old : RawCfg) (f : Files) :
    reget me old f = old ∨ tablesAt me f = some ((reget me old f).locals, (reget me old f).vdoms) := by
  unfold reget tablesAt
  cases readfile f.locals me true with
  | none => exact Or.inl rfl
  | some l => exact Or.inr rfl

theorem start_tables (f0 : Files) (d0 : Daemon) (h : start f0 = some d0) :
    tablesAt d0.me f0 = some (d0.cfg.locals, d0.cfg.vdoms) := by
  obtain ⟨c, hg, rfl⟩ := start_some f0 d0 h
  unfold getcontrols at hg
  unfold tablesAt
  dsimp only at hg ⊢
  cases hl : readfile f0.locals (readline f0.me) true with
  | none => rw [hl] at hg; cases hg
  | some l => rw [hl] at hg; cases hg; rfl

/-- the loop top in the shape `one_instant` asks of a step (its `hstep`), preceded by the three fields no step changes -/
theorem topIO_served (d : Daemon) (io : IOEnv) :
    (d.topIO io).me = d.me ∧ (d.topIO io).cfg.env = d.cfg.env ∧ (d.topIO io).cfg.ph = d.cfg.ph ∧
    (((d.topIO io).cfg.locals, (d.topIO io).cfg.vdoms) = (d.cfg.locals, d.cfg.vdoms) ∨
     (tablesAt d.me d.files = some ((d.topIO io).cfg.locals, (d.topIO io).cfg.vdoms) ∧
      d.files ∈ servedAt d.files d.flagread [.topIO io])) ∧
    ∀ es, servedAt d.files d.flagread (.topIO io :: es) =
      servedAt d.files d.flagread [.topIO io] ++ servedAt (d.topIO io).files (d.topIO io).flagread es := by
  rw [topIO_eq]
  cases hf : d.flagread with
  | false => rw [if_neg Bool.false_ne_true]; exact ⟨rfl, rfl, rfl, Or.inl rfl, fun _ => by rw [hf]; rfl⟩
  | true =>
    rw [if_pos rfl]
    cases strikesReread io d.files with
    | true => exact ⟨rfl, rfl, rfl, Or.inl rfl, fun _ => rfl⟩
    | false =>
      refine ⟨rfl, reget_env _ _ _, reget_ph _ _ _, ?_, fun _ => rfl⟩
      rcases reget_tables d.me d.cfg d.files with h | h
      · exact Or.inl (by rw [if_neg Bool.false_ne_true, h])
      · exact Or.inr ⟨h, List.mem_cons_self⟩

theorem acceptF_tables (d d' : Daemon) (e : EvF) (h : acceptF d e = some d') :
    d'.me = d.me ∧ d'.cfg.env = d.cfg.env ∧ d'.cfg.ph = d.cfg.ph ∧
    ((d'.cfg.locals, d'.cfg.vdoms) = (d.cfg.locals, d.cfg.vdoms) ∨
     (tablesAt d.me d.files = some (d'.cfg.locals, d'.cfg.vdoms) ∧ d.files ∈ servedAt d.files d.flagread [e])) ∧
    ∀ es, servedAt d.files d.flagread (e :: es) = servedAt d.files d.flagread [e] ++ servedAt d'.files d'.flagread es := by
  cases e with
  | topIO io => cases h; exact topIO_served d io
  | ev e =>
    cases e with
    | edit f => cases h; exact ⟨rfl, rfl, rfl, Or.inl rfl, fun _ => rfl⟩
    | hup => cases h; exact ⟨rfl, rfl, rfl, Or.inl rfl, fun _ => rfl⟩
    | msg todo out => rw [(accept_msg d d' todo out h).2]; exact ⟨rfl, rfl, rfl, Or.inl rfl, fun _ => rfl⟩
    | top =>
      -- `servedAt` treats both kinds of loop top alike
      cases h
      rw [top_eq_topIO]
      exact topIO_served d {}

theorem acceptFAll_fixed (es : List EvF) (d dn : Daemon) (h : acceptFAll d es = some dn) :
    dn.me = d.me ∧ dn.cfg.env = d.cfg.env ∧ dn.cfg.ph = d.cfg.ph :=
  foldlM_induct (fun x => x.me = d.me ∧ x.cfg.env = d.cfg.env ∧ x.cfg.ph = d.cfg.ph)
    (fun x e x' hx ha => by
      obtain ⟨a1, a2, a3, _⟩ := acceptF_tables x x' e ha
      exact ⟨a1.trans hx.1, a2.trans hx.2.1, a3.trans hx.2.2⟩)
    es d dn ⟨rfl, rfl, rfl⟩ (acceptFAll_eq es d ▸ h)

/-- "One instant" for any machine over `EvF` that has control files, a pending flag and tables in force: if every step
keeps the tables or installs those of the directory it serves, the tables at the end of a run are those of ONE directory
among `S` and the ones served. `I` is whatever else the steps keep. -/
theorem one_instant {σ τ : Type} (step : σ → EvF → Option σ) (files : σ → Files) (pend : σ → Bool) (tabs : σ → τ)
    (tab : Files → Option τ) (I : σ → Prop)
    (hstep : ∀ s s' e, I s → step s e = some s' → I s' ∧
      (tabs s' = tabs s ∨ (tab (files s) = some (tabs s') ∧ files s ∈ servedAt (files s) (pend s) [e])) ∧
      ∀ es, servedAt (files s) (pend s) (e :: es) = servedAt (files s) (pend s) [e] ++ servedAt (files s') (pend s') es)
    (es : List EvF) : ∀ (s sn : σ) (S : List Files), I s → (∃ f ∈ S, tab f = some (tabs s)) →
      es.foldlM step s = some sn → I sn ∧ ∃ f ∈ S ++ servedAt (files s) (pend s) es, tab f = some (tabs sn) := by
  induction es with
  | nil =>
    intro s sn S hi hS h
    cases h
    rw [servedAt, List.append_nil]
    exact ⟨hi, hS⟩
  | cons e es ih =>
    intro s sn S hi hS h
    obtain ⟨s', ha, h⟩ := foldlM_cons.1 h
    obtain ⟨hi', c, hserved⟩ := hstep s s' e hi ha
    have hS' : ∃ f ∈ S ++ servedAt (files s) (pend s) [e], tab f = some (tabs s') := by
      rcases c with c | ⟨c1, c2⟩
      · obtain ⟨f, hf, ht⟩ := hS
        exact ⟨f, List.mem_append_left _ hf, by rw [c]; exact ht⟩
      · exact ⟨files s, List.mem_append_right _ c2, c1⟩
    rw [hserved es, ← List.append_assoc]
    exact ih s' sn _ hi' hS' h

theorem one_instant_model (es : List EvF) (d dn : Daemon) (S : List Files)
    (hS : ∃ f ∈ S, tablesAt d.me f = some (d.cfg.locals, d.cfg.vdoms)) (h : acceptFAll d es = some dn) :
    ∃ f ∈ S ++ servedAt d.files d.flagread es, tablesAt d.me f = some (dn.cfg.locals, dn.cfg.vdoms) :=
  (one_instant acceptF (·.files) (·.flagread) (fun x => (x.cfg.locals, x.cfg.vdoms)) (tablesAt d.me) (·.me = d.me)
    (fun x x' e hi ha => by
      obtain ⟨hme, _, _, c, hs⟩ := acceptF_tables x x' e ha
      exact ⟨hme.trans hi, hi ▸ c, hs⟩)
    es d dn S rfl hS (acceptFAll_eq es d ▸ h)).2

/-! ### one instant, in the documents' terms -/

theorem specHup_tables (old : Cfg) (f0 f : Files) :
    specHup old f0 f = old ∨
      (specTables f0.me f = some ((specHup old f0 f).locals, (specHup old f0 f).vdoms) ∧
       (specHup old f0 f).env = old.env ∧ (specHup old f0 f).ph = old.ph) := by
  unfold specHup specTables
  cases specLocals { f with me := f0.me } with
  | none => exact Or.inl rfl
  | some l => exact Or.inr ⟨rfl, rfl, rfl⟩

theorem specStart_some (f0 : Files) (s0 : SpecD) (h : specStart f0 = some s0) :
    s0.files = f0 ∧ s0.pending = false ∧ specTables f0.me f0 = some (s0.cfg.locals, s0.cfg.vdoms) := by
  unfold specStart at h
  split at h
  · unfold specCfg at h
    unfold specTables
    cases hl : specLocals f0 with
    | none => rw [hl] at h; cases h
    | some l => rw [hl] at h; cases h; exact ⟨rfl, rfl, rfl⟩
  · cases h

theorem specTopIO_tables (f0 : Files) (s s' : SpecD) (io : IOEnv) (h : specStepF f0 s (.topIO io) = some s') :
    s'.cfg.env = s.cfg.env ∧ s'.cfg.ph = s.cfg.ph ∧
    ((s'.cfg.locals, s'.cfg.vdoms) = (s.cfg.locals, s.cfg.vdoms) ∨
     (specTables f0.me s.files = some (s'.cfg.locals, s'.cfg.vdoms) ∧ s.files ∈ servedAt s.files s.pending [.topIO io])) ∧
    ∀ es, servedAt s.files s.pending (.topIO io :: es) =
      servedAt s.files s.pending [.topIO io] ++ servedAt s'.files s'.pending es := by
  rcases specStepF_topIO_some f0 s s' io h with ⟨hp, rfl⟩ | ⟨hp, _, rfl⟩ | ⟨hp, _, _, rfl⟩ <;> rw [hp]
  · exact ⟨rfl, rfl, Or.inl rfl, fun _ => rfl⟩
  · exact ⟨rfl, rfl, Or.inl rfl, fun _ => rfl⟩
  · rcases specHup_tables s.cfg f0 s.files with hc | ⟨ht, he, hph⟩
    · rw [hc]; exact ⟨rfl, rfl, Or.inl rfl, fun _ => rfl⟩
    · exact ⟨he, hph, Or.inr ⟨ht, List.mem_cons_self⟩, fun _ => rfl⟩

theorem specStepF_tables (f0 : Files) (s s' : SpecD) (e : EvF) (h : specStepF f0 s e = some s') :
    s'.cfg.env = s.cfg.env ∧ s'.cfg.ph = s.cfg.ph ∧
    ((s'.cfg.locals, s'.cfg.vdoms) = (s.cfg.locals, s.cfg.vdoms) ∨
     (specTables f0.me s.files = some (s'.cfg.locals, s'.cfg.vdoms) ∧ s.files ∈ servedAt s.files s.pending [e])) ∧
    ∀ es, servedAt s.files s.pending (e :: es) = servedAt s.files s.pending [e] ++ servedAt s'.files s'.pending es := by
  cases e with
  | topIO io => exact specTopIO_tables f0 s s' io h
  | ev e =>
    cases e with
    | edit f => cases h; exact ⟨rfl, rfl, Or.inl rfl, fun _ => rfl⟩
    | hup => cases h; exact ⟨rfl, rfl, Or.inl rfl, fun _ => rfl⟩
    | msg t o => cases h; exact ⟨rfl, rfl, Or.inl rfl, fun _ => rfl⟩
    | top =>
      -- `servedAt` treats both kinds of loop top alike
      exact specTopIO_tables f0 s s' {} (specStepF_top f0 s ▸ h)

theorem one_instant_spec (f0 : Files) (es : List EvF) (s sn : SpecD) (S : List Files)
    (hS : ∃ f ∈ S, specTables f0.me f = some (s.cfg.locals, s.cfg.vdoms)) (h : specRunF f0 s es = some sn) :
    (sn.cfg.env = s.cfg.env ∧ sn.cfg.ph = s.cfg.ph) ∧
    ∃ f ∈ S ++ servedAt s.files s.pending es, specTables f0.me f = some (sn.cfg.locals, sn.cfg.vdoms) :=
  one_instant (specStepF f0) (·.files) (·.pending) (fun x => (x.cfg.locals, x.cfg.vdoms)) (specTables f0.me)
    (fun x => x.cfg.env = s.cfg.env ∧ x.cfg.ph = s.cfg.ph)
    (fun x x' e hi ha => by
      obtain ⟨a, b, c, hs⟩ := specStepF_tables f0 x x' e ha
      exact ⟨⟨a.trans hi.1, b.trans hi.2⟩, c, hs⟩)
    es s sn S ⟨rfl, rfl⟩ hS (specRunF_eq f0 es s ▸ h)

end Nq.Lemmas.RewriteIO
