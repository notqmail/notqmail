/-
  Lemmas for C10, part 1: case folding, the djb hash, and the hash table of constmap.c
  (`cmInit`/`CM.lookup`) against the finite map `mapLookup`.
-/
import Nq.Lemmas.Basic
import Nq.Rewrite
import Nq.Spec.Route

namespace Nq.Lemmas.RewriteMap
open Nq Nq.Rewrite Nq.Route

/-- `case_diffb`'s folding is ASCII lower-casing -/
theorem foldb_eq_lower (c : Byte) : foldb c = lowerByte c := by
  revert c; apply byte_forall; decide +kernel

/-- the hash folds case the same way (shifted by 'A') -/
theorem hashCh_eq (c : Byte) : hashCh c = lowerByte c - 65 := by
  revert c; apply byte_forall; decide +kernel

theorem map_foldb (s : Bytes) : s.map foldb = lower s := by
  unfold lower; congr 1; funext c; exact foldb_eq_lower c

theorem caseEq_eq (s t : Bytes) : caseEq s t = (lower s == lower t) := by
  unfold caseEq; rw [map_foldb, map_foldb]

theorem cmHash_eq (s : Bytes) :
    cmHash s = (lower s).foldl (fun (h : UInt64) (c : Byte) => ((h <<< 5) + h) ^^^ (c - 65).toUInt64) 5381 := by
  simp only [cmHash, lower, List.foldl_map, hashCh_eq]

theorem cmHash_lower {a b : Bytes} (h : lower a = lower b) : cmHash a = cmHash b := by
  rw [cmHash_eq, cmHash_eq, h]

/-- the chain-walk test of `constmap()` (hash, length, case_diffb) is exactly key equality up to case -/
theorem walk_test (k : Bytes) (e : Ent) :
    (cmHash k = cmHash e.key ∧ k.length = e.key.length ∧ caseEq e.key k = true) ↔ keyEq k e = true := by
  unfold keyEq
  rw [caseEq_eq]
  constructor
  · rintro ⟨_, _, h⟩; exact h
  · intro h
    have h' : lower e.key = lower k := by simpa using h
    refine ⟨cmHash_lower h'.symm, ?_, h⟩
    rw [← lower_length k, ← lower_length e.key, h']

theorem insert_mask (cm : CM) (e : Ent) : (cm.insert e).mask = cm.mask := rfl

theorem lookup_insert (cm : CM) (e : Ent) (k : Bytes) :
    (cm.insert e).lookup k = if keyEq k e = true then some e.val else cm.lookup k := by
  unfold CM.lookup CM.insert
  simp only
  by_cases hb : (cmHash k &&& cm.mask) = (cmHash e.key &&& cm.mask)
  · rw [if_pos hb]
    simp only [walk]
    by_cases hk : keyEq k e = true
    · rw [if_pos ((walk_test k e).2 hk), if_pos hk]
    · rw [if_neg (fun h => hk ((walk_test k e).1 h)), if_neg hk]
  · rw [if_neg hb]
    have hk : ¬ keyEq k e = true := by
      intro hk
      have := ((walk_test k e).2 hk).1
      exact hb (by rw [this])
    rw [if_neg hk]

theorem mapLookupRev_append (k : Bytes) (a b : List Ent) :
    mapLookupRev k (a ++ b) = match mapLookupRev k a with
      | some v => some v
      | none => mapLookupRev k b := by
  induction a with
  | nil => simp [mapLookupRev]
  | cons e r ih =>
    simp only [List.cons_append, mapLookupRev]
    by_cases h : keyEq k e = true
    · simp [h]
    · simp [h, ih]

theorem lookup_foldl (k : Bytes) (es : List Ent) (cm : CM) :
    (es.foldl CM.insert cm).lookup k = match mapLookupRev k es.reverse with
      | some v => some v
      | none => cm.lookup k := by
  induction es generalizing cm with
  | nil => simp [mapLookupRev]
  | cons e r ih =>
    simp only [List.foldl_cons, List.reverse_cons]
    rw [ih, mapLookupRev_append, lookup_insert]
    cases h : mapLookupRev k r.reverse with
    | some v => simp
    | none =>
      simp only [mapLookupRev]
      by_cases hk : keyEq k e = true <;> simp [hk]

theorem lookup_empty (m : UInt64) (k : Bytes) : (CM.empty m).lookup k = none := by
  simp [CM.lookup, CM.empty, walk]

/-- **the hash table is the finite map** (any buffer, with or without repeated keys) -/
theorem lookup_cmInit (s : Bytes) (fc : Bool) (k : Bytes) :
    (cmInit s fc).lookup k = mapLookup (parseEntries s fc) k := by
  unfold cmInit mapLookup
  rw [lookup_foldl, lookup_empty]
  cases mapLookupRev k (parseEntries s fc).reverse <;> rfl

/-! ### finite map vs. the documented "entry for key" (no repeated keys) -/

theorem isSome_mapLookupRev (k : Bytes) (es : List Ent) :
    (mapLookupRev k es).isSome = es.any (fun e => lower e.key == lower k) := by
  induction es with
  | nil => rfl
  | cons e r ih =>
    simp only [mapLookupRev, List.any_cons, keyEq]
    by_cases h : (lower e.key == lower k) = true
    · simp [h]
    · simp [h, ih]

theorem isSome_mapLookup (es : List Ent) (k : Bytes) : (mapLookup es k).isSome = listed es k := by
  unfold mapLookup listed
  rw [isSome_mapLookupRev, List.any_reverse]

theorem listed_congr (es : List Ent) {a b : Bytes} (h : lower a = lower b) : listed es a = listed es b := by
  unfold listed; rw [h]

theorem entryFor_none_of_not_listed (es : List Ent) (k : Bytes) (h : listed es k = false) : entryFor es k = none := by
  unfold entryFor
  have : es.find? (fun e => lower e.key == lower k) = none := by
    rw [List.find?_eq_none]
    intro e he
    unfold listed at h
    rw [List.any_eq_false] at h
    exact h e he
  rw [this]

theorem entryFor_cons (e : Ent) (r : List Ent) (k : Bytes) :
    entryFor (e :: r) k = if keyEq k e = true then some e.val else entryFor r k := by
  unfold entryFor keyEq
  rw [List.find?_cons]
  by_cases h : (lower e.key == lower k) = true <;> simp [h]

theorem mapLookup_eq_entryFor (es : List Ent) (k : Bytes) (h : noDupKeys es = true) :
    mapLookup es k = entryFor es k := by
  unfold mapLookup
  induction es with
  | nil => rfl
  | cons e r ih =>
    simp only [noDupKeys, Bool.and_eq_true, Bool.not_eq_true'] at h
    rw [List.reverse_cons, mapLookupRev_append, ih h.2, entryFor_cons]
    simp only [mapLookupRev]
    by_cases hk : keyEq k e = true
    · have : lower e.key = lower k := by simpa [keyEq] using hk
      rw [entryFor_none_of_not_listed r k (by rw [← listed_congr r this]; exact h.1)]
    · cases entryFor r k <;> simp [hk]

end Nq.Lemmas.RewriteMap
