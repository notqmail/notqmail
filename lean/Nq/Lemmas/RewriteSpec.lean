/-
  Lemmas for C10, part 2: `rewrite` (the C loops) equals the documented rules with the virtualdomains lookup as a
  parameter (`routeSpecG`, `rewrite_eq_G`): `byte_rchr` splits at the last occurrence, the percent-hack loop is
  `pctFix`, the virtualdomains scan is `firstHitF` over the candidate suffixes.
-/
import Nq.Lemmas.RewriteMap

namespace Nq.Lemmas.RewriteSpec
open Nq Nq.Rewrite Nq.Route Nq.Lemmas.RewriteMap

/-! ### byte_rchr vs. "split at the last occurrence" -/

theorem rchr_le (c : Byte) (s : Bytes) : rchr c s ≤ s.length := by
  induction s with
  | nil => simp [rchr]
  | cons x r ih =>
    simp only [rchr, List.length_cons]
    split
    · omega
    · split <;> omega

theorem splitLast_eq_rchr (c : Byte) (s : Bytes) :
    splitLast c s = if rchr c s < s.length then some (s.take (rchr c s), s.drop (rchr c s + 1)) else none := by
  induction s with
  | nil => simp [splitLast, rchr]
  | cons x r ih =>
    simp only [splitLast, rchr, List.length_cons]
    rw [ih]
    by_cases h : rchr c r < r.length
    · simp [h]
    · simp only [h, if_false]
      by_cases hx : x = c
      · simp [hx]
      · simp [hx]

theorem splitLast_eq (c : Byte) : ∀ s : Bytes, splitLast c s = splitLastB c s
  | [] => rfl
  | x :: r => by simp only [splitLast, splitLastB, splitLast_eq c r]; rfl

theorem not_mem_of_splitLast_none {c : Byte} {s : Bytes} (h : splitLast c s = none) : c ∉ s :=
  splitLastB_eq_none.1 (splitLast_eq c s ▸ h)

theorem splitLast_some {c : Byte} {s a b : Bytes} (h : splitLast c s = some (a, b)) :
    s = a ++ c :: b ∧ c ∉ b :=
  splitLastB_some (splitLast_eq c s ▸ h)

theorem splitLast_none_of_not_mem {c : Byte} {s : Bytes} (h : c ∉ s) : splitLast c s = none :=
  (splitLast_eq c s).trans (splitLastB_none c s h)

theorem splitLast_append (c : Byte) (a b : Bytes) (h : c ∉ b) : splitLast c (a ++ c :: b) = some (a, b) :=
  (splitLast_eq c _).trans (splitLastB_append c b h a)

theorem rchr_append (c : Byte) (a b : Bytes) (h : c ∉ b) : rchr c (a ++ c :: b) = a.length := by
  have h1 := splitLast_eq_rchr c (a ++ c :: b)
  rw [splitLast_append c a b h] at h1
  by_cases hlt : rchr c (a ++ c :: b) < (a ++ c :: b).length
  · rw [if_pos hlt] at h1
    simp only [Option.some.injEq, Prod.mk.injEq] at h1
    have := congrArg List.length h1.1
    simp only [List.length_take, List.length_append, List.length_cons] at this hlt
    omega
  · rw [if_neg hlt] at h1; simp at h1

/-! ### the percent-hack loop -/

def phOf (c : Cfg) : Bytes → Bool := fun k => (mapLookup c.ph k).isSome

theorem phLoop_eq_pctFix (ph : List Ent) (fuel : Nat) (l d : Bytes) :
    phLoop (fun k => (mapLookup ph k).isSome) fuel (l ++ AT :: d) l.length = pctFix ph fuel l d := by
  induction fuel generalizing l d with
  | zero => rfl
  | succ n ih =>
    simp only [phLoop, pctFix]
    have hd : (l ++ AT :: d).drop (l.length + 1) = d := by
      rw [List.drop_append]; simp
    have ht : (l ++ AT :: d).take l.length = l := by simp
    rw [hd, ht, isSome_mapLookup]
    by_cases hl : listed ph d = true
    · simp only [hl, if_true]
      rw [splitLast_eq_rchr]
      by_cases hj : rchr PCT l < l.length
      · have hne : rchr PCT l ≠ l.length := by omega
        simp only [hj, hne, if_true, if_false]
        have hset : l.set (rchr PCT l) AT = l.take (rchr PCT l) ++ AT :: l.drop (rchr PCT l + 1) := by
          rw [List.set_eq_take_append_cons_drop]; simp [hj]
        have hlen : (l.take (rchr PCT l)).length = rchr PCT l := by
          rw [List.length_take]; omega
        rw [hset]
        have := ih (l.take (rchr PCT l)) (l.drop (rchr PCT l + 1))
        rw [hlen] at this
        exact this
      · have he : rchr PCT l = l.length := by have := rchr_le PCT l; omega
        simp [he]
    · simp [hl]

/-- every round of the percent-hack loop shortens the local part, so fuel beyond its length is never used -/
theorem pctFix_fuel (ph : List Ent) : ∀ (n m : Nat) (l d : Bytes), l.length < n → l.length < m →
    pctFix ph n l d = pctFix ph m l d := by
  intro n
  induction n with
  | zero => intro m l d h; omega
  | succ k ih =>
    intro m l d hn hm
    cases m with
    | zero => omega
    | succ j =>
      simp only [pctFix]
      split
      · cases hsp : splitLast PCT l with
        | none => rfl
        | some p =>
          obtain ⟨u, f⟩ := p
          have := (splitLast_some hsp).1
          have hl : l.length = u.length + 1 + f.length := by rw [this]; simp; omega
          exact ih j u f (by omega) (by omega)
      · rfl

theorem pctFix_shape (ph : List Ent) (fuel : Nat) (l d : Bytes) : ∃ l' d', pctFix ph fuel l d = l' ++ AT :: d' := by
  induction fuel generalizing l d with
  | zero => exact ⟨l, d, rfl⟩
  | succ n ih =>
    simp only [pctFix]
    split
    · split
      · exact ih _ _
      · exact ⟨l, d, rfl⟩
    · exact ⟨l, d, rfl⟩

/-! ### the virtualdomains scan -/

/-- first hit of a lookup *function* over a key list -/
def firstHitF (vd : Bytes → Option Bytes) : List Bytes → Option Bytes
  | [] => none
  | k :: ks => match vd k with
    | some t => some t
    | none => firstHitF vd ks

theorem firstHitF_congr {vd vd' : Bytes → Option Bytes} (h : ∀ k, vd k = vd' k) (ks : List Bytes) :
    firstHitF vd ks = firstHitF vd' ks := by
  induction ks with
  | nil => rfl
  | cons k r ih => simp [firstHitF, h, ih]

theorem firstHit_eq (vdl : List Ent) (ks : List Bytes) : firstHit vdl ks = firstHitF (entryFor vdl) ks := by
  induction ks with
  | nil => rfl
  | cons k r ih => simp only [firstHit, firstHitF, ih]; cases entryFor vdl k <;> rfl

theorem cand_local (addr : Bytes) (at_ i : Nat) (hi : 0 < i) (hle : i ≤ at_) (hlen : at_ < addr.length) :
    cand addr at_ i = false := by
  unfold cand
  rw [beq_false_of_ne (Nat.ne_of_gt hi), beq_false_of_ne (Nat.ne_of_lt (Nat.lt_succ_of_le hle)),
    beq_false_of_ne (Nat.ne_of_lt (Nat.lt_of_le_of_lt hle hlen)), decide_eq_false (Nat.not_lt.2 hle)]
  rfl

/-- positions `1 .. at_` (inside the local part, and the last '@' itself) are no candidates: `m` steps pass -/
theorem vscan_skip (vd : Bytes → Option Bytes) (addr : Bytes) (at_ : Nat) (hlen : at_ < addr.length) :
    ∀ (m n i : Nat), 0 < i → i + m ≤ at_ + 1 → vscan vd addr at_ (n + m) i = vscan vd addr at_ n (i + m) := by
  intro m
  induction m with
  | zero => intros; rfl
  | succ m ih =>
    intro n i hi hle
    rw [show n + (m + 1) = (n + m) + 1 from rfl, vscan, cand_local addr at_ i hi (by omega) hlen, if_neg Bool.false_ne_true,
      show i + (m + 1) = (i + 1) + m by omega]
    exact ih n (i + 1) (Nat.succ_pos i) (by omega)

theorem cand_dom (pre dom : Bytes) (at_ k : Nat) (hp : pre.length = at_ + 1) :
    cand (pre ++ dom) at_ (pre.length + k) = (k == 0 || k == dom.length || dom[k]? == some DOT) := by
  unfold cand
  rw [List.getElem?_append_right (Nat.le_add_right _ _), Nat.add_sub_cancel_left, List.length_append, hp]
  have e1 : (at_ + 1 + k == 0) = false := by simp
  have e2 : (at_ + 1 + k == at_ + 1) = (k == 0) := by rw [Bool.eq_iff_iff]; simp
  have e3 : (at_ + 1 + k == at_ + 1 + dom.length) = (k == dom.length) := by rw [Bool.eq_iff_iff]; simp
  have e4 : decide (at_ + 1 + k > at_) = true := by simp; omega
  rw [e1, e2, e3, e4, Bool.false_or, Bool.true_and]

/-- positions behind the first byte of the domain: tail `t = dom.drop k`, `k > 0`, is looked at position `at+1+k` -/
theorem vscan_tails (vd : Bytes → Option Bytes) (pre dom : Bytes) (at_ : Nat) (hp : pre.length = at_ + 1) :
    ∀ (t : Bytes) (k : Nat), 0 < k → dom.drop k = t → k ≤ dom.length →
      vscan vd (pre ++ dom) at_ (t.length + 1) (pre.length + k) = firstHitF vd (dotSuffixes t ++ [[]]) := by
  intro t
  induction t with
  | nil =>
    intro k _ hk hle
    have hkl : k = dom.length := Nat.le_antisymm hle (List.drop_eq_nil_iff.1 hk)
    have hc : cand (pre ++ dom) at_ (pre.length + k) = true := by
      rw [cand_dom pre dom at_ k hp, hkl, beq_self_eq_true, Bool.or_true, Bool.true_or]
    simp only [List.length_nil, vscan, hc, if_true, List.drop_length_add_append, hk, dotSuffixes, List.nil_append, firstHitF]
    cases vd [] <;> rfl
  | cons c r ih =>
    intro k hk0 hk hle
    have hklt : k < dom.length := by
      rcases Nat.lt_or_ge k dom.length with h | h
      · exact h
      · rw [List.drop_eq_nil_of_le h] at hk; cases hk
    have hget : dom[k]? = some c := by rw [← List.head?_drop, hk]; rfl
    have hc : cand (pre ++ dom) at_ (pre.length + k) = (c == DOT) := by
      rw [cand_dom pre dom at_ k hp, hget, beq_false_of_ne (Nat.ne_of_gt hk0), beq_false_of_ne (Nat.ne_of_lt hklt)]
      rfl
    have hr : dom.drop (k + 1) = r := by rw [← List.drop_drop, hk]; rfl
    rw [List.length_cons, vscan, hc, List.drop_length_add_append, hk, show pre.length + k + 1 = pre.length + (k + 1) from rfl,
      ih (k + 1) (Nat.succ_pos k) hr hklt, dotSuffixes]
    by_cases hd : c = DOT
    · rw [if_pos (beq_iff_eq.2 hd), if_pos hd]; rfl
    · rw [if_neg (fun h => hd (beq_iff_eq.1 h)), if_neg hd]

theorem vscan_eq (vd : Bytes → Option Bytes) (a dom : Bytes) :
    vscan vd (a ++ AT :: dom) a.length ((a ++ AT :: dom).length + 1) 0 =
      firstHitF vd (candidates (a ++ AT :: dom) dom) := by
  -- the fuel, split as the loop uses it: one step at position 0 (the whole address), `a.length` steps over the rest
  -- of the local part and the '@', where nothing is a candidate (`vscan_skip`), one step at the first byte of the
  -- domain (the domain itself), `dom.length` steps over its proper tails (`vscan_tails`)
  have hlen : (a ++ AT :: dom).length + 1 = (dom.length + 1 + a.length) + 1 := by simp; omega
  rw [hlen, vscan, show cand (a ++ AT :: dom) a.length 0 = true from rfl, if_pos rfl, List.drop_zero]
  simp only [candidates, firstHitF]
  cases vd (a ++ AT :: dom) with
  | some x => rfl
  | none =>
    simp only
    rw [vscan_skip vd (a ++ AT :: dom) a.length (by simp) a.length (dom.length + 1) 1 (Nat.succ_pos 0) (by omega)]
    have hp : (a ++ [AT]).length = a.length + 1 := List.length_append
    have hc : cand (a ++ [AT] ++ dom) a.length ((a ++ [AT]).length + 0) = true := by rw [cand_dom _ dom _ 0 hp]; rfl
    rw [List.append_cons, show 1 + a.length = (a ++ [AT]).length + 0 by rw [hp]; omega, vscan, hc, if_pos rfl,
      List.drop_length_add_append, List.drop_zero]
    cases hv : vd dom with
    | some x => rfl
    | none =>
      simp only
      -- a domain that begins with a dot is its own first wildcard: looked up twice, not found twice
      cases dom with
      | nil => simp [vscan, dotSuffixes, firstHitF, hv]
      | cons c r =>
        rw [List.length_cons, vscan_tails vd (a ++ [AT]) (c :: r) a.length hp r 1 Nat.one_pos rfl (Nat.succ_pos _), dotSuffixes]
        split
        · rw [List.cons_append, firstHitF, hv]
        · rfl

/-! ### rewrite = routeSpec -/

/-- `routeSpec` with the virtualdomains lookup as a parameter -/
def routeSpecG (vd : Bytes → Option Bytes) (c : Cfg) (r : Bytes) : Routed :=
  let addr := match splitLast AT r with
    | some p => pctFix c.ph (p.1.length + 1) p.1 p.2
    | none => pctFix c.ph (r.length + 1) r c.env
  let dom := domainOf addr
  if listed c.locals dom then ⟨.loc, [], addr⟩
  else match firstHitF vd (candidates addr dom) with
    | some t => if t = [] then ⟨.rem, [], addr⟩ else ⟨.loc, t, addr⟩
    | none => ⟨.rem, [], addr⟩

theorem routeSpec_eq_G (c : Cfg) (r : Bytes) : routeSpec c r = routeSpecG (entryFor c.vdoms) c r := by
  unfold routeSpec routeSpecG
  simp only [firstHit_eq]
  rfl

/-- after the percent hack: the address is `a@dom` with `dom` free of '@' -/
theorem addr_decomp (addr : Bytes) (h : ∃ l d, addr = l ++ AT :: d) :
    ∃ a dom, addr = a ++ AT :: dom ∧ AT ∉ dom ∧ rchr AT addr = a.length ∧ domainOf addr = dom := by
  obtain ⟨l, d, rfl⟩ := h
  cases hsp : splitLast AT (l ++ AT :: d) with
  | none =>
    have : AT ∈ (l ++ AT :: d) := by simp
    exact absurd this (not_mem_of_splitLast_none hsp)
  | some p =>
    obtain ⟨a, dom⟩ := p
    obtain ⟨h1, h2⟩ := splitLast_some hsp
    refine ⟨a, dom, h1, h2, ?_, ?_⟩
    · rw [h1]; exact rchr_append AT a dom h2
    · unfold domainOf; rw [hsp]

/-- the C loop's fuel is the length of the whole address, the rule's that of the local part (`pctFix_fuel`) -/
theorem rewrite_addr (c : Cfg) (r : Bytes) :
    phLoop (fun k => (mapLookup c.ph k).isSome)
        ((if rchr AT r = r.length then r ++ AT :: c.env else r).length + 1)
        (if rchr AT r = r.length then r ++ AT :: c.env else r) (rchr AT r) =
      (match splitLast AT r with
        | some p => pctFix c.ph (p.1.length + 1) p.1 p.2
        | none => pctFix c.ph (r.length + 1) r c.env) := by
  rw [splitLast_eq_rchr]
  by_cases hlt : rchr AT r < r.length
  · have hne : rchr AT r ≠ r.length := by omega
    simp only [hlt, hne, if_true, if_false]
    have hsp : splitLast AT r = some (r.take (rchr AT r), r.drop (rchr AT r + 1)) := by
      rw [splitLast_eq_rchr, if_pos hlt]
    have hr := (splitLast_some hsp).1
    have hlen : (r.take (rchr AT r)).length = rchr AT r := by rw [List.length_take]; omega
    have := phLoop_eq_pctFix c.ph (r.length + 1) (r.take (rchr AT r)) (r.drop (rchr AT r + 1))
    rw [← hr, hlen] at this
    rw [this]
    exact pctFix_fuel c.ph _ _ _ _ (by rw [hlen]; omega) (by omega)
  · have he : rchr AT r = r.length := by have := rchr_le AT r; omega
    simp only [he, if_true, Nat.lt_irrefl, if_false]
    rw [phLoop_eq_pctFix c.ph ((r ++ AT :: c.env).length + 1) r c.env]
    exact pctFix_fuel c.ph _ _ _ _ (by simp; omega) (by omega)

theorem spec_addr_shape (c : Cfg) (r : Bytes) :
    ∃ l d, (match splitLast AT r with
        | some p => pctFix c.ph (p.1.length + 1) p.1 p.2
        | none => pctFix c.ph (r.length + 1) r c.env) = l ++ AT :: d := by
  cases splitLast AT r with
  | some p => exact pctFix_shape _ _ _ _
  | none => exact pctFix_shape _ _ _ _

/-- what `rewrite()` does after the percent-hack loop -/
def tailPart (L : Lookups) (addr : Bytes) : Routed :=
  if L.locals (addr.drop (rchr AT addr + 1)) then ⟨.loc, [], addr⟩
  else match vscan L.vdoms addr (rchr AT addr) (addr.length + 1) 0 with
    | some x => if x = [] then ⟨.rem, [], addr⟩ else ⟨.loc, x, addr⟩
    | none => ⟨.rem, [], addr⟩

theorem rewriteWith_eq (L : Lookups) (env r : Bytes) :
    rewriteWith L env r = tailPart L (phLoop L.ph
        ((if rchr AT r = r.length then r ++ AT :: env else r).length + 1)
        (if rchr AT r = r.length then r ++ AT :: env else r) (rchr AT r)) := rfl

/-- the documented rules after the percent hack -/
def specTail (vd : Bytes → Option Bytes) (c : Cfg) (addr : Bytes) : Routed :=
  if listed c.locals (domainOf addr) then ⟨.loc, [], addr⟩
  else match firstHitF vd (candidates addr (domainOf addr)) with
    | some t => if t = [] then ⟨.rem, [], addr⟩ else ⟨.loc, t, addr⟩
    | none => ⟨.rem, [], addr⟩

theorem routeSpecG_eq (vd : Bytes → Option Bytes) (c : Cfg) (r : Bytes) :
    routeSpecG vd c r = specTail vd c (match splitLast AT r with
        | some p => pctFix c.ph (p.1.length + 1) p.1 p.2
        | none => pctFix c.ph (r.length + 1) r c.env) := rfl

theorem tail_eq (c : Cfg) (addr : Bytes) (h : ∃ l d, addr = l ++ AT :: d) :
    tailPart c.lookups addr = specTail (mapLookup c.vdoms) c addr := by
  obtain ⟨a, dom, h1, h2, h3, h4⟩ := addr_decomp addr h
  unfold tailPart specTail
  rw [h3, h4]
  subst h1
  have hd : (a ++ AT :: dom).drop (a.length + 1) = dom := by rw [List.drop_append]; simp
  simp only [Cfg.lookups, hd, isSome_mapLookup, vscan_eq _ a dom]

/-- the C control flow of `rewrite()` computes the documented rule set (any virtualdomains lookup) -/
theorem rewrite_eq_G (c : Cfg) (r : Bytes) : rewrite c r = routeSpecG (mapLookup c.vdoms) c r := by
  unfold rewrite
  rw [rewriteWith_eq, routeSpecG_eq]
  have : c.lookups.ph = fun k => (mapLookup c.ph k).isSome := rfl
  rw [this, rewrite_addr]
  exact tail_eq c _ (spec_addr_shape c r)

/-- without a repeated virtualdomains key the finite map is "the entry for that key", and `rewrite()` is the documented rule set -/
theorem rewrite_eq_routeSpec (c : Cfg) (r : Bytes) (h : noDupKeys c.vdoms = true) : rewrite c r = routeSpec c r := by
  rw [rewrite_eq_G, routeSpec_eq_G, funext fun k => mapLookup_eq_entryFor c.vdoms k h]

end Nq.Lemmas.RewriteSpec
