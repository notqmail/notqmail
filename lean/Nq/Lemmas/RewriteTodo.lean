/-
  C10: the vocabulary in which the record loop of `todo_do` is described (`encode`,
  `chanRecs`/`chanFile`, `Interleave`, `isHdr`/`infoOf`), with: filtering by a predicate and by its negation splits a
  list into two lists of which it is a merge; `chunks` reads back NUL-terminated records. The loop itself
  (`todoFold_all`) is in RewriteDaemon.
-/
import Nq.Lemmas.RewriteSpec

namespace Nq.Lemmas.RewriteTodo
open Nq Nq.Rewrite Nq.Route

/-- records → file contents (each record followed by NUL) -/
def encode (recs : List Bytes) : Bytes := recs.flatMap (fun r => r ++ [NUL])

/-- the records of one channel file: those routed to `ch`, in order -/
def chanRecs (ch : Chan) (rs : List Routed) : List Routed := rs.filter (fun r => r.chan == ch)

def chanFile (ch : Chan) (rs : List Routed) : Bytes := (chanRecs ch rs).flatMap Routed.line

/-- `m` is an order-preserving merge of `l` and `r` -/
inductive Interleave {α : Type} : List α → List α → List α → Prop
  | nil : Interleave [] [] []
  | left (a : α) {l r m : List α} : Interleave l r m → Interleave (a :: l) r (a :: m)
  | right (a : α) {l r m : List α} : Interleave l r m → Interleave l (a :: r) (a :: m)

theorem interleave_filter {α : Type} (p : α → Bool) (l : List α) :
    Interleave (l.filter p) (l.filter (fun a => !p a)) l := by
  induction l with
  | nil => exact .nil
  | cons a r ih =>
    by_cases h : p a = true
    · simp only [List.filter_cons, h, if_true, Bool.not_true]
      exact .left a ih
    · simp only [Bool.not_eq_true] at h
      simp only [List.filter_cons, h, Bool.not_false, if_true]
      exact .right a ih

theorem chan_not_loc (r : Routed) : (!(r.chan == Chan.loc)) = (r.chan == Chan.rem) := by
  cases r.chan <;> rfl

theorem chunksGo_record (r rest acc : Bytes) (h : NUL ∉ r) :
    chunksGo (r ++ NUL :: rest) acc = (acc.reverse ++ r) :: chunksGo rest [] := by
  induction r generalizing acc with
  | nil => simp [chunksGo]
  | cons x t ih =>
    simp only [List.mem_cons, not_or] at h
    have hx : ¬ x = NUL := fun e => h.1 e.symm
    simp only [List.cons_append, chunksGo, hx, if_false]
    rw [ih _ h.2]
    simp

theorem chunksGo_tail (t acc : Bytes) (h : NUL ∉ t) : chunksGo t acc = [] := by
  induction t generalizing acc with
  | nil => rfl
  | cons x r ih =>
    simp only [List.mem_cons, not_or] at h
    have hx : ¬ x = NUL := fun e => h.1 e.symm
    simp only [chunksGo, hx, if_false]
    exact ih _ h.2

theorem chunks_encode (recs : List Bytes) (tail : Bytes) (h : ∀ r ∈ recs, NUL ∉ r) (ht : NUL ∉ tail) :
    chunks (encode recs ++ tail) = recs := by
  unfold chunks
  induction recs with
  | nil => simpa [encode] using chunksGo_tail tail [] ht
  | cons r rs ih =>
    have hr := h r (by simp)
    have : encode (r :: rs) ++ tail = r ++ NUL :: (encode rs ++ tail) := by simp [encode]
    rw [this, chunksGo_record r _ [] hr, ih (fun x hx => h x (by simp [hx]))]
    simp

/-- header records: `u…`, `p…`, `F…` -/
def isHdr (r : Bytes) : Bool :=
  match r with
  | t :: _ => t == 117 || t == 112 || t == 70
  | [] => false

def infoOf (hdr : List Bytes) : Bytes :=
  (hdr.filter (fun r => r.head? == some 70)).flatMap (fun r => r ++ [NUL])

end Nq.Lemmas.RewriteTodo
