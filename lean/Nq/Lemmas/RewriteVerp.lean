/-
  C10: the documented VERP rule `verpSpec` evaluated on each form of sender and recipient
  (`senderadd = verpSpec` itself is `C10_verp`).
-/
import Nq.Lemmas.RewriteSpec

namespace Nq.Lemmas.RewriteVerp
open Nq Nq.Rewrite Nq.Route Nq.Lemmas.RewriteSpec

/-- the documented form: `pre@host-@[]` with recipient `box@dom` -/
theorem verpSpec_expand (pre host box dom : Bytes) (hh : AT ∉ host) (hd : AT ∉ dom) :
    verpSpec (pre ++ AT :: host ++ VERPSUFFIX) (box ++ AT :: dom) = pre ++ box ++ EQS :: dom ++ AT :: host := by
  unfold verpSpec
  have hlen : (pre ++ AT :: host ++ VERPSUFFIX).length - 4 = (pre ++ AT :: host).length := by
    simp [VERPSUFFIX]; omega
  have hc : (pre ++ AT :: host ++ VERPSUFFIX).length ≥ 4 ∧
      (pre ++ AT :: host ++ VERPSUFFIX).drop ((pre ++ AT :: host ++ VERPSUFFIX).length - 4) = VERPSUFFIX := by
    rw [hlen]
    constructor
    · simp [VERPSUFFIX]; omega
    · rw [List.drop_append]; simp
  rw [if_pos hc, hlen, List.take_append]
  simp only [Nat.sub_self, List.take_zero, List.append_nil, List.take_length]
  rw [splitLast_append AT pre host hh, splitLast_append AT box dom hd]

theorem verpSpec_plain (s r : Bytes) (h : ¬ (s.length ≥ 4 ∧ s.drop (s.length - 4) = VERPSUFFIX)) : verpSpec s r = s := by
  unfold verpSpec; rw [if_neg h]

/-- a recipient without '@' cannot occur after `rewrite()` -/
theorem verpSpec_noat (s r : Bytes) (h : AT ∉ r) : verpSpec s r = s := by
  unfold verpSpec
  split
  · rw [splitLast_none_of_not_mem h]
    split
    · rename_i heq; simp at heq
    · rfl
  · rfl

theorem verpSpec_nohost (b r : Bytes) (h : AT ∉ b) : verpSpec (b ++ VERPSUFFIX) r = b ++ VERPSUFFIX := by
  unfold verpSpec
  split
  · have hlen : (b ++ VERPSUFFIX).length - 4 = b.length := by simp [VERPSUFFIX]
    rw [hlen, List.take_append]
    simp only [Nat.sub_self, List.take_zero, List.append_nil, List.take_length]
    rw [splitLast_none_of_not_mem h]
  · rfl

end Nq.Lemmas.RewriteVerp
