/-
  Helper lemmas for C09 about `rreport` (qmail-rspawn.c `report()`): the scan loop finds the first
  NUL-terminated record starting with K, Z or D; the relayed letter.
-/
import Nq.Lemmas.RemoteSmtp
namespace Nq.Lemmas.Rspawn
open Nq Nq.RemoteSmtp Nq.RspawnReport Nq.Spec.RemoteVerdict Nq.Lemmas.RemoteSmtp

/-- the scan state that corresponds to a partly read record `cur` (most recent byte first) -/
def stOf (cur : Bytes) : RSc :=
  match cur.reverse with
  | [] => .start
  | c :: _ => if c = cK then .inK else if c = cZ then .inZ else if c = cD then .inD else .skip

/-- `result` as a function of the first K/Z/D record -/
def resultOf : Option Byte → Int
  | some c => if c = cK then 1 else if c = cZ then 0 else -1
  | none => -1

theorem stOf_cons (c : Byte) (cur : Bytes) (h : cur ≠ []) : stOf (c :: cur) = stOf cur := by
  unfold stOf
  have : cur.reverse ≠ [] := by simpa using h
  cases hr : cur.reverse with
  | nil => exact absurd hr this
  | cons x t => simp [hr]

theorem stOf_ne_start (cur : Bytes) (h : cur ≠ []) : stOf cur ≠ .start := by
  unfold stOf
  have : cur.reverse ≠ [] := by simpa using h
  cases hr : cur.reverse with
  | nil => exact absurd hr this
  | cons x t =>
    simp only
    repeat' split
    all_goals simp

theorem firstKZD_cons (r : Bytes) (rs : List Bytes) :
    firstKZD (r :: rs) = if isKZD (headB r) then some (headB r) else firstKZD rs := by
  unfold firstKZD
  by_cases h : isKZD (headB r) = true
  · simp [List.find?, h]
  · simp [List.find?, h]

theorem _root_.Nq.Lemmas.RemoteSmtp.records_one (r : Bytes) : ∀ (cur rest : Bytes), NUL ∉ r →
    records cur (r ++ NUL :: rest) = (cur.reverse ++ r) :: records [] rest := by
  induction r with
  | nil => intro cur rest _; simp [records]
  | cons c r ih =>
    intro cur rest h
    have hc : c ≠ NUL := fun e => h (by simp [e])
    have hr : NUL ∉ r := fun e => h (by simp [e])
    simp [records, hc, ih _ _ hr]

theorem _root_.Nq.Lemmas.RemoteSmtp.records_render (rs : List Bytes) (h : ∀ x ∈ rs, NUL ∉ x) :
    records [] (rs.flatMap (· ++ [NUL])) = rs := by
  induction rs with
  | nil => simp [records]
  | cons r rs ih =>
    have hr : NUL ∉ r := h r (by simp)
    have := records_one r [] (rs.flatMap (· ++ [NUL])) hr
    simp only [List.flatMap_cons, List.append_assoc, List.singleton_append]
    rw [this, ih (fun x hx => h x (by simp [hx]))]; simp

theorem scan_records (s : Bytes) : ∀ cur : Bytes, scan (stOf cur) s = resultOf (firstKZD (records cur s)) := by
  induction s with
  | nil => intro cur; cases stOf cur <;> simp [scan, records, firstKZD, resultOf]
  | cons c r ih =>
    intro cur
    -- `stOf cur` is the class of the first byte of the record read so far. NUL closes the record: its first byte decides
    -- (K, Z or D is the result, anything else goes on from `.start`); any other byte joins it, and
    -- `stOf (c :: cur) = stOf cur` unless `cur = []`, where `c` becomes the first byte
    by_cases hc : c = NUL
    · subst hc
      simp only [records, if_true, firstKZD_cons]
      cases hr : cur.reverse with
      | nil =>
        have : cur = [] := by simpa using hr
        subst this
        have := ih []
        simp [stOf, scan, headB, isKZD, cK, cZ, cD] at this ⊢
        exact this
      | cons x t =>
        have h0 := ih []
        by_cases hK : x = cK
        · simp [stOf, hr, hK, scan, headB, isKZD, resultOf]
        · by_cases hZ : x = cZ
          · simp [stOf, hr, hZ, scan, headB, isKZD, resultOf, cK, cZ]
          · by_cases hD : x = cD
            · simp [stOf, hr, hD, scan, headB, isKZD, resultOf, cK, cZ, cD]
            · have : isKZD x = false := by simp [isKZD, hK, hZ, hD]
              simp [stOf, hr, hK, hZ, hD, scan, headB, this]
              simpa [stOf] using h0
    · have hrec : records cur (c :: r) = records (c :: cur) r := by simp [records, hc]
      rw [hrec, ← ih (c :: cur)]
      cases hcur : cur with
      | nil =>
        by_cases hK : c = cK
        · simp [stOf, scan, hK, cK, NUL]
        · by_cases hZ : c = cZ
          · simp [stOf, scan, hK, hZ, cK, cZ, NUL]
          · by_cases hD : c = cD
            · simp [stOf, scan, hK, hZ, hD, cK, cZ, cD, NUL]
            · simp [stOf, scan, hc, hK, hZ, hD]
      | cons y t =>
        rw [stOf_cons c (y :: t) (by simp)]
        have hne := stOf_ne_start (y :: t) (by simp)
        cases hst : stOf (y :: t) with
        | start => exact absurd hst hne
        | inK => simp [scan, hc]
        | inZ => simp [scan, hc]
        | inD => simp [scan, hc]
        | skip => simp [scan, hc]


theorem scan_start (s : Bytes) : scan .start s = resultOf (firstKZD (records [] s)) := by
  simpa [stOf] using scan_records s []

/-- the class `report()` relays after a normal exit: `c` = first byte of the output (the recipient's letter),
`m` = first byte of the first terminated K/Z/D record (the message verdict) -/
def relayOf (c : Byte) (m : Option Byte) : Byte :=
  if c = lS then cZ else if c = lH then cD else if m = some cK then cK else if m = some cZ then cZ else cD

theorem letterOf_orr (c : Byte) (t : Bytes) (m : Option Byte) :
    letterOf (orrOf (c :: t) (resultOf m)) = [relayOf c m] := by
  simp only [orrOf, relayOf]
  by_cases hS : c = lS
  · rw [if_pos hS, if_pos hS]; rfl
  by_cases hH : c = lH
  · rw [if_neg hS, if_pos hH, if_neg hS, if_pos hH]; rfl
  rw [if_neg hS, if_neg hH, if_neg hS, if_neg hH]
  cases m with
  | none => rfl
  | some x =>
    unfold resultOf
    by_cases hK : x = cK
    · simp [hK, letterOf]
    · by_cases hZ : x = cZ
      · simp [hK, hZ, letterOf, cK, cZ]
      · simp [hK, hZ, letterOf]

theorem rreport_normal (wstat : Nat) (c : Byte) (t : Bytes) (h1 : wstat % 128 = 0) (h2 : wstat / 256 = 0) :
    rreport wstat (c :: t) = relayOf c (firstKZD (records [] (c :: t))) ::
      tailOf (c :: t) (scan .start (c :: t)) (orrOf (c :: t) (scan .start (c :: t))) := by
  unfold rreport
  simp only [h1, h2, ne_eq, not_true_eq_false, if_false, show (0 : Nat) ≠ 111 by decide, reduceCtorEq]
  conv => lhs; arg 1; rw [scan_start, letterOf_orr]
  rfl

theorem relayOf_eq_cK {c : Byte} {m : Option Byte} (h : relayOf c m = cK) : c ≠ lS ∧ c ≠ lH ∧ m = some cK := by
  unfold relayOf at h
  by_cases hS : c = lS
  · rw [if_pos hS] at h; exact absurd h (by decide)
  by_cases hH : c = lH
  · rw [if_neg hS, if_pos hH] at h; exact absurd h (by decide)
  by_cases hK : m = some cK
  · exact ⟨hS, hH, hK⟩
  rw [if_neg hS, if_neg hH, if_neg hK] at h
  split at h <;> exact absurd h (by decide)

theorem isKZD_relayOf (c : Byte) (m : Option Byte) : isKZD (relayOf c m) = true := by
  unfold relayOf; repeat' split
  all_goals rfl

theorem headB_rreport_normal (wstat : Nat) (s : Bytes) (h1 : wstat % 128 = 0) (h2 : wstat / 256 = 0) (h3 : s ≠ []) :
    headB (rreport wstat s) = relayOf (headB s) (firstKZD (records [] s)) := by
  cases s with
  | nil => exact absurd rfl h3
  | cons c t => rw [rreport_normal wstat c t h1 h2]; rfl

theorem headB_rreport_abnormal (wstat : Nat) (s : Bytes) (h : ¬ (wstat % 128 = 0 ∧ wstat / 256 = 0 ∧ s ≠ [])) :
    headB (rreport wstat s) = if wstat % 128 = 0 ∧ wstat / 256 ≠ 0 ∧ wstat / 256 ≠ 111 then cD else cZ := by
  unfold rreport
  by_cases h1 : wstat % 128 = 0
  · by_cases h3 : wstat / 256 = 111
    · simp only [h1, h3, ne_eq, not_true_eq_false, if_false, if_true, and_false]
      exact headB_lit _ 'Z' (by decide +kernel)
    · by_cases h2 : wstat / 256 = 0
      · have hs : s = [] := Decidable.by_contra fun hs => h ⟨h1, h2, hs⟩
        simp only [h1, h2, h3, hs, ne_eq, not_true_eq_false, if_false, if_true, and_false, false_and]
        exact headB_lit _ 'Z' (by decide +kernel)
      · simp only [h1, h2, h3, ne_eq, not_true_eq_false, not_false_eq_true, if_false, if_true, and_self]
        exact headB_lit _ 'D' (by decide +kernel)
  · simp only [h1, ne_eq, not_false_eq_true, if_true, false_and, if_false]
    exact headB_lit _ 'Z' (by decide +kernel)

theorem cstr_cons_ne (c : Byte) (r : Bytes) (h : c ≠ NUL) : cstr (c :: r) = c :: cstr r := by simp [cstr, h]

end Nq.Lemmas.Rspawn
