/-
  Lemmas about the daemon's use of the heaps (qmail-send.c pass_dochan / pqrun / pqfinish / pqadd / job_close) as
  modelled in Nq/Sched.lean.  Core Lean only.
-/
import Nq.Lemmas.SchedHeap

namespace Nq.Lemmas.Sched
open Nq.Sched

/-! ### pass_dochan: which message is started -/

/-- what `passStart` returning `(pe, q')` means on a heap: `pe` is due, a minimum, and exactly it has left -/
structure StartsOn (recent : Int) (q : PQ) (pe : Elt) (q' : PQ) : Prop where
  due : pe.dt ≤ recent
  min : ∀ e ∈ q.toList, pe.dt ≤ e.dt
  perm : q.toList.Perm (pe :: q'.toList)
  heap : Heap q'

theorem passStart_spec (recent : Int) (ja : Bool) (q q' : PQ) (pe : Elt) (h : Heap q)
    (hs : passStart recent ja q = some (pe, q')) : StartsOn recent q pe q' := by
  unfold passStart at hs
  cases ja with
  | false => simp at hs
  | true =>
    simp only [Bool.not_true, Bool.false_eq_true, if_false] at hs
    cases hm : q.min with
    | none => rw [hm] at hs; simp at hs
    | some m =>
      rw [hm] at hs
      simp only at hs
      by_cases hd : m.dt > recent
      · rw [if_pos hd] at hs; cases hs
      · rw [if_neg hd] at hs
        have hs' := Option.some.inj hs
        have e1 : m = pe := congrArg Prod.fst hs'
        have e2 : q.delmin = q' := congrArg Prod.snd hs'
        subst e1; subst e2
        obtain ⟨hh, hperm⟩ := delmin_of_min q h hm
        exact ⟨Int.not_lt.mp hd, min_le_mem q h hm, hperm, hh⟩

theorem passStart_prompt (recent : Int) (q : PQ) (h : Heap q) (e : Elt) (he : e ∈ q.toList)
    (hdue : e.dt ≤ recent) : (passStart recent true q).isSome = true := by
  unfold passStart
  simp only [Bool.not_true, Bool.false_eq_true, if_false]
  cases hm : q.min with
  | none =>
    rw [toList_of_size_zero q (min_none q hm)] at he; cases he
  | some m =>
    simp only
    have : ¬ m.dt > recent := Int.not_lt.mpr (Int.le_trans (min_le_mem q h hm e he) hdue)
    rw [if_neg this]; rfl

theorem passStart_none_notdue (recent : Int) (q : PQ) (h : Heap q)
    (hs : passStart recent true q = none) : ∀ e ∈ q.toList, recent < e.dt := by
  intro e he
  by_cases hd : e.dt ≤ recent
  · have := passStart_prompt recent q h e he hd
    rw [hs] at this; cases this
  · exact Int.not_le.mp hd

theorem drainDue_spec (recent : Int) : ∀ (f : Nat) (q : PQ), Heap q → q.size ≤ f →
    (drainDue recent f q).1.Pairwise (fun a b => a.dt ≤ b.dt) ∧
    q.toList.Perm ((drainDue recent f q).1 ++ (drainDue recent f q).2.toList) ∧
    (∀ e ∈ (drainDue recent f q).1, e.dt ≤ recent) ∧
    (∀ e ∈ (drainDue recent f q).2.toList, recent < e.dt) ∧ Heap (drainDue recent f q).2 := by
  intro f
  induction f with
  | zero =>
    intro q h hs
    simp [drainDue, toList_of_size_zero q (by omega), h]
  | succ f ih =>
    intro q h hs
    simp only [drainDue]
    cases hp : passStart recent true q with
    | none =>
      simp only
      exact ⟨List.Pairwise.nil, by simp, by simp, passStart_none_notdue recent q h hp, h⟩
    | some r =>
      obtain ⟨pe, q'⟩ := r
      simp only
      have hst := passStart_spec recent true q q' pe h hp
      have hlen : q'.size ≤ f := by have := size_of_perm_cons hst.perm; omega
      obtain ⟨i1, i2, i3, i4, i5⟩ := ih q' hst.heap hlen
      refine ⟨?_, ?_, ?_, i4, i5⟩
      · refine List.Pairwise.cons ?_ i1
        intro b hb
        apply hst.min
        apply (hst.perm.mem_iff).mpr
        apply List.mem_cons_of_mem
        apply (i2.mem_iff).mpr
        exact List.mem_append_left _ hb
      · exact hst.perm.trans ((List.perm_cons pe).mpr i2)
      · intro e he
        rcases List.mem_cons.mp he with he | he
        · rw [he]; exact hst.due
        · exact i3 e he

/-! ### pqrun (ALRM) -/

theorem pqrun_toList (recent : Int) (q : PQ) :
    (pqrun recent q).toList = q.toList.map fun e => { e with dt := recent } := by
  unfold pqrun; rw [Array.toList_map]

theorem pqrun_get (recent : Int) (q : PQ) (k : Nat) (hk : k < q.size) : (pqrun recent q)[k]!.dt = recent := by
  unfold pqrun
  rw [getElem!_pos _ k (by simpa using hk), Array.getElem_map]

theorem pqrun_heap (recent : Int) (q : PQ) : Heap (pqrun recent q) := by
  intro k hk0 hk
  have hs : (pqrun recent q).size = q.size := by unfold pqrun; simp
  rw [hs] at hk
  rw [pqrun_get recent q k hk, pqrun_get recent q _ (by omega)]
  exact Int.le_refl _

/-! ### pqfinish / pqadd (TERM and restart) -/

theorem pqfinish_perm : ∀ (f : Nat) (q : PQ), Heap q → q.size ≤ f → (pqfinish f q).Perm q.toList := by
  intro f
  induction f with
  | zero =>
    intro q _ hs
    simp [pqfinish, toList_of_size_zero q (by omega)]
  | succ f ih =>
    intro q h hs
    simp only [pqfinish]
    cases hm : q.min with
    | none =>
      simp [toList_of_size_zero q (min_none q hm)]
    | some m =>
      simp only
      obtain ⟨hh, hperm⟩ := delmin_of_min q h hm
      have hlen : q.delmin.size ≤ f := by have := size_of_perm_cons hperm; omega
      exact ((List.perm_cons _).mpr (ih q.delmin hh hlen)).trans hperm.symm

theorem writeAll_other (l : List Elt) : ∀ (m : Mtimes) (i : Nat), i ∉ l.map (·.id) → (m.writeAll l) i = m i := by
  induction l with
  | nil => intro m i _; rfl
  | cons x r ih =>
    intro m i hi
    simp only [List.map_cons, List.mem_cons, not_or] at hi
    show (Mtimes.writeAll (m.write x) r) i = m i
    rw [ih (m.write x) i hi.2]
    simp [Mtimes.write, hi.1]

theorem writeAll_get (l : List Elt) : ∀ (m : Mtimes), (l.map (·.id)).Nodup → ∀ e ∈ l, (m.writeAll l) e.id = some e.dt := by
  induction l with
  | nil => intro m _ e he; cases he
  | cons x r ih =>
    intro m hn e he
    simp only [List.map_cons, List.nodup_cons] at hn
    show (Mtimes.writeAll (m.write x) r) e.id = some e.dt
    rcases List.mem_cons.mp he with he | he
    · subst he
      rw [writeAll_other r (m.write e) e.id hn.1]
      simp [Mtimes.write]
    · exact ih (m.write x) hn.2 e he

theorem filterMap_congr' {α β} (f g : α → Option β) : ∀ (l : List α), (∀ x ∈ l, f x = g x) →
    l.filterMap f = l.filterMap g := by
  intro l
  induction l with
  | nil => intro _; rfl
  | cons x r ih =>
    intro h
    rw [List.filterMap_cons, List.filterMap_cons, h x (List.mem_cons_self ..), ih (fun y hy => h y (List.mem_cons_of_mem _ hy))]

/-- what `pqadd` turns a directory entry into -/
def loadElt (m : Mtimes) (i : Nat) : Option Elt := (m i).map fun t => { dt := t, id := i }

theorem pqaddChan_eq (m : Mtimes) (q : PQ) (i : Nat) :
    pqaddChan m q i = match loadElt m i with | none => q | some e => q.insert e := by
  unfold pqaddChan loadElt
  cases m i <;> rfl

theorem pqstart_from (m : Mtimes) (ids : List Nat) (q0 : PQ) (h : Heap q0) :
    Heap (ids.foldl (pqaddChan m) q0) ∧
    (ids.foldl (pqaddChan m) q0).toList.Perm (ids.filterMap (loadElt m) ++ q0.toList) := by
  -- `pqstart` inserts, in directory order, the entries that `pqadd` makes of the ids
  have e : ids.foldl (pqaddChan m) q0 = (ids.filterMap (loadElt m)).foldl PQ.insert q0 := by
    rw [List.foldl_filterMap]
    congr 1
    funext q i
    rw [pqaddChan_eq]
    cases loadElt m i <;> rfl
  rw [e]
  exact foldl_insert _ q0 h

/-! ### pqadd and job_close in full -/

/-- what `pqadd` does with one channel heap: the file's mtime goes in if the file exists -/
def addIf (id : Nat) : StatRes → PQ → PQ
  | .found t, q => q.insert { dt := t, id := id }
  | _, q => q

theorem addIf_heap (id : Nat) (st : StatRes) (q : PQ) (hq : Heap q) : Heap (addIf id st q) := by
  cases st <;> first | exact hq | exact (insert_spec q _ hq).1

/-- the three outcomes of `pqadd`: nothing (no info file, or a todo file); `fail:` (some `stat` fails other than by ENOENT); or each existing channel
file into its heap, and the message into pqdone if it has none -/
theorem pqaddF_cases (now : Int) (info todo ch0 ch1 : StatRes) (id : Nat) (h : Heaps) :
    (pqaddF now info todo ch0 ch1 id h = h ∧ (info = .noent ∨ ∃ t, todo = .found t)) ∨
    (pqaddF now info todo ch0 ch1 id h = { h with fail := h.fail.insert { dt := now + SLEEP_SYSFAIL, id := id } } ∧
      (info = .err ∨ todo = .err ∨ ch0 = .err ∨ ch1 = .err)) ∨
    ((∃ ti, info = .found ti) ∧ todo = .noent ∧ ch0 ≠ .err ∧ ch1 ≠ .err ∧
      pqaddF now info todo ch0 ch1 id h = { h with q0 := addIf id ch0 h.q0, q1 := addIf id ch1 h.q1,
                                                   done := if ch0 = .noent ∧ ch1 = .noent then h.done.insert { dt := now, id := id } else h.done }) := by
  cases info with
  | err => simp [pqaddF]
  | noent => simp [pqaddF]
  | found ti =>
    cases todo with
    | found t => simp [pqaddF]
    | err => simp [pqaddF]
    | noent =>
      cases ch0 with
      | err => simp [pqaddF]
      | found t0 => cases ch1 <;> simp [pqaddF, addIf]
      | noent => cases ch1 <;> simp [pqaddF, addIf]

/-- the outcomes of `job_close`: the file is kept and the message goes back into the channel heap — at its retry time when a recipient
is left to do or the pass did not reach EOF, `SLEEP_SYSFAIL` from now when the file cannot be removed —; or the file is removed, the
channel heap untouched, and the message goes into pqdone unless `stat` finds the other channel file -/
theorem jobCloseF_cases {job : Job} {id numtodo : Nat} {hiteof unlinkOk : Bool} {st : StatRes} {now : Int} {q done : PQ} {o : CloseOut}
    (ho : o = jobCloseF job id hiteof numtodo unlinkOk st now q done) :
    (o.removed = false ∧ o.done = done ∧
      (((numtodo ≠ 0 ∨ hiteof = false) ∧ o.chan = q.insert { dt := job.retry, id := id }) ∨
       (hiteof = true ∧ numtodo = 0 ∧ unlinkOk = false ∧ o.chan = q.insert { dt := now + SLEEP_SYSFAIL, id := id }))) ∨
    (hiteof = true ∧ numtodo = 0 ∧ unlinkOk = true ∧ o.removed = true ∧ o.chan = q ∧
      (((∃ t, st = .found t) ∧ o.done = done) ∨ ((∀ t, st ≠ .found t) ∧ o.done = done.insert { dt := now, id := id }))) := by
  subst ho
  unfold jobCloseF
  cases hiteof with
  | false => exact Or.inl ⟨rfl, rfl, Or.inl ⟨Or.inr rfl, rfl⟩⟩
  | true =>
    by_cases hn : numtodo = 0
    · subst hn
      cases unlinkOk with
      | false => exact Or.inl ⟨rfl, rfl, Or.inr ⟨rfl, rfl, rfl, rfl⟩⟩
      | true => right; cases st <;> simp
    · left
      have : (numtodo == 0) = false := by simpa using hn
      simp [this, hn]

end Nq.Lemmas.Sched
