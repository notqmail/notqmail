/-
  Lemmas about Nq.SchedFail (messdone / pqdone, cut passes, pqfinish with failing utimes): the invariants of
  Nq.Lemmas.SchedHist (WF, Tracked, Owed) over the larger event set.  Core Lean only.
-/
import Nq.SchedFail
import Nq.Lemmas.SchedHist

namespace Nq.Lemmas.SchedFail
open Nq Nq.Sched Nq.SchedHist Nq.SchedFail Nq.Spec.SchedHist Nq.Lemmas.Sched Nq.Lemmas.SchedHist

/-! ### pqdone replaced -/

def setDone (s : HSt) (d : PQ) : HSt := { s with done := d }

@[simp] theorem setDone_q (s : HSt) (d : PQ) (c : Chan) : (setDone s d).q c = s.q c := by cases c <;> rfl
@[simp] theorem setDone_find (s : HSt) (d : PQ) (i : Nat) : (setDone s d).find i = s.find i := rfl
@[simp] theorem setDone_msgs (s : HSt) (d : PQ) : (setDone s d).msgs = s.msgs := rfl
@[simp] theorem setDone_done (s : HSt) (d : PQ) : (setDone s d).done = d := rfl
@[simp] theorem setDone_clock (s : HSt) (d : PQ) : (setDone s d).clock = s.clock := rfl

theorem wf_setDone {s : HSt} (hwf : WF s) {d : PQ} (hd : Heap d) : WF (setDone s d) :=
  ⟨fun c => by rw [setDone_q]; exact hwf.heap c, hd, hwf.nodupMsgs, fun c => by rw [setDone_q]; exact hwf.nodupQ c,
   fun c e he => by rw [setDone_q] at he; exact hwf.hasFile c e he⟩

theorem failDone_eq (s : HSt) (id : Nat) : failDone s id = setDone s (s.done.insert { dt := s.clock + SLEEP_SYSFAIL, id := id }) := rfl

/-! ### a message removed from the disk -/

theorem find_removeMsg (s : HSt) (id j : Nat) (h : j ≠ id) : (removeMsg s id).find j = s.find j := by
  unfold HSt.find removeMsg
  rw [List.find?_filter]
  congr 1
  funext x
  by_cases hx : x.id = j
  · simp [hx, h]
  · simp [hx]

theorem find_removeMsg_self (s : HSt) (id : Nat) : (removeMsg s id).find id = none := by
  unfold HSt.find removeMsg
  rw [List.find?_eq_none]
  intro x hx
  simpa using (List.mem_filter.mp hx).2

@[simp] theorem removeMsg_q (s : HSt) (id : Nat) (c : Chan) : (removeMsg s id).q c = s.q c := by cases c <;> rfl
@[simp] theorem removeMsg_done (s : HSt) (id : Nat) : (removeMsg s id).done = s.done := rfl

theorem chanStat_noent {s : HSt} {id : Nat} {c : Chan} (h : chanStat s id c = .noent) {m : Msg} (hm : s.find id = some m) :
    m.recs c = none := by
  unfold chanStat at h; rw [hm] at h; unfold statOf at h
  cases hr : m.recs c with
  | none => rfl
  | some x => simp only [hr] at h; cases h

theorem chanStat_found {s : HSt} {id : Nat} {c : Chan} {t : Int} (h : chanStat s id c = .found t) :
    ∃ m, s.find id = some m ∧ (m.recs c).isSome = true := by
  unfold chanStat at h
  cases hm : s.find id with
  | none => rw [hm] at h; cases h
  | some m =>
    rw [hm] at h; unfold statOf at h
    cases hr : m.recs c with
    | none => simp only [hr] at h; cases h
    | some x => exact ⟨m, rfl, by rw [hr]; rfl⟩

theorem wf_removeMsg {s : HSt} (hwf : WF s) (id : Nat) (h0 : chanStat s id .loc = .noent) (h1 : chanStat s id .rem = .noent) :
    WF (removeMsg s id) := by
  refine ⟨fun c => by rw [removeMsg_q]; exact hwf.heap c, hwf.heapDone, ?_, fun c => by rw [removeMsg_q]; exact hwf.nodupQ c, ?_⟩
  · exact List.Sublist.nodup (List.Sublist.map _ List.filter_sublist) hwf.nodupMsgs
  · intro c e he
    rw [removeMsg_q] at he
    obtain ⟨m, hm, hr⟩ := hwf.hasFile c e he
    have hne : e.id ≠ id := by
      intro h; rw [h] at hm
      have : m.recs c = none := by cases c; exact chanStat_noent h0 hm; exact chanStat_noent h1 hm
      rw [this] at hr; cases hr
    exact ⟨m, by rw [find_removeMsg s id e.id hne]; exact hm, hr⟩

/-! ### messdone -/

theorem messdone_cases (s : HSt) (id : Nat) (f : MdFault) :
    (messdone s id f = s ∧ ∀ m, s.find id = some m → ¬ (m.recs0 = none ∧ m.recs1 = none)) ∨
    messdone s id f = failDone s id ∨
    (messdone s id f = removeMsg s id ∧ f = .none ∧ chanStat s id .loc = .noent ∧ chanStat s id .rem = .noent) := by
  have hfound : ∀ c t, chanStat s id c = .found t → ∀ m, s.find id = some m → m.recs c ≠ none := by
    intro c t h m hm hn
    obtain ⟨m2, hm2, hr2⟩ := chanStat_found h
    rw [hm] at hm2; cases hm2
    rw [hn] at hr2; cases hr2
  unfold messdone
  by_cases fl : f = .statLoc
  · rw [if_pos fl]; exact Or.inr (Or.inl rfl)
  rw [if_neg fl]
  cases h0 : chanStat s id .loc with
  | found t => exact Or.inl ⟨rfl, fun m hm hn => hfound .loc t h0 m hm hn.1⟩
  | err => exact Or.inr (Or.inl rfl)
  | noent =>
    by_cases fr : f = .statRem
    · rw [if_pos fr]; exact Or.inr (Or.inl rfl)
    rw [if_neg fr]
    cases h1 : chanStat s id .rem with
    | found t => exact Or.inl ⟨rfl, fun m hm hn => hfound .rem t h1 m hm hn.2⟩
    | err => exact Or.inr (Or.inl rfl)
    | noent =>
      by_cases ft : f = .statTodo ∨ f = .statInfo
      · rw [if_pos ft]; exact Or.inr (Or.inl rfl)
      rw [if_neg ft]
      cases hm : s.find id with
      | none => exact Or.inl ⟨rfl, fun _ hm' => by cases hm'⟩
      | some m =>
        by_cases fb : f = .bounce ∨ f = .unlinkInfo
        · rw [if_pos fb]; exact Or.inr (Or.inl rfl)
        · rw [if_neg fb]
          refine Or.inr (Or.inr ⟨rfl, ?_, rfl, rfl⟩)
          cases f <;> simp at fl fr ft fb ⊢

theorem messdone_q (s : HSt) (id : Nat) (f : MdFault) (c : Chan) : (messdone s id f).q c = s.q c := by
  rcases messdone_cases s id f with ⟨h, _⟩ | h | ⟨h, _⟩
  · rw [h]
  · rw [h, failDone_eq, setDone_q]
  · rw [h, removeMsg_q]

theorem wf_messdone {s : HSt} (hwf : WF s) (id : Nat) (f : MdFault) : WF (messdone s id f) := by
  rcases messdone_cases s id f with ⟨h, _⟩ | h | ⟨h, _, h0, h1⟩
  · rw [h]; exact hwf
  · rw [h, failDone_eq]; exact wf_setDone hwf (insert_spec _ _ hwf.heapDone).1
  · rw [h]; exact wf_removeMsg hwf id h0 h1

theorem doneSt_none {s : HSt} (f : MdFault) (hp : passStart s.clock true s.done = none) : doneSt s f = s := by
  unfold doneSt; rw [hp]

theorem doneSt_some {s : HSt} (f : MdFault) {pe : Elt} {d' : PQ} (hp : passStart s.clock true s.done = some (pe, d')) :
    doneSt s f = messdone (setDone s d') pe.id f := by
  unfold doneSt; rw [hp]; rfl

theorem doneSt_cases (s : HSt) (f : MdFault) :
    doneSt s f = s ∨ ∃ pe d', passStart s.clock true s.done = some (pe, d') ∧ doneSt s f = messdone (setDone s d') pe.id f := by
  cases hp : passStart s.clock true s.done with
  | none => exact Or.inl (doneSt_none f hp)
  | some r => exact Or.inr ⟨r.1, r.2, rfl, doneSt_some f hp⟩

theorem doneSt_q (s : HSt) (f : MdFault) (c : Chan) : (doneSt s f).q c = s.q c := by
  rcases doneSt_cases s f with h | ⟨pe, d', _, h⟩
  · rw [h]
  · rw [h, messdone_q, setDone_q]

theorem wf_doneSt {s : HSt} (hwf : WF s) (f : MdFault) : WF (doneSt s f) := by
  rcases doneSt_cases s f with h | ⟨pe, d', hp, h⟩
  · rw [h]; exact hwf
  · rw [h]
    exact wf_messdone (wf_setDone hwf (passStart_spec s.clock true s.done d' pe hwf.heapDone hp).heap) pe.id f

/-- `Tracked`, except that message `id` need not be in pqdone (it has just been taken out of it) -/
def TrackedBut (id : Nat) (s : HSt) : Prop :=
  ∀ m ∈ s.msgs, (∀ c, (m.recs c).isSome = true → m.id ∈ ids (s.q c)) ∧
    (m.id ≠ id → m.recs0 = none → m.recs1 = none → m.id ∈ ids s.done)

theorem tracked_messdone {s : HSt} (hwf : WF s) {id : Nat} (ht : TrackedBut id s) (f : MdFault) : Tracked (messdone s id f) := by
  rcases messdone_cases s id f with ⟨h, hwhy⟩ | h | ⟨h, _, h0, h1⟩
  · rw [h]
    intro m hm
    obtain ⟨t1, t2⟩ := ht m hm
    refine ⟨t1, fun n0 n1 => ?_⟩
    by_cases hid : m.id = id
    · exact absurd ⟨n0, n1⟩ (hwhy m (hid ▸ find_of_mem hwf.nodupMsgs hm))
    · exact t2 hid n0 n1
  · rw [h, failDone_eq]
    intro m hm
    obtain ⟨t1, t2⟩ := ht m hm
    refine ⟨fun c hr => by rw [setDone_q]; exact t1 c hr, fun n0 n1 => ?_⟩
    rw [setDone_done]
    by_cases hid : m.id = id
    · rw [hid]; exact ids_insert_self _ _
    · exact ids_insert_of_mem _ _ (t2 hid n0 n1)
  · rw [h]
    intro m hm
    have hm' : m ∈ s.msgs ∧ m.id ≠ id := by
      have := List.mem_filter.mp hm
      exact ⟨this.1, by simpa using this.2⟩
    obtain ⟨t1, t2⟩ := ht m hm'.1
    exact ⟨fun c hr => by rw [removeMsg_q]; exact t1 c hr, fun n0 n1 => by rw [removeMsg_done]; exact t2 hm'.2 n0 n1⟩

theorem tracked_doneSt {s : HSt} (hwf : WF s) (ht : Tracked s) (f : MdFault) : Tracked (doneSt s f) := by
  rcases doneSt_cases s f with h | ⟨pe, d', hp, h⟩
  · rw [h]; exact ht
  · rw [h]
    have hst := passStart_spec s.clock true s.done d' pe hwf.heapDone hp
    refine tracked_messdone (wf_setDone hwf hst.heap) ?_ f
    intro m hm
    obtain ⟨t1, t2⟩ := ht m hm
    refine ⟨fun c hr => by rw [setDone_q]; exact t1 c hr, fun hne n0 n1 => ?_⟩
    rw [setDone_done]
    have hp2 : (ids s.done).Perm (pe.id :: ids d') := hst.perm.map Elt.id
    rcases List.mem_cons.mp ((hp2.mem_iff).mp (t2 n0 n1)) with h | h
    · exact absurd h hne
    · exact h

theorem owed_setDone {s : HSt} {i : Nat} {c : Chan} {b r : Int} (ho : Owed i c b r s) (d : PQ) : Owed i c b r (setDone s d) := by
  intro m hm; rw [setDone_find] at hm; rw [setDone_q]; exact ho m hm

theorem owed_messdone {s : HSt} {i : Nat} {c : Chan} {b r : Int} (ho : Owed i c b r s) (id : Nat) (f : MdFault) :
    Owed i c b r (messdone s id f) := by
  rcases messdone_cases s id f with ⟨h, _⟩ | h | ⟨h, _⟩
  · rw [h]; exact ho
  · rw [h, failDone_eq]; exact owed_setDone ho _
  · rw [h]
    intro m hm
    by_cases hi : i = id
    · rw [hi, find_removeMsg_self] at hm; cases hm
    · rw [find_removeMsg s id i hi] at hm; rw [removeMsg_q]; exact ho m hm

theorem owed_doneSt {s : HSt} {i : Nat} {c : Chan} {b r : Int} (ho : Owed i c b r s) (f : MdFault) :
    Owed i c b r (doneSt s f) := by
  rcases doneSt_cases s f with h | ⟨pe, d', _, h⟩
  · rw [h]; exact ho
  · rw [h]; exact owed_messdone (owed_setDone ho d') pe.id f

theorem doneSt_gone {s : HSt} (hwf : WF s) (f : MdFault) (m : Msg) (hm : s.find m.id = some m) (hg : (doneSt s f).find m.id = none) :
    f = .none ∧ m.recs0 = none ∧ m.recs1 = none ∧ ∃ e ∈ s.done.toList, e.id = m.id ∧ e.dt ≤ s.clock := by
  rcases doneSt_cases s f with h | ⟨pe, d', hp, h⟩
  · rw [h, hm] at hg; cases hg
  · have hst := passStart_spec s.clock true s.done d' pe hwf.heapDone hp
    rw [h] at hg
    rcases messdone_cases (setDone s d') pe.id f with ⟨h, _⟩ | h | ⟨h, hf, h0, h1⟩
    · rw [h, setDone_find, hm] at hg; cases hg
    · rw [h, failDone_eq, setDone_find, setDone_find, hm] at hg; cases hg
    · rw [h] at hg
      by_cases hi : m.id = pe.id
      · have hm' : (setDone s d').find pe.id = some m := by rw [setDone_find, ← hi]; exact hm
        exact ⟨hf, chanStat_noent h0 hm', chanStat_noent h1 hm', pe, hst.perm.mem_iff.mpr (List.mem_cons_self ..), hi.symm, hst.due⟩
      · rw [find_removeMsg _ _ _ hi, setDone_find, hm] at hg; cases hg

/-! ### the cut pass -/

theorem sameBut_cutMsg (m : Msg) (c : Chan) (recs : List Bool) (k : Nat) (a : List Bool × Nat × Nat × Nat) :
    SameBut c m (cutMsg m c recs k a) := by
  refine ⟨by unfold cutMsg; simp, by unfold cutMsg; simp, ?_⟩
  unfold cutMsg; rw [setRecs_other _ _ _ _ (other_ne c)]; cases c <;> rfl

theorem cutMsg_recs_same (m : Msg) (c : Chan) (recs : List Bool) (k : Nat) (a : List Bool × Nat × Nat × Nat) :
    (cutMsg m c recs k a).recs c = some (a.1 ++ recs.drop k) := by
  unfold cutMsg; simp

/-- the reports for the records before `k`, which the cut pass still handles -/
def cutAnswer (s : HSt) (c : Chan) (letters : List Byte) (k : Nat) (m : Msg) (recs : List Bool) : List Bool × Nat × Nat × Nat :=
  answer (jobOpen s.clock s.lifetime m.birth c).dying letters (recs.take k) 0

theorem passCutSt_none {s : HSt} {c : Chan} (letters : List Byte) (k : Nat)
    (hp : passStart s.clock true (s.q c) = none) : passCutSt s c letters k = s := by
  unfold passCutSt; rw [hp]

theorem passCutSt_full {s : HSt} {c : Chan} {pe : Elt} {q' : PQ} (letters : List Byte) (k : Nat) {m : Msg} {recs : List Bool}
    (hp : passStart s.clock true (s.q c) = some (pe, q')) (hm : s.find pe.id = some m) (hr : m.recs c = some recs)
    (hk : recs.length ≤ k) : passCutSt s c letters k = passSt s c letters .none := by
  unfold passCutSt; rw [hp]; simp only [hm, hr, hk, if_true]

theorem passCutSt_run {s : HSt} {c : Chan} {pe : Elt} {q' : PQ} (letters : List Byte) (k : Nat) {m : Msg} {recs : List Bool}
    (hp : passStart s.clock true (s.q c) = some (pe, q')) (hm : s.find pe.id = some m) (hr : m.recs c = some recs)
    (hk : k < recs.length) :
    passCutSt s c letters k =
      (mkSt s c (q'.insert { dt := nextretry s.clock m.birth c, id := pe.id }) s.done).update
        (cutMsg m c recs k (cutAnswer s c letters k m recs)) := by
  unfold passCutSt; rw [hp]; simp only [hm, hr, Nat.not_le.mpr hk, if_false]; rfl

/-- The ends of a cut pass, as one rule: nothing was due; the file has no record `k` and the pass runs to its end; the started
message goes back at its back-off time with its channel file kept. -/
theorem passCutSt_elim {s : HSt} (hwf : WF s) (c : Chan) (letters : List Byte) (k : Nat) {P : HSt → Prop} (h0 : P s)
    (hfull : P (passSt s c letters .none))
    (hcut : ∀ {pe : Elt} {q' : PQ} {m m' : Msg}, Starts s c pe q' → s.find pe.id = some m → (m.recs c).isSome = true →
      SameBut c m m' → (m'.recs c).isSome = true →
      P ((mkSt s c (q'.insert { dt := nextretry s.clock m.birth c, id := pe.id }) s.done).update m')) :
    P (passCutSt s c letters k) := by
  cases hp : passStart s.clock true (s.q c) with
  | none => rw [passCutSt_none letters k hp]; exact h0
  | some r =>
    obtain ⟨pe, q'⟩ := r
    obtain ⟨m, recs, hm, hr⟩ := (starts hwf hp).file
    by_cases hk : recs.length ≤ k
    · rw [passCutSt_full letters k hp hm hr hk]; exact hfull
    · rw [passCutSt_run letters k hp hm hr (Nat.lt_of_not_le hk)]
      exact hcut (starts hwf hp) hm (by rw [hr]; rfl) (sameBut_cutMsg ..) (by rw [cutMsg_recs_same]; rfl)

theorem wf_passCutSt {s : HSt} (hwf : WF s) (c : Chan) (letters : List Byte) (k : Nat) : WF (passCutSt s c letters k) :=
  passCutSt_elim hwf c letters k hwf (wf_passSt hwf c letters .none)
    fun hst hm hfile hs hrc => wf_back hwf hst.rest hm hfile hs hrc _

theorem tracked_passCutSt {s : HSt} (hwf : WF s) (ht : Tracked s) (c : Chan) (letters : List Byte) (k : Nat) :
    Tracked (passCutSt s c letters k) :=
  passCutSt_elim hwf c letters k ht (tracked_passSt hwf ht c letters .none)
    fun hst hm _ hs hrc => tracked_back ht hst.rest hm hs hrc _

theorem owed_passCutSt {s : HSt} (hwf : WF s) {i : Nat} {c0 : Chan} {b r : Int} (ho : Owed i c0 b r s)
    (hmono : ∀ t', r ≤ t' → r ≤ nextretry t' b c0)
    (c : Chan) (letters : List Byte) (k : Nat) : Owed i c0 b r (passCutSt s c letters k) := by
  refine passCutSt_elim hwf c letters k ho (owed_passSt hwf ho hmono c letters .none) fun hst hm _ hs _ => ?_
  refine owed_back ho hst.rest hm hs _ fun hi hc => ?_
  subst hc
  rw [(ho _ (hi ▸ hm)).1]
  exact hmono _ (Int.le_trans (owed_entry hwf ho hst.mem hi) hst.due)

theorem owed_init_cut {s : HSt} {c : Chan} {pe : Elt} {q' : PQ} {m : Msg} {recs : List Bool} (letters : List Byte) (k : Nat)
    (hp : passStart s.clock true (s.q c) = some (pe, q')) (hm : s.find pe.id = some m) (hr : m.recs c = some recs)
    (hk : k < recs.length) :
    Owed pe.id c m.birth (nextretry s.clock m.birth c) (passCutSt s c letters k) := by
  rw [passCutSt_run letters k hp hm hr hk]
  exact owed_init_back hm (sameBut_cutMsg ..) _

/-! ### pqfinish with failing utimes -/

theorem finFSt_eq (s : HSt) (bad : List (Chan × Nat)) : finFSt s bad = finWith (fun c i => decide ((c, i) ∉ bad)) s := rfl

theorem wf_finFSt {s : HSt} (hwf : WF s) (bad : List (Chan × Nat)) : WF (finFSt s bad) := by
  rw [finFSt_eq]; exact wf_finWith hwf _

theorem owed_restartF {s : HSt} (hwf : WF s) {i : Nat} {c : Chan} {b r : Int} (ho : Owed i c b r s)
    (bad : List (Chan × Nat)) (hnb : (c, i) ∉ bad) : Owed i c b r (loadSt (finFSt s bad)) := by
  rw [finFSt_eq]; exact owed_finWith hwf ho _ (decide_eq_true hnb)

/-! ### quiet histories over the larger event set -/

/-- the quiet steps of `Nq.Spec.SchedHist.QStep` plus the failure paths: `messdone` runs (with any failure), passes cut short by
"trouble reading" / "unknown record type", and TERM + restart where `utimes` fails on some files -/
inductive QFStep where
  | q (x : QStep)
  | done (f : MdFault)
  | passCut (c : Chan) (letters : List Byte) (k : Nat)
  | restartF (bad : List (Chan × Nat))
  deriving Repr

def QFStep.steps : QFStep → List FStep
  | .q x => x.steps.map .old
  | .done f => [.done f]
  | .passCut c l k => [.passCut c l k]
  | .restartF bad => [.finF bad, .old .load]

def runQF (s : HSt) (l : List QFStep) : HSt := l.foldl (fun s x => frun s x.steps) s

/-- every `utimes` of the exits in the history succeeds on the channel-`c` file of message `i` -/
def utimesKept (c : Chan) (i : Nat) (l : List QFStep) : Prop := ∀ bad, QFStep.restartF bad ∈ l → (c, i) ∉ bad

def qfstepSt (s : HSt) : QFStep → HSt
  | .q x => qstepSt s x
  | .done f => doneSt s f
  | .passCut c l k => passCutSt s c l k
  | .restartF bad => loadSt (finFSt s bad)

theorem frun_steps (s : HSt) (x : QFStep) : frun s x.steps = qfstepSt s x := by
  cases x with
  | q y => cases y <;> rfl
  | done f => rfl
  | passCut c l k => rfl
  | restartF bad => rfl

theorem runQF_q (s : HSt) (l : List QStep) : runQF s (l.map .q) = runQ s l := by
  unfold runQF runQ
  rw [List.foldl_map]
  congr; funext s x
  rw [frun_steps, run_steps]; rfl

theorem wf_qfstep {s : HSt} (hwf : WF s) (x : QFStep) : WF (qfstepSt s x) := by
  cases x with
  | q y => exact wf_qstep hwf y
  | done f => exact wf_doneSt hwf f
  | passCut c l k => exact wf_passCutSt hwf c l k
  | restartF bad => exact wf_loadSt (wf_finFSt hwf bad).nodupMsgs

theorem owed_runQF {i : Nat} {c0 : Chan} {b r : Int}
    (hmono : ∀ t', r ≤ t' → r ≤ nextretry t' b c0)
    (l : List QFStep) (s : HSt) (hwf : WF s) (ho : Owed i c0 b r s) (hk : utimesKept c0 i l) :
    WF (runQF s l) ∧ Owed i c0 b r (runQF s l) :=
  List.foldlRecOn (motive := fun s => WF s ∧ Owed i c0 b r s) l _ ⟨hwf, ho⟩ fun s ⟨hwf, ho⟩ x hx => by
    rw [frun_steps]
    refine ⟨wf_qfstep hwf x, ?_⟩
    cases x with
    | q y => exact owed_qstep hwf ho hmono y
    | done f => exact owed_doneSt ho f
    | passCut c l k => exact owed_passCutSt hwf ho hmono c l k
    | restartF bad => exact owed_restartF hwf ho bad (hk bad hx)

theorem passCutSt_birth {s : HSt} (hwf : WF s) (c : Chan) (letters : List Byte) (k : Nat) (i : Nat) (m : Msg)
    (hm : s.find i = some m) : ∃ m', (passCutSt s c letters k).find i = some m' ∧ m'.birth = m.birth :=
  passCutSt_elim (P := fun s' => ∃ m', s'.find i = some m' ∧ m'.birth = m.birth) hwf c letters k ⟨m, hm, rfl⟩
    ((passSt_frame hwf c letters .none).find i m hm) fun _ hm0 _ hs _ => (frame_chg hm0 hs).find i m hm

end Nq.Lemmas.SchedFail
