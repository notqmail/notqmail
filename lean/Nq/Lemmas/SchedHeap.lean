/-
  Lemmas about the binary heap of prioq.c as modelled in Nq/Sched.lean (hole technique, same index
  arithmetic): heap order is preserved by insert and delmin, the root is a minimum, insert adds exactly
  the entry and delmin removes exactly the root (as permutations).  Core Lean only.
-/
import Nq.Sched
namespace Nq.Lemmas.Sched
open Nq.Sched

theorem get_set (a : PQ) (i k : Nat) (v : Elt) (hi : i < a.size) :
    (a.setIfInBounds i v)[k]! = if i = k then v else a[k]! := by
  simp only [Array.getElem!_eq_getD, Array.getD_eq_getD_getElem?, Array.getElem?_setIfInBounds]
  by_cases h : i = k
  · subst h; simp [hi]
  · simp [h]

theorem get_push_lt (a : PQ) (v : Elt) (k : Nat) (hk : k < a.size) : (a.push v)[k]! = a[k]! := by
  rw [getElem!_pos (a.push v) k (by simp; omega), getElem!_pos a k hk, Array.getElem_push_lt hk]

theorem get_push_eq (a : PQ) (v : Elt) : (a.push v)[a.size]! = v := by
  simp

theorem get_pop (a : PQ) (k : Nat) (hk : k < a.size - 1) : a.pop[k]! = a[k]! := by
  have h1 : k < a.pop.size := by simpa using hk
  have h2 : k < a.size := by omega
  rw [getElem!_pos a.pop k h1, getElem!_pos a k h2, Array.getElem_pop]

theorem set_set_perm (a : PQ) (i j : Nat) (pe : Elt) (hi : i < a.size) (hj : j < a.size) (hij : i ≠ j) :
    ((a.setIfInBounds j a[i]!).setIfInBounds i pe).Perm (a.setIfInBounds j pe) := by
  obtain ⟨v, hv⟩ : ∃ v, v = a[i]! := ⟨_, rfl⟩
  rw [← hv]
  have hv' : v = a[i] := by rw [hv, getElem!_pos a i hi]
  have hb : ((a.setIfInBounds j v).setIfInBounds i pe)
      = (a.setIfInBounds j pe).swap i j (by simpa using hi) (by simpa using hj) := by
    apply Array.ext
    · simp
    · intro k h1 h2
      have hk : k < a.size := by simpa using h1
      by_cases hki : k = i
      · subst hki; simp
      · by_cases hkj : k = j
        · subst hkj; simp [hki, Ne.symm hki, hk, hi, hv']
        · simp [hki, hkj, Ne.symm hki, Ne.symm hkj, hk]
  rw [hb]; exact Array.swap_perm _ _


theorem parent_lt {k : Nat} (hk : 0 < k) : (k - 1) / 2 < k := by omega

theorem child_cases {k i : Nat} (hk : 0 < k) (hp : (k - 1) / 2 = i) : k = i + i + 1 ∨ k = i + i + 2 := by omega

theorem parent_child {i j : Nat} (hj : j = i + i + 1 ∨ j = i + i + 2) : (j - 1) / 2 = i := by omega

/-- heap order on the first `n` entries -/
def HeapN (a : PQ) (n : Nat) : Prop := ∀ k, 0 < k → k < n → a[(k - 1) / 2]!.dt ≤ a[k]!.dt

/-- where both loops, sift-up and sift-down, stop: `v` is put into the hole `i` -/
theorem heapN_fill (a : PQ) (n i : Nat) (v : Elt) (hi : i < a.size)
    (h1 : ∀ k, 0 < k → k < n → k ≠ i → (k - 1) / 2 ≠ i → a[(k - 1) / 2]!.dt ≤ a[k]!.dt)
    (hpar : 0 < i → a[(i - 1) / 2]!.dt ≤ v.dt) (hch : ∀ k, 0 < k → k < n → (k - 1) / 2 = i → v.dt ≤ a[k]!.dt) :
    HeapN (a.setIfInBounds i v) n := by
  intro k hk0 hk
  rw [get_set a i _ v hi, get_set a i k v hi]
  by_cases hki : i = k
  · subst hki
    rw [if_neg (Nat.ne_of_gt (parent_lt hk0)), if_pos rfl]
    exact hpar hk0
  · rw [if_neg hki]
    by_cases hpi : i = (k - 1) / 2
    · rw [if_pos hpi]; exact hch k hk0 hk hpi.symm
    · rw [if_neg hpi]; exact h1 k hk0 hk (Ne.symm hki) (Ne.symm hpi)

/-! ### sift-up (prioq_insert) -/

/-- the array is a heap "with a hole at `j` that will receive `pe`": heap order between entries other than the hole; the
hole's children are not before `pe`; and they are not before the hole's PARENT either — the clause that carries the step,
where that parent is copied down into the hole and so becomes the parent of these children -/
def UpInv (a : PQ) (pe : Elt) (j : Nat) : Prop :=
  (∀ k, 0 < k → k < a.size → k ≠ j → (k - 1) / 2 ≠ j → a[(k - 1) / 2]!.dt ≤ a[k]!.dt) ∧
  (∀ k, 0 < k → k < a.size → (k - 1) / 2 = j → pe.dt ≤ a[k]!.dt) ∧
  (∀ k, 0 < k → k < a.size → (k - 1) / 2 = j → 0 < j → a[(j - 1) / 2]!.dt ≤ a[k]!.dt)

theorem heap_of_upInv_stop (a : PQ) (pe : Elt) (j : Nat) (hj : j < a.size) (h : UpInv a pe j)
    (hstop : j = 0 ∨ a[(j - 1) / 2]!.dt ≤ pe.dt) : Heap (a.setIfInBounds j pe) := by
  intro k hk0 hk
  rw [Array.size_setIfInBounds] at hk
  exact heapN_fill a a.size j pe hj h.1 (fun h0 => hstop.resolve_left (Nat.ne_of_gt h0)) h.2.1 k hk0 hk

theorem upInv_step (a : PQ) (pe : Elt) (j : Nat) (hj : j < a.size) (hj0 : j ≠ 0) (h : UpInv a pe j)
    (hlt : ¬ a[(j - 1) / 2]!.dt ≤ pe.dt) :
    UpInv (a.setIfInBounds j a[(j - 1) / 2]!) pe ((j - 1) / 2) := by
  obtain ⟨h1, h2, h3⟩ := h
  have hj0' : 0 < j := Nat.pos_of_ne_zero hj0
  have hij : (j - 1) / 2 < j := parent_lt hj0'
  have hlt' : pe.dt < a[(j - 1) / 2]!.dt := Int.not_le.mp hlt
  refine ⟨?_, ?_, ?_⟩
  · intro k hk0 hk _ _
    rw [Array.size_setIfInBounds] at hk
    exact heapN_fill a a.size j _ hj h1 (fun _ => Int.le_refl _) (fun k hk0 hk hp => h3 k hk0 hk hp hj0') k hk0 hk
  · intro k hk0 hk hpi
    rw [Array.size_setIfInBounds] at hk
    rw [get_set a j k _ hj]
    by_cases hkj : j = k
    · rw [if_pos hkj]; exact Int.le_of_lt hlt'
    · rw [if_neg hkj]
      have := h1 k hk0 hk (Ne.symm hkj) (by rw [hpi]; exact Nat.ne_of_lt hij)
      rw [hpi] at this
      exact Int.le_trans (Int.le_of_lt hlt') this
  · intro k hk0 hk hpi hi0
    rw [Array.size_setIfInBounds] at hk
    rw [get_set a j _ _ hj, get_set a j k _ hj]
    have hgp : ((j - 1) / 2 - 1) / 2 < j := Nat.lt_trans (parent_lt hi0) hij
    rw [if_neg (Nat.ne_of_gt hgp)]
    have hpar := h1 ((j - 1) / 2) hi0 (Nat.lt_trans hij hj) (Nat.ne_of_lt hij) (Nat.ne_of_lt hgp)
    by_cases hkj : j = k
    · rw [if_pos hkj]; exact hpar
    · rw [if_neg hkj]
      have := h1 k hk0 hk (Ne.symm hkj) (by rw [hpi]; exact Nat.ne_of_lt hij)
      rw [hpi] at this
      exact Int.le_trans hpar this

theorem siftUp_perm (pe : Elt) : ∀ (f : Nat) (a : PQ) (j : Nat), j < a.size →
    (siftUp pe f a j).Perm (a.setIfInBounds j pe) := by
  intro f
  induction f with
  | zero => intro a j _; exact Array.Perm.refl _
  | succ f ih =>
    intro a j hj
    simp only [siftUp]
    by_cases hj0 : j = 0
    · rw [if_pos hj0]
    · rw [if_neg hj0]
      by_cases hc : a[(j - 1) / 2]!.dt ≤ pe.dt
      · rw [if_pos hc]
      · rw [if_neg hc]
        have hpl : (j - 1) / 2 < j := parent_lt (Nat.pos_of_ne_zero hj0)
        have hi : (j - 1) / 2 < a.size := Nat.lt_trans hpl hj
        exact (ih _ _ (by rw [Array.size_setIfInBounds]; exact hi)).trans (set_set_perm a ((j - 1) / 2) j pe hi hj (Nat.ne_of_lt hpl))

theorem siftUp_heap (pe : Elt) : ∀ (f : Nat) (a : PQ) (j : Nat), j ≤ f → j < a.size → UpInv a pe j →
    Heap (siftUp pe f a j) := by
  intro f
  induction f with
  | zero =>
    intro a j hjf hj h
    exact heap_of_upInv_stop a pe j hj h (Or.inl (by omega))
  | succ f ih =>
    intro a j hjf hj h
    simp only [siftUp]
    by_cases hj0 : j = 0
    · rw [if_pos hj0]
      exact heap_of_upInv_stop a pe j hj h (Or.inl hj0)
    · rw [if_neg hj0]
      by_cases hc : a[(j - 1) / 2]!.dt ≤ pe.dt
      · rw [if_pos hc]
        exact heap_of_upInv_stop a pe j hj h (Or.inr hc)
      · rw [if_neg hc]
        have hpl : (j - 1) / 2 < j := parent_lt (Nat.pos_of_ne_zero hj0)
        exact ih (a.setIfInBounds j a[(j - 1) / 2]!) ((j - 1) / 2) (Nat.le_of_lt_succ (Nat.lt_of_lt_of_le hpl hjf))
          (by rw [Array.size_setIfInBounds]; exact Nat.lt_trans hpl hj) (upInv_step a pe j hj hj0 h hc)

theorem upInv_push (q : PQ) (pe : Elt) (h : Heap q) : UpInv (q.push pe) pe q.size := by
  refine ⟨?_, ?_, ?_⟩
  · intro k hk0 hk hkj hpj
    rw [Array.size_push] at hk
    have hk' : k < q.size := by omega
    rw [get_push_lt q pe _ (Nat.lt_trans (parent_lt hk0) hk'), get_push_lt q pe k hk']
    exact h k hk0 hk'
  -- the new last index has no child yet
  · intro k hk0 hk hp
    rw [Array.size_push, ← hp] at hk
    exact absurd (parent_lt hk0) (Nat.not_lt.mpr (Nat.le_of_lt_succ hk))
  · intro k hk0 hk hp
    rw [Array.size_push, ← hp] at hk
    exact absurd (parent_lt hk0) (Nat.not_lt.mpr (Nat.le_of_lt_succ hk))

theorem insert_perm (q : PQ) (pe : Elt) : (q.insert pe).toList.Perm (pe :: q.toList) := by
  have hp := Array.perm_iff_toList_perm.mp (siftUp_perm pe q.size (q.push pe) q.size (by simp))
  have e : (q.push pe).setIfInBounds q.size pe = q.push pe := by
    apply Array.ext
    · simp
    · intro k h1 h2
      rw [Array.getElem_setIfInBounds (by simpa using h2)]
      split
      · rename_i hk; subst hk; simp
      · rfl
  unfold PQ.insert
  rw [e] at hp
  rw [Array.toList_push] at hp
  exact hp.trans (List.perm_append_singleton pe q.toList)

theorem mem_insert (q : PQ) (e x : Elt) : x ∈ (q.insert e).toList ↔ x = e ∨ x ∈ q.toList := by
  rw [(insert_perm q e).mem_iff]; simp

theorem insert_spec (q : PQ) (pe : Elt) (h : Heap q) :
    Heap (q.insert pe) ∧ (q.insert pe).toList.Perm (pe :: q.toList) :=
  ⟨siftUp_heap pe q.size (q.push pe) q.size (Nat.le_refl _) (by simp) (upInv_push q pe h), insert_perm q pe⟩

theorem foldl_insert_of {Q E : Type} (P : Q → Prop) (toL : Q → List E) (ins : Q → E → Q)
    (h1 : ∀ q e, P q → P (ins q e) ∧ (toL (ins q e)).Perm (e :: toL q)) :
    ∀ (l : List E) (q0 : Q), P q0 → P (l.foldl ins q0) ∧ (toL (l.foldl ins q0)).Perm (l ++ toL q0) := by
  intro l
  induction l with
  | nil => intro q0 h; exact ⟨h, List.Perm.refl _⟩
  | cons x r ih =>
    intro q0 h
    obtain ⟨a1, a2⟩ := h1 q0 x h
    obtain ⟨b1, b2⟩ := ih (ins q0 x) a1
    exact ⟨b1, b2.trans (((List.perm_append_left_iff r).mpr a2).trans List.perm_middle)⟩

theorem foldl_insert (l : List Elt) (q0 : PQ) (h : Heap q0) :
    Heap (l.foldl PQ.insert q0) ∧ (l.foldl PQ.insert q0).toList.Perm (l ++ q0.toList) :=
  foldl_insert_of Heap Array.toList PQ.insert insert_spec l q0 h

/-! ### sift-down (prioq_delmin) -/

/-- heap on `[0,n)` "with a hole at `i` that will receive the last element `a[n]`": heap order between entries other than
the hole; the hole's children are not before the hole's parent — so the step may copy the smaller child up into the hole —;
nor is `a[n]`, so the loop may stop and put it there -/
def DownInv (a : PQ) (n i : Nat) : Prop :=
  (∀ k, 0 < k → k < n → k ≠ i → (k - 1) / 2 ≠ i → a[(k - 1) / 2]!.dt ≤ a[k]!.dt) ∧
  (∀ k, 0 < k → k < n → (k - 1) / 2 = i → 0 < i → a[(i - 1) / 2]!.dt ≤ a[k]!.dt) ∧
  (0 < i → a[(i - 1) / 2]!.dt ≤ a[n]!.dt)

theorem downInv_step (a : PQ) (n i j : Nat) (hi : i < n) (hn : n < a.size) (h : DownInv a n i)
    (hj : j = i + i + 1 ∨ j = i + i + 2) (hjn : j < n)
    (hsm : ∀ k, 0 < k → k < n → (k - 1) / 2 = i → a[j]!.dt ≤ a[k]!.dt)
    (hlt : ¬ a[n]!.dt ≤ a[j]!.dt) :
    DownInv (a.setIfInBounds i a[j]!) n j := by
  obtain ⟨h1, h2, h3⟩ := h
  have hia : i < a.size := Nat.lt_trans hi hn
  have hij : i < j := by omega
  have hpj : (j - 1) / 2 = i := parent_child hj
  have hj0 : 0 < j := Nat.zero_lt_of_lt hij
  refine ⟨?_, ?_, ?_⟩
  · intro k hk0 hk _ _
    exact heapN_fill a n i _ hia h1 (h2 j hj0 hjn hpj) hsm k hk0 hk
  · intro k hk0 hk hpk _
    rw [get_set a i _ _ hia, get_set a i k _ hia]
    rw [hpj, if_pos rfl]
    have hjk : j < k := by rw [← hpk]; exact parent_lt hk0
    have hki : i ≠ k := Nat.ne_of_lt (Nat.lt_trans hij hjk)
    rw [if_neg hki]
    have := h1 k hk0 hk (Ne.symm hki) (by rw [hpk]; exact Nat.ne_of_gt hij)
    rw [hpk] at this
    exact this
  · intro _
    rw [get_set a i _ _ hia, get_set a i n _ hia]
    rw [hpj, if_pos rfl, if_neg (Nat.ne_of_lt hi)]
    exact Int.le_of_lt (Int.not_le.mp hlt)

theorem siftDown_spec : ∀ (f : Nat) (a : PQ) (n i : Nat), n ≤ i + f → i < n → n < a.size → DownInv a n i →
    HeapN (siftDown f a n i) n ∧ (siftDown f a n i).Perm (a.setIfInBounds i a[n]!) ∧
    (siftDown f a n i)[n]! = a[n]! := by
  intro f
  induction f with
  | zero => intro a n i hf hi; omega
  | succ f ih =>
    intro a n i hf hi hn h
    have hia : i < a.size := by omega
    have hstopn : (a.setIfInBounds i a[n]!)[n]! = a[n]! := by
      rw [get_set a i n _ hia, if_neg (by omega)]
    simp only [siftDown]
    by_cases hjn : i + i + 2 > n
    · rw [if_pos hjn]
      refine ⟨heapN_fill a n i _ hia h.1 h.2.2 ?_, Array.Perm.refl _, hstopn⟩
      intro k hk0 hk hp; omega
    · rw [if_neg hjn]
      have e : i + i + 2 - 1 = i + i + 1 := by omega
      rw [e]
      -- `j`: the smaller child (the C code's `if (p[j-1].dt <= p[j].dt) --j`)
      generalize hj : (if a[i + i + 1]!.dt ≤ a[i + i + 2]!.dt then i + i + 1 else i + i + 2) = j
      have hjp : (j = i + i + 1 ∨ j = i + i + 2) ∧ a[j]!.dt ≤ a[i + i + 1]!.dt ∧ a[j]!.dt ≤ a[i + i + 2]!.dt := by
        split at hj <;> subst hj
        · next h => exact ⟨Or.inl rfl, Int.le_refl _, h⟩
        · next h => exact ⟨Or.inr rfl, Int.le_of_lt (Int.not_le.mp h), Int.le_refl _⟩
      obtain ⟨hjc, hj1, hj2⟩ := hjp
      have hsm : ∀ k, 0 < k → k < n → (k - 1) / 2 = i → a[j]!.dt ≤ a[k]!.dt := by
        intro k hk0 _ hp
        rcases child_cases hk0 hp with hk | hk
        · rw [hk]; exact hj1
        · rw [hk]; exact hj2
      by_cases hc2 : a[n]!.dt ≤ a[j]!.dt
      · rw [if_pos hc2]
        exact ⟨heapN_fill a n i _ hia h.1 h.2.2 fun k hk0 hk hp => Int.le_trans hc2 (hsm k hk0 hk hp),
          Array.Perm.refl _, hstopn⟩
      · rw [if_neg hc2]
        -- `j = n` can happen (prioq.c leaves on `j > n`, so the right child may be the last entry, the one being moved): the test
        -- above is then `a[n] ≤ a[n]` and the loop has stopped, so here `j < n`; and `i < j` keeps `n ≤ j + f` with one fuel less
        have hjlt : j < n := by
          have : j ≠ n := by intro e; rw [e] at hc2; exact hc2 (Int.le_refl _)
          omega
        have r := ih (a.setIfInBounds i a[j]!) n j (by omega) hjlt
          (by rw [Array.size_setIfInBounds]; exact hn) (downInv_step a n i j hi hn h hjc hjlt hsm hc2)
        have hn' : (a.setIfInBounds i a[j]!)[n]! = a[n]! := by
          rw [get_set a i n _ hia, if_neg (by omega)]
        rw [hn'] at r
        exact ⟨r.1, r.2.1.trans (set_set_perm a j i a[n]! (by omega) hia (by omega)), r.2.2⟩


/-! ### prioq_delmin, prioq_min -/

theorem toList_of_size_zero (q : PQ) (h : q.size = 0) : q.toList = [] := by
  rw [Array.eq_empty_of_size_eq_zero h]

theorem delmin_of_size_zero (q : PQ) (h : q.size = 0) : q.delmin = q := by
  unfold PQ.delmin; rw [if_pos h]

/-- `hp`, `hl`: what `prioq_delmin`'s loop gives — `a` rearranges `q` with the last entry copied over the root, and still ends with it -/
theorem delmin_perm (q a : PQ) (n : Nat) (hq : q.size = n + 1) (hp : a.Perm (q.setIfInBounds 0 q[n]!)) (hl : a[n]! = q[n]!) :
    q.toList.Perm (q[0]! :: a.pop.toList) := by
  have ha : a.size = n + 1 := by rw [hp.size_eq, Array.size_setIfInBounds, hq]
  obtain ⟨x, tl, hx⟩ : ∃ x tl, q.toList = x :: tl := by
    cases h : q.toList with
    | nil => have := congrArg List.length h; simp [hq] at this
    | cons x tl => exact ⟨x, tl, rfl⟩
  have h0 : q[0]! = x := by
    rw [getElem!_pos q 0 (by omega), ← Array.getElem_toList]; simp [hx]
  have hB : (q.setIfInBounds 0 q[n]!).toList = q[n]! :: tl := by
    rw [Array.toList_setIfInBounds, hx]; rfl
  have hA : a.toList = a.pop.toList ++ [q[n]!] := by
    have hne : a.toList ≠ [] := by intro h; have := congrArg List.length h; simp [ha] at this
    have hlast : a.toList.getLast hne = a[n]! := by
      rw [List.getLast_eq_getElem, getElem!_pos a n (by omega)]; simp [ha]
    rw [Array.toList_pop, ← hl, ← hlast, List.dropLast_concat_getLast]
  -- `a.pop ++ [q[n]]` and `q[n] :: tl` hold the same, so do `a.pop` and `tl`
  have h := Array.perm_iff_toList_perm.mp hp
  rw [hA, hB] at h
  rw [hx, h0]
  exact (List.perm_cons x).mpr ((List.perm_cons _).mp ((List.perm_append_singleton _ _).symm.trans h)).symm

theorem heap_root_min (q : PQ) (h : Heap q) : ∀ k, k < q.size → q[0]!.dt ≤ q[k]!.dt := by
  intro k
  induction k using Nat.strongRecOn with
  | _ k ih =>
    intro hk
    by_cases h0 : k = 0
    · subst h0; exact Int.le_refl _
    · exact Int.le_trans (ih ((k - 1) / 2) (by omega) (by omega)) (h k (by omega) hk)

theorem heap_root_le_mem (q : PQ) (h : Heap q) (e : Elt) (he : e ∈ q.toList) : q[0]!.dt ≤ e.dt := by
  obtain ⟨k, hk, hke⟩ := List.mem_iff_getElem.mp he
  have hk' : k < q.size := by simpa using hk
  have := heap_root_min q h k hk'
  rw [getElem!_pos q k hk'] at this
  simp only [Array.getElem_toList] at hke
  rw [hke] at this
  exact this

theorem delmin_spec (q : PQ) (h : Heap q) (hne : q.size ≠ 0) :
    Heap q.delmin ∧ q.toList.Perm (q[0]! :: q.delmin.toList) := by
  unfold PQ.delmin
  rw [if_neg hne]
  have hq : q.size = (q.size - 1) + 1 := by omega
  by_cases h1 : q.size = 1
  · -- a single entry: the loop does not run
    rw [h1]
    simp only [Nat.sub_self, siftDown]
    refine ⟨fun k _ hk => ?_, delmin_perm q _ 0 h1 (Array.Perm.refl _) (by rw [get_set q 0 0 _ (by omega), if_pos rfl])⟩
    simp [h1] at hk
  · have hn : 0 < q.size - 1 := by omega
    have hd : DownInv q (q.size - 1) 0 := by
      refine ⟨?_, ?_, ?_⟩
      · intro k hk0 hk _ _; exact h k hk0 (by omega)
      · intro k _ _ _ h00; exact absurd h00 (Nat.lt_irrefl 0)
      · intro h00; exact absurd h00 (Nat.lt_irrefl 0)
    obtain ⟨r1, r2, r3⟩ := siftDown_spec (q.size - 1) q (q.size - 1) 0 (by omega) hn (by omega) hd
    have hsz : (siftDown (q.size - 1) q (q.size - 1) 0).size = q.size := by
      rw [r2.size_eq, Array.size_setIfInBounds]
    refine ⟨fun k hk0 hk => ?_, delmin_perm q _ (q.size - 1) hq r2 r3⟩
    have hk' : k < q.size - 1 := by simpa [hsz] using hk
    rw [get_pop _ _ (by rw [hsz]; omega), get_pop _ k (by rw [hsz]; omega)]
    exact r1 k hk0 hk'

theorem heap_empty : Heap #[] := by intro k _ hk; simp at hk

theorem delmin_heap (q : PQ) (h : Heap q) : Heap q.delmin := by
  by_cases hne : q.size = 0
  · rw [delmin_of_size_zero q hne]; exact h
  · exact (delmin_spec q h hne).1

theorem heap_run (ops : List PQ.Op) : ∀ q, Heap q → Heap (PQ.run q ops) := by
  induction ops with
  | nil => intro q h; exact h
  | cons o r ih =>
    intro q h
    cases o with
    | ins e => exact ih _ (insert_spec q e h).1
    | del => exact ih _ (delmin_heap q h)

theorem min_eq (q : PQ) (pe : Elt) (h : q.min = some pe) : q.size ≠ 0 ∧ pe = q[0]! := by
  unfold PQ.min at h
  have hs : 0 < q.size := by
    rcases Nat.eq_zero_or_pos q.size with h0 | h0
    · simp [Array.getElem?_eq_none (Nat.le_of_eq h0)] at h
    · exact h0
  refine ⟨by omega, ?_⟩
  rw [Array.getElem?_eq_getElem hs] at h
  rw [getElem!_pos q 0 hs]
  exact (Option.some.inj h).symm

theorem min_none (q : PQ) (h : q.min = none) : q.size = 0 := by
  unfold PQ.min at h
  rcases Nat.eq_zero_or_pos q.size with h0 | h0
  · exact h0
  · rw [Array.getElem?_eq_getElem h0] at h; cases h

theorem min_mem {q : PQ} {pe : Elt} (hm : q.min = some pe) : pe ∈ q.toList :=
  Array.mem_toList_iff.mpr (Array.mem_of_getElem? hm)

theorem min_le_mem (q : PQ) (h : Heap q) {pe : Elt} (hm : q.min = some pe) (e : Elt) (he : e ∈ q.toList) : pe.dt ≤ e.dt := by
  rw [(min_eq q pe hm).2]; exact heap_root_le_mem q h e he

theorem delmin_of_min (q : PQ) (h : Heap q) {pe : Elt} (hm : q.min = some pe) :
    Heap q.delmin ∧ q.toList.Perm (pe :: q.delmin.toList) := by
  obtain ⟨hne, rfl⟩ := min_eq q pe hm
  exact delmin_spec q h hne

theorem size_of_perm_cons {q q' : PQ} {pe : Elt} (h : q.toList.Perm (pe :: q'.toList)) : q.size = q'.size + 1 := by
  simpa using h.length_eq

theorem heap_min_spec (pq : PQ) (h : Heap pq) :
    (pq.min = none ∧ pq.toList = []) ∨ ∃ pe, pq.min = some pe ∧ pe ∈ pq.toList ∧ ∀ e, e ∈ pq.toList → pe.dt ≤ e.dt := by
  cases hm : pq.min with
  | none => exact Or.inl ⟨rfl, toList_of_size_zero pq (min_none pq hm)⟩
  | some pe => exact Or.inr ⟨pe, rfl, min_mem hm, min_le_mem pq h hm⟩

end Nq.Lemmas.Sched
