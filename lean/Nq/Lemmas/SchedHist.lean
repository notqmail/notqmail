/-
  The histories of `Nq.SchedHist.step`: the step functions of the quiet (`QStep`) and the fault-free (`BStep`) histories with
  their invariants, ALRM, files appearing from outside, arrivals.  The state and its changes are in SchedHistState, the pass in
  SchedHistPass, exit and restart in SchedHistRestart.  Core Lean only.
-/
import Nq.Lemmas.SchedHistPass
import Nq.Lemmas.SchedHistRestart

namespace Nq.Lemmas.SchedHist
open Nq Nq.Sched Nq.SchedHist Nq.Spec.SchedHist Nq.Lemmas.Sched

/-! ### quiet histories -/

def qstepSt (s : HSt) : QStep → HSt
  | .clock t => { s with clock := t }
  | .wake => s
  | .pass c l f => passSt s c l f
  | .restart => loadSt (finSt s)

theorem run_steps (s : HSt) (x : QStep) : run s x.steps = qstepSt s x := by cases x <;> rfl

theorem wf_qstep {s : HSt} (hwf : WF s) (x : QStep) : WF (qstepSt s x) := by
  cases x with
  | clock t => exact wf_clock hwf t
  | wake => exact hwf
  | pass c l f => exact wf_passSt hwf c l f
  | restart => exact wf_loadSt (wf_finSt hwf).nodupMsgs

theorem owed_qstep {s : HSt} (hwf : WF s) {i : Nat} {c0 : Chan} {b r : Int} (ho : Owed i c0 b r s)
    (hmono : ∀ t', r ≤ t' → r ≤ nextretry t' b c0) (x : QStep) :
    Owed i c0 b r (qstepSt s x) := by
  cases x with
  | clock t => intro m hm; rw [clock_q]; exact ho m hm
  | wake => exact ho
  | pass c l f => exact owed_passSt hwf ho hmono c l f
  | restart => exact owed_restart hwf ho

/-! ### ALRM and file creation -/

theorem alrm_q (s : HSt) (c : Chan) : (step s .alrm).1.q c = pqrun s.clock (s.q c) := by cases c <;> rfl

theorem ids_pqrun (t : Int) (q : PQ) : ids (pqrun t q) = ids q := by
  unfold ids; rw [pqrun_toList, List.map_map]; rfl

theorem wf_alrm {s : HSt} (hwf : WF s) : WF (step s .alrm).1 := by
  refine ⟨fun c => by rw [alrm_q]; exact pqrun_heap _ _, hwf.heapDone, hwf.nodupMsgs,
    fun c => by rw [alrm_q, ids_pqrun]; exact hwf.nodupQ c, fun c e he => ?_⟩
  rw [alrm_q, pqrun_toList] at he
  obtain ⟨x, hx, hxe⟩ := List.mem_map.mp he
  have : e.id = x.id := by rw [← hxe]
  rw [this]
  exact hwf.hasFile c x hx

theorem tracked_alrm {s : HSt} (ht : Tracked s) : Tracked (step s .alrm).1 := by
  intro m hm
  obtain ⟨t1, t2⟩ := ht m hm
  exact ⟨fun c hr => by rw [alrm_q, ids_pqrun]; exact t1 c hr, t2⟩

theorem nodup_ids_append {l : List Msg} {m : Msg} (hn : (l.map (·.id)).Nodup) (hm : m.id ∉ l.map (·.id)) :
    ((l ++ [m]).map (·.id)).Nodup := by
  rw [List.map_append, List.nodup_append]
  refine ⟨hn, List.pairwise_singleton _ _, fun a ha b hb => ?_⟩
  rw [List.mem_singleton.mp hb]
  intro (hab : a = m.id)
  exact hm (hab ▸ ha)

theorem mk_some {s : HSt} {id : Nat} {m : Msg} (c : Chan) (birth due : Int) (nrec : Nat) (h : s.find id = some m) :
    (step s (.mk id c birth due nrec)).1 = s.update ((m.setRecs c (some (List.replicate nrec true))).setMt c due) := by
  simp only [step, h]

theorem mk_none {s : HSt} {id : Nat} (c : Chan) (birth due : Int) (nrec : Nat) (h : s.find id = none) :
    (step s (.mk id c birth due nrec)).1 = { s with msgs := s.msgs ++
      [(({ id := id, birth := birth } : Msg).setRecs c (some (List.replicate nrec true))).setMt c due] } := by
  simp only [step, h]

theorem wf_mk {s : HSt} (hwf : WF s) (id : Nat) (c : Chan) (birth due : Int) (nrec : Nat) :
    WF (step s (.mk id c birth due nrec)).1 := by
  cases hm : s.find id with
  | some m =>
    rw [mk_some c birth due nrec hm]
    have hid : ((m.setRecs c (some (List.replicate nrec true))).setMt c due).id = id := by
      rw [setMt_id, setRecs_id]; exact (find_some hm).2
    refine wf_update_keep hwf (by rw [hid]; exact hm) fun c' hr => ?_
    rw [setMt_recs]
    by_cases hc : c' = c
    · subst hc; rw [setRecs_same]; rfl
    · rw [setRecs_other _ _ _ _ hc]; exact hr
  | none =>
    rw [mk_none c birth due nrec hm]
    refine ⟨fun c' => by rw [msgs_q]; exact hwf.heap c', hwf.heapDone, ?_, fun c' => by rw [msgs_q]; exact hwf.nodupQ c', ?_⟩
    · refine nodup_ids_append hwf.nodupMsgs ?_
      rw [setMt_id, setRecs_id]; exact find_none_notin hm
    · intro c' e he
      rw [msgs_q] at he
      obtain ⟨m2, hm2, hr2⟩ := hwf.hasFile c' e he
      refine ⟨m2, ?_, hr2⟩
      unfold HSt.find at hm2 ⊢
      simp only [List.find?_append, hm2, Option.some_or]

/-! ### arrivals (todo_do) -/

theorem find_append_cases (s : HSt) (m : Msg) (i : Nat) (m2 : Msg)
    (h : ({ s with msgs := s.msgs ++ [m] } : HSt).find i = some m2) : s.find i = some m2 ∨ (s.find i = none ∧ m2 = m ∧ i = m.id) := by
  unfold HSt.find at h ⊢
  rw [List.find?_append] at h
  cases hs : s.msgs.find? (·.id == i) with
  | some x => rw [hs] at h; left; simpa using h
  | none =>
    rw [hs] at h
    right
    simp only [Option.none_or, List.find?_cons] at h
    by_cases hid : (m.id == i) = true
    · simp only [hid] at h
      exact ⟨rfl, (Option.some.inj h).symm, by simpa using Eq.symm (by simpa using hid)⟩
    · have : (m.id == i) = false := by simpa using hid
      simp [this] at h

/-- the new message record of `arriveSt` -/
def arriveMsg (s : HSt) (id n0 n1 : Nat) : Msg :=
  { id := id, birth := s.clock, mt0 := s.clock, mt1 := s.clock,
    recs0 := if n0 = 0 then none else some (List.replicate n0 true),
    recs1 := if n1 = 0 then none else some (List.replicate n1 true) }

/-- the number of recipients on channel `c` -/
def nOf : Chan → Nat → Nat → Nat
  | .loc, a, _ => a
  | .rem, _, b => b

theorem arriveMsg_recs (s : HSt) (id n0 n1 : Nat) (c : Chan) :
    (arriveMsg s id n0 n1).recs c = if nOf c n0 n1 = 0 then none else some (List.replicate (nOf c n0 n1) true) := by
  cases c <;> rfl

theorem arriveSt_some {s : HSt} {id : Nat} {m : Msg} (n0 n1 : Nat) (h : s.find id = some m) : arriveSt s id n0 n1 = s := by
  unfold arriveSt; rw [h]

theorem arriveSt_spec (s : HSt) (id n0 n1 : Nat) (h : s.find id = none) :
    (arriveSt s id n0 n1).msgs = s.msgs ++ [arriveMsg s id n0 n1] ∧
    (arriveSt s id n0 n1).clock = s.clock ∧ (arriveSt s id n0 n1).lifetime = s.lifetime ∧
    (arriveSt s id n0 n1).q0 = (if n0 = 0 then s.q0 else s.q0.insert { dt := s.clock, id := id }) ∧
    (arriveSt s id n0 n1).q1 = (if n1 = 0 then s.q1 else s.q1.insert { dt := s.clock, id := id }) ∧
    (arriveSt s id n0 n1).done = (if n0 = 0 ∧ n1 = 0 then s.done.insert { dt := s.clock, id := id } else s.done) := by
  unfold arriveSt
  simp only [h]
  by_cases h0 : n0 = 0 <;> by_cases h1 : n1 = 0 <;> simp [h0, h1, arriveMsg, HSt.setQ, HSt.q]

theorem arriveSt_q (s : HSt) (id n0 n1 : Nat) (h : s.find id = none) (c : Chan) :
    (arriveSt s id n0 n1).q c = if nOf c n0 n1 = 0 then s.q c else (s.q c).insert { dt := s.clock, id := id } := by
  obtain ⟨_, _, _, a0, a1, _⟩ := arriveSt_spec s id n0 n1 h
  cases c
  · exact a0
  · exact a1

theorem arriveSt_find (s : HSt) (id n0 n1 : Nat) (h : s.find id = none) (i : Nat) :
    (arriveSt s id n0 n1).find i = if i = id then some (arriveMsg s id n0 n1) else s.find i := by
  unfold HSt.find at h ⊢
  rw [(arriveSt_spec s id n0 n1 h).1, List.find?_append]
  by_cases hi : i = id
  · rw [if_pos hi, hi, h]; simp [arriveMsg]
  · have : ((arriveMsg s id n0 n1).id == i) = false := by simpa [arriveMsg] using Ne.symm hi
    rw [if_neg hi, List.find?_cons, this]
    cases s.msgs.find? (·.id == i) <;> rfl

theorem mem_arriveSt_q {s : HSt} (hwf : WF s) {id : Nat} (n0 n1 : Nat) (h : s.find id = none) {c : Chan} {e : Elt}
    (he : e ∈ ((arriveSt s id n0 n1).q c).toList) :
    (e ∈ (s.q c).toList ∧ e.id ≠ id) ∨ (nOf c n0 n1 ≠ 0 ∧ e = { dt := s.clock, id := id }) := by
  have hold : e ∈ (s.q c).toList → e ∈ (s.q c).toList ∧ e.id ≠ id := fun he' => ⟨he', fun hid => by
    obtain ⟨m, hm, _⟩ := hwf.hasFile c e he'
    rw [hid, h] at hm; cases hm⟩
  rw [arriveSt_q s id n0 n1 h] at he
  by_cases hn : nOf c n0 n1 = 0
  · rw [if_pos hn] at he; exact Or.inl (hold he)
  · rw [if_neg hn] at he
    rcases (mem_insert _ _ _).mp he with rfl | he
    · exact Or.inr ⟨hn, rfl⟩
    · exact Or.inl (hold he)

theorem wf_arriveSt {s : HSt} (hwf : WF s) (id n0 n1 : Nat) : WF (arriveSt s id n0 n1) := by
  cases hm : s.find id with
  | some m => rw [arriveSt_some n0 n1 hm]; exact hwf
  | none =>
    obtain ⟨am, _, _, _, _, ad⟩ := arriveSt_spec s id n0 n1 hm
    refine ⟨fun c => ?_, ?_, ?_, fun c => ?_, fun c e he => ?_⟩
    · rw [arriveSt_q s id n0 n1 hm]
      split
      · exact hwf.heap c
      · exact (insert_spec _ _ (hwf.heap c)).1
    · rw [ad]
      split
      · exact (insert_spec _ _ hwf.heapDone).1
      · exact hwf.heapDone
    · rw [am]; exact nodup_ids_append hwf.nodupMsgs (find_none_notin hm)
    · rw [arriveSt_q s id n0 n1 hm]
      split
      · exact hwf.nodupQ c
      · refine (ids_insert _ _).nodup_iff.mpr (List.nodup_cons.mpr ⟨fun hin => ?_, hwf.nodupQ c⟩)
        obtain ⟨m2, hm2, _⟩ := hwf.file_of_ids hin
        rw [hm] at hm2; cases hm2
    · rw [arriveSt_find s id n0 n1 hm]
      rcases mem_arriveSt_q hwf n0 n1 hm he with ⟨he', hne⟩ | ⟨hn, rfl⟩
      · rw [if_neg hne]; exact hwf.hasFile c e he'
      · exact ⟨_, if_pos rfl, by rw [arriveMsg_recs, if_neg hn]; rfl⟩

theorem tracked_arriveSt {s : HSt} (ht : Tracked s) (id n0 n1 : Nat) : Tracked (arriveSt s id n0 n1) := by
  cases hm : s.find id with
  | some m => rw [arriveSt_some n0 n1 hm]; exact ht
  | none =>
    obtain ⟨am, _, _, _, _, ad⟩ := arriveSt_spec s id n0 n1 hm
    intro m hmem
    rw [am] at hmem
    rcases List.mem_append.mp hmem with hold | hnew
    · obtain ⟨t1, t2⟩ := ht m hold
      refine ⟨fun c hr => ?_, fun h0 h1 => ?_⟩
      · rw [arriveSt_q s id n0 n1 hm]
        split
        · exact t1 c hr
        · exact ids_insert_of_mem _ _ (t1 c hr)
      · rw [ad]
        split
        · exact ids_insert_of_mem _ _ (t2 h0 h1)
        · exact t2 h0 h1
    · rw [List.mem_singleton.mp hnew]
      have hrec : ∀ c, nOf c n0 n1 = 0 ↔ (arriveMsg s id n0 n1).recs c = none := by
        intro c
        rw [arriveMsg_recs]
        by_cases hn : nOf c n0 n1 = 0 <;> simp [hn]
      refine ⟨fun c hr => ?_, fun h0 h1 => ?_⟩
      · have hn : ¬ nOf c n0 n1 = 0 := fun hn => by rw [(hrec c).mp hn] at hr; cases hr
        rw [arriveSt_q s id n0 n1 hm, if_neg hn]
        exact ids_insert_self _ _
      · rw [ad, if_pos ⟨(hrec .loc).mpr h0, (hrec .rem).mpr h1⟩]
        exact ids_insert_self _ _

theorem dueby_arriveSt {s : HSt} (hwf : WF s) {L : Int} (hd : DueBy L s) (id n0 n1 : Nat) : DueBy L (arriveSt s id n0 n1) := by
  cases hm : s.find id with
  | some m => rw [arriveSt_some n0 n1 hm]; exact hd
  | none =>
    intro c e he m2 hm2
    rw [(arriveSt_spec s id n0 n1 hm).2.1]
    rcases mem_arriveSt_q hwf n0 n1 hm he with ⟨he', hne⟩ | ⟨_, rfl⟩
    · rw [arriveSt_find s id n0 n1 hm, if_neg hne] at hm2
      exact hd c e he' m2 hm2
    · exact Or.inr (Int.le_refl _)

/-! ### fault-free histories: the invariant behind the bounded time to expiry -/

theorem dueby_tick {s : HSt} {L : Int} (hd : DueBy L s) (d : Nat) : DueBy L { s with clock := s.clock + d } := by
  intro c e he m hm
  rw [clock_q] at he
  rcases hd c e he m hm with h | h
  · left; exact h
  · right; show e.dt ≤ s.clock + d; omega

theorem dueby_alrm {s : HSt} {L : Int} : DueBy L (step s .alrm).1 := by
  intro c e he m _
  right
  rw [alrm_q, pqrun_toList] at he
  obtain ⟨x, _, hxe⟩ := List.mem_map.mp he
  rw [← hxe]; exact Int.le_refl _

def bstepSt (s : HSt) : BStep → HSt
  | .tick d => { s with clock := s.clock + d }
  | .wake => s
  | .alrm => (step s .alrm).1
  | .pass c l => passSt s c l .none
  | .restart => loadSt (finSt s)
  | .arrive id n0 n1 => arriveSt s id n0 n1

theorem run_bsteps (s : HSt) (x : BStep) : run s (x.steps s) = bstepSt s x := by cases x <;> rfl

theorem bstep_lifetime {s : HSt} (hwf : WF s) (x : BStep) : (bstepSt s x).lifetime = s.lifetime := by
  cases x with
  | tick d => rfl
  | wake => rfl
  | alrm => rfl
  | pass c l => exact (passSt_frame hwf c l .none).lifetime
  | restart =>
    show (loadSt (finSt s)).lifetime = s.lifetime
    rw [loadSt_lifetime, finSt_eq, finWith_lifetime]
  | arrive id n0 n1 =>
    show (arriveSt s id n0 n1).lifetime = s.lifetime
    cases hm : s.find id with
    | some m => rw [arriveSt_some n0 n1 hm]
    | none => exact (arriveSt_spec s id n0 n1 hm).2.2.1

theorem inv_bstep {s : HSt} {L : Int} (h : DInv L s)
    (hb : ∀ t b c, t ≤ b + s.lifetime → nextretry t b c ≤ expiryBound L b c)
    (x : BStep) (hx : ∀ c letters, x = .pass c letters → lettersKZD letters) : DInv L (bstepSt s x) := by
  obtain ⟨hwf, ht, hd⟩ := h
  cases x with
  | tick d => exact ⟨wf_clock hwf _, tracked_clock ht _, dueby_tick hd d⟩
  | wake => exact ⟨hwf, ht, hd⟩
  | alrm => exact ⟨wf_alrm hwf, tracked_alrm ht, dueby_alrm⟩
  | pass c l => exact ⟨wf_passSt hwf c l .none, tracked_passSt hwf ht c l .none, dueby_passSt hwf hd hb c l (hx c l rfl)⟩
  | restart => exact ⟨wf_loadSt (wf_finSt hwf).nodupMsgs, tracked_loadSt _, dueby_restart hwf ht hd⟩
  | arrive id n0 n1 => exact ⟨wf_arriveSt hwf id n0 n1, tracked_arriveSt ht id n0 n1, dueby_arriveSt hwf hd id n0 n1⟩

theorem inv_runB {L : Int} (l : List BStep) (s : HSt) (h : DInv L s)
    (hb : ∀ t b c, t ≤ b + s.lifetime → nextretry t b c ≤ expiryBound L b c) (hk : allKZD l) :
    DInv L (runB s l) ∧ (runB s l).lifetime = s.lifetime :=
  List.foldlRecOn (motive := fun s' => DInv L s' ∧ s'.lifetime = s.lifetime) l _ ⟨h, rfl⟩ fun s' ⟨hi, hl⟩ x hx => by
    rw [run_bsteps]
    exact ⟨inv_bstep hi (by rw [hl]; exact hb) x (hk x hx), (bstep_lifetime hi.1 x).trans hl⟩

end Nq.Lemmas.SchedHist
