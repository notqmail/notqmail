/-
  One uninterrupted pass of `Nq.SchedHist.step` (`passSt`): how it ends (`passSt_cases`) and what that means for each invariant,
  the rank argument behind promptness and no-starvation, and the expiring pass.  Core Lean only.
-/
import Nq.Lemmas.SchedHistState

namespace Nq.Lemmas.SchedHist
open Nq Nq.Sched Nq.SchedHist Nq.Spec.SchedHist Nq.Lemmas.Sched

/-! ### what a pass does -/

/-- what `pass_dochan(c)` starting `pe` means under `WF`: `pe` is due, a minimum of the heap, and exactly it leaves the heap -/
structure Starts (s : HSt) (c : Chan) (pe : Elt) (q' : PQ) : Prop where
  due : pe.dt ≤ s.clock
  min : ∀ e ∈ (s.q c).toList, pe.dt ≤ e.dt
  perm : (s.q c).toList.Perm (pe :: q'.toList)
  mem : pe ∈ (s.q c).toList
  rest : Rest s c pe.id q'
  file : ∃ m recs, s.find pe.id = some m ∧ m.recs c = some recs

theorem starts {s : HSt} (hwf : WF s) {c : Chan} {pe : Elt} {q' : PQ}
    (hp : passStart s.clock true (s.q c) = some (pe, q')) : Starts s c pe q' := by
  have hs := passStart_spec s.clock true (s.q c) q' pe (hwf.heap c) hp
  have hmem : pe ∈ (s.q c).toList := (hs.perm.mem_iff).mpr (List.mem_cons_self ..)
  have hnd : (pe.id :: ids q').Nodup := by
    have h5 : (ids (s.q c)).Perm (pe.id :: ids q') := hs.perm.map Elt.id
    exact h5.nodup_iff.mp (hwf.nodupQ c)
  obtain ⟨m, hm, hr⟩ := hwf.hasFile c pe hmem
  refine ⟨hs.due, hs.min, hs.perm, hmem, ⟨hs.heap, (List.nodup_cons.mp hnd).2, (List.nodup_cons.mp hnd).1,
    fun e he => hs.perm.mem_iff.mpr (List.mem_cons_of_mem _ he), fun e he hne => ?_⟩, m, ?_⟩
  · rcases List.mem_cons.mp (hs.perm.mem_iff.mp he) with rfl | h
    · exact absurd (Eq.refl _) hne
    · exact h
  · cases hrc : m.recs c with
    | none => rw [hrc] at hr; cases hr
    | some recs => exact ⟨recs, hm, Eq.refl _⟩

theorem Starts.recs {s : HSt} {c : Chan} {pe : Elt} {q' : PQ} (h : Starts s c pe q') {m : Msg} (hm : s.find pe.id = some m) :
    ∃ recs, m.recs c = some recs := by
  obtain ⟨m0, recs, hm0, hr⟩ := h.file
  rw [hm] at hm0; cases hm0; exact ⟨recs, hr⟩

theorem passSt_none {s : HSt} {c : Chan} (letters : List Byte) (f : Fault)
    (hp : passStart s.clock true (s.q c) = none) : passSt s c letters f = s := by
  unfold passSt; rw [hp]

theorem passSt_trouble {s : HSt} {c : Chan} {pe : Elt} {q' : PQ} (letters : List Byte) {f : Fault}
    (hp : passStart s.clock true (s.q c) = some (pe, q')) (hf : f.trouble = true) :
    passSt s c letters f = mkSt s c (q'.insert { dt := s.clock + SLEEP_SYSFAIL, id := pe.id }) s.done := by
  unfold passSt; rw [hp]; simp only [hf, if_true]; rw [setQ_eq_mkSt]; rfl

theorem passSt_run {s : HSt} {c : Chan} {pe : Elt} {q' : PQ} (letters : List Byte) {f : Fault} {m : Msg} {recs : List Bool}
    (hp : passStart s.clock true (s.q c) = some (pe, q')) (hf : f.trouble = false)
    (hm : s.find pe.id = some m) (hr : m.recs c = some recs) :
    passSt s c letters f =
      (mkSt s c (passOut s c letters f pe q' m recs).close.chan (passOut s c letters f pe q' m recs).close.done).update
        (passMsg m c (passOut s c letters f pe q' m recs)) := by
  unfold passSt; rw [hp]; simp only [hf, Bool.false_eq_true, if_false, hm, hr]; rfl

theorem sameBut_passMsg (m : Msg) (c : Chan) (o : PassOut) : SameBut c m (passMsg m c o) := by
  refine ⟨by unfold passMsg; simp, by unfold passMsg; simp, ?_⟩
  unfold passMsg; rw [setRecs_other _ _ _ _ (other_ne c)]; cases c <;> rfl

theorem passMsg_recs_same (m : Msg) (c : Chan) (o : PassOut) :
    (passMsg m c o).recs c = if o.close.removed then none else some o.recs' := by
  unfold passMsg; simp
theorem passMsg_mt (m : Msg) (c c' : Chan) (o : PassOut) : (passMsg m c o).mt c' = m.mt c' := by
  unfold passMsg; rw [setRecs_mt]; cases c' <;> rfl

theorem filter_id_length (l : List Bool) : (l.filter id).length = 0 ↔ true ∉ l := by
  rw [List.length_eq_zero_iff, List.filter_eq_nil_iff]
  constructor
  · intro h ht; exact h true ht rfl
  · intro h a ha; cases a
    · exact Bool.false_ne_true
    · exact absurd ha h

/-- **How a pass ends.**  The started message either goes back into the channel heap with its channel file kept — at its back-off
time when a recipient is left to do, or `SLEEP_SYSFAIL` from now when the file could not be opened or, every recipient done, could
not be removed —; or the file is removed and the message leaves the heap, into pqdone unless `stat` finds the other channel
file. -/
theorem passSt_cases {s : HSt} (hwf : WF s) {c : Chan} {pe : Elt} {q' : PQ} {m : Msg}
    (hp : passStart s.clock true (s.q c) = some (pe, q')) (hm : s.find pe.id = some m) (letters : List Byte) (f : Fault) :
    ∃ m', SameBut c m m' ∧
      ((∃ x, passSt s c letters f = (mkSt s c (q'.insert { dt := x, id := pe.id }) s.done).update m' ∧
          (m'.recs c).isSome = true ∧
          ((x = nextretry s.clock m.birth c ∧
              ∃ recs, m.recs c = some recs ∧ true ∈ (answer (jobOpen s.clock s.lifetime m.birth c).dying letters recs 0).1) ∨
           (x = s.clock + SLEEP_SYSFAIL ∧ (f.trouble = true ∨ f = .unlink) ∧
              (f.trouble = false → ∀ rs, m'.recs c = some rs → true ∉ rs)))) ∨
       (∃ dn, passSt s c letters f = (mkSt s c q' dn).update m' ∧ m'.recs c = none ∧
          ((dn = s.done ∧ (m.recs (other c)).isSome = true) ∨ dn = s.done.insert { dt := s.clock, id := pe.id }))) := by
  obtain ⟨recs, hr⟩ := (starts hwf hp).recs hm
  by_cases hf : f.trouble = true
  · refine ⟨m, .rfl, Or.inl ⟨_, ?_, by rw [hr]; rfl, Or.inr ⟨Eq.refl _, Or.inl hf, fun h => ?_⟩⟩⟩
    · rw [passSt_trouble letters hp hf]
      exact (update_self (by rw [mkSt_msgs]; exact hwf.nodupMsgs) (by rw [mkSt_msgs]; exact (find_some hm).1)).symm
    · rw [hf] at h; cases h
  · have hf : f.trouble = false := by simpa using hf
    rw [passSt_run letters hp hf hm hr]
    have hcl : (passOut s c letters f pe q' m recs).close =
        jobCloseF (passOut s c letters f pe q' m recs).job pe.id true (((passOut s c letters f pe q' m recs).recs'.filter id).length)
          (decide (f ≠ .unlink)) (if f = .stat then .err else statOf m (other c)) s.clock q' s.done := rfl
    have hjob : (passOut s c letters f pe q' m recs).job.retry = nextretry s.clock m.birth c := rfl
    have hrecs : (passOut s c letters f pe q' m recs).recs' =
        (answer (jobOpen s.clock s.lifetime m.birth c).dying letters recs 0).1 := rfl
    generalize passOut s c letters f pe q' m recs = o at hcl hjob hrecs ⊢
    refine ⟨passMsg m c o, sameBut_passMsg m c o, ?_⟩
    rcases jobCloseF_cases hcl with ⟨hrm, hd, h⟩ | ⟨_, _, _, hrm, hch, hd⟩
    · have hrc : (passMsg m c o).recs c = some o.recs' := by rw [passMsg_recs_same, hrm]; rfl
      refine Or.inl ?_
      rcases h with ⟨hn | ⟨⟨⟩⟩, hch⟩ | ⟨_, hn, hu, hch⟩
      · refine ⟨_, by rw [hch, hd], by rw [hrc]; rfl, Or.inl ⟨hjob, recs, hr, ?_⟩⟩
        rw [← hrecs]; exact Decidable.not_not.mp (mt (filter_id_length _).mpr hn)
      · refine ⟨_, by rw [hch, hd], by rw [hrc]; rfl, Or.inr ⟨Eq.refl _, Or.inr ?_, fun _ rs hrs => ?_⟩⟩
        · simpa using hu
        · rw [hrc] at hrs; cases hrs
          exact (filter_id_length _).mp hn
    · refine Or.inr ⟨o.close.done, by rw [hch], by rw [passMsg_recs_same, hrm]; rfl, ?_⟩
      rcases hd with ⟨⟨t, ht⟩, hd⟩ | ⟨_, hd⟩
      · refine Or.inl ⟨hd, ?_⟩
        by_cases hfs : f = .stat
        · rw [if_pos hfs] at ht; cases ht
        · rw [if_neg hfs] at ht
          unfold statOf at ht
          cases hro : m.recs (other c) with
          | none => rw [hro] at ht; cases ht
          | some _ => rfl
      · exact Or.inr hd

/-- The three ends of a pass, as one rule: nothing was due; the started message goes back at `x`; its channel file is removed. -/
theorem passSt_elim {s : HSt} (hwf : WF s) (c : Chan) (letters : List Byte) (f : Fault) {P : HSt → Prop} (h0 : P s)
    (hback : ∀ {pe : Elt} {q' : PQ} {m m' : Msg} (x : Int), Starts s c pe q' → s.find pe.id = some m → SameBut c m m' →
      (m'.recs c).isSome = true →
      ((x = nextretry s.clock m.birth c ∧
          ∃ recs, m.recs c = some recs ∧ true ∈ (answer (jobOpen s.clock s.lifetime m.birth c).dying letters recs 0).1) ∨
       (x = s.clock + SLEEP_SYSFAIL ∧ (f.trouble = true ∨ f = .unlink) ∧
          (f.trouble = false → ∀ rs, m'.recs c = some rs → true ∉ rs))) →
      P ((mkSt s c (q'.insert { dt := x, id := pe.id }) s.done).update m'))
    (hgone : ∀ {pe : Elt} {q' : PQ} {m m' : Msg} (dn : PQ), Starts s c pe q' → s.find pe.id = some m → SameBut c m m' →
      m'.recs c = none →
      ((dn = s.done ∧ (m.recs (other c)).isSome = true) ∨ dn = s.done.insert { dt := s.clock, id := pe.id }) →
      P ((mkSt s c q' dn).update m')) : P (passSt s c letters f) := by
  cases hp : passStart s.clock true (s.q c) with
  | none => rw [passSt_none letters f hp]; exact h0
  | some r =>
    have hst := starts hwf hp
    obtain ⟨m, _, hm, _⟩ := hst.file
    obtain ⟨m', hs, ⟨x, he, hrc, hx⟩ | ⟨dn, he, hn, hd⟩⟩ := passSt_cases hwf hp hm letters f
    · rw [he]; exact hback x hst hm hs hrc hx
    · rw [he]; exact hgone dn hst hm hs hn hd

theorem wf_passSt {s : HSt} (hwf : WF s) (c : Chan) (letters : List Byte) (f : Fault) : WF (passSt s c letters f) := by
  refine passSt_elim hwf c letters f hwf (fun x hst hm hs hrc _ => ?_) (fun dn hst hm hs _ hd => ?_)
  · obtain ⟨recs, hr⟩ := hst.recs hm
    exact wf_back hwf hst.rest hm (by rw [hr]; rfl) hs hrc x
  · refine wf_gone hwf hst.rest hm hs ?_
    rcases hd with ⟨rfl, _⟩ | rfl
    · exact hwf.heapDone
    · exact (insert_spec _ _ hwf.heapDone).1

/-! ### the back-off invariant -/

theorem owed_passSt {s : HSt} (hwf : WF s) {i : Nat} {c0 : Chan} {b r : Int} (ho : Owed i c0 b r s)
    (hmono : ∀ t', r ≤ t' → r ≤ nextretry t' b c0)
    (c : Chan) (letters : List Byte) (f : Fault) : Owed i c0 b r (passSt s c letters f) := by
  refine passSt_elim hwf c letters f ho (fun x hst hm hs _ hx => ?_) (fun dn hst hm hs hn _ => ?_)
  · refine owed_back ho hst.rest hm hs x fun hi hc => ?_
    subst hc
    have hcl : r ≤ s.clock := Int.le_trans (owed_entry hwf ho hst.mem hi) hst.due
    rcases hx with ⟨rfl, _⟩ | ⟨rfl, _⟩
    · rw [(ho _ (hi ▸ hm)).1]; exact hmono _ hcl
    · -- put back at `clock + SLEEP_SYSFAIL`: not before `r`, whatever the constant is (a `Nat` seen as `Int`)
      have hsf : 0 ≤ SLEEP_SYSFAIL := Int.natCast_nonneg _
      omega
  · exact owed_chg ho hm hs hst.rest.sup (fun _ _ h => by rw [hn] at h; cases h)

theorem owed_init {s : HSt} (hwf : WF s) {c : Chan} {pe : Elt} {q' : PQ} {m : Msg} (letters : List Byte) {f : Fault}
    (hp : passStart s.clock true (s.q c) = some (pe, q')) (hm : s.find pe.id = some m) (hf : f.trouble = false)
    (hleft : ∃ m2 recs2, (passSt s c letters f).find pe.id = some m2 ∧ m2.recs c = some recs2 ∧ true ∈ recs2) :
    Owed pe.id c m.birth (nextretry s.clock m.birth c) (passSt s c letters f) := by
  obtain ⟨m2, rs, hm2, hr2, ht⟩ := hleft
  obtain ⟨m', hs, ⟨x, he, _, hx⟩ | ⟨dn, he, hn, _⟩⟩ := passSt_cases hwf hp hm letters f
  all_goals rw [he, find_chg hm hs, if_pos rfl] at hm2; cases hm2
  · rcases hx with ⟨rfl, _⟩ | ⟨_, _, hnone⟩
    · rw [he]; exact owed_init_back hm hs _
    · exact absurd ht (hnone hf rs hr2)
  · rw [hn] at hr2; cases hr2

theorem started_some {s : HSt} {c : Chan} {pe : Elt} (h : started s c = some pe) :
    ∃ q', passStart s.clock true (s.q c) = some (pe, q') := by
  unfold started at h
  cases hp : passStart s.clock true (s.q c) with
  | none => rw [hp] at h; cases h
  | some r => rw [hp] at h; exact ⟨r.2, by cases h; rfl⟩

theorem owed_started {s : HSt} (hwf : WF s) {i : Nat} {c : Chan} {b r : Int} (ho : Owed i c b r s) {pe : Elt}
    (hst : started s c = some pe) (hid : pe.id = i) : r ≤ pe.dt ∧ pe.dt ≤ s.clock := by
  obtain ⟨q', hp⟩ := started_some hst
  exact ⟨owed_entry hwf ho (starts hwf hp).mem hid, (starts hwf hp).due⟩

/-! ### promptness: the rank of a due message strictly decreases with every pass on its channel -/

theorem passSt_frame {s : HSt} (hwf : WF s) (c : Chan) (letters : List Byte) (f : Fault) : SameBirths s (passSt s c letters f) :=
  passSt_elim hwf c letters f .rfl (fun _ _ hm hs _ _ => frame_chg hm hs) (fun _ _ hm hs _ _ => frame_chg hm hs)

/-- `hsf`: the started message may be put back at `clock + SLEEP_SYSFAIL`, which must lie after `e.dt ≤ clock`.  The constant is
regenerated from qmail-send.c; its value is looked at (`by decide`) only where a property theorem uses this. -/
theorem rank_passSt {s : HSt} (hwf : WF s) {c : Chan} {e : Elt} (he : e ∈ (s.q c).toList) (hdue : e.dt ≤ s.clock)
    (hfut : ∀ m ∈ s.msgs, s.clock < nextretry s.clock m.birth c) (hsf : 0 < SLEEP_SYSFAIL)
    (letters : List Byte) (f : Fault) :
    ∃ pe, started s c = some pe ∧ pe.dt ≤ e.dt ∧
      (pe = e ∨ (e ∈ ((passSt s c letters f).q c).toList ∧ rank (passSt s c letters f) c e.dt + 1 = rank s c e.dt)) := by
  have hsome := passStart_prompt s.clock (s.q c) (hwf.heap c) e he hdue
  cases hp : passStart s.clock true (s.q c) with
  | none => rw [hp] at hsome; cases hsome
  | some r =>
    obtain ⟨pe, q'⟩ := r
    have hst := starts hwf hp
    obtain ⟨m, _, hm, _⟩ := hst.file
    refine ⟨pe, by unfold started; rw [hp]; rfl, hst.min e he, ?_⟩
    by_cases hpe : pe = e
    · left; exact hpe
    · right
      have he' : e ∈ q'.toList := by
        rcases List.mem_cons.mp (hst.perm.mem_iff.mp he) with h | h
        · exact absurd h.symm hpe
        · exact h
      have hold : rank s c e.dt = 1 + q'.toList.countP (fun x => decide (x.dt ≤ e.dt)) := by
        unfold rank
        rw [hst.perm.countP_eq, List.countP_cons]
        have : decide (pe.dt ≤ e.dt) = true := by simpa using hst.min e he
        rw [this]; simp; omega
      obtain ⟨m', _, ⟨x, heq, _, hx⟩ | ⟨dn, heq, _⟩⟩ := passSt_cases hwf hp hm letters f
      · -- the started message comes back strictly later than now
        have h : (passSt s c letters f).q c = q'.insert { dt := x, id := pe.id } := by rw [heq, update_q, mkSt_q_same]
        refine ⟨by rw [h]; exact (mem_insert q' _ _).mpr (Or.inr he'), ?_⟩
        have hxl : e.dt < x := by
          rcases hx with ⟨hx, _⟩ | ⟨hx, _⟩
          · have := hfut m (find_some hm).1; omega
          · omega
        unfold rank at hold ⊢
        rw [h, hold, (insert_perm q' _).countP_eq, List.countP_cons]
        have : decide (x ≤ e.dt) = false := by simpa using hxl
        simp only [this]; simp; omega
      · have h : (passSt s c letters f).q c = q' := by rw [heq, update_q, mkSt_q_same]
        refine ⟨by rw [h]; exact he', ?_⟩
        unfold rank at hold ⊢; rw [h, hold]; omega

theorem passes_shift (s : HSt) (c : Chan) (ls : Nat → List Byte) : ∀ n,
    passes s c ls (n + 1) = passes (passSt s c (ls 0) .none) c (fun k => ls (k + 1)) n := by
  intro n
  induction n with
  | zero => rfl
  | succ n ih =>
    show passSt (passes s c ls (n + 1)) c (ls (n + 1)) .none = passSt (passes (passSt s c (ls 0) .none) c (fun k => ls (k + 1)) n) c (ls (n + 1)) .none
    rw [ih]

theorem rank_pos {s : HSt} {c : Chan} {e : Elt} (he : e ∈ (s.q c).toList) : 0 < rank s c e.dt := by
  unfold rank
  exact List.countP_pos_iff.mpr ⟨e, he, by simp⟩

theorem no_starvation (c : Chan) (e : Elt) (hsf : 0 < SLEEP_SYSFAIL) : ∀ (n : Nat) (s : HSt) (ls : Nat → List Byte),
    WF s → e ∈ (s.q c).toList → e.dt ≤ s.clock →
    (∀ m ∈ s.msgs, s.clock < nextretry s.clock m.birth c) → rank s c e.dt ≤ n →
    ∃ j, j < n ∧ started (passes s c ls j) c = some e ∧ WF (passes s c ls j) ∧
      (passes s c ls j).clock = s.clock ∧ (passes s c ls j).lifetime = s.lifetime ∧
      ∀ i m, s.find i = some m → ∃ m', (passes s c ls j).find i = some m' ∧ m'.birth = m.birth := by
  intro n
  induction n with
  | zero => intro s ls _ he _ _ hr; have := rank_pos he; omega
  | succ n ih =>
    intro s ls hwf he hdue hfut hr
    -- a pass starts `e` or lowers its rank by one; `WF`, clock, lifetime and births of the state in which `e` is started are
    -- carried along so that `expire_passSt` applies there (`C15_hist_leaves`): "older than the lifetime" must still hold
    obtain ⟨pe, hst, _, hcase⟩ := rank_passSt hwf he hdue hfut hsf (ls 0) .none
    rcases hcase with hpe | ⟨he', hrank⟩
    · subst hpe
      exact ⟨0, by omega, hst, hwf, rfl, rfl, fun i m hm => ⟨m, hm, rfl⟩⟩
    · have fr := passSt_frame hwf c (ls 0) .none
      have hwf' := wf_passSt hwf c (ls 0) .none
      have hfut' : ∀ m ∈ (passSt s c (ls 0) .none).msgs,
          (passSt s c (ls 0) .none).clock < nextretry (passSt s c (ls 0) .none).clock m.birth c := by
        intro m hm
        obtain ⟨y, hy, hb⟩ := fr.msgs m hm
        rw [fr.clock, hb]; exact hfut y hy
      obtain ⟨j, hj, hst', hwfj, hclock, hlife, hbirth⟩ :=
        ih (passSt s c (ls 0) .none) (fun k => ls (k + 1)) hwf' he' (by rw [fr.clock]; exact hdue) hfut' (by omega)
      refine ⟨j + 1, by omega, ?_⟩
      rw [passes_shift]
      refine ⟨hst', hwfj, hclock.trans fr.clock, hlife.trans fr.lifetime, ?_⟩
      intro i m hm
      obtain ⟨m1, hm1, hb1⟩ := fr.find i m hm
      obtain ⟨m2, hm2, hb2⟩ := hbirth i m1 hm1
      exact ⟨m2, hm2, hb2.trans hb1⟩

/-! ### the expiring pass -/

theorem getD_kzd (letters : List Byte) (hl : lettersKZD letters) (i : Nat) :
    letters.getD i 90 = 75 ∨ letters.getD i 90 = 90 ∨ letters.getD i 90 = 68 := by
  rw [List.getD_eq_getElem?_getD]
  cases h : letters[i]? with
  | none => right; left; rfl
  | some x => exact hl x (List.mem_of_getElem? h)

theorem answer_dying (letters : List Byte) (hl : lettersKZD letters) :
    ∀ recs k, ∀ b ∈ (answer true letters recs k).1, b = false := by
  intro recs
  induction recs with
  | nil => intro k b hb; simp [answer] at hb
  | cons x r ih =>
    intro k b hb
    cases x with
    | false =>
      simp only [answer] at hb
      rcases List.mem_cons.mp hb with h | h
      · exact h
      · exact ih k b h
    | true =>
      simp only [answer] at hb
      rcases List.mem_cons.mp hb with h | h
      · rw [h]
        rcases getD_kzd letters hl (k % letters.length) with h1 | h1 | h1 <;> rw [h1] <;> decide
      · exact ih (k + 1) b h

theorem dying_iff (recent lifetime birth : Int) (c : Chan) :
    (jobOpen recent lifetime birth c).dying = true ↔ recent > birth + lifetime := by
  simp [jobOpen]

theorem expire_passSt {s : HSt} (hwf : WF s) {c : Chan} {pe : Elt} {q' : PQ} {m : Msg} (letters : List Byte) (f : Fault)
    (hp : passStart s.clock true (s.q c) = some (pe, q')) (hm : s.find pe.id = some m)
    (hold : s.clock > m.birth + s.lifetime) (hl : lettersKZD letters) (hf : f = .none ∨ f = .stat) :
    ∃ m2, (passSt s c letters f).find pe.id = some m2 ∧ m2.recs c = none ∧ m2.recs (other c) = m.recs (other c) ∧
      pe.id ∉ ids ((passSt s c letters f).q c) ∧ (m.recs (other c) = none → pe.id ∈ ids (passSt s c letters f).done) := by
  obtain ⟨m', hs, ⟨x, _, _, ⟨_, recs, _, ht⟩ | ⟨_, hfu, _⟩⟩ | ⟨dn, he, hn, hd⟩⟩ := passSt_cases hwf hp hm letters f
  · -- no recipient is left to do
    rw [(dying_iff ..).mpr hold] at ht
    cases answer_dying letters hl recs 0 true ht
  · -- `f` is none of the faults that keep the file
    rcases hf with rfl | rfl <;> rcases hfu with h | h <;> cases h
  · rw [he]
    refine ⟨m', by rw [find_chg hm hs, if_pos rfl], hn, hs.other_eq, by rw [update_q, mkSt_q_same]; exact (starts hwf hp).rest.notin,
      fun hoth => ?_⟩
    rw [update_done, mkSt_done]
    rcases hd with ⟨_, h⟩ | rfl
    · rw [hoth] at h; cases h
    · exact ids_insert_self _ _

/-! ### `Tracked` and `DueBy` through a pass -/

theorem tracked_passSt {s : HSt} (hwf : WF s) (ht : Tracked s) (c : Chan) (letters : List Byte) (f : Fault) :
    Tracked (passSt s c letters f) := by
  refine passSt_elim hwf c letters f ht (fun x hst hm hs hrc _ => tracked_back ht hst.rest hm hs hrc x)
    (fun dn hst hm hs hn hd => ?_)
  refine tracked_chg ht hm hs (fun _ hi hne => hst.rest.ids_sup hi hne) ?_ (fun h => by rw [hn] at h; cases h) fun _ ho => ?_
  · rcases hd with ⟨rfl, _⟩ | rfl
    · exact fun _ h => h
    · exact fun _ h => ids_insert_of_mem _ _ h
  · rcases hd with ⟨_, hoth⟩ | rfl
    · rw [ho] at hoth; cases hoth
    · exact ids_insert_self _ _

theorem dueby_passSt {s : HSt} (hwf : WF s) {L : Int} (hd : DueBy L s)
    (hb : ∀ t b c, t ≤ b + s.lifetime → nextretry t b c ≤ expiryBound L b c)
    (c : Chan) (letters : List Byte) (hl : lettersKZD letters) : DueBy L (passSt s c letters .none) := by
  refine passSt_elim hwf c letters .none hd (fun x hst hm hs _ hx => dueby_chg hd hm hs fun e hin => ?_)
    (fun dn hst hm hs _ _ => dueby_chg hd hm hs fun e hin => Or.inl (hst.rest.sub e hin))
  rcases (mem_insert _ _ e).mp hin with rfl | h
  · refine Or.inr ⟨rfl, Or.inl ?_⟩
    rcases hx with ⟨rfl, recs, _, ht⟩ | ⟨_, hfu, _⟩
    · refine hb _ _ _ (Int.not_lt.mp fun hdy => ?_)
      -- an expiring pass leaves no recipient to do
      rw [(dying_iff ..).mpr hdy] at ht
      cases answer_dying letters hl recs 0 true ht
    · rcases hfu with h | h <;> cases h
  · exact Or.inl (hst.rest.sub e h)

end Nq.Lemmas.SchedHist
