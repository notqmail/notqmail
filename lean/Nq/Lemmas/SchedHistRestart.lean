/-
  Exit and restart at history level: `pqfinish()` as a batch of `utimes` calls (`mtOf`, `touch`, `finWith`, `exitCalls_mt`), `pqstart()`
  reading the mtimes back (`mem_loadSt_q`), and what the pair does to the schedule and to each invariant.  Core Lean only.
-/
import Nq.Lemmas.SchedHistState

namespace Nq.Lemmas.SchedHist
open Nq Nq.Sched Nq.SchedHist Nq.Spec.SchedHist Nq.Lemmas.Sched

/-! ### pqfinish (TERM) at history level -/

theorem finWrite1_find (c : Chan) (s : HSt) (e : Elt) (i : Nat) :
    (finWrite1 c s e).find i = (s.find i).map (fun m => if i = e.id then m.setMt c e.dt else m) := by
  unfold finWrite1
  cases hm : s.find e.id with
  | none =>
    simp only
    by_cases hi : i = e.id
    · rw [hi, hm]; rfl
    · simp only [hi, if_false]; cases s.find i <;> rfl
  | some m0 =>
    simp only
    have hid : (m0.setMt c e.dt).id = e.id := by rw [setMt_id]; exact (find_some hm).2
    by_cases hi : i = e.id
    · rw [hi, hm]
      have := find_update_self s (m0.setMt c e.dt) m0 (by rw [hid]; exact hm)
      rw [hid] at this; rw [this]; simp
    · rw [find_update_other s _ i (by rw [hid]; exact hi)]
      simp only [hi, if_false]; cases s.find i <;> rfl

/-- `s'` has the heaps, the clock, the lifetime and the message ids of `s`: only message records differ -/
structure SameSched (s s' : HSt) : Prop where
  q : ∀ c, s'.q c = s.q c
  done : s'.done = s.done
  clock : s'.clock = s.clock
  lifetime : s'.lifetime = s.lifetime
  ids : s'.msgs.map (·.id) = s.msgs.map (·.id)

theorem SameSched.trans {s s' s'' : HSt} (h : SameSched s s') (h' : SameSched s' s'') : SameSched s s'' :=
  ⟨fun c => (h'.q c).trans (h.q c), h'.done.trans h.done, h'.clock.trans h.clock, h'.lifetime.trans h.lifetime, h'.ids.trans h.ids⟩

theorem finWrite1_frame (c : Chan) (s : HSt) (e : Elt) : SameSched s (finWrite1 c s e) := by
  unfold finWrite1
  cases s.find e.id with
  | none => exact ⟨fun _ => rfl, rfl, rfl, rfl, rfl⟩
  | some m => exact ⟨fun _ => update_q .., rfl, rfl, rfl, update_ids s _⟩

theorem finWrite_frame (c : Chan) (l : List Elt) (s : HSt) : SameSched s (finWrite c s l) :=
  List.foldlRecOn l (finWrite1 c) ⟨fun _ => rfl, rfl, rfl, rfl, rfl⟩ fun a h e _ => h.trans (finWrite1_frame c a e)

theorem wf_finWrite1 {h : HSt} (hwf : WF h) (c : Chan) (e : Elt) : WF (finWrite1 c h e) := by
  unfold finWrite1
  cases hm : h.find e.id with
  | none => exact hwf
  | some m =>
    simp only
    refine wf_update_keep hwf (by rw [setMt_id, (find_some hm).2]; exact hm) fun c' hr => ?_
    rw [setMt_recs]; exact hr

theorem wf_finWrite (c : Chan) (l : List Elt) {h : HSt} (hwf : WF h) : WF (finWrite c h l) :=
  List.foldlRecOn l (finWrite1 c) hwf fun _ hw e _ => wf_finWrite1 hw c e

/-- the mtime a channel file of message `i` has after the `utimes` calls `l` on that channel: the due time of the last call
for `i`, else what it was -/
def mtOf (l : List Elt) (i : Nat) (t : Int) : Int := l.foldl (fun t e => if i = e.id then e.dt else t) t

theorem mtOf_cons (e : Elt) (r : List Elt) (i : Nat) (t : Int) : mtOf (e :: r) i t = mtOf r i (if i = e.id then e.dt else t) := rfl

theorem mtOf_notin (i : Nat) : ∀ (l : List Elt) (t : Int), i ∉ l.map (·.id) → mtOf l i t = t := by
  intro l
  induction l with
  | nil => intro t _; rfl
  | cons e r ih =>
    intro t hni
    simp only [List.map_cons, List.mem_cons, not_or] at hni
    rw [mtOf_cons, if_neg hni.1]; exact ih t hni.2

theorem mtOf_mem (i : Nat) : ∀ (l : List Elt) (t : Int), i ∈ l.map (·.id) → ∃ e ∈ l, e.id = i ∧ mtOf l i t = e.dt := by
  intro l
  induction l with
  | nil => intro t h; cases h
  | cons x r ih =>
    intro t hin
    rw [mtOf_cons]
    by_cases hr : i ∈ r.map (·.id)
    · obtain ⟨e, he, hei, h⟩ := ih (if i = x.id then x.dt else t) hr
      exact ⟨e, List.mem_cons_of_mem _ he, hei, h⟩
    · -- no later call for `i`: this one is the last
      have hi : i = x.id := by
        simp only [List.map_cons, List.mem_cons] at hin
        exact hin.resolve_right hr
      exact ⟨x, List.mem_cons_self, hi.symm, by rw [mtOf_notin i r _ hr, if_pos hi]⟩

theorem mtOf_get (i : Nat) (l : List Elt) (t : Int) (hn : (l.map (·.id)).Nodup) (e : Elt) (he : e ∈ l) (hei : e.id = i) :
    mtOf l i t = e.dt := by
  obtain ⟨e', he', hei', h⟩ := mtOf_mem i l t (hei ▸ List.mem_map_of_mem he)
  rw [h, eq_of_nodup_map (·.id) l hn e' he' e he (hei'.trans hei.symm)]

theorem finWrite_find (c : Chan) : ∀ (l : List Elt) (s : HSt) (i : Nat),
    (finWrite c s l).find i = (s.find i).map fun m => m.setMt c (mtOf l i (m.mt c)) := by
  intro l
  induction l with
  | nil =>
    intro s i
    show s.find i = (s.find i).map fun m => m.setMt c (m.mt c)
    simp only [setMt_self]; cases s.find i <;> rfl
  | cons e r ih =>
    intro s i
    show (finWrite c (finWrite1 c s e) r).find i = _
    rw [ih, finWrite1_find]
    cases s.find i with
    | none => rfl
    | some m =>
      simp only [Option.map_some, mtOf_cons]
      by_cases hi : i = e.id
      · rw [if_pos hi, if_pos hi, setMt_setMt, setMt_same]
      · rw [if_neg hi, if_neg hi]

/-- a batch of `utimes` calls, one list per channel: what `pqfinish()` and `pass_finish()` do to the queue directory -/
def touch (w : Chan → List Elt) (s : HSt) : HSt := finWrite .rem (finWrite .loc s (w .loc)) (w .rem)

/-- the record of message `i` after the batch `w` -/
def touched (w : Chan → List Elt) (i : Nat) (m : Msg) : Msg :=
  { m with mt0 := mtOf (w .loc) i m.mt0, mt1 := mtOf (w .rem) i m.mt1 }

theorem touch_find (w : Chan → List Elt) (s : HSt) (i : Nat) : (touch w s).find i = (s.find i).map (touched w i) := by
  unfold touch
  rw [finWrite_find, finWrite_find]
  cases s.find i <;> rfl

@[simp] theorem touched_mt (w : Chan → List Elt) (i : Nat) (m : Msg) (c : Chan) : (touched w i m).mt c = mtOf (w c) i (m.mt c) := by
  cases c <;> rfl
@[simp] theorem touched_recs (w : Chan → List Elt) (i : Nat) (m : Msg) (c : Chan) : (touched w i m).recs c = m.recs c := by
  cases c <;> rfl
@[simp] theorem touched_birth (w : Chan → List Elt) (i : Nat) (m : Msg) : (touched w i m).birth = m.birth := rfl

theorem touch_frame (w : Chan → List Elt) (s : HSt) : SameSched s (touch w s) :=
  (finWrite_frame .loc (w .loc) s).trans (finWrite_frame .rem (w .rem) _)

/-- `pqfinish()` where only the `utimes` calls selected by `ok` take effect (`finSt`: all of them) -/
def finWith (ok : Chan → Nat → Bool) (s : HSt) : HSt :=
  let s1 := finWrite .loc s ((pqfinish (s.q .loc).size (s.q .loc)).filter fun e => ok .loc e.id)
  let s2 := finWrite .rem s1 ((pqfinish (s1.q .rem).size (s1.q .rem)).filter fun e => ok .rem e.id)
  { s2 with q0 := #[], q1 := #[] }

theorem finSt_eq (s : HSt) : finSt s = finWith (fun _ _ => true) s := by
  have hall : ∀ l : List Elt, (l.filter fun _ => true) = l := fun l => List.filter_eq_self.mpr fun _ _ => rfl
  unfold finSt finWith
  simp only [hall]

/-- the `utimes` calls of `pqfinish()` that take effect -/
def exitCalls (ok : Chan → Nat → Bool) (s : HSt) (c : Chan) : List Elt :=
  (pqfinish (s.q c).size (s.q c)).filter fun e => ok c e.id

theorem finWith_eq (ok : Chan → Nat → Bool) (s : HSt) :
    finWith ok s = { touch (exitCalls ok s) s with q0 := #[], q1 := #[] } := by
  have hq1 : ∀ l0, (finWrite .loc s l0).q .rem = s.q .rem := fun l0 => (finWrite_frame .loc l0 s).q .rem
  unfold finWith touch exitCalls
  simp only [hq1]

theorem finWith_find (ok : Chan → Nat → Bool) (s : HSt) (i : Nat) :
    (finWith ok s).find i = (s.find i).map (touched (exitCalls ok s) i) := by
  rw [finWith_eq]; exact touch_find _ s i

theorem finWith_q (ok : Chan → Nat → Bool) (s : HSt) (c : Chan) : (finWith ok s).q c = #[] := by
  rw [finWith_eq]; cases c <;> rfl
theorem finWith_done (ok : Chan → Nat → Bool) (s : HSt) : (finWith ok s).done = s.done := by
  rw [finWith_eq]; exact (touch_frame _ s).done
theorem finWith_clock (ok : Chan → Nat → Bool) (s : HSt) : (finWith ok s).clock = s.clock := by
  rw [finWith_eq]; exact (touch_frame _ s).clock
theorem finWith_lifetime (ok : Chan → Nat → Bool) (s : HSt) : (finWith ok s).lifetime = s.lifetime := by
  rw [finWith_eq]; exact (touch_frame _ s).lifetime
theorem finWith_ids (ok : Chan → Nat → Bool) (s : HSt) : (finWith ok s).msgs.map (·.id) = s.msgs.map (·.id) := by
  rw [finWith_eq]; exact (touch_frame _ s).ids

theorem exitCalls_mt {s : HSt} (hwf : WF s) (ok : Chan → Nat → Bool) (c : Chan) (i : Nat) (t : Int) :
    (∀ e ∈ (s.q c).toList, e.id = i → ok c i = true → mtOf (exitCalls ok s c) i t = e.dt) ∧
    ((i ∉ ids (s.q c) ∨ ok c i = false) → mtOf (exitCalls ok s c) i t = t) := by
  have hp : (pqfinish (s.q c).size (s.q c)).Perm (s.q c).toList := pqfinish_perm _ _ (hwf.heap c) (Nat.le_refl _)
  refine ⟨fun e he hei hok => ?_, fun hor => mtOf_notin i _ t fun hin => ?_⟩
  · refine mtOf_get i _ t ?_ e (List.mem_filter.mpr ⟨hp.mem_iff.mpr he, by rw [hei]; exact hok⟩) hei
    exact List.Sublist.nodup (List.Sublist.map _ List.filter_sublist) (((hp.map (fun e : Elt => e.id)).nodup_iff).mpr (hwf.nodupQ c))
  · obtain ⟨x, hx, hxi⟩ := List.mem_map.mp hin
    obtain ⟨hxl, hok⟩ := List.mem_filter.mp hx
    rcases hor with h | h
    · exact h (List.mem_map.mpr ⟨x, hp.mem_iff.mp hxl, hxi⟩)
    · rw [hxi, h] at hok; cases hok

/-! ### pqstart (fresh process) at history level -/

theorem loadSt_q (s : HSt) (c : Chan) : (loadSt s).q c = (mtList s c).foldl PQ.insert #[] := by
  cases c <;> rfl

theorem loadSt_find (s : HSt) (i : Nat) : (loadSt s).find i = s.find i := rfl
theorem loadSt_clock (s : HSt) : (loadSt s).clock = s.clock := rfl
theorem loadSt_lifetime (s : HSt) : (loadSt s).lifetime = s.lifetime := rfl

theorem mem_mtList (s : HSt) (c : Chan) (e : Elt) :
    e ∈ mtList s c ↔ ∃ m ∈ s.msgs, (m.recs c).isSome = true ∧ e = { dt := m.mt c, id := m.id } := by
  unfold mtList
  simp only [List.mem_filterMap, Option.map_eq_some_iff, Option.isSome_iff_exists, exists_and_right, eq_comm (a := e)]

theorem mem_loadSt_q (s : HSt) (c : Chan) (e : Elt) :
    e ∈ ((loadSt s).q c).toList ↔ ∃ m ∈ s.msgs, (m.recs c).isSome = true ∧ e = { dt := m.mt c, id := m.id } := by
  rw [loadSt_q, ((foldl_insert (mtList s c) #[] heap_empty).2).mem_iff]
  simp only [List.append_nil]
  exact mem_mtList s c e

theorem filterMap_ids_sublist (f : Msg → Option Elt) (hf : ∀ m e, f m = some e → e.id = m.id) :
    ∀ l : List Msg, ((l.filterMap f).map (·.id)).Sublist (l.map (·.id)) := by
  intro l
  induction l with
  | nil => exact List.Sublist.refl _
  | cons x r ih =>
    rw [List.filterMap_cons]
    cases hx : f x with
    | none => simp only [List.map_cons]; exact List.Sublist.cons _ ih
    | some e =>
      simp only [List.map_cons]
      rw [hf x e hx]
      exact List.Sublist.cons_cons _ ih

theorem wf_loadSt {s : HSt} (hn : (s.msgs.map (·.id)).Nodup) : WF (loadSt s) := by
  refine ⟨?_, ?_, hn, ?_, ?_⟩
  · intro c; rw [loadSt_q]; exact (foldl_insert _ #[] heap_empty).1
  · exact (foldl_insert _ #[] heap_empty).1
  · intro c
    have hp := (foldl_insert (mtList s c) #[] heap_empty).2
    simp only [List.append_nil] at hp
    unfold ids
    rw [loadSt_q]
    refine ((hp.map (fun e : Elt => e.id)).nodup_iff).mpr ?_
    refine List.Sublist.nodup (filterMap_ids_sublist _ ?_ s.msgs) hn
    intro m e he
    cases hr : m.recs c with
    | none => rw [hr] at he; cases he
    | some x => rw [hr] at he; rw [← Option.some.inj he]
  · intro c e he
    obtain ⟨m, hm, hr, hee⟩ := (mem_loadSt_q s c e).mp he
    refine ⟨m, ?_, hr⟩
    rw [loadSt_find, hee]
    exact find_of_mem hn hm

theorem tracked_loadSt (s : HSt) : Tracked (loadSt s) := by
  intro m hm
  have hm' : m ∈ s.msgs := hm
  refine ⟨fun c hr => ?_, fun h0 h1 => ?_⟩
  · unfold ids
    exact List.mem_map.mpr ⟨{ dt := m.mt c, id := m.id }, (mem_loadSt_q s c _).mpr ⟨m, hm', hr, rfl⟩, rfl⟩
  · unfold ids
    have hp := (foldl_insert (expectedLoad s).2.2 #[] heap_empty).2
    simp only [List.append_nil] at hp
    refine List.mem_map.mpr ⟨{ dt := s.clock, id := m.id }, ?_, rfl⟩
    show _ ∈ ((expectedLoad s).2.2.foldl PQ.insert #[]).toList
    rw [hp.mem_iff]
    unfold expectedLoad
    simp only
    rw [List.mem_filterMap]
    exact ⟨m, hm', by simp [h0, h1]⟩

/-! ### exit and restart together -/

theorem owed_finWith {s : HSt} (hwf : WF s) {i : Nat} {c : Chan} {b r : Int} (ho : Owed i c b r s)
    (ok : Chan → Nat → Bool) (hok : ok c i = true) : Owed i c b r (loadSt (finWith ok s)) := by
  intro m' hm'
  rw [loadSt_find, finWith_find] at hm'
  obtain ⟨m, hm, rfl⟩ := Option.map_eq_some_iff.mp hm'
  obtain ⟨hb, h2⟩ := ho m hm
  refine ⟨hb, fun hfile => ?_⟩
  rw [touched_recs] at hfile
  obtain ⟨e, he, hei, hre⟩ := h2 hfile
  -- the file carries the due time of the heap entry, and `pqstart()` reads it back
  have hmem : touched (exitCalls ok s) i m ∈ (finWith ok s).msgs :=
    (find_some (by rw [finWith_find, hm]; rfl : (finWith ok s).find i = some (touched (exitCalls ok s) i m))).1
  refine ⟨_, (mem_loadSt_q _ c _).mpr ⟨_, hmem, by rw [touched_recs]; exact hfile, rfl⟩, (find_some hm).2, ?_⟩
  show r ≤ (touched (exitCalls ok s) i m).mt c
  rw [touched_mt, (exitCalls_mt hwf ok c i _).1 e he hei hok]; exact hre

theorem owed_restart {s : HSt} (hwf : WF s) {i : Nat} {c : Chan} {b r : Int} (ho : Owed i c b r s) :
    Owed i c b r (loadSt (finSt s)) := by
  rw [finSt_eq]; exact owed_finWith hwf ho _ rfl

theorem load_finWith_mem {s : HSt} (hwf : WF s) (ht : Tracked s) (ok : Chan → Nat → Bool) (c : Chan) (e : Elt) :
    e ∈ ((loadSt (finWith ok s)).q c).toList ↔
      ∃ e0 ∈ (s.q c).toList, e0.id = e.id ∧
        ((ok c e.id = true ∧ e.dt = e0.dt) ∨ (ok c e.id = false ∧ ∃ m, s.find e.id = some m ∧ e.dt = m.mt c)) := by
  have hn' : ((finWith ok s).msgs.map (·.id)).Nodup := by rw [finWith_ids]; exact hwf.nodupMsgs
  -- the new entries are the records with a channel-`c` file; these match the old heap entries by `Tracked` (→) and `WF.hasFile`
  -- (←), and the due time is the file's mtime after the exit, which `exitCalls_mt` evaluates according to `ok`
  rw [mem_loadSt_q]
  constructor
  · rintro ⟨m', hm', hr', hee⟩
    have hf' : (finWith ok s).find m'.id = some m' := find_of_mem hn' hm'
    rw [finWith_find] at hf'
    obtain ⟨m, hm, hmm⟩ := Option.map_eq_some_iff.mp hf'
    have hmid : m.id = m'.id := (find_some hm).2
    have hrec : (m.recs c).isSome = true := by rw [← touched_recs (exitCalls ok s) m'.id m c, hmm]; exact hr'
    obtain ⟨e0, he0, hie0⟩ := List.mem_map.mp ((ht m (find_some hm).1).1 c hrec)
    have heid : e.id = m'.id := by rw [hee]
    have hmt : e.dt = mtOf (exitCalls ok s c) m'.id (m.mt c) := by
      rw [hee]; exact (congrArg (fun x => x.mt c) hmm).symm.trans (touched_mt _ _ _ _)
    refine ⟨e0, he0, by rw [hie0, hmid, heid], ?_⟩
    rw [hmt, heid]
    cases hb : ok c m'.id with
    | false => exact Or.inr ⟨rfl, m, hm, (exitCalls_mt hwf ok c m'.id _).2 (Or.inr hb)⟩
    | true => exact Or.inl ⟨rfl, (exitCalls_mt hwf ok c m'.id _).1 e0 he0 (by rw [hie0, hmid]) hb⟩
  · rintro ⟨e0, he0, hie0, hcase⟩
    obtain ⟨m, hm, hr⟩ := hwf.hasFile c e0 he0
    rw [hie0] at hm
    have hf' : (finWith ok s).find e.id = some (touched (exitCalls ok s) e.id m) := by rw [finWith_find, hm]; rfl
    refine ⟨_, (find_some hf').1, by rw [touched_recs]; exact hr, ?_⟩
    have hdt : e.dt = mtOf (exitCalls ok s c) e.id (m.mt c) := by
      rcases hcase with ⟨hok, hdt⟩ | ⟨hb, m2, hm2, hdt⟩
      · rw [(exitCalls_mt hwf ok c e.id _).1 e0 he0 hie0 hok]; exact hdt
      · rw [hm] at hm2; cases hm2
        rw [(exitCalls_mt hwf ok c e.id _).2 (Or.inr hb)]; exact hdt
    cases e; simp only [Elt.mk.injEq]; exact ⟨by rw [touched_mt]; exact hdt, (find_some hm).2.symm⟩

theorem restart_mem {s : HSt} (hwf : WF s) (ht : Tracked s) (c : Chan) (e : Elt) :
    e ∈ ((loadSt (finSt s)).q c).toList ↔ e ∈ (s.q c).toList := by
  rw [finSt_eq, load_finWith_mem hwf ht]
  constructor
  · rintro ⟨e0, he0, hid, ⟨_, hdt⟩ | ⟨h, _⟩⟩
    · obtain ⟨d, i⟩ := e
      obtain ⟨d0, i0⟩ := e0
      simp only at hid hdt
      rw [hdt, ← hid]; exact he0
    · cases h
  · intro he; exact ⟨e, he, rfl, Or.inl ⟨rfl, rfl⟩⟩

theorem wf_finWith {s : HSt} (hwf : WF s) (ok : Chan → Nat → Bool) : WF (finWith ok s) := by
  refine ⟨fun c => by rw [finWith_q]; exact heap_empty, by rw [finWith_done]; exact hwf.heapDone,
    by rw [finWith_ids]; exact hwf.nodupMsgs, fun c => by rw [finWith_q]; exact List.nodup_nil, fun c e he => ?_⟩
  rw [finWith_q] at he; cases he

theorem wf_finSt {s : HSt} (hwf : WF s) : WF (finSt s) := by
  rw [finSt_eq]; exact wf_finWith hwf _

theorem dueby_restart {s : HSt} (hwf : WF s) (ht : Tracked s) {L : Int} (hd : DueBy L s) : DueBy L (loadSt (finSt s)) := by
  intro c e he m1 hm1
  -- the same entries, the same birth times, the same clock
  rw [restart_mem hwf ht] at he
  rw [loadSt_find, finSt_eq, finWith_find] at hm1
  obtain ⟨m, hm, rfl⟩ := Option.map_eq_some_iff.mp hm1
  rw [loadSt_clock, finSt_eq, finWith_clock, touched_birth]
  exact hd c e he m hm

theorem dueby_loadSt {s : HSt} (hn : (s.msgs.map (·.id)).Nodup) {L : Int} (hmt : MtimesDueBy L s) : DueBy L (loadSt s) := by
  intro c e he m hm
  obtain ⟨m0, hm0, hr0, hem⟩ := (mem_loadSt_q s c e).mp he
  rw [loadSt_find] at hm
  have hf := find_of_mem hn hm0
  have : m = m0 := by
    rw [hem] at hm
    rw [show ({ dt := m0.mt c, id := m0.id } : Elt).id = m0.id from rfl, hf] at hm
    exact (Option.some.inj hm).symm
  subst this
  rw [hem]
  exact hmt m hm0 c hr0

end Nq.Lemmas.SchedHist
