/-
  The state of the C15 daemon histories (`Nq.SchedHist.HSt`) and the shape of its changes.  Core Lean only.
  Every way a pass can end has the shape `(mkSt s c qn dn).update m'` — channel heap `c` and pqdone replaced, one message
  record replaced by one that differs on channel `c` only (`SameBut`), the new heap being the old one without the started
  message's entry (`Rest`) or that plus a new entry for it.  Each invariant (`WF`, `Tracked`, `DueBy`, the back-off
  obligation `Owed`) has one lemma about that shape (`*_chg`); for `WF`, `Tracked` and `Owed` its case "re-inserted" is
  `*_back`, and `wf_gone` is the case "not re-inserted".
-/
import Nq.Lemmas.SchedDaemon
import Nq.Lemmas.Basic
import Nq.Spec.SchedHist

namespace Nq.Lemmas.SchedHist
open Nq Nq.Sched Nq.SchedHist Nq.Spec.SchedHist Nq.Lemmas.Sched

/-! ### find, update and the field setters -/

theorem find_some {s : HSt} {i : Nat} {m : Msg} (h : s.find i = some m) : m ∈ s.msgs ∧ m.id = i := by
  unfold HSt.find at h
  have h1 := List.mem_of_find?_eq_some h
  have h2 := List.find?_some h
  exact ⟨h1, by simpa using h2⟩

theorem find_update_map (s : HSt) (m : Msg) (i : Nat) :
    (s.update m).find i = (s.find i).map fun x => if x.id == m.id then m else x := by
  unfold HSt.find HSt.update
  rw [List.find?_map]
  have : ((fun x : Msg => x.id == i) ∘ fun x => if x.id == m.id then m else x) = fun x => x.id == i := by
    funext x
    by_cases hx : (x.id == m.id) = true
    · simp only [Function.comp, hx, if_true]; rw [show x.id = m.id by simpa using hx]
    · simp only [Function.comp, hx]; rfl
  rw [this]

theorem find_update_self (s : HSt) (m m0 : Msg) (h : s.find m.id = some m0) : (s.update m).find m.id = some m := by
  have : (m0.id == m.id) = true := by simpa using (find_some h).2
  rw [find_update_map, h, Option.map_some, if_pos this]

theorem find_update_other (s : HSt) (m : Msg) (i : Nat) (hi : i ≠ m.id) : (s.update m).find i = s.find i := by
  rw [find_update_map]
  cases h : s.find i with
  | none => rfl
  | some x =>
    have : ¬ (x.id == m.id) = true := by rw [(find_some h).2]; simpa using hi
    rw [Option.map_some, if_neg this]

theorem find_update (h : HSt) (m' m0 : Msg) (hm : h.find m'.id = some m0) (i : Nat) :
    (h.update m').find i = if i = m'.id then some m' else h.find i := by
  by_cases hi : i = m'.id
  · rw [if_pos hi, hi]; exact find_update_self h m' m0 hm
  · rw [if_neg hi]; exact find_update_other h m' i hi

theorem replace_keys {α : Type} (key : α → Nat) (l : List α) (a : α) :
    (l.map fun x => if key x == key a then a else x).map key = l.map key := by
  rw [List.map_map]
  refine List.map_congr_left fun x _ => ?_
  by_cases hx : (key x == key a) = true
  · simp only [Function.comp, hx, if_true]; exact (by simpa using hx : key x = key a).symm
  · simp only [Function.comp, hx]; rfl

theorem mem_replace {α : Type} (key : α → Nat) {l : List α} {a x : α}
    (h : x ∈ l.map fun y => if key y == key a then a else y) : x = a ∨ (x ∈ l ∧ key x ≠ key a) := by
  obtain ⟨y, hy, hxy⟩ := List.mem_map.mp h
  by_cases hc : (key y == key a) = true
  · rw [if_pos hc] at hxy; exact Or.inl hxy.symm
  · rw [if_neg hc] at hxy; subst hxy; exact Or.inr ⟨hy, by simpa using hc⟩

theorem update_ids (s : HSt) (m : Msg) : (s.update m).msgs.map (·.id) = s.msgs.map (·.id) :=
  replace_keys Msg.id s.msgs m

theorem update_msgs_mem (s : HSt) (m' x : Msg) (h : x ∈ (s.update m').msgs) : x = m' ∨ (x ∈ s.msgs ∧ x.id ≠ m'.id) :=
  mem_replace Msg.id h

theorem update_self {s : HSt} (hn : (s.msgs.map (·.id)).Nodup) {m : Msg} (hm : m ∈ s.msgs) : s.update m = s := by
  have : (s.msgs.map fun x => if x.id == m.id then m else x) = s.msgs := by
    conv => rhs; rw [← List.map_id s.msgs]
    refine List.map_congr_left fun x hx => ?_
    by_cases hc : (x.id == m.id) = true
    · rw [if_pos hc]; exact (eq_of_nodup_map (·.id) _ hn x hx m hm (by simpa using hc)).symm
    · rw [if_neg hc]; rfl
  unfold HSt.update; rw [this]

theorem find_none_notin {s : HSt} {i : Nat} (h : s.find i = none) : i ∉ s.msgs.map (·.id) := by
  intro hin
  obtain ⟨m, hm, hid⟩ := List.mem_map.mp hin
  unfold HSt.find at h
  have := List.find?_eq_none.mp h m hm
  simp [hid] at this

theorem find_of_mem {s : HSt} (hn : (s.msgs.map (·.id)).Nodup) {m : Msg} (hm : m ∈ s.msgs) : s.find m.id = some m := by
  cases h : s.find m.id with
  | none => exact absurd (List.mem_map_of_mem hm) (find_none_notin h)
  | some x => rw [eq_of_nodup_map (·.id) _ hn x (find_some h).1 m hm (find_some h).2]

@[simp] theorem update_q (s : HSt) (m : Msg) (c : Chan) : (s.update m).q c = s.q c := by
  cases c <;> rfl
@[simp] theorem update_done (s : HSt) (m : Msg) : (s.update m).done = s.done := rfl
@[simp] theorem update_clock (s : HSt) (m : Msg) : (s.update m).clock = s.clock := rfl
@[simp] theorem update_lifetime (s : HSt) (m : Msg) : (s.update m).lifetime = s.lifetime := rfl
@[simp] theorem clock_q (s : HSt) (t : Int) (c : Chan) : ({ s with clock := t } : HSt).q c = s.q c := by cases c <;> rfl
@[simp] theorem msgs_q (s : HSt) (l : List Msg) (c : Chan) : ({ s with msgs := l } : HSt).q c = s.q c := by cases c <;> rfl
@[simp] theorem setQ_q_same (s : HSt) (c : Chan) (q : PQ) : (s.setQ c q).q c = q := by cases c <;> rfl
theorem setQ_q_other (s : HSt) (c c' : Chan) (q : PQ) (h : c' ≠ c) : (s.setQ c q).q c' = s.q c' := by
  cases c <;> cases c' <;> first | rfl | exact absurd rfl h
@[simp] theorem setQ_done (s : HSt) (c : Chan) (q : PQ) : (s.setQ c q).done = s.done := by cases c <;> rfl
@[simp] theorem setQ_msgs (s : HSt) (c : Chan) (q : PQ) : (s.setQ c q).msgs = s.msgs := by cases c <;> rfl
@[simp] theorem setQ_clock (s : HSt) (c : Chan) (q : PQ) : (s.setQ c q).clock = s.clock := by cases c <;> rfl
@[simp] theorem setQ_lifetime (s : HSt) (c : Chan) (q : PQ) : (s.setQ c q).lifetime = s.lifetime := by cases c <;> rfl
@[simp] theorem setQ_find (s : HSt) (c : Chan) (q : PQ) (i : Nat) : (s.setQ c q).find i = s.find i := by cases c <;> rfl

@[simp] theorem setRecs_same (m : Msg) (c : Chan) (r : Option (List Bool)) : (m.setRecs c r).recs c = r := by cases c <;> rfl
theorem setRecs_other (m : Msg) (c c' : Chan) (r : Option (List Bool)) (h : c' ≠ c) : (m.setRecs c r).recs c' = m.recs c' := by
  cases c <;> cases c' <;> first | rfl | exact absurd rfl h
@[simp] theorem setRecs_id (m : Msg) (c : Chan) (r : Option (List Bool)) : (m.setRecs c r).id = m.id := by cases c <;> rfl
@[simp] theorem setRecs_birth (m : Msg) (c : Chan) (r : Option (List Bool)) : (m.setRecs c r).birth = m.birth := by cases c <;> rfl
@[simp] theorem setRecs_mt (m : Msg) (c c' : Chan) (r : Option (List Bool)) : (m.setRecs c r).mt c' = m.mt c' := by
  cases c <;> cases c' <;> rfl
@[simp] theorem setMt_recs (m : Msg) (c c' : Chan) (t : Int) : (m.setMt c t).recs c' = m.recs c' := by
  cases c <;> cases c' <;> rfl
@[simp] theorem setMt_id (m : Msg) (c : Chan) (t : Int) : (m.setMt c t).id = m.id := by cases c <;> rfl
@[simp] theorem setMt_birth (m : Msg) (c : Chan) (t : Int) : (m.setMt c t).birth = m.birth := by cases c <;> rfl
@[simp] theorem setMt_same (m : Msg) (c : Chan) (t : Int) : (m.setMt c t).mt c = t := by cases c <;> rfl
theorem setMt_other (m : Msg) (c c' : Chan) (t : Int) (h : c' ≠ c) : (m.setMt c t).mt c' = m.mt c' := by
  cases c <;> cases c' <;> first | rfl | exact absurd rfl h

theorem setMt_setMt (m : Msg) (c : Chan) (a b : Int) : (m.setMt c a).setMt c b = m.setMt c b := by cases c <;> rfl
theorem setMt_self (m : Msg) (c : Chan) : m.setMt c (m.mt c) = m := by cases c <;> rfl

theorem other_ne (c : Chan) : other c ≠ c := by cases c <;> simp [other]
theorem eq_other_of_ne {c c' : Chan} (h : c' ≠ c) : c' = other c := by
  cases c <;> cases c' <;> first | rfl | exact absurd rfl h

/-! ### the shape of a state change: `(mkSt s c qn dn).update m'` -/

def mkSt (s : HSt) (c : Chan) (qn dn : PQ) : HSt := { (s.setQ c qn) with done := dn }

@[simp] theorem mkSt_q_same (s : HSt) (c : Chan) (qn dn : PQ) : (mkSt s c qn dn).q c = qn := by cases c <;> rfl
theorem mkSt_q_other (s : HSt) (c c' : Chan) (qn dn : PQ) (h : c' ≠ c) : (mkSt s c qn dn).q c' = s.q c' := by
  cases c <;> cases c' <;> first | rfl | exact absurd rfl h
@[simp] theorem mkSt_done (s : HSt) (c : Chan) (qn dn : PQ) : (mkSt s c qn dn).done = dn := by cases c <;> rfl
@[simp] theorem mkSt_msgs (s : HSt) (c : Chan) (qn dn : PQ) : (mkSt s c qn dn).msgs = s.msgs := by cases c <;> rfl
@[simp] theorem mkSt_clock (s : HSt) (c : Chan) (qn dn : PQ) : (mkSt s c qn dn).clock = s.clock := by cases c <;> rfl
@[simp] theorem mkSt_lifetime (s : HSt) (c : Chan) (qn dn : PQ) : (mkSt s c qn dn).lifetime = s.lifetime := by cases c <;> rfl
@[simp] theorem mkSt_find (s : HSt) (c : Chan) (qn dn : PQ) (i : Nat) : (mkSt s c qn dn).find i = s.find i := by cases c <;> rfl
theorem setQ_eq_mkSt (s : HSt) (c : Chan) (qn : PQ) : s.setQ c qn = mkSt s c qn s.done := by cases c <;> rfl

theorem wf_mkSt {s : HSt} (hwf : WF s) (c : Chan) (qn dn : PQ) (hh : Heap qn) (hd : Heap dn)
    (hn : (ids qn).Nodup)
    (hf : ∀ e ∈ qn.toList, ∃ m, s.find e.id = some m ∧ (m.recs c).isSome = true) : WF (mkSt s c qn dn) := by
  refine ⟨?_, by simpa using hd, by simpa using hwf.nodupMsgs, ?_, ?_⟩
  · intro c'
    by_cases h : c' = c
    · subst h; simpa using hh
    · rw [mkSt_q_other _ _ _ _ _ h]; exact hwf.heap c'
  · intro c'
    by_cases h : c' = c
    · subst h; simpa using hn
    · rw [mkSt_q_other _ _ _ _ _ h]; exact hwf.nodupQ c'
  · intro c'
    by_cases h : c' = c
    · subst h; simpa using hf
    · rw [mkSt_q_other _ _ _ _ _ h]; simpa using hwf.hasFile c'

theorem _root_.Nq.Spec.SchedHist.WF.file_of_ids {s : HSt} (hwf : WF s) {c : Chan} {i : Nat} (hi : i ∈ ids (s.q c)) :
    ∃ m, s.find i = some m ∧ (m.recs c).isSome = true := by
  obtain ⟨e, he, rfl⟩ := List.mem_map.mp hi
  exact hwf.hasFile c e he

theorem wf_update {s : HSt} (hwf : WF s) (m m' : Msg) (hm : s.find m'.id = some m)
    (hrec : ∀ c, m'.id ∈ ids (s.q c) → (m'.recs c).isSome = true) : WF (s.update m') := by
  refine ⟨by simpa using hwf.heap, by simpa using hwf.heapDone, by rw [update_ids]; exact hwf.nodupMsgs,
    by simpa using hwf.nodupQ, ?_⟩
  intro c e he
  rw [update_q] at he
  by_cases hid : e.id = m'.id
  · refine ⟨m', by rw [hid]; exact find_update_self s m' m hm, hrec c ?_⟩
    rw [← hid]; exact List.mem_map_of_mem he
  · rw [find_update_other s m' e.id hid]; exact hwf.hasFile c e he

theorem wf_update_keep {s : HSt} (hwf : WF s) {m m' : Msg} (hm : s.find m'.id = some m)
    (hrec : ∀ c, (m.recs c).isSome = true → (m'.recs c).isSome = true) : WF (s.update m') :=
  wf_update hwf m m' hm fun c hin => by
    obtain ⟨m2, hm2, hr2⟩ := hwf.file_of_ids hin
    rw [hm] at hm2; cases hm2; exact hrec c hr2

structure SameBut (c : Chan) (m m' : Msg) : Prop where
  id_eq : m'.id = m.id
  birth_eq : m'.birth = m.birth
  other_eq : m'.recs (other c) = m.recs (other c)

theorem SameBut.rfl {c : Chan} {m : Msg} : SameBut c m m := ⟨Eq.refl _, Eq.refl _, Eq.refl _⟩

theorem SameBut.recs_ne {c c' : Chan} {m m' : Msg} (hs : SameBut c m m') (hc : c' ≠ c) : m'.recs c' = m.recs c' := by
  rw [eq_other_of_ne hc]; exact hs.other_eq

theorem sameBut_setRecs (m : Msg) (c : Chan) (r : Option (List Bool)) : SameBut c m (m.setRecs c r) :=
  ⟨setRecs_id .., setRecs_birth .., setRecs_other _ _ _ _ (other_ne c)⟩

structure Rest (s : HSt) (c : Chan) (i : Nat) (q' : PQ) : Prop where
  heap : Heap q'
  nodup : (ids q').Nodup
  notin : i ∉ ids q'
  sub : ∀ e ∈ q'.toList, e ∈ (s.q c).toList
  sup : ∀ e ∈ (s.q c).toList, e.id ≠ i → e ∈ q'.toList

theorem Rest.ids_sup {s : HSt} {c : Chan} {i0 : Nat} {q' : PQ} (hr : Rest s c i0 q') {i : Nat} (hi : i ∈ ids (s.q c))
    (hne : i ≠ i0) : i ∈ ids q' := by
  obtain ⟨e, he, rfl⟩ := List.mem_map.mp hi
  exact List.mem_map_of_mem (hr.sup e he hne)

theorem Rest.ids_sub {s : HSt} {c : Chan} {i0 : Nat} {q' : PQ} (hr : Rest s c i0 q') {i : Nat} (hi : i ∈ ids q') :
    i ∈ ids (s.q c) := by
  obtain ⟨e, he, rfl⟩ := List.mem_map.mp hi
  exact List.mem_map_of_mem (hr.sub e he)

theorem ids_insert (q : PQ) (e : Elt) : (ids (q.insert e)).Perm (e.id :: ids q) :=
  (insert_perm q e).map Elt.id

theorem ids_insert_self (q : PQ) (e : Elt) : e.id ∈ ids (q.insert e) :=
  (ids_insert q e).mem_iff.mpr (List.mem_cons_self ..)

theorem ids_insert_of_mem (q : PQ) (e : Elt) {i : Nat} (hi : i ∈ ids q) : i ∈ ids (q.insert e) :=
  (ids_insert q e).mem_iff.mpr (List.mem_cons_of_mem _ hi)

theorem recs_none_of_both (m : Msg) (c : Chan) (h0 : m.recs0 = none) (h1 : m.recs1 = none) : m.recs c = none ∧ m.recs (other c) = none := by
  cases c
  · exact ⟨h0, h1⟩
  · exact ⟨h1, h0⟩

theorem two_of_none (m : Msg) (c : Chan) (h0 : m.recs c = none) (h1 : m.recs (other c) = none) : m.recs0 = none ∧ m.recs1 = none := by
  cases c
  · exact ⟨h0, h1⟩
  · exact ⟨h1, h0⟩

/-- message `i` (born at `b`), while it still has its channel-`c` file, is scheduled on `c` no earlier than `r` -/
def Owed (i : Nat) (c : Chan) (b r : Int) (s : HSt) : Prop :=
  ∀ m, s.find i = some m → m.birth = b ∧
    ((m.recs c).isSome = true → ∃ e ∈ (s.q c).toList, e.id = i ∧ r ≤ e.dt)

theorem owed_entry {s : HSt} (hwf : WF s) {i : Nat} {c : Chan} {b r : Int} (ho : Owed i c b r s) {e : Elt}
    (he : e ∈ (s.q c).toList) (hei : e.id = i) : r ≤ e.dt := by
  obtain ⟨m, hm, hfile⟩ := hwf.hasFile c e he
  obtain ⟨e', he', hei', hre⟩ := (ho m (hei ▸ hm)).2 hfile
  rw [eq_of_nodup_map (fun x : Elt => x.id) (s.q c).toList (hwf.nodupQ c) e he e' he' (hei.trans hei'.symm)]; exact hre

/-- clock and lifetime stand still and every message keeps its birth time -/
structure SameBirths (s s' : HSt) : Prop where
  clock : s'.clock = s.clock
  lifetime : s'.lifetime = s.lifetime
  msgs : ∀ x ∈ s'.msgs, ∃ y ∈ s.msgs, x.birth = y.birth
  find : ∀ i m, s.find i = some m → ∃ m', s'.find i = some m' ∧ m'.birth = m.birth

theorem SameBirths.rfl {s : HSt} : SameBirths s s := ⟨Eq.refl _, Eq.refl _, fun x hx => ⟨x, hx, Eq.refl _⟩, fun _ m hm => ⟨m, hm, Eq.refl _⟩⟩

section change
variable {s : HSt} {c : Chan} {qn dn q' : PQ} {i0 : Nat} {m m' : Msg}

theorem find_chg (hm : s.find i0 = some m) (hs : SameBut c m m') (i : Nat) :
    ((mkSt s c qn dn).update m').find i = if i = i0 then some m' else s.find i := by
  obtain rfl := (find_some hm).2
  rw [find_update _ m' m (by rw [hs.id_eq, mkSt_find]; exact hm), hs.id_eq, mkSt_find]

theorem wf_chg (hwf : WF s) (hm : s.find i0 = some m) (hs : SameBut c m m') (hh : Heap qn) (hd : Heap dn)
    (hn : (ids qn).Nodup) (hf : ∀ e ∈ qn.toList, ∃ m, s.find e.id = some m ∧ (m.recs c).isSome = true)
    (hrc : i0 ∈ ids qn → (m'.recs c).isSome = true) : WF ((mkSt s c qn dn).update m') := by
  obtain rfl := (find_some hm).2
  refine wf_update (wf_mkSt hwf c qn dn hh hd hn hf) m m' (by rw [hs.id_eq, mkSt_find]; exact hm) ?_
  intro c' hin
  rw [hs.id_eq] at hin
  by_cases hc : c' = c
  · subst hc; rw [mkSt_q_same] at hin; exact hrc hin
  · -- on the other channel the message keeps the file its entry there stands for
    rw [mkSt_q_other _ _ _ _ _ hc] at hin
    obtain ⟨m2, hm2, hr2⟩ := hwf.file_of_ids hin
    rw [hm] at hm2; cases hm2
    rw [hs.recs_ne hc]; exact hr2

theorem tracked_chg (ht : Tracked s) (hm : s.find i0 = some m) (hs : SameBut c m m')
    (hq : ∀ i ∈ ids (s.q c), i ≠ i0 → i ∈ ids qn) (hd : ∀ i ∈ ids s.done, i ∈ ids dn)
    (hrc : (m'.recs c).isSome = true → i0 ∈ ids qn)
    (hgone : m'.recs c = none → m.recs (other c) = none → i0 ∈ ids dn) :
    Tracked ((mkSt s c qn dn).update m') := by
  obtain rfl := (find_some hm).2
  intro x hx
  rcases update_msgs_mem _ _ _ hx with rfl | ⟨hx, hne⟩
  · rw [hs.id_eq]
    refine ⟨fun c' hr' => ?_, fun n0 n1 => ?_⟩
    · rw [update_q]
      by_cases hc : c' = c
      · subst hc; rw [mkSt_q_same]; exact hrc hr'
      · rw [mkSt_q_other _ _ _ _ _ hc]
        rw [hs.recs_ne hc] at hr'
        exact (ht m (find_some hm).1).1 c' hr'
    · rw [update_done, mkSt_done]
      obtain ⟨k0, k1⟩ := recs_none_of_both _ c n0 n1
      exact hgone k0 (by rw [← hs.other_eq]; exact k1)
  · rw [mkSt_msgs] at hx
    rw [hs.id_eq] at hne
    obtain ⟨t1, t2⟩ := ht x hx
    refine ⟨fun c' hr' => ?_, fun n0 n1 => by rw [update_done, mkSt_done]; exact hd _ (t2 n0 n1)⟩
    rw [update_q]
    by_cases hc : c' = c
    · subst hc; rw [mkSt_q_same]; exact hq _ (t1 c' hr') hne
    · rw [mkSt_q_other _ _ _ _ _ hc]; exact t1 c' hr'

theorem owed_chg {i : Nat} {c0 : Chan} {b r : Int} (ho : Owed i c0 b r s) (hm : s.find i0 = some m) (hs : SameBut c m m')
    (hq : ∀ e ∈ (s.q c).toList, e.id ≠ i0 → e ∈ qn.toList)
    (hself : i0 = i → c = c0 → (m'.recs c).isSome = true → ∃ e ∈ qn.toList, e.id = i ∧ r ≤ e.dt) :
    Owed i c0 b r ((mkSt s c qn dn).update m') := by
  intro m1 hm1
  rw [find_chg hm hs] at hm1
  rw [update_q]
  by_cases hi : i = i0
  · rw [if_pos hi] at hm1; cases hm1
    subst hi
    obtain ⟨hb, h2⟩ := ho m hm
    refine ⟨hs.birth_eq.trans hb, fun hfile => ?_⟩
    by_cases hc : c0 = c
    · subst hc; rw [mkSt_q_same]; exact hself rfl rfl hfile
    · rw [mkSt_q_other _ _ _ _ _ hc]
      rw [hs.recs_ne hc] at hfile
      exact h2 hfile
  · rw [if_neg hi] at hm1
    obtain ⟨hb, h2⟩ := ho m1 hm1
    refine ⟨hb, fun hfile => ?_⟩
    obtain ⟨e, he, hei, hre⟩ := h2 hfile
    by_cases hc : c0 = c
    · subst hc; rw [mkSt_q_same]; exact ⟨e, hq e he (by rw [hei]; exact hi), hei, hre⟩
    · rw [mkSt_q_other _ _ _ _ _ hc]; exact ⟨e, he, hei, hre⟩

theorem dueby_chg {L : Int} (hd : DueBy L s) (hm : s.find i0 = some m) (hs : SameBut c m m')
    (hq : ∀ e ∈ qn.toList, e ∈ (s.q c).toList ∨ (e.id = i0 ∧ (e.dt ≤ expiryBound L m.birth c ∨ e.dt ≤ s.clock))) :
    DueBy L ((mkSt s c qn dn).update m') := by
  intro c' e he m1 hm1
  rw [update_clock, mkSt_clock]
  rw [update_q] at he
  obtain ⟨m0, hm0, hb⟩ : ∃ m0, s.find e.id = some m0 ∧ m1.birth = m0.birth := by
    rw [find_chg hm hs] at hm1
    by_cases hi : e.id = i0
    · rw [if_pos hi] at hm1; cases hm1; exact ⟨m, by rw [hi]; exact hm, hs.birth_eq⟩
    · rw [if_neg hi] at hm1; exact ⟨m1, hm1, Eq.refl _⟩
  rw [hb]
  by_cases hc : c' = c
  · subst hc
    rw [mkSt_q_same] at he
    rcases hq e he with h | ⟨hi, h⟩
    · exact hd c' e h m0 hm0
    · rw [hi, hm] at hm0; cases hm0; exact h
  · rw [mkSt_q_other _ _ _ _ _ hc] at he; exact hd c' e he m0 hm0

theorem frame_chg (hm : s.find i0 = some m) (hs : SameBut c m m') : SameBirths s ((mkSt s c qn dn).update m') := by
  refine ⟨by simp, by simp, fun x hx => ?_, fun i m1 hm1 => ?_⟩
  · rcases update_msgs_mem _ _ _ hx with rfl | ⟨h, _⟩
    · exact ⟨m, (find_some hm).1, hs.birth_eq⟩
    · exact ⟨x, by simpa using h, Eq.refl _⟩
  · rw [find_chg hm hs]
    by_cases hi : i = i0
    · rw [if_pos hi]; rw [hi, hm] at hm1; cases hm1; exact ⟨m', Eq.refl _, hs.birth_eq⟩
    · rw [if_neg hi]; exact ⟨m1, hm1, Eq.refl _⟩

theorem wf_back (hwf : WF s) (hr : Rest s c i0 q') (hm : s.find i0 = some m) (hfile : (m.recs c).isSome = true)
    (hs : SameBut c m m') (hrc : (m'.recs c).isSome = true) (x : Int) :
    WF ((mkSt s c (q'.insert { dt := x, id := i0 }) s.done).update m') := by
  refine wf_chg hwf hm hs (insert_spec q' _ hr.heap).1 hwf.heapDone
    ((ids_insert q' _).nodup_iff.mpr (List.nodup_cons.mpr ⟨hr.notin, hr.nodup⟩)) ?_ (fun _ => hrc)
  intro e he
  rcases (mem_insert q' _ e).mp he with rfl | he
  · exact ⟨m, hm, hfile⟩
  · exact hwf.hasFile c e (hr.sub e he)

theorem tracked_back (ht : Tracked s) (hr : Rest s c i0 q') (hm : s.find i0 = some m) (hs : SameBut c m m')
    (hrc : (m'.recs c).isSome = true) (x : Int) :
    Tracked ((mkSt s c (q'.insert { dt := x, id := i0 }) s.done).update m') :=
  tracked_chg ht hm hs (fun _ hi hne => ids_insert_of_mem q' _ (hr.ids_sup hi hne)) (fun _ h => h)
    (fun _ => ids_insert_self q' _) (fun h => by rw [h] at hrc; cases hrc)

theorem owed_back {i : Nat} {c0 : Chan} {b r : Int} (ho : Owed i c0 b r s) (hr : Rest s c i0 q') (hm : s.find i0 = some m)
    (hs : SameBut c m m') (x : Int) (hx : i0 = i → c = c0 → r ≤ x) :
    Owed i c0 b r ((mkSt s c (q'.insert { dt := x, id := i0 }) s.done).update m') :=
  owed_chg ho hm hs (fun e he hne => (mem_insert q' _ e).mpr (Or.inr (hr.sup e he hne)))
    (fun hi hc _ => ⟨_, (mem_insert q' _ _).mpr (Or.inl (Eq.refl _)), hi, hx hi hc⟩)

theorem owed_init_back (hm : s.find i0 = some m) (hs : SameBut c m m') (x : Int) :
    Owed i0 c m.birth x ((mkSt s c (q'.insert { dt := x, id := i0 }) s.done).update m') := by
  intro m1 hm1
  rw [find_chg hm hs, if_pos rfl] at hm1; cases hm1
  rw [update_q, mkSt_q_same]
  exact ⟨hs.birth_eq, fun _ => ⟨_, (mem_insert q' _ _).mpr (Or.inl (Eq.refl _)), Eq.refl _, Int.le_refl _⟩⟩

theorem wf_gone (hwf : WF s) (hr : Rest s c i0 q') (hm : s.find i0 = some m) (hs : SameBut c m m') (hd : Heap dn) :
    WF ((mkSt s c q' dn).update m') :=
  wf_chg hwf hm hs hr.heap hd hr.nodup (fun e he => hwf.hasFile c e (hr.sub e he)) (fun h => absurd h hr.notin)

end change

theorem wf_clock {s : HSt} (hwf : WF s) (t : Int) : WF { s with clock := t } :=
  ⟨fun c => by rw [clock_q]; exact hwf.heap c, hwf.heapDone, hwf.nodupMsgs,
   fun c => by rw [clock_q]; exact hwf.nodupQ c, fun c => by rw [clock_q]; exact hwf.hasFile c⟩

theorem tracked_clock {s : HSt} (ht : Tracked s) (t : Int) : Tracked { s with clock := t } := by
  intro m hm
  obtain ⟨t1, t2⟩ := ht m hm
  exact ⟨fun c hr => by rw [clock_q]; exact t1 c hr, t2⟩

end Nq.Lemmas.SchedHist
