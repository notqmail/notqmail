/-
  Invariants of the fine-grained daemon histories `Nq.SchedPass.pstep` (passes that are not atomic):
  well-formedness `WFp`, and the back-off obligation `OwedP` — `SchedHist.Owed` for states with open jobs — across
  clock ticks, work on either channel, reports, TERM, exit and restart.  Core Lean only.
-/
import Nq.Lemmas.SchedHistPass
import Nq.Lemmas.SchedHistRestart
import Nq.SchedPass
import Nq.Spec.SchedHist

namespace Nq.Lemmas.SchedPass
open Nq Nq.Sched Nq.SchedHist Nq.SchedPass Nq.Spec.SchedHist Nq.Lemmas.Sched Nq.Lemmas.SchedHist

@[simp] theorem setJobs_same (s : PSt) (c : Chan) (l : List OJob) : (s.setJobs c l).jobs c = l := by cases c <;> rfl
theorem setJobs_other (s : PSt) (c c' : Chan) (l : List OJob) (h : c' ≠ c) : (s.setJobs c l).jobs c' = s.jobs c' := by
  cases c <;> cases c' <;> first | rfl | exact absurd rfl h
theorem mem_setJobs {s : PSt} {c c' : Chan} {l : List OJob} {x : OJob} (h : x ∈ (s.setJobs c l).jobs c') :
    (c' = c ∧ x ∈ l) ∨ (c' ≠ c ∧ x ∈ s.jobs c') := by
  by_cases hc : c' = c
  · subst hc; rw [setJobs_same] at h; exact Or.inl ⟨rfl, h⟩
  · rw [setJobs_other _ _ _ _ hc] at h; exact Or.inr ⟨hc, h⟩
@[simp] theorem setJobs_h (s : PSt) (c : Chan) (l : List OJob) : (s.setJobs c l).h = s.h := by cases c <;> rfl
@[simp] theorem setJobs_up (s : PSt) (c : Chan) (l : List OJob) : (s.setJobs c l).up = s.up := by cases c <;> rfl
@[simp] theorem setJobs_exit (s : PSt) (c : Chan) (l : List OJob) : (s.setJobs c l).exitasap = s.exitasap := by cases c <;> rfl
@[simp] theorem setH_h (s : PSt) (h : HSt) : (s.setH h).h = h := rfl
@[simp] theorem setH_jobs (s : PSt) (h : HSt) (c : Chan) : (s.setH h).jobs c = s.jobs c := by cases c <;> rfl
@[simp] theorem setH_up (s : PSt) (h : HSt) : (s.setH h).up = s.up := rfl
@[simp] theorem setH_exit (s : PSt) (h : HSt) : (s.setH h).exitasap = s.exitasap := rfl

/-! ### the job lists -/

theorem mem_updJob {l : List OJob} {j x : OJob} (h : x ∈ updJob l j) : x = j ∨ (x ∈ l ∧ x.id ≠ j.id) :=
  mem_replace OJob.id h

theorem updJob_ids (l : List OJob) (j : OJob) : (updJob l j).map (·.id) = l.map (·.id) :=
  replace_keys OJob.id l j

theorem mem_delJob {l : List OJob} {i : Nat} {x : OJob} : x ∈ delJob l i ↔ x ∈ l ∧ x.id ≠ i := by
  unfold delJob; simp

theorem delJob_nodup {l : List OJob} (i : Nat) (h : (l.map (·.id)).Nodup) : ((delJob l i).map (·.id)).Nodup := by
  unfold delJob
  exact List.Nodup.sublist (List.Sublist.map _ List.filter_sublist) h

theorem find?_some_mem {α : Type} {l : List α} {p : α → Bool} {j : α} (h : l.find? p = some j) : j ∈ l ∧ p j = true :=
  ⟨List.mem_of_find?_eq_some h, List.find?_some h⟩

theorem job?_some {s : PSt} {c : Chan} {i : Nat} {j : OJob} (h : s.job? c i = some j) : j ∈ s.jobs c ∧ j.id = i := by
  obtain ⟨hm, hp⟩ := find?_some_mem (show (s.jobs c).find? (·.id == i) = some j from h)
  exact ⟨hm, by simpa using hp⟩

/-! ### well-formedness -/

/-- consistency of a fine-grained daemon state: the queue side is well-formed (`WF`); the message of an open job is
not on its channel heap, has its channel file, and the job's retry time is `nextretry` of the time it was opened;
at most one job per (message, channel); a job is referenced by its pass or by a delivery in flight. -/
structure WFp (s : PSt) : Prop where
  wf : WF s.h
  jobNotQ : ∀ c, ∀ j ∈ s.jobs c, j.id ∉ ids (s.h.q c)
  jobNodup : ∀ c, ((s.jobs c).map (·.id)).Nodup
  jobFile : ∀ c, ∀ j ∈ s.jobs c, ∃ m, s.h.find j.id = some m ∧ (m.recs c).isSome = true ∧
    j.job.retry = nextretry j.opened m.birth c
  jobLive : ∀ c, ∀ j ∈ s.jobs c, j.scanning = true ∨ j.inflight ≠ []

theorem wfp_init (h : HSt) (hwf : WF h) (e : Bool) (u : Bool) : WFp { h := h, j0 := [], j1 := [], exitasap := e, up := u } := by
  refine ⟨hwf, ?_, ?_, ?_, ?_⟩
  · intro c j hj; cases c <;> cases hj
  · intro c; cases c <;> exact List.nodup_nil
  · intro c j hj; cases c <;> cases hj
  · intro c j hj; cases c <;> cases hj

theorem wfp_congr {s s' : PSt} (hw : WFp s) (hwf : WF s'.h) (hj : ∀ c, s'.jobs c = s.jobs c) (hq : ∀ c, s'.h.q c = s.h.q c)
    (hfind : ∀ i, s'.h.find i = s.h.find i) : WFp s' :=
  ⟨hwf, fun c => by rw [hj, hq]; exact hw.jobNotQ c, fun c => by rw [hj]; exact hw.jobNodup c,
   fun c => by rw [hj]; simp only [hfind]; exact hw.jobFile c, fun c => by rw [hj]; exact hw.jobLive c⟩

theorem tick_q (s : PSt) (t : Int) (c : Chan) : (s.setH { s.h with clock := t }).h.q c = s.h.q c := clock_q s.h t c

theorem wfp_tick {s : PSt} (hw : WFp s) (t : Int) : WFp (s.setH { s.h with clock := t }) :=
  wfp_congr hw (wf_clock hw.wf t) (fun _ => setH_jobs ..) (tick_q s t) (fun _ => rfl)

theorem wfp_term {s : PSt} (hw : WFp s) : WFp { s with exitasap := true } :=
  wfp_congr hw hw.wf (fun c => by cases c <;> rfl) (fun _ => rfl) (fun _ => rfl)

theorem wfp_updJob {s : PSt} (hw : WFp s) (c : Chan) {j j' : OJob} (hj : j ∈ s.jobs c)
    (hid : j'.id = j.id) (hjob : j'.job = j.job) (hop : j'.opened = j.opened)
    (hlive : j'.scanning = true ∨ j'.inflight ≠ []) : WFp (s.setJobs c (updJob (s.jobs c) j')) := by
  have hmem : ∀ c', ∀ x ∈ (s.setJobs c (updJob (s.jobs c) j')).jobs c', (x = j' ∧ c' = c) ∨ x ∈ s.jobs c' := by
    intro c' x hx
    rcases mem_setJobs hx with ⟨rfl, hx⟩ | ⟨_, hx⟩
    · rcases mem_updJob hx with h | h
      · exact Or.inl ⟨h, rfl⟩
      · exact Or.inr h.1
    · exact Or.inr hx
  refine ⟨by rw [setJobs_h]; exact hw.wf, ?_, ?_, ?_, ?_⟩
  · intro c' x hx; rw [setJobs_h]
    rcases hmem c' x hx with ⟨h, hc⟩ | h
    · subst h; subst hc; rw [hid]; exact hw.jobNotQ _ j hj
    · exact hw.jobNotQ c' x h
  · intro c'
    by_cases hc : c' = c
    · subst hc; rw [setJobs_same, updJob_ids]; exact hw.jobNodup _
    · rw [setJobs_other _ _ _ _ hc]; exact hw.jobNodup c'
  · intro c' x hx; rw [setJobs_h]
    rcases hmem c' x hx with ⟨h, hc⟩ | h
    · subst h; subst hc; rw [hid, hjob, hop]; exact hw.jobFile _ j hj
    · exact hw.jobFile c' x h
  · intro c' x hx
    rcases hmem c' x hx with ⟨h, hc⟩ | h
    · subst h; exact hlive
    · exact hw.jobLive c' x h

/-! ### `WFp` through job_close -/

theorem closeH_cases (h : HSt) (c : Chan) (j : OJob) (m : Msg) :
    (j.deferred ≠ 0 ∧ closeH h c j m = (mkSt h c ((h.q c).insert { dt := j.job.retry, id := j.id }) h.done).update m) ∨
    (j.deferred = 0 ∧ ∃ d', (d' = h.done ∨ d' = h.done.insert { dt := h.clock, id := j.id }) ∧
      closeH h c j m = (mkSt h c (h.q c) d').update (m.setRecs c none)) := by
  unfold closeH
  rcases jobCloseF_cases (Eq.refl (jobCloseF j.job j.id true j.deferred true (statOf m (other c)) h.clock (h.q c) h.done)) with
    ⟨hr, hd, (⟨hn | ⟨⟨⟩⟩, hc⟩ | ⟨_, _, hu, _⟩)⟩ | ⟨_, hn, _, hr, hc, hd⟩
  · left; refine ⟨hn, ?_⟩
    simp only [hr, hd, hc, Bool.false_eq_true, if_false]; rfl
  · cases hu
  · right; refine ⟨hn, ?_⟩
    rcases hd with ⟨_, hd⟩ | ⟨_, hd⟩
    · exact ⟨h.done, Or.inl rfl, by simp only [hr, hc, hd, if_true]; rfl⟩
    · exact ⟨_, Or.inr rfl, by simp only [hr, hc, hd, if_true]; rfl⟩

theorem closeSt_eq {s : PSt} {c : Chan} {j j' : OJob} {m : Msg} (hid : j'.id = j.id) (hm : s.h.find j.id = some m) :
    closeSt s c j' = (s.setJobs c (delJob (s.jobs c) j.id)).setH (closeH s.h c j' m) := by
  unfold closeSt; rw [hid, hm]

theorem rest_of_job {s : PSt} (hw : WFp s) {c : Chan} {j : OJob} (hj : j ∈ s.jobs c) : Rest s.h c j.id (s.h.q c) :=
  ⟨hw.wf.heap c, hw.wf.nodupQ c, hw.jobNotQ c j hj, fun _ h => h, fun _ h _ => h⟩

theorem wfp_chg {s : PSt} (hw : WFp s) {c : Chan} {i0 : Nat} {m m' : Msg} {qn dn : PQ} (hm : s.h.find i0 = some m)
    (hs : SameBut c m m') (hwf : WF ((mkSt s.h c qn dn).update m')) (hq : ∀ i ∈ ids qn, i = i0 ∨ i ∈ ids (s.h.q c)) :
    WFp ((s.setJobs c (delJob (s.jobs c) i0)).setH ((mkSt s.h c qn dn).update m')) := by
  -- the jobs that remain are the old ones without the job of `i0` on `c`; each clause of `WFp` is inherited for them, since
  -- the heap of `c` gained at most `i0` (`hq`) and the record of `i0` changed on channel `c` only (`hs`)
  have hrem : ∀ c', ∀ x ∈ ((s.setJobs c (delJob (s.jobs c) i0)).setH ((mkSt s.h c qn dn).update m')).jobs c',
      x ∈ s.jobs c' ∧ ¬ (x.id = i0 ∧ c' = c) := by
    intro c' x hx
    rw [setH_jobs] at hx
    rcases mem_setJobs hx with ⟨rfl, hx⟩ | ⟨hc, hx⟩
    · obtain ⟨h1, h2⟩ := mem_delJob.mp hx
      exact ⟨h1, fun h => h2 h.1⟩
    · exact ⟨hx, fun h => hc h.2⟩
  refine ⟨hwf, fun c' x hx hin => ?_, fun c' => ?_, fun c' x hx => ?_, fun c' x hx => hw.jobLive c' x (hrem c' x hx).1⟩
  · obtain ⟨hx1, hx2⟩ := hrem c' x hx
    rw [setH_h, update_q] at hin
    by_cases hc : c' = c
    · subst hc; rw [mkSt_q_same] at hin
      rcases hq _ hin with h | h
      · exact hx2 ⟨h, rfl⟩
      · exact hw.jobNotQ _ x hx1 h
    · rw [mkSt_q_other _ _ _ _ _ hc] at hin; exact hw.jobNotQ c' x hx1 hin
  · rw [setH_jobs]
    by_cases hc : c' = c
    · subst hc; rw [setJobs_same]; exact delJob_nodup _ (hw.jobNodup _)
    · rw [setJobs_other _ _ _ _ hc]; exact hw.jobNodup c'
  · obtain ⟨hx1, hx2⟩ := hrem c' x hx
    obtain ⟨mx, hmx, hrx, hret⟩ := hw.jobFile c' x hx1
    rw [setH_h, find_chg hm hs]
    by_cases hi : x.id = i0
    · rw [if_pos hi]
      rw [hi, hm] at hmx; cases hmx
      have hc : c' ≠ c := fun h => hx2 ⟨hi, h⟩
      exact ⟨m', rfl, by rw [hs.recs_ne hc]; exact hrx, by rw [hs.birth_eq]; exact hret⟩
    · rw [if_neg hi]; exact ⟨mx, hmx, hrx, hret⟩

theorem wfp_closeSt {s : PSt} (hw : WFp s) (c : Chan) {j j' : OJob} (hj : j ∈ s.jobs c)
    (hid : j'.id = j.id) : WFp (closeSt s c j') := by
  obtain ⟨m, hm, hrec, _⟩ := hw.jobFile c j hj
  have hr := rest_of_job hw hj
  rw [closeSt_eq hid hm]
  rcases closeH_cases s.h c j' m with ⟨_, hH⟩ | ⟨_, d', hd', hH⟩
  · -- recipients left: back into the channel heap at `retry`
    rw [hH, hid]
    refine wfp_chg hw hm .rfl (wf_back hw.wf hr hm hrec .rfl hrec _) fun i hi => ?_
    exact List.mem_cons.mp ((ids_insert _ _).mem_iff.mp hi)
  · -- every recipient done: the channel file is removed
    rw [hH]
    refine wfp_chg hw hm (sameBut_setRecs m c none) (wf_gone hw.wf hr hm (sameBut_setRecs m c none) ?_) fun i hi => Or.inr hi
    rcases hd' with rfl | rfl
    · exact hw.wf.heapDone
    · exact (insert_spec _ _ hw.wf.heapDone).1

/-- `settle` is job_close, or the job stays open: its pass still scans or a delivery is in flight -/
theorem settle_cases (s : PSt) (c : Chan) (j : OJob) :
    settle s c j = closeSt s c j ∨
    ((j.scanning = true ∨ j.inflight ≠ []) ∧ settle s c j = s.setJobs c (updJob (s.jobs c) j)) := by
  unfold settle
  by_cases hdone : (!j.scanning && j.inflight.isEmpty) = true
  · rw [if_pos hdone]; exact Or.inl rfl
  · rw [if_neg hdone]
    refine Or.inr ⟨?_, rfl⟩
    cases hs : j.scanning with
    | true => exact Or.inl rfl
    | false =>
      right
      intro he
      apply hdone
      simp [hs, he]

theorem wfp_settle {s : PSt} (hw : WFp s) (c : Chan) {j j' : OJob} (hj : j ∈ s.jobs c)
    (hid : j'.id = j.id) (hjob : j'.job = j.job) (hop : j'.opened = j.opened) : WFp (settle s c j') := by
  rcases settle_cases s c j' with h | ⟨hlive, h⟩
  · rw [h]; exact wfp_closeSt hw c hj hid
  · rw [h]; exact wfp_updJob hw c hj hid hjob hop hlive

/-! ### `WFp` through each step -/

theorem openSt_cases (s : PSt) (c : Chan) :
    openSt s c = s ∨
    (s.up = true ∧ s.exitasap = false ∧ ∃ pe q' m, passStart s.h.clock true (s.h.q c) = some (pe, q') ∧
      s.h.find pe.id = some m ∧
      openSt s c = (s.setJobs c ({ id := pe.id, job := jobOpen s.h.clock s.h.lifetime m.birth c, opened := s.h.clock } :: s.jobs c)).setH
        (s.h.setQ c q')) := by
  unfold openSt
  by_cases hg : (!s.up || s.exitasap || (s.jobs c).any (·.scanning)) = true
  · left; rw [if_pos hg]
  · rw [if_neg hg]
    obtain ⟨⟨hup, hex⟩, _⟩ : (s.up = true ∧ s.exitasap = false) ∧ ∀ x ∈ s.jobs c, x.scanning = false := by simpa using hg
    cases hp : passStart s.h.clock true (s.h.q c) with
    | none => left; rfl
    | some rr =>
      obtain ⟨pe, q'⟩ := rr
      cases hm : s.h.find pe.id with
      | none => left; simp only [hm]
      | some m => right; exact ⟨hup, hex, pe, q', m, rfl, hm, by simp only [hm]⟩

theorem wfp_openSt {s : PSt} (hw : WFp s) (c : Chan) : WFp (openSt s c) := by
  rcases openSt_cases s c with h | ⟨_, _, pe, q', m0, hp, hm0, h⟩
  · rw [h]; exact hw
  · rw [h]
    have hst := starts hw.wf hp
    obtain ⟨recs, hr⟩ := hst.recs hm0
    have hpid : pe.id ∈ ids (s.h.q c) := List.mem_map_of_mem hst.mem
    have hwf1 : WF (s.h.setQ c q') := by
      rw [setQ_eq_mkSt]
      exact wf_mkSt hw.wf c q' s.h.done hst.rest.heap hw.wf.heapDone hst.rest.nodup
        fun e he => hw.wf.hasFile c e (hst.rest.sub e he)
    refine ⟨by rw [setH_h]; exact hwf1, ?_, ?_, ?_, ?_⟩
    · intro c' x hx
      rw [setH_h]; rw [setH_jobs] at hx
      rcases mem_setJobs hx with ⟨rfl, hx⟩ | ⟨hc, hx⟩
      · rw [setQ_q_same]
        rcases List.mem_cons.mp hx with hx | hx
        · subst hx; exact hst.rest.notin
        · exact fun hi => hw.jobNotQ _ x hx (hst.rest.ids_sub hi)
      · rw [setQ_q_other _ _ _ _ hc]; exact hw.jobNotQ c' x hx
    · intro c'
      rw [setH_jobs]
      by_cases hc : c' = c
      · subst hc; rw [setJobs_same]
        simp only [List.map_cons]
        refine List.nodup_cons.mpr ⟨?_, hw.jobNodup _⟩
        intro hi
        obtain ⟨x, hx, hxi⟩ := List.mem_map.mp hi
        exact hw.jobNotQ _ x hx (by rw [hxi]; exact hpid)
      · rw [setJobs_other _ _ _ _ hc]; exact hw.jobNodup c'
    · intro c' x hx
      rw [setH_h, setQ_find]; rw [setH_jobs] at hx
      rcases mem_setJobs hx with ⟨rfl, hx⟩ | ⟨_, hx⟩
      · rcases List.mem_cons.mp hx with hx | hx
        · subst hx; exact ⟨m0, hm0, by rw [hr]; rfl, rfl⟩
        · exact hw.jobFile _ x hx
      · exact hw.jobFile c' x hx
    · intro c' x hx
      rw [setH_jobs] at hx
      rcases mem_setJobs hx with ⟨rfl, hx⟩ | ⟨_, hx⟩
      · rcases List.mem_cons.mp hx with hx | hx
        · subst hx; exact Or.inl rfl
        · exact hw.jobLive _ x hx
      · exact hw.jobLive c' x hx

theorem advance_frame (j : OJob) (recs : List Bool) :
    (advance j recs).id = j.id ∧ (advance j recs).job = j.job ∧ (advance j recs).opened = j.opened ∧
    (advance j recs).deferred = j.deferred := by
  unfold advance
  split
  · exact ⟨rfl, rfl, rfl, rfl⟩
  · split <;> exact ⟨rfl, rfl, rfl, rfl⟩

theorem nextSt_cases (s : PSt) (c : Chan) :
    nextSt s c = s ∨ (s.up = true ∧ ∃ j recs, j ∈ s.jobs c ∧ nextSt s c = settle s c (advance j recs)) := by
  unfold nextSt
  by_cases hg : (!s.up || s.exitasap) = true
  · left; rw [if_pos hg]
  · rw [if_neg hg]
    obtain ⟨hup, _⟩ : s.up = true ∧ s.exitasap = false := by simpa using hg
    cases hj : (s.jobs c).find? (·.scanning) with
    | none => left; rfl
    | some j =>
      cases hr : (s.h.find j.id).bind (·.recs c) with
      | none => left; simp only [hr]
      | some recs => right; exact ⟨hup, j, recs, (find?_some_mem hj).1, by simp only [hr]⟩

theorem wfp_nextSt {s : PSt} (hw : WFp s) (c : Chan) : WFp (nextSt s c) := by
  rcases nextSt_cases s c with h | ⟨_, j, recs, hj, h⟩
  · rw [h]; exact hw
  · obtain ⟨hid, hjob, hop, _⟩ := advance_frame j recs
    rw [h]; exact wfp_settle hw c hj hid hjob hop

theorem mark_isSome (m : Msg) (c : Chan) (f : List Bool → List Bool) (c' : Chan) :
    ((m.setRecs c ((m.recs c).map f)).recs c').isSome = (m.recs c').isSome := by
  by_cases hc : c' = c
  · subst hc; rw [setRecs_same]; cases m.recs c' <;> rfl
  · rw [setRecs_other _ _ _ _ hc]

/-- the state after `markdone()`: the records of message `m` on channel `c` rewritten on disk -/
theorem wfp_mark {s : PSt} (hw : WFp s) (c : Chan) {m : Msg} (hm : s.h.find m.id = some m) (f : List Bool → List Bool) :
    WFp (s.setH (s.h.update (m.setRecs c ((m.recs c).map f)))) := by
  have hsome := mark_isSome m c f
  have hfm : s.h.find (m.setRecs c ((m.recs c).map f)).id = some m := by rw [setRecs_id]; exact hm
  refine ⟨?_, ?_, ?_, ?_, ?_⟩
  · rw [setH_h]
    refine wf_update hw.wf m _ hfm ?_
    intro c' hmem
    rw [setRecs_id] at hmem
    obtain ⟨e, he, hei⟩ := List.mem_map.mp hmem
    obtain ⟨m2, hm2, hr2⟩ := hw.wf.hasFile c' e he
    rw [hei, hm] at hm2; cases hm2
    rw [hsome]; exact hr2
  · intro c' x hx; rw [setH_h, update_q]; rw [setH_jobs] at hx; exact hw.jobNotQ c' x hx
  · intro c'; rw [setH_jobs]; exact hw.jobNodup c'
  · intro c' x hx
    rw [setH_jobs] at hx; rw [setH_h]
    obtain ⟨mx, hmx, hrx, hretx⟩ := hw.jobFile c' x hx
    rw [find_update _ _ m hfm, setRecs_id]
    by_cases hi : x.id = m.id
    · rw [if_pos hi]
      rw [hi, hm] at hmx; cases hmx
      exact ⟨_, rfl, by rw [hsome]; exact hrx, by rw [setRecs_birth]; exact hretx⟩
    · rw [if_neg hi]; exact ⟨mx, hmx, hrx, hretx⟩
  · intro c' x hx; rw [setH_jobs] at hx; exact hw.jobLive c' x hx

theorem reportSt_cases (s : PSt) (c : Chan) (i pos : Nat) (letter : Byte) :
    reportSt s c i pos letter = s ∨
    (s.up = true ∧ ∃ j m, j ∈ s.jobs c ∧ j.id = i ∧ s.h.find i = some m ∧
      (((report j.job.dying letter (str "report\n")).staysTodo = true ∧
        reportSt s c i pos letter = settle s c { j with inflight := j.inflight.erase pos, deferred := j.deferred + 1 }) ∨
       ((report j.job.dying letter (str "report\n")).staysTodo = false ∧
        reportSt s c i pos letter =
          settle (s.setH (s.h.update (m.setRecs c ((m.recs c).map fun r => r.set pos false)))) c
            { j with inflight := j.inflight.erase pos }))) := by
  unfold reportSt
  by_cases hg : (!s.up) = true
  · left; rw [if_pos hg]
  · rw [if_neg hg]
    have hup : s.up = true := by simpa using hg
    cases hj : s.job? c i with
    | none => left; rfl
    | some j =>
      obtain ⟨hjm, hji⟩ := job?_some hj
      simp only
      by_cases hc : (!j.inflight.contains pos) = true
      · left; rw [if_pos hc]
      · rw [if_neg hc]
        cases hm : s.h.find i with
        | none => left; rfl
        | some m =>
          right
          refine ⟨hup, j, m, hjm, hji, rfl, ?_⟩
          simp only
          by_cases hs : (report j.job.dying letter (str "report\n")).staysTodo = true
          · left; exact ⟨hs, by rw [if_pos hs]⟩
          · right
            have hs' : (report j.job.dying letter (str "report\n")).staysTodo = false := by simpa using hs
            exact ⟨hs', by rw [if_neg hs]⟩

theorem wfp_reportSt {s : PSt} (hw : WFp s) (c : Chan) (i pos : Nat) (letter : Byte) : WFp (reportSt s c i pos letter) := by
  rcases reportSt_cases s c i pos letter with h | ⟨_, j, m, hj, hji, hm, ⟨_, h⟩ | ⟨_, h⟩⟩
  · rw [h]; exact hw
  · rw [h]; exact wfp_settle hw c hj rfl rfl rfl
  · rw [h]
    have hmid : m.id = i := (find_some hm).2
    have hw1 := wfp_mark hw c (m := m) (by rw [hmid]; exact hm) (fun r => r.set pos false)
    exact wfp_settle hw1 c (j := j) (by rw [setH_jobs]; exact hj) rfl rfl rfl

/-- the `utimes` calls of `pass_finish()` for the open jobs `l` of a channel (none with the exit as it was): the exit is `pqfinish()`
followed by these -/
def cutList (persist : Bool) (l : List OJob) : List Elt :=
  if persist then (l.filter fun j => j.scanning && decide (0 < j.deferred)).map fun j => { dt := j.job.retry, id := j.id } else []

theorem mem_cutList {persist : Bool} {l : List OJob} {e : Elt} :
    e ∈ cutList persist l ↔
      persist = true ∧ ∃ j ∈ l, (j.scanning = true ∧ 0 < j.deferred) ∧ { dt := j.job.retry, id := j.id } = e := by
  cases persist <;> simp [cutList, and_assoc]

theorem foldl_cutWrite (c : Chan) : ∀ (l : List OJob) (h : HSt), l.foldl (cutWrite c) h = finWrite c h (cutList true l) := by
  intro l
  induction l with
  | nil => intro h; rfl
  | cons x r ih =>
    intro h
    rw [List.foldl_cons, ih]
    unfold cutWrite cutList
    by_cases hq : (x.scanning && decide (0 < x.deferred)) = true
    · rw [if_pos hq]; simp only [if_true, List.filter_cons, hq, List.map_cons]; rfl
    · rw [if_neg hq]; simp only [if_true, List.filter_cons, hq]; rfl

theorem pfinSt_cases (persist : Bool) (s : PSt) :
    (pfinSt persist s = s ∧ ¬ (s.up = true ∧ s.exitasap = true ∧ nothingInFlight s = true)) ∨
    (s.up = true ∧ s.exitasap = true ∧ nothingInFlight s = true ∧
      pfinSt persist s = { h := touch (fun c => cutList persist (s.jobs c)) (finSt s.h),
                           j0 := [], j1 := [], exitasap := true, up := false }) := by
  unfold pfinSt
  by_cases hg : (!s.up || !s.exitasap || !nothingInFlight s) = true
  · left; rw [if_pos hg]
    exact ⟨rfl, fun ⟨hup, hex, hnf⟩ => by simp [hup, hex, hnf] at hg⟩
  · right; rw [if_neg hg]
    obtain ⟨⟨hup, hex⟩, hnf⟩ : (s.up = true ∧ s.exitasap = true) ∧ nothingInFlight s = true := by simpa using hg
    refine ⟨hup, hex, hnf, ?_⟩
    cases persist with
    | false => rfl
    | true => simp only [if_true]; rw [foldl_cutWrite, foldl_cutWrite]; rfl

theorem wfp_pfinSt {s : PSt} (hw : WFp s) (persist : Bool) : WFp (pfinSt persist s) := by
  rcases pfinSt_cases persist s with ⟨h, _⟩ | ⟨_, _, _, h⟩
  · rw [h]; exact hw
  · rw [h]; exact wfp_init _ (wf_finWrite .rem _ (wf_finWrite .loc _ (wf_finSt hw.wf))) _ _

theorem wfp_ploadSt {s : PSt} (hw : WFp s) : WFp (ploadSt s) := by
  unfold ploadSt; split
  · exact hw
  · exact wfp_init _ (wf_loadSt hw.wf.nodupMsgs) _ _

theorem wfp_pstep {s : PSt} (hw : WFp s) (persist : Bool) (x : PStep) (hq : x.quiet = true) : WFp (pstep persist s x) := by
  cases x with
  | mk => cases hq
  | alrm => cases hq
  | tick d => exact wfp_tick hw _
  | term => exact wfp_term hw
  | fin => exact wfp_pfinSt hw persist
  | load => exact wfp_ploadSt hw
  | «open» c => exact wfp_openSt hw c
  | next c => exact wfp_nextSt hw c
  | report c i pos letter => exact wfp_reportSt hw c i pos letter

/-! ### the back-off obligation -/

/-- every trace of message `i` on channel `c` lies at or after `r`, and while a process runs and the channel file exists there
is such a trace (see `OwedP`) -/
structure Traces (i : Nat) (c : Chan) (r : Int) (s : PSt) : Prop where
  heap : ∀ e ∈ (s.h.q c).toList, e.id = i → r ≤ e.dt
  jobs : ∀ j ∈ s.jobs c, j.id = i → r ≤ j.job.retry ∧ 0 < j.deferred
  down : s.up = false → ∀ m, s.h.find i = some m → (m.recs c).isSome = true → r ≤ m.mt c
  up : s.up = true → ∀ m, s.h.find i = some m → (m.recs c).isSome = true → i ∈ ids (s.h.q c) ∨ ∃ j ∈ s.jobs c, j.id = i

/-- message `i` owes the back-off time `r` on channel `c`: the clock has reached `r`, or every trace of the message on
that channel lies at or after `r` — every heap entry, every open job (which moreover has a deferred recipient, so
that job_close will put it back at its retry time), the persisted mtime while no process runs — and, while a
process runs and the channel file exists, there is such a trace. -/
def OwedP (i : Nat) (c : Chan) (r : Int) (s : PSt) : Prop := r ≤ s.h.clock ∨ Traces i c r s

theorem owedP_tick {i : Nat} {c : Chan} {r : Int} {s : PSt} (ho : OwedP i c r s) (d : Nat) :
    OwedP i c r (s.setH { s.h with clock := s.h.clock + d }) := by
  rcases ho with h | ht
  · left; show r ≤ s.h.clock + d; omega
  · right
    refine ⟨by rw [tick_q]; exact ht.heap, by rw [setH_jobs]; exact ht.jobs, ht.down, ?_⟩
    intro hup m hm hr
    rw [tick_q, setH_jobs]; exact ht.up hup m hm hr

theorem owedP_congr {i : Nat} {c : Chan} {r : Int} {s s' : PSt} (ho : OwedP i c r s) (hclk : s'.h.clock = s.h.clock)
    (hq : s'.h.q c = s.h.q c) (hj : s'.jobs c = s.jobs c) (hup : s'.up = s.up) (hfind : s'.h.find i = s.h.find i) :
    OwedP i c r s' := by
  rcases ho with h | ht
  · left; rw [hclk]; exact h
  · right
    exact ⟨by rw [hq]; exact ht.heap, by rw [hj]; exact ht.jobs, by rw [hup, hfind]; exact ht.down,
      by rw [hup, hfind, hq, hj]; exact ht.up⟩

theorem owedP_term {i : Nat} {c : Chan} {r : Int} {s : PSt} (ho : OwedP i c r s) : OwedP i c r { s with exitasap := true } :=
  owedP_congr ho rfl rfl (by cases c <;> rfl) rfl rfl

theorem owedP_openSt {i : Nat} {c : Chan} {r : Int} {s : PSt} (hw : WFp s) (ho : OwedP i c r s) (c' : Chan) :
    OwedP i c r (openSt s c') := by
  rcases openSt_cases s c' with h | ⟨hup, _, pe, q', m0, hp, hm0, h⟩
  · rw [h]; exact ho
  · rw [h]
    by_cases hc : c = c'
    · subst hc
      rcases ho with hcl | ht
      · left; rw [setH_h, setQ_clock]; exact hcl
      · have hst := starts hw.wf hp
        by_cases hpi : pe.id = i
        · -- the pass opens `i` itself: its heap entry was not before `r` and is due, so the clock has reached `r`
          left; rw [setH_h, setQ_clock]
          exact Int.le_trans (ht.heap pe hst.mem hpi) hst.due
        · right
          refine ⟨?_, ?_, ?_, ?_⟩
          · intro e he hei
            rw [setH_h, setQ_q_same] at he
            exact ht.heap e (hst.rest.sub e he) hei
          · intro j hj hji
            rw [setH_jobs, setJobs_same] at hj
            rcases List.mem_cons.mp hj with hj | hj
            · subst hj; exact absurd hji hpi
            · exact ht.jobs j hj hji
          · intro hdown; rw [setH_up, setJobs_up, hup] at hdown; cases hdown
          · intro _ m hm hr
            rw [setH_h, setQ_find] at hm
            rw [setH_h, setQ_q_same, setH_jobs, setJobs_same]
            rcases ht.up hup m hm hr with hq | ⟨j, hj, hji⟩
            · left
              exact hst.rest.ids_sup hq (fun h => hpi h.symm)
            · exact Or.inr ⟨j, List.mem_cons_of_mem _ hj, hji⟩
    · exact owedP_congr ho (by rw [setH_h, setQ_clock]) (by rw [setH_h, setQ_q_other _ _ _ _ hc])
        (by rw [setH_jobs, setJobs_other _ _ _ _ hc]) (by rw [setH_up, setJobs_up]) (by rw [setH_h, setQ_find])

theorem updJob_has {l : List OJob} {j' : OJob} {i : Nat} (h : ∃ x ∈ l, x.id = i) : ∃ y ∈ updJob l j', y.id = i := by
  obtain ⟨x, hx, hxi⟩ := h
  have : i ∈ (updJob l j').map (·.id) := by rw [updJob_ids]; exact List.mem_map.mpr ⟨x, hx, hxi⟩
  obtain ⟨y, hy, hyi⟩ := List.mem_map.mp this
  exact ⟨y, hy, hyi⟩

theorem owedP_chg {i : Nat} {c : Chan} {r : Int} {s : PSt} (hup : s.up = true) (ho : OwedP i c r s)
    {c' : Chan} {i0 : Nat} {m m' : Msg} {qn dn : PQ} (hm : s.h.find i0 = some m) (hs : SameBut c' m m')
    (hsub : ∀ e ∈ (s.h.q c').toList, e ∈ qn.toList)
    (hnew : ∀ e ∈ qn.toList, e ∈ (s.h.q c').toList ∨ ∃ j ∈ s.jobs c', j.id = e.id ∧ e.dt = j.job.retry)
    (hfile : (m'.recs c').isSome = true → i0 ∈ ids qn) :
    OwedP i c r ((s.setJobs c' (delJob (s.jobs c') i0)).setH ((mkSt s.h c' qn dn).update m')) := by
  -- an entry that is new on the heap comes from a job that closes, at that job's retry time (`hnew`), which the obligation
  -- already bounds (`ht.jobs`); and a message whose job is gone but whose file stays is on the new heap (`hfile`): a trace remains
  rcases ho with hclk | ht
  · left; rw [setH_h, update_clock, mkSt_clock]; exact hclk
  · right
    refine ⟨fun e he hei => ?_, fun x hx hxi => ?_, fun hdown => ?_, fun _ m1 hm1 hr1 => ?_⟩
    · rw [setH_h, update_q] at he
      by_cases hc : c = c'
      · subst hc; rw [mkSt_q_same] at he
        rcases hnew e he with h | ⟨j, hj, hji, hjr⟩
        · exact ht.heap e h hei
        · rw [hjr]; exact (ht.jobs j hj (hji.trans hei)).1
      · rw [mkSt_q_other _ _ _ _ _ hc] at he; exact ht.heap e he hei
    · rw [setH_jobs] at hx
      by_cases hc : c = c'
      · subst hc; rw [setJobs_same] at hx; exact ht.jobs x (mem_delJob.mp hx).1 hxi
      · rw [setJobs_other _ _ _ _ hc] at hx; exact ht.jobs x hx hxi
    · rw [setH_up, setJobs_up, hup] at hdown; cases hdown
    · rw [setH_h, find_chg hm hs] at hm1
      rw [setH_h, update_q, setH_jobs]
      by_cases hc : c = c'
      · subst hc
        rw [mkSt_q_same, setJobs_same]
        by_cases hi : i = i0
        · rw [if_pos hi] at hm1; cases hm1
          left; rw [hi]; exact hfile hr1
        · rw [if_neg hi] at hm1
          rcases ht.up hup m1 hm1 hr1 with hq | ⟨x, hx, hxi⟩
          · left
            obtain ⟨e, he, hei⟩ := List.mem_map.mp hq
            exact List.mem_map.mpr ⟨e, hsub e he, hei⟩
          · right; exact ⟨x, mem_delJob.mpr ⟨hx, by rw [hxi]; exact hi⟩, hxi⟩
      · rw [mkSt_q_other _ _ _ _ _ hc, setJobs_other _ _ _ _ hc]
        by_cases hi : i = i0
        · rw [if_pos hi] at hm1; cases hm1
          rw [hs.recs_ne hc] at hr1
          exact ht.up hup m (by rw [hi]; exact hm) hr1
        · rw [if_neg hi] at hm1; exact ht.up hup m1 hm1 hr1

theorem owedP_settle {i : Nat} {c : Chan} {r : Int} {s : PSt} (hw : WFp s) (hup : s.up = true) (ho : OwedP i c r s)
    (c' : Chan) {j j' : OJob} (hj : j ∈ s.jobs c') (hid : j'.id = j.id) (hjob : j'.job = j.job)
    (hdef : j.deferred ≤ j'.deferred) : OwedP i c r (settle s c' j') := by
  rcases settle_cases s c' j' with h | ⟨_, h⟩
  · -- job_close
    rw [h]
    obtain ⟨m, hm, _, _⟩ := hw.jobFile c' j hj
    rw [closeSt_eq hid hm]
    rcases closeH_cases s.h c' j' m with ⟨_, hH⟩ | ⟨_, d', _, hH⟩
    · rw [hH, hid]
      refine owedP_chg hup ho hm .rfl (fun e he => (mem_insert _ _ e).mpr (Or.inr he)) (fun e he => ?_)
        (fun _ => ids_insert_self _ _)
      rcases (mem_insert _ _ e).mp he with rfl | h
      · exact Or.inr ⟨j, hj, rfl, congrArg Job.retry hjob⟩
      · exact Or.inl h
    · rw [hH]
      exact owedP_chg hup ho hm (sameBut_setRecs m c' none) (fun _ h => h) (fun _ h => Or.inl h)
        (fun h => by rw [setRecs_same] at h; cases h)
  · -- the job stays open
    rw [h]
    by_cases hc : c = c'
    · subst hc
      rcases ho with hclk | ht
      · left; rw [setJobs_h]; exact hclk
      · right
        refine ⟨by rw [setJobs_h]; exact ht.heap, ?_, ?_, ?_⟩
        · intro x hx hxi
          rw [setJobs_same] at hx
          rcases mem_updJob hx with hxe | ⟨hxl, _⟩
          · subst hxe
            obtain ⟨a, b⟩ := ht.jobs j hj (by rw [← hid]; exact hxi)
            exact ⟨by rw [hjob]; exact a, by omega⟩
          · exact ht.jobs x hxl hxi
        · intro hdown; rw [setJobs_up, hup] at hdown; cases hdown
        · intro _ m1 hm1 hr1
          rw [setJobs_h] at hm1
          rw [setJobs_h, setJobs_same]
          rcases ht.up hup m1 hm1 hr1 with hq | hjx
          · exact Or.inl hq
          · exact Or.inr (updJob_has hjx)
    · exact owedP_congr ho (by rw [setJobs_h]) (by rw [setJobs_h]) (setJobs_other _ _ _ _ hc) (setJobs_up ..) (by rw [setJobs_h])

theorem owedP_nextSt {i : Nat} {c : Chan} {r : Int} {s : PSt} (hw : WFp s) (ho : OwedP i c r s) (c' : Chan) :
    OwedP i c r (nextSt s c') := by
  rcases nextSt_cases s c' with h | ⟨hup, j, recs, hj, h⟩
  · rw [h]; exact ho
  · obtain ⟨hid, hjob, _, hdef⟩ := advance_frame j recs
    rw [h]; exact owedP_settle hw hup ho c' hj hid hjob (Nat.le_of_eq hdef.symm)

theorem owedP_mark {i : Nat} {c : Chan} {r : Int} {s : PSt} (ho : OwedP i c r s) (c' : Chan) {m : Msg}
    (hm : s.h.find m.id = some m) (f : List Bool → List Bool) :
    OwedP i c r (s.setH (s.h.update (m.setRecs c' ((m.recs c').map f)))) := by
  have hsome := mark_isSome m c' f
  have hfm : s.h.find (m.setRecs c' ((m.recs c').map f)).id = some m := by rw [setRecs_id]; exact hm
  have hback : ∀ m1, (s.h.update (m.setRecs c' ((m.recs c').map f))).find i = some m1 → (m1.recs c).isSome = true →
      ∃ m0, s.h.find i = some m0 ∧ (m0.recs c).isSome = true ∧ m1.mt c = m0.mt c := by
    intro m1 hm1 hr1
    rw [find_update _ _ m hfm, setRecs_id] at hm1
    by_cases hi : i = m.id
    · rw [if_pos hi] at hm1; cases hm1
      exact ⟨m, by rw [hi]; exact hm, by rw [← hsome]; exact hr1, by rw [setRecs_mt]⟩
    · rw [if_neg hi] at hm1; exact ⟨m1, hm1, hr1, rfl⟩
  rcases ho with hclk | ht
  · left; rw [setH_h, update_clock]; exact hclk
  · right
    refine ⟨by rw [setH_h, update_q]; exact ht.heap, by rw [setH_jobs]; exact ht.jobs, ?_, ?_⟩
    · intro hdown m1 hm1 hr1
      rw [setH_h] at hm1
      obtain ⟨m0, hm0, hr0, hmt⟩ := hback m1 hm1 hr1
      rw [hmt]; exact ht.down hdown m0 hm0 hr0
    · intro hup' m1 hm1 hr1
      rw [setH_h] at hm1
      obtain ⟨m0, hm0, hr0, _⟩ := hback m1 hm1 hr1
      rw [setH_h, update_q, setH_jobs]; exact ht.up hup' m0 hm0 hr0

theorem owedP_reportSt {i : Nat} {c : Chan} {r : Int} {s : PSt} (hw : WFp s) (ho : OwedP i c r s)
    (c' : Chan) (i' pos : Nat) (letter : Byte) : OwedP i c r (reportSt s c' i' pos letter) := by
  rcases reportSt_cases s c' i' pos letter with h | ⟨hup, j, m, hj, hji, hm, ⟨_, h⟩ | ⟨_, h⟩⟩
  · rw [h]; exact ho
  · rw [h]; exact owedP_settle hw hup ho c' hj rfl rfl (Nat.le_succ _)
  · rw [h]
    have hmid : m.id = i' := (find_some hm).2
    have hm' : s.h.find m.id = some m := by rw [hmid]; exact hm
    have hw1 := wfp_mark hw c' hm' (fun r => r.set pos false)
    have ho1 := owedP_mark ho c' hm' (fun r => r.set pos false)
    exact owedP_settle hw1 (by rw [setH_up]; exact hup) ho1 c' (j := j) (by rw [setH_jobs]; exact hj) rfl rfl (Nat.le_refl _)

/-! ### exit and restart -/

theorem cut_mt_ge (persist : Bool) (l : List OJob) (i : Nat) (t r : Int)
    (hU : ∀ j ∈ l, j.id = i → r ≤ j.job.retry ∧ 0 < j.deferred) (hlive : ∀ j ∈ l, j.scanning = true)
    (hbase : r ≤ t ∨ (persist = true ∧ ∃ j ∈ l, j.id = i)) : r ≤ mtOf (cutList persist l) i t := by
  by_cases hin : i ∈ (cutList persist l).map (·.id)
  · obtain ⟨e, he, hei, h⟩ := mtOf_mem i _ t hin
    obtain ⟨_, j, hj, _, rfl⟩ := mem_cutList.mp he
    rw [h]; exact (hU j hj hei).1
  · rw [mtOf_notin i _ t hin]
    -- `pass_finish()` writes nothing for `i`: then `t` is late enough as it is (the message was on the heap, `pqfinish()` stamped
    -- it), or a job of `i` is open — which needs `persist`, and then it would have written: the job scans (`hlive`), has a deferral
    rcases hbase with hb | ⟨hp, j, hj, hji⟩
    · exact hb
    · exact absurd (List.mem_map.mpr ⟨_, mem_cutList.mpr ⟨hp, j, hj, ⟨hlive j hj, (hU j hj hji).2⟩, rfl⟩, hji⟩) hin

theorem inflight_of_nothing {s : PSt} (h : nothingInFlight s = true) (c : Chan) : ∀ j ∈ s.jobs c, j.inflight = [] := by
  unfold nothingInFlight at h
  simp only [Bool.and_eq_true, List.all_eq_true, List.isEmpty_iff] at h
  intro j hj
  cases c
  · exact h.1 j hj
  · exact h.2 j hj

theorem lit_jobs (h : HSt) (e u : Bool) (c : Chan) : ({ h := h, j0 := [], j1 := [], exitasap := e, up := u } : PSt).jobs c = [] := by
  cases c <;> rfl

/-- `hcut`: the exit without `pass_finish()` (`persist = false`, qmail-send.c before be3a18d) keeps the obligation only if no
job of the message is open on that channel when the daemon exits, i.e. its pass was not cut short by TERM -/
theorem owedP_pfinSt {i : Nat} {c : Chan} {r : Int} {s : PSt} (hw : WFp s) (ho : OwedP i c r s) (persist : Bool)
    (hcut : persist = true ∨ s.job? c i = none) : OwedP i c r (pfinSt persist s) := by
  rcases pfinSt_cases persist s with ⟨h, _⟩ | ⟨hup, _, hnf, h⟩
  · rw [h]; exact ho
  · rw [h]
    have tf := touch_frame (fun c => cutList persist (s.jobs c)) (finSt s.h)
    rcases ho with hc | ht
    · left
      show r ≤ (touch (fun c => cutList persist (s.jobs c)) (finSt s.h)).clock
      rw [tf.clock, finSt_eq, finWith_clock]; exact hc
    · right
      refine ⟨fun e he => ?_, fun j hj => ?_, fun _ m' hm' hr' => ?_, fun hu => by cases hu⟩
      · have he' : e ∈ ((touch (fun c => cutList persist (s.jobs c)) (finSt s.h)).q c).toList := he
        rw [tf.q c, finSt_eq, finWith_q] at he'; cases he'
      · rw [lit_jobs] at hj; cases hj
      · have hm'' : (touch (fun c => cutList persist (s.jobs c)) (finSt s.h)).find i = some m' := hm'
        rw [touch_find, finSt_eq, finWith_find, Option.map_map] at hm''
        -- the record before the exit
        obtain ⟨m, hm, rfl⟩ := Option.map_eq_some_iff.mp hm''
        simp only [Function.comp, touched_recs, touched_mt] at hr' ⊢
        have hlive : ∀ j ∈ s.jobs c, j.scanning = true := by
          intro j hj
          rcases hw.jobLive c j hj with hs | hs
          · exact hs
          · exact absurd (inflight_of_nothing hnf c j hj) hs
        refine cut_mt_ge persist (s.jobs c) i _ r ht.jobs hlive ?_
        rcases ht.up hup m hm hr' with hq | ⟨j, hj, hji⟩
        · left
          obtain ⟨e, he, hei⟩ := List.mem_map.mp hq
          rw [(exitCalls_mt hw.wf _ c i _).1 e he hei rfl]; exact ht.heap e he hei
        · refine Or.inr ⟨hcut.resolve_right fun hnone => ?_, j, hj, hji⟩
          have := List.find?_eq_none.mp hnone j hj
          simp [hji] at this

theorem owedP_ploadSt {i : Nat} {c : Chan} {r : Int} {s : PSt} (hw : WFp s) (ho : OwedP i c r s) : OwedP i c r (ploadSt s) := by
  unfold ploadSt
  by_cases hup : s.up = true
  · rw [if_pos hup]; exact ho
  · rw [if_neg hup]
    have hdown : s.up = false := by simpa using hup
    rcases ho with hc | ht
    · exact Or.inl hc
    · right
      refine ⟨?_, ?_, ?_, ?_⟩
      · intro e he hei
        obtain ⟨m, hm, hr, hem⟩ := (mem_loadSt_q s.h c e).mp he
        have hf := find_of_mem hw.wf.nodupMsgs hm
        have hmi : m.id = i := by rw [← hei, hem]
        rw [hem]
        exact ht.down hdown m (by rw [← hmi]; exact hf) hr
      · intro j hj; rw [lit_jobs] at hj; cases hj
      · intro hu; cases hu
      · intro _ m hm hr
        left
        have hm' : s.h.find i = some m := hm
        refine List.mem_map.mpr ⟨{ dt := m.mt c, id := m.id }, (mem_loadSt_q s.h c _).mpr ⟨m, (find_some hm').1, hr, rfl⟩, (find_some hm').2⟩

/-! ### histories; how an obligation begins and what it gives -/

theorem owedP_pstep {i : Nat} {c : Chan} {r : Int} {s : PSt} (hw : WFp s) (ho : OwedP i c r s) (persist : Bool) (x : PStep)
    (hq : x.quiet = true) (hcut : persist = true ∨ NoCutAt i c s x) :
    OwedP i c r (pstep persist s x) := by
  cases x with
  | mk => cases hq
  | alrm => cases hq
  | tick d => exact owedP_tick ho d
  | term => exact owedP_term ho
  | fin => exact owedP_pfinSt hw ho persist hcut
  | load => exact owedP_ploadSt hw ho
  | «open» c' => exact owedP_openSt hw ho c'
  | next c' => exact owedP_nextSt hw ho c'
  | report c' i' pos letter => exact owedP_reportSt hw ho c' i' pos letter

theorem wfp_prun (persist : Bool) : ∀ (l : List PStep) (s : PSt), WFp s → allQuiet l → WFp (prun persist s l) :=
  fun l _ hw hq => List.foldlRecOn l (pstep persist) hw fun _ h x hx => wfp_pstep h persist x (hq x hx)

theorem owedP_prun {i : Nat} {c : Chan} {r : Int} (persist : Bool) : ∀ (l : List PStep) (s : PSt), WFp s → OwedP i c r s →
    allQuiet l → (persist = true ∨ NoCut persist i c s l) →
    OwedP i c r (prun persist s l) := by
  intro l
  induction l with
  | nil => intro s _ ho _ _; exact ho
  | cons x rest ih =>
    intro s hw ho hq hcut
    have hqx : x.quiet = true := hq x List.mem_cons_self
    have hcx : persist = true ∨ NoCutAt i c s x := by
      rcases hcut with h | h
      · exact Or.inl h
      · exact Or.inr h.1
    have hcr : persist = true ∨ NoCut persist i c (pstep persist s x) rest := by
      rcases hcut with h | h
      · exact Or.inl h
      · exact Or.inr h.2
    exact ih (pstep persist s x) (wfp_pstep hw persist x hqx) (owedP_pstep hw ho persist x hqx hcx)
      (fun y hy => hq y (List.mem_cons_of_mem _ hy)) hcr

theorem reportSt_stay {s : PSt} {c : Chan} {i pos : Nat} {letter : Byte} {j : OJob} {m : Msg}
    (hup : s.up = true) (hj : s.job? c i = some j) (hin : j.inflight.contains pos = true) (hm : s.h.find i = some m)
    (hstay : (report j.job.dying letter (str "report\n")).staysTodo = true) :
    reportSt s c i pos letter = settle s c { j with inflight := j.inflight.erase pos, deferred := j.deferred + 1 } := by
  unfold reportSt
  simp only [hup, Bool.not_true, Bool.false_eq_true, if_false, hj, hin, hm, hstay, if_true]

theorem owedP_init_report {s : PSt} (hw : WFp s) {c : Chan} {i pos : Nat} {letter : Byte} {j : OJob} {m : Msg}
    (hup : s.up = true) (hj : s.job? c i = some j) (hin : j.inflight.contains pos = true) (hm : s.h.find i = some m)
    (hstay : (report j.job.dying letter (str "report\n")).staysTodo = true) :
    OwedP i c j.job.retry (reportSt s c i pos letter) := by
  rw [reportSt_stay hup hj hin hm hstay]
  obtain ⟨hjm, rfl⟩ := job?_some hj
  have hnoent : ∀ e ∈ (s.h.q c).toList, e.id = j.id → False := fun e he hei =>
    hw.jobNotQ c j hjm (hei ▸ List.mem_map_of_mem he)
  generalize hj' : ({ j with inflight := j.inflight.erase pos, deferred := j.deferred + 1 } : OJob) = j'
  have hid : j'.id = j.id := by rw [← hj']
  have hjob : j'.job = j.job := by rw [← hj']
  have hdef : j'.deferred ≠ 0 := by rw [← hj']; exact Nat.succ_ne_zero _
  right
  -- the reported job has a deferred recipient now: if it closes, job_close puts `i` back on the heap at `retry`; else it stays open
  rcases settle_cases s c j' with h | ⟨_, h⟩
  · rw [h, closeSt_eq hid hm]
    rcases closeH_cases s.h c j' m with ⟨_, hH⟩ | ⟨hd, _⟩
    · rw [hH, hid, hjob]
      refine ⟨fun e he hei => ?_, fun x hx hxi => ?_, fun hdown => ?_, fun _ _ _ _ => Or.inl ?_⟩
      · rw [setH_h, update_q, mkSt_q_same] at he
        rcases (mem_insert _ _ e).mp he with rfl | hee
        · exact Int.le_refl _
        · exact absurd (hnoent e hee hei) id
      · rw [setH_jobs, setJobs_same] at hx; exact absurd hxi (mem_delJob.mp hx).2
      · rw [setH_up, setJobs_up, hup] at hdown; cases hdown
      · rw [setH_h, update_q, mkSt_q_same]; exact ids_insert_self _ _
    · exact absurd hd hdef
  · rw [h]
    refine ⟨fun e he hei => ?_, fun x hx hxi => ?_, fun hdown => ?_, fun _ _ _ _ => Or.inr ?_⟩
    · rw [setJobs_h] at he; exact absurd (hnoent e he hei) id
    · rw [setJobs_same] at hx
      rcases mem_updJob hx with rfl | ⟨_, hne⟩
      · rw [hjob]; exact ⟨Int.le_refl _, Nat.pos_of_ne_zero hdef⟩
      · exact absurd (hxi.trans hid.symm) hne
    · rw [setJobs_up, hup] at hdown; cases hdown
    · rw [setJobs_same]; exact updJob_has ⟨j, hjm, rfl⟩

theorem startedP_some {s : PSt} {c : Chan} {pe : Elt} (h : startedP s c = some pe) :
    s.up = true ∧ ∃ q', passStart s.h.clock true (s.h.q c) = some (pe, q') := by
  unfold startedP at h
  by_cases hg : (!s.up || s.exitasap || (s.jobs c).any (·.scanning)) = true
  · rw [if_pos hg] at h; cases h
  · rw [if_neg hg] at h
    refine ⟨?_, ?_⟩
    · have : (s.up = true ∧ s.exitasap = false) ∧ ∀ x ∈ s.jobs c, x.scanning = false := by simpa using hg
      exact this.1.1
    · cases hp : passStart s.h.clock true (s.h.q c) with
      | none => rw [hp] at h; cases h
      | some rr =>
        obtain ⟨pe', q'⟩ := rr
        rw [hp] at h
        simp only [Option.map_some] at h
        cases h; exact ⟨q', rfl⟩

theorem owedP_started {s : PSt} (hw : WFp s) {i : Nat} {c : Chan} {r : Int} (ho : OwedP i c r s) {pe : Elt}
    (hst : startedP s c = some pe) (hpe : pe.id = i) : r ≤ s.h.clock := by
  obtain ⟨_, q', hp⟩ := startedP_some hst
  rcases ho with h | ht
  · exact h
  · exact Int.le_trans (ht.heap pe (starts hw.wf hp).mem hpe) (starts hw.wf hp).due

end Nq.Lemmas.SchedPass
