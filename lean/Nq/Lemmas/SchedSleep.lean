/-
  Lemmas for the sleep-promptness theorems of C15 (`C15_sleep_*`): the timeout the select preparation
  (`Nq.SelPrep`, C16's model of qmail-send.c main()/pass_selprep/todo_selprep/cleanup_selprep) computes never carries
  the daemon past a startable due time by more than SLEEP_FUZZ.
-/
import Nq.Spec.SchedHist
import Nq.Lemmas.SelPrep
import Nq.Lemmas.SchedHeap

namespace Nq.Lemmas.SchedSleep
open Nq Nq.Sched Nq.SchedHist Nq.Spec.SchedHist Nq.Lemmas.Sched
open Nq.SelPrep (Snap timeout wakeup dueTimes immediate jobAvail lowerL SLEEP_FUZZ SLEEP_FOREVER)

theorem mem_startableDues (s : Snap) (d : Int) :
    d ∈ startableDues s ↔
      s.exitasap = false ∧
        ((jobAvail s = true ∧ ∃ c, c ∈ s.chans ∧ c.passOpen = false ∧ c.pqMin = some d)
          ∨ s.pqfailMin = some d ∨ s.pqdoneMin = some d) := by
  unfold startableDues
  cases he : s.exitasap
  · cases hj : jobAvail s
    · simp only [Bool.false_eq_true, if_false, List.nil_append, List.mem_append, Option.mem_toList, true_and,
        false_and, false_or]
    · simp only [Bool.false_eq_true, if_false, if_true, List.mem_append, Option.mem_toList,
        Nq.SelPrep.mem_chanTimes, true_and, or_assoc]
  · simp

theorem startable_sub_dueTimes (s : Snap) (d : Int) (hd : d ∈ startableDues s) : d ∈ dueTimes s := by
  obtain ⟨he, ⟨hj, c, hc, hp, hq⟩ | h | h⟩ := (mem_startableDues s d).1 hd
  · exact Nq.SelPrep.pqchan_mem_dueTimes he hj hc hp hq
  · exact Nq.SelPrep.pqfail_mem_dueTimes he h
  · exact Nq.SelPrep.pqdone_mem_dueTimes he h

theorem timeout_prompt (s : Snap) (h0 : 0 ≤ s.recent) {m d : Int} (hm : m ∈ startableDues s) (hmd : m ≤ d) :
    (d ≤ s.recent → timeout s = 0) ∧ (s.recent < d → timeout s ≤ d - s.recent + SLEEP_FUZZ) := by
  obtain ⟨hzero, hpos⟩ := Nq.SelPrep.timeout_spec s h0 (dueTimes s) (Nq.SelPrep.Cover.refl _)
  have hmD := startable_sub_dueTimes s m hm
  refine ⟨fun h => hzero.2 (.inr ⟨m, hmD, Int.le_trans hmd h⟩), fun h => ?_⟩
  by_cases hz : immediate s = true ∨ ∃ t, t ∈ dueTimes s ∧ t ≤ s.recent
  · have := Nq.SelPrep.fuzz_nonneg
    rw [hzero.2 hz]; omega
  · obtain ⟨_, hto, hle, _⟩ := hpos hz
    have := hle m hmD
    omega

theorem timeout_prompt_heap (s : Snap) (h0 : 0 ≤ s.recent) {q : PQ} (h : Heap q)
    (hst : ∀ m, q.min.map (·.dt) = some m → m ∈ startableDues s) {e : Elt} (he : e ∈ q.toList) :
    (e.dt ≤ s.recent → timeout s = 0) ∧ (s.recent < e.dt → timeout s ≤ e.dt - s.recent + SLEEP_FUZZ) := by
  rcases heap_min_spec q h with ⟨_, hnil⟩ | ⟨pe, hm, _, hmin⟩
  · rw [hnil] at he; cases he
  · exact timeout_prompt s h0 (hst pe.dt (by rw [hm]; rfl)) (hmin e he)

end Nq.Lemmas.SchedSleep
