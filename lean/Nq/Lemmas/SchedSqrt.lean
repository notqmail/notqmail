/-
  Lemmas about `squareroot` / `nextretry` (qmail-send.c): the 16-step bitwise integer square root is
  the greatest root below 2^16 (so exact on 0..2^32-1, 65535 above, 0 below 0), never overflows; and what the retry-time theorems
  need of the arithmetic: `(root + skip)²` lies at least 100 above the age and far below 2⁶³.
-/
import Nq.Sched
import Nq.Spec.Sched
import Mathlib.Tactic.Ring
import Mathlib.Tactic.Linarith

namespace Nq.Lemmas.Sched
open Nq.Sched Nq.Spec.Sched

theorem two_pow_pos (j : Nat) : (0 : Int) < 2 ^ j := by positivity

theorem pow_succ2 (j : Nat) : (2 : Int) ^ (j + 1) = 2 * 2 ^ j := by rw [pow_succ]; ring
theorem pow_dbl (j : Nat) : (2 : Int) ^ (j + j) = 2 ^ j * 2 ^ j := by rw [pow_add]

/-- the loop decides the `n` low bits greedily: from `y` it reaches the greatest `r` in `[y, y + 2ⁿ)` with `r² ≤ x`, and stays at
`y` if there is none -/
theorem sqLoop_max (x : Int) : ∀ (n : Nat) (y yy : Int), 0 ≤ y → yy = y * y →
    y ≤ sqLoop x n y yy ∧ sqLoop x n y yy < y + 2 ^ n ∧
    (sqLoop x n y yy = y ∨ sqLoop x n y yy * sqLoop x n y yy ≤ x) ∧
    (sqLoop x n y yy + 1 < y + 2 ^ n → x < (sqLoop x n y yy + 1) * (sqLoop x n y yy + 1)) := by
  intro n
  induction n with
  | zero => intro y yy _ _; exact ⟨Int.le_refl _, by simp [sqLoop], Or.inl rfl, fun h => by simp [sqLoop] at h⟩
  | succ j ih =>
    intro y yy hy hyy
    have hp := two_pow_pos j
    simp only [sqLoop]
    rw [pow_succ2 j, pow_dbl j]
    generalize (2 : Int) ^ j = p at *
    have e1 : (y + p) * (y + p) = y * y + (y * (2 * p) + p * p) := by ring
    split
    · rename_i hc
      obtain ⟨a, b, c, d⟩ := ih (y + p) (yy + (y * (2 * p) + p * p)) (by omega) (by rw [hyy, e1])
      generalize sqLoop x j (y + p) (yy + (y * (2 * p) + p * p)) = r at *
      refine ⟨by omega, by omega, Or.inr ?_, fun h => d (by omega)⟩
      rcases c with rfl | c
      · rw [e1]; omega
      · exact c
    · rename_i hc
      obtain ⟨a, b, c, d⟩ := ih y yy hy hyy
      generalize sqLoop x j y yy = r at *
      refine ⟨a, by omega, c, fun h => ?_⟩
      by_cases hr : r + 1 < y + p
      · exact d hr
      · -- the bit just refused: `x < (y + p)²`
        have : r + 1 = y + p := by omega
        rw [this, e1]; omega

theorem squareroot_max (x : Int) :
    0 ≤ squareroot x ∧ squareroot x < 65536 ∧ (squareroot x = 0 ∨ squareroot x * squareroot x ≤ x) ∧
    (squareroot x + 1 < 65536 → x < (squareroot x + 1) * (squareroot x + 1)) := by
  have := sqLoop_max x 16 0 0 (Int.le_refl 0) (by ring)
  simpa [squareroot] using this

theorem squareroot_nonneg (x : Int) : 0 ≤ squareroot x := (squareroot_max x).1
theorem squareroot_le_65535 (x : Int) : squareroot x ≤ 65535 := by have := (squareroot_max x).2.1; omega

/-- also for negative `x`, and where the root saturates the bound on `x` takes over -/
theorem lt_squareroot_succ_sq {x : Int} (h : x < 4294967296) : x < (squareroot x + 1) * (squareroot x + 1) := by
  obtain ⟨_, b, _, d⟩ := squareroot_max x
  by_cases hr : squareroot x + 1 < 65536
  · exact d hr
  · have : squareroot x + 1 = 65536 := by omega
    rw [this]; exact h

theorem squareroot_le {x s : Int} (s0 : 0 ≤ s) (h : x < (s + 1) * (s + 1)) : squareroot x ≤ s := by
  rcases (squareroot_max x).2.2.1 with c | c
  · rw [c]; exact s0
  · by_contra hlt
    have := mul_self_le_mul_self (by omega : 0 ≤ s + 1) (by omega : s + 1 ≤ squareroot x)
    omega

theorem squareroot_neg {x : Int} (h : x < 0) : squareroot x = 0 :=
  Int.le_antisymm (squareroot_le (Int.le_refl 0) (by omega)) (squareroot_nonneg x)

theorem sqLoopOk_inv (x : Int) (hx0 : 0 ≤ x) (hx : x < 9223372036854775808) : ∀ (n : Nat) (y yy : Int), n ≤ 16 → 0 ≤ y →
    y + 2 ^ n ≤ 65536 → yy = y * y → y * y ≤ x → sqLoopOk x n y yy = true := by
  intro n
  induction n with
  | zero => intro y yy _ _ _ _ _; rfl
  | succ j ih =>
    intro y yy hn hy hb hyy hlo
    have hp := two_pow_pos j
    have hp15 : (2 : Int) ^ j ≤ 2 ^ 15 := by
      exact_mod_cast Nat.pow_le_pow_right (by decide : 1 ≤ 2) (by omega : j ≤ 15)
    rw [sqLoopOk]
    rw [pow_succ2 j] at hb
    rw [pow_succ2 j, pow_dbl j]
    generalize (2 : Int) ^ j = p at *
    subst hyy
    -- with `0 ≤ y ≤ 2¹⁶` and `0 < p ≤ 2¹⁵` the three products are bounded; the rest is linear in them
    have hyb : y ≤ 65536 := by omega
    have h1 : y * p ≤ 65536 * 2 ^ 15 := Int.mul_le_mul hyb hp15 (by omega) (by omega)
    have h2 : p * p ≤ 2 ^ 15 * 2 ^ 15 := Int.mul_le_mul hp15 hp15 (by omega) (by omega)
    have h3 : y * y ≤ 65536 * 65536 := Int.mul_le_mul hyb hyb hy (by omega)
    have hyp : 0 ≤ y * p := Int.mul_nonneg hy (by omega)
    have hpp : 0 ≤ p * p := Int.mul_nonneg (by omega) (by omega)
    have hyy0 : 0 ≤ y * y := Int.mul_nonneg hy hy
    have e2 : y * (2 * p) = 2 * (y * p) := by ring
    have e1 : (y + p) * (y + p) = y * y + (y * (2 * p) + p * p) := by ring
    simp only [inInt, inLong, Bool.and_eq_true, decide_eq_true_eq, e2]
    refine ⟨⟨⟨⟨⟨⟨?_, ?_⟩, ?_⟩, ?_⟩, ?_⟩, ?_⟩, ?_⟩
    · omega
    · omega
    · omega
    · omega
    · omega
    · omega
    · split
      · rename_i hc
        exact ih _ _ (by omega) (by omega) (by omega) (by rw [e1, e2]) (by rw [e1, e2]; omega)
      · exact ih _ _ (by omega) hy (by omega) rfl hlo

theorem isSqrt_mono {x x' r r' : Int} (hr : IsSqrt x r) (hr' : IsSqrt x' r') (hx : x ≤ x') : r ≤ r' := by
  obtain ⟨r0, r1, r2⟩ := hr
  obtain ⟨s0, s1, s2⟩ := hr'
  by_contra hne
  have h : r' + 1 ≤ r := by omega
  have : (r' + 1) * (r' + 1) ≤ r * r := Int.mul_le_mul h h (by omega) r0
  omega

theorem isSqrt_unique {x r s : Int} (hr : IsSqrt x r) (hs : IsSqrt x s) : r = s :=
  Int.le_antisymm (isSqrt_mono hr hs (Int.le_refl x)) (isSqrt_mono hs hr (Int.le_refl x))

theorem chanskip_eq (c : Chan) : chanskip c = skip c := by
  cases c <;> simp [chanskip, skip, Nq.Gen.chanskip_local, Nq.Gen.chanskip_remote]

theorem skip_ge (c : Chan) : 10 ≤ skip c := by cases c <;> simp [skip]

theorem skip_le (c : Chan) : skip c ≤ 20 := by cases c <;> simp [skip]

theorem root_eq (recent birth : Int) :
    (if birth > recent then 0 else squareroot (recent - birth)) = squareroot (recent - birth) := by
  split
  · rw [squareroot_neg (by omega)]
  · rfl

theorem nextretry_eq (recent birth : Int) (c : Chan) :
    nextretry recent birth c = birth + (squareroot (recent - birth) + skip c) * (squareroot (recent - birth) + skip c) := by
  unfold nextretry
  rw [root_eq, chanskip_eq]

theorem retry_sq_range {a k A K : Int} (a0 : 0 ≤ a) (a1 : a ≤ A) (k0 : 0 ≤ k) (k1 : k ≤ K) :
    0 ≤ (a + k) * (a + k) ∧ (a + k) * (a + k) ≤ (A + k) * (A + k) ∧ (A + k) * (A + k) ≤ (A + K) * (A + K) :=
  ⟨mul_self_nonneg _, mul_self_le_mul_self (by omega) (by omega), mul_self_le_mul_self (by omega) (by omega)⟩

theorem retry_gap {x s k : Int} (s0 : 0 ≤ s) (s2 : x < (s + 1) * (s + 1)) (hk : 10 ≤ k) : x + 100 ≤ (s + k) * (s + k) := by
  have e : (s + k) * (s + k) = (s + 1) * (s + 1) + (2 * (s * k) - 2 * s) + (k * k - 1) := by ring
  have h1 : s * 10 ≤ s * k := Int.mul_le_mul_of_nonneg_left hk s0
  have h2 : 10 * 10 ≤ k * k := mul_self_le_mul_self (by decide) hk
  omega

theorem nextretry_le_bound {lifetime L : Int} (hL : IsSqrt lifetime L) (t b : Int) (c : Chan) (h : t ≤ b + lifetime) :
    nextretry t b c ≤ b + (L + skip c) * (L + skip c) := by
  rw [nextretry_eq]
  have := skip_ge c
  have h0 := squareroot_nonneg (t - b)
  have h1 : squareroot (t - b) ≤ L := squareroot_le hL.1 (by have := hL.2.2; omega)
  exact Int.add_le_add_left (mul_self_le_mul_self (by omega) (by omega)) _

theorem wrap64_id (v : Int) (h0 : -9223372036854775808 ≤ v) (h1 : v < 9223372036854775808) : wrap64 v = v := by
  unfold wrap64; omega


end Nq.Lemmas.Sched
