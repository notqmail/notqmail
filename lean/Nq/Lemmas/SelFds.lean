/- Lemmas for `Nq.SelFds` (C16): `nfds` is a left fold of `bump` over the descriptors that were `FD_SET`; the sets are the
   declarative `mustRead` / `mustWrite`. -/
import Nq.SelFds
import Nq.Lemmas.Basic

namespace Nq.SelFds
open Nq.SelPrep

theorem bumpT_eq (n fd : Nat) : bumpT n fd = bump n fd := by
  simp only [bumpT, bump]
  by_cases h : n ≤ fd
  · have : n < fd + 1 := by omega
    simp [h, this]
  · have : ¬ n < fd + 1 := by omega
    simp [h, this]

theorem commNfds_eq (f : FdNums) (cs : List Chan) :
    ∀ n i, commNfds f n i cs = ((commSelprep i cs).map (num f)).foldl bump n := by
  induction cs with
  | nil => intro n i; simp [commNfds, commSelprep]
  | cons c cs ih =>
    intro n i
    simp only [commNfds, commSelprep, ih]
    cases h : (c.spawnAlive && c.commPending) <;> simp [num]

theorem delNfds_eq (f : FdNums) (cs : List Chan) :
    ∀ n i, delNfds f n i cs = ((delSelprep i cs).map (num f)).foldl bump n := by
  induction cs with
  | nil => intro n i; simp [delNfds, delSelprep]
  | cons c cs ih =>
    intro n i
    simp only [delNfds, delSelprep, ih]
    cases h : c.spawnAlive <;> simp [num]

theorem nfds_eq (s : Snap) (f : FdNums) : nfds s f = (wset s f ++ rset s f).foldl bump 1 := by
  simp only [nfds, trigNfds, wset, rset, wfds, rfds, todoWatch, commNfds_eq, delNfds_eq, List.map_append, List.foldl_append]
  cases h : (!s.exitasap && s.triggerFd) <;> simp [num, bumpT_eq]

theorem bump_eq : bump = fun n x => max n (x + 1) := by
  funext n x
  simp only [bump]
  split <;> omega

theorem foldl_bump_ge (l : List Nat) : ∀ n, n ≤ l.foldl bump n := by
  rw [bump_eq]; exact fun n => (Lemmas.foldl_max_ge l n).1

theorem foldl_bump_gt (l : List Nat) : ∀ n x, x ∈ l → x < l.foldl bump n := by
  rw [bump_eq]; exact fun n => (Lemmas.foldl_max_ge l n).2

theorem foldl_bump_tight (l : List Nat) : ∀ n, l.foldl bump n = n ∨ ∃ x, x ∈ l ∧ l.foldl bump n = x + 1 := by
  rw [bump_eq]; exact Lemmas.foldl_max_attained l

theorem delSelprep_map (f : FdNums) (cs : List Chan) :
    ∀ k, (delSelprep k cs).map (num f) = (cs.zipIdx k).filterMap (fun (c, i) => if c.spawnAlive then some (f.inn i) else none) := by
  induction cs with
  | nil => intro k; simp [delSelprep]
  | cons c cs ih =>
    intro k
    simp only [delSelprep, List.map_append, ih, List.zipIdx_cons, List.filterMap_cons]
    cases h : c.spawnAlive <;> simp [num]

theorem commSelprep_map (f : FdNums) (cs : List Chan) :
    ∀ k, (commSelprep k cs).map (num f)
      = (cs.zipIdx k).filterMap (fun (c, i) => if c.spawnAlive && c.commPending then some (f.out i) else none) := by
  induction cs with
  | nil => intro k; simp [commSelprep]
  | cons c cs ih =>
    intro k
    simp only [commSelprep, List.map_append, ih, List.zipIdx_cons, List.filterMap_cons]
    cases h : (c.spawnAlive && c.commPending) <;> simp [num]

theorem rset_eq_mustRead (s : Snap) (f : FdNums) : rset s f = mustRead s f := by
  simp only [rset, rfds, mustRead, todoWatch, List.map_append, delSelprep_map]
  cases h : (!s.exitasap && s.triggerFd) <;> simp [num]

theorem wset_eq_mustWrite (s : Snap) (f : FdNums) : wset s f = mustWrite s f := by
  simp only [wset, wfds, mustWrite, commSelprep_map]

theorem mem_mustRead (s : Snap) (f : FdNums) (fd : Nat) :
    fd ∈ mustRead s f ↔ (∃ i c, s.chans[i]? = some c ∧ c.spawnAlive = true ∧ fd = f.inn i)
                          ∨ (s.exitasap = false ∧ s.triggerFd = true ∧ fd = f.trig) := by
  simp only [mustRead, List.mem_append, List.mem_filterMap, Prod.exists]
  constructor
  · rintro (⟨c, i, hm, hv⟩ | h)
    · left
      rw [List.mk_mem_zipIdx_iff_getElem?] at hm
      cases ha : c.spawnAlive with
      | false => simp [ha] at hv
      | true => simp [ha] at hv; exact ⟨i, c, hm, ha, hv.symm⟩
    · right
      cases he : s.exitasap <;> cases ht : s.triggerFd <;> simp [he, ht] at h ⊢
      exact h
  · rintro (⟨i, c, hm, ha, hv⟩ | ⟨he, ht, hv⟩)
    · left
      refine ⟨c, i, ?_, ?_⟩
      · rw [List.mk_mem_zipIdx_iff_getElem?]; exact hm
      · simp [ha, hv]
    · right; simp [he, ht, hv]

theorem mem_mustWrite (s : Snap) (f : FdNums) (fd : Nat) :
    fd ∈ mustWrite s f ↔ ∃ i c, s.chans[i]? = some c ∧ c.spawnAlive = true ∧ c.commPending = true ∧ fd = f.out i := by
  simp only [mustWrite, List.mem_filterMap, Prod.exists]
  constructor
  · rintro ⟨c, i, hm, hv⟩
    rw [List.mk_mem_zipIdx_iff_getElem?] at hm
    cases ha : c.spawnAlive <;> cases hp : c.commPending <;> simp [ha, hp] at hv
    exact ⟨i, c, hm, ha, hp, hv.symm⟩
  · rintro ⟨i, c, hm, ha, hp, hv⟩
    refine ⟨c, i, ?_, ?_⟩
    · rw [List.mk_mem_zipIdx_iff_getElem?]; exact hm
    · simp [ha, hp, hv]

/-- the two searches of `wakeOracle` -/
theorem find?_unwatched (l set : List Nat) (nf : Nat) :
    l.find? (fun fd => !(set.contains fd && decide (fd < nf))) = none ↔ ∀ fd, fd ∈ l → fd ∈ watched nf set := by
  simp only [List.find?_eq_none, watched, List.mem_filter, Bool.not_eq_true, Bool.not_eq_false', Bool.and_eq_true,
    List.contains_eq_mem, decide_eq_true_eq]

end Nq.SelFds
