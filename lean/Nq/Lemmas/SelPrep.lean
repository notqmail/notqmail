/-
  Lemmas about `Nq.SelPrep` (property C16): the wake-up time computed by the chain
  pass_selprep → todo_selprep → cleanup_selprep is, when no `*wakeup = 0` fires, the minimum of
  `recent + SLEEP_FOREVER` and the list `dueTimes`, and the literal 0 lowered by some of `dueTimes` when one fires;
  `timeout_spec` reads the timeout off that, over any list the due times `Cover`.  The lemmas stand in the model's
  namespace `Nq.SelPrep`.
-/
import Nq.SelPrep
import Nq.Sched

namespace Nq.SelPrep

/-- iterated `if (*wakeup > t) *wakeup = t;` -/
def lowerL (w : Int) (l : List Int) : Int := l.foldl (fun w t => if w > t then t else w) w

@[simp] theorem lowerL_nil (w : Int) : lowerL w [] = w := rfl
@[simp] theorem lowerL_cons (w t : Int) (l : List Int) : lowerL w (t :: l) = lowerL (if w > t then t else w) l := rfl
theorem lowerL_append (w : Int) (a b : List Int) : lowerL w (a ++ b) = lowerL (lowerL w a) b := by
  simp [lowerL, List.foldl_append]

theorem lower_eq_lowerL (w : Int) (o : Option Int) : lower w o = lowerL w o.toList := by
  cases o <;> simp [lower]

theorem passChans_eq (w : Int) (cs : List Chan) :
    passChans w cs = lowerL w (cs.filterMap fun c => if c.passOpen then none else c.pqMin) := by
  induction cs generalizing w with
  | nil => rfl
  | cons c cs ih =>
    simp only [passChans, ih]
    cases hp : c.passOpen
    · cases hq : c.pqMin <;> simp [hp, hq, lower]
    · simp [hp]

theorem lowerL_le_iff (w r : Int) (l : List Int) : lowerL w l ≤ r ↔ w ≤ r ∨ ∃ t, t ∈ l ∧ t ≤ r := by
  induction l generalizing w with
  | nil => simp
  | cons a l ih =>
    rw [lowerL_cons, ih]
    constructor
    · rintro (h | ⟨t, ht, hle⟩)
      · by_cases hwa : w > a
        · rw [if_pos hwa] at h; exact Or.inr ⟨a, List.mem_cons_self, h⟩
        · rw [if_neg hwa] at h; exact Or.inl h
      · exact Or.inr ⟨t, List.mem_cons_of_mem _ ht, hle⟩
    · rintro (h | ⟨t, ht, hle⟩)
      · left; by_cases hwa : w > a
        · rw [if_pos hwa]; omega
        · rw [if_neg hwa]; exact h
      · rcases List.mem_cons.1 ht with rfl | ht'
        · left; by_cases hwa : w > t
          · rw [if_pos hwa]; exact hle
          · rw [if_neg hwa]; omega
        · exact Or.inr ⟨t, ht', hle⟩

theorem lowerL_le_init (w : Int) (l : List Int) : lowerL w l ≤ w :=
  (lowerL_le_iff w w l).2 (Or.inl (Int.le_refl _))

theorem lowerL_le_mem (w t : Int) (l : List Int) (h : t ∈ l) : lowerL w l ≤ t :=
  (lowerL_le_iff w t l).2 (Or.inr ⟨t, h, Int.le_refl _⟩)

/-- the result is the start value or an element: together with the two bounds, it is the minimum -/
theorem lowerL_mem (w : Int) (l : List Int) : lowerL w l = w ∨ lowerL w l ∈ l := by
  induction l generalizing w with
  | nil => simp
  | cons a l ih =>
    rw [lowerL_cons]
    by_cases hwa : w > a
    · rw [if_pos hwa]
      rcases ih a with h | h
      · right; rw [h]; exact List.mem_cons_self
      · exact Or.inr (List.mem_cons_of_mem _ h)
    · rw [if_neg hwa]
      rcases ih w with h | h
      · exact Or.inl h
      · exact Or.inr (List.mem_cons_of_mem _ h)

theorem lower_le (w : Int) (o : Option Int) : lower w o ≤ w := by
  rw [lower_eq_lowerL]; exact lowerL_le_init _ _

/-- `a` is part of `b` and holds a lower bound of every element of `b` (the roots of heaps among all their entries):
lowering a wake-up time by either list gives the same -/
def Cover (a b : List Int) : Prop := (∀ m, m ∈ a → m ∈ b) ∧ ∀ t, t ∈ b → ∃ m, m ∈ a ∧ m ≤ t

theorem Cover.refl (a : List Int) : Cover a a := ⟨fun _ h => h, fun t h => ⟨t, h, Int.le_refl t⟩⟩

theorem Cover.append {a b a' b' : List Int} (h : Cover a b) (h' : Cover a' b') : Cover (a ++ a') (b ++ b') := by
  refine ⟨fun m hm => ?_, fun t ht => ?_⟩
  · exact List.mem_append.2 ((List.mem_append.1 hm).imp (h.1 m) (h'.1 m))
  · rcases List.mem_append.1 ht with ht | ht
    · obtain ⟨m, hm, hle⟩ := h.2 t ht; exact ⟨m, List.mem_append_left _ hm, hle⟩
    · obtain ⟨m, hm, hle⟩ := h'.2 t ht; exact ⟨m, List.mem_append_right _ hm, hle⟩

theorem Cover.exists_le {a b : List Int} (h : Cover a b) (r : Int) : (∃ t, t ∈ b ∧ t ≤ r) ↔ ∃ t, t ∈ a ∧ t ≤ r :=
  ⟨fun ⟨t, ht, hle⟩ => let ⟨m, hm, hmt⟩ := h.2 t ht; ⟨m, hm, Int.le_trans hmt hle⟩, fun ⟨t, ht, hle⟩ => ⟨t, h.1 t ht, hle⟩⟩

theorem Cover.lowerL_eq {a b : List Int} (h : Cover a b) (w : Int) : lowerL w a = lowerL w b := by
  have key : ∀ r, lowerL w b ≤ r ↔ lowerL w a ≤ r := fun r => by rw [lowerL_le_iff, lowerL_le_iff, h.exists_le]
  exact Int.le_antisymm ((key _).1 (Int.le_refl _)) ((key _).2 (Int.le_refl _))

theorem fuzz_nonneg : 0 ≤ SLEEP_FUZZ := by simp [SLEEP_FUZZ]
theorem forever_pos : 0 < SLEEP_FOREVER := by decide

/-! ### the chain without and with a `*wakeup = 0` -/

theorem wakeup_of_not_immediate (s : Snap) (h : immediate s = false) :
    wakeup s = lowerL (s.recent + SLEEP_FOREVER) (dueTimes s) := by
  simp only [immediate, Bool.or_eq_false_iff, Bool.and_eq_false_iff, Bool.not_eq_false'] at h
  obtain ⟨⟨hp, ht⟩, hc⟩ := h
  unfold wakeup cleanupSelprep todoSelprep passSelprep dueTimes
  rw [hc]
  cases he : s.exitasap
  · have hp' : (s.chans.any fun c => c.passOpen && delAvail c) = false := by
      rcases hp with hp | hp
      · rw [he] at hp; cases hp
      · exact hp
    have ht' : s.tododir = false := by
      rcases ht with ht | ht
      · rw [he] at ht; cases ht
      · exact ht
    simp only [hp', ht', Bool.false_eq_true, if_false, lower_eq_lowerL, passChans_eq, Option.toList_some]
    cases hj : jobAvail s <;> simp [lowerL_append]
  · simp only [if_true, Bool.false_eq_true, if_false, lower_eq_lowerL, Option.toList_some, List.nil_append]

/-- after a `*wakeup = 0`: the literal 0, lowered by the due times the remaining `*_selprep` calls look at -/
theorem wakeup_immediate_eq (s : Snap) (h : immediate s = true) :
    ∃ l, (∀ t, t ∈ l → t ∈ dueTimes s) ∧ wakeup s = lowerL 0 l := by
  simp only [immediate, Bool.or_eq_true, Bool.and_eq_true, Bool.not_eq_true'] at h
  unfold wakeup cleanupSelprep
  cases hc : s.flagcleanup
  · have he : s.exitasap = false := by
      rcases h with (h | h) | h
      · exact h.1
      · exact h.1
      · rw [hc] at h; cases h
    refine ⟨[s.nexttodorun, s.cleanuptime], by simp [dueTimes, he], ?_⟩
    have hz : (if s.tododir then 0 else passSelprep s (s.recent + SLEEP_FOREVER)) = 0 := by
      rcases h with (h | h) | h
      · simp [passSelprep, he, h.2]
      · simp [h.2]
      · rw [hc] at h; cases h
    simp only [todoSelprep, he, hz, Bool.false_eq_true, if_false, lower_eq_lowerL, Option.toList_some, ← lowerL_append]
    rfl
  · exact ⟨[s.cleanuptime], by simp [dueTimes], by simp only [if_true, lower_eq_lowerL]; rfl⟩

theorem wakeup_of_immediate (s : Snap) (h : immediate s = true) : wakeup s ≤ 0 := by
  obtain ⟨l, _, hw⟩ := wakeup_immediate_eq s h
  rw [hw]; exact lowerL_le_init 0 l

theorem wakeup_immediate_eq_zero (s : Snap) (h : immediate s = true) (hd : ∀ t, t ∈ dueTimes s → 0 ≤ t) : wakeup s = 0 := by
  obtain ⟨l, hl, hw⟩ := wakeup_immediate_eq s h
  rw [hw]
  rcases lowerL_mem 0 l with h0 | hm
  · exact h0
  · have := hd _ (hl _ hm)
    have := lowerL_le_init 0 l
    omega

/-- what the timeout is, in terms of any list `D` that the due times the code reads cover (`dueTimes` itself: `C16_no_spin`;
everything that is queued: `C16_never_past_any_queued`) -/
theorem timeout_spec (s : Snap) (h0 : 0 ≤ s.recent) (D : List Int) (hD : Cover (dueTimes s) D) :
    (timeout s = 0 ↔ immediate s = true ∨ ∃ t, t ∈ D ∧ t ≤ s.recent) ∧
    (¬ (immediate s = true ∨ ∃ t, t ∈ D ∧ t ≤ s.recent) →
      0 < timeout s ∧ timeout s = wakeup s - s.recent + SLEEP_FUZZ ∧
      (∀ t, t ∈ D → wakeup s ≤ t) ∧ wakeup s ≤ s.recent + SLEEP_FOREVER ∧
      (wakeup s = s.recent + SLEEP_FOREVER ∨ wakeup s ∈ D) ∧
      timeout s ≤ SLEEP_FOREVER + SLEEP_FUZZ) := by
  have hfz := fuzz_nonneg
  have hfv := forever_pos
  have hzero : timeout s = 0 ↔ wakeup s ≤ s.recent := by
    unfold timeout
    constructor
    · intro h; split at h
      · assumption
      · omega
    · intro h; rw [if_pos h]
  cases him : immediate s with
  | true =>
    have hw := wakeup_of_immediate s him
    exact ⟨⟨fun _ => .inl rfl, fun _ => hzero.2 (by omega)⟩, fun hn => absurd (.inl rfl) hn⟩
  | false =>
    have hw : wakeup s = lowerL (s.recent + SLEEP_FOREVER) D := by rw [wakeup_of_not_immediate s him, hD.lowerL_eq]
    have hle : wakeup s ≤ s.recent ↔ ∃ t, t ∈ D ∧ t ≤ s.recent := by
      rw [hw, lowerL_le_iff]
      exact ⟨fun h => h.resolve_left (by omega), .inr⟩
    refine ⟨by rw [hzero, hle]; simp, ?_⟩
    intro hn
    have hgt : ¬ wakeup s ≤ s.recent := fun h => hn (.inr (hle.1 h))
    have hto : timeout s = wakeup s - s.recent + SLEEP_FUZZ := by unfold timeout; rw [if_neg hgt]
    have hinit : wakeup s ≤ s.recent + SLEEP_FOREVER := by rw [hw]; exact lowerL_le_init _ _
    refine ⟨by omega, hto, ?_, hinit, ?_, by omega⟩
    · intro t ht; rw [hw]; exact lowerL_le_mem _ _ _ ht
    · rw [hw]; exact lowerL_mem _ _

/-! ### descriptors and guards -/

/-- `comm_do` writes where `comm_selprep` watched and select reported ready -/
theorem commDoActs_eq (ready : Fd → Bool) : ∀ (cs : List Chan) (i : Nat), commDoActs ready i cs = (commSelprep i cs).any ready
  | [], _ => rfl
  | c :: cs, i => by
    rw [commDoActs, commSelprep, List.any_append, commDoActs_eq ready cs]
    cases c.spawnAlive && c.commPending <;> simp

theorem delDoActs_eq (ready : Fd → Bool) : ∀ (cs : List Chan) (i : Nat), delDoActs ready i cs = (delSelprep i cs).any ready
  | [], _ => rfl
  | c :: cs, i => by
    rw [delDoActs, delSelprep, List.any_append, delDoActs_eq ready cs]
    cases c.spawnAlive <;> simp

theorem due_iff (r : Int) (o : Option Int) : due r o = true ↔ ∃ t, o = some t ∧ t ≤ r := by
  cases o <;> simp [due]

theorem mem_chanTimes (t : Int) (cs : List Chan) :
    t ∈ cs.filterMap (fun c => if c.passOpen then none else c.pqMin) ↔
      ∃ c, c ∈ cs ∧ c.passOpen = false ∧ c.pqMin = some t := by
  simp only [List.mem_filterMap]
  constructor
  · rintro ⟨c, hc, hq⟩
    refine ⟨c, hc, ?_⟩
    cases hp : c.passOpen
    · rw [hp] at hq; exact ⟨rfl, by simpa using hq⟩
    · rw [hp] at hq; simp at hq
  · rintro ⟨c, hc, hp, hq⟩
    exact ⟨c, hc, by rw [hp]; simpa using hq⟩

theorem mem_dueTimes (s : Snap) (t : Int) :
    t ∈ dueTimes s ↔
      (s.exitasap = false ∧ jobAvail s = true ∧ ∃ c, c ∈ s.chans ∧ c.passOpen = false ∧ c.pqMin = some t)
      ∨ (s.exitasap = false ∧ s.pqfailMin = some t) ∨ (s.exitasap = false ∧ s.pqdoneMin = some t)
      ∨ (s.exitasap = false ∧ t = s.nexttodorun) ∨ t = s.cleanuptime := by
  unfold dueTimes
  cases he : s.exitasap
  · cases hj : jobAvail s
    · simp only [Bool.false_eq_true, if_false, List.nil_append, List.mem_append, List.mem_singleton, Option.mem_toList,
        true_and, false_and, false_or, or_assoc]
    · simp only [Bool.false_eq_true, if_false, if_true, List.mem_append, List.mem_singleton, Option.mem_toList,
        mem_chanTimes, true_and, or_assoc]
  · simp

theorem pqchan_mem_dueTimes {s : Snap} {c : Chan} {t : Int} (he : s.exitasap = false) (hj : jobAvail s = true)
    (hc : c ∈ s.chans) (hp : c.passOpen = false) (hq : c.pqMin = some t) : t ∈ dueTimes s :=
  (mem_dueTimes s t).2 (Or.inl ⟨he, hj, c, hc, hp, hq⟩)

theorem pqfail_mem_dueTimes {s : Snap} {t : Int} (he : s.exitasap = false) (hq : s.pqfailMin = some t) :
    t ∈ dueTimes s :=
  (mem_dueTimes s t).2 (Or.inr (Or.inl ⟨he, hq⟩))

theorem pqdone_mem_dueTimes {s : Snap} {t : Int} (he : s.exitasap = false) (hq : s.pqdoneMin = some t) :
    t ∈ dueTimes s :=
  (mem_dueTimes s t).2 (Or.inr (Or.inr (Or.inl ⟨he, hq⟩)))

theorem nexttodorun_mem_dueTimes {s : Snap} (he : s.exitasap = false) : s.nexttodorun ∈ dueTimes s :=
  (mem_dueTimes s _).2 (Or.inr (Or.inr (Or.inr (Or.inl ⟨he, rfl⟩))))

theorem cleanuptime_mem_dueTimes (s : Snap) : s.cleanuptime ∈ dueTimes s :=
  (mem_dueTimes s _).2 (Or.inr (Or.inr (Or.inr (Or.inr rfl))))

/-- the per-heap step of C15's model of pass_selprep is the same function -/
theorem lower_matches_sched (w : Int) (q : Nq.Sched.PQ) :
    Nq.Sched.wakeupChan w q = lower w (q.min.map (·.dt)) := by
  unfold Nq.Sched.wakeupChan
  cases q.min <;> simp [lower]

end Nq.SelPrep
