/-
  Lemmas relating the code's view of the priority queues (`SelPrep.dueTimes`: the roots `prioq_min` returns)
  to everything that is queued (`SelPrep.queuedDue`, Nq/Spec/SelQueued.lean), under the premise `HeapRoots`
  that every recorded root is a minimum of its queue: the former `Cover` the latter (`cover_due`).
-/
import Nq.Lemmas.SelPrep
import Nq.Spec.SelQueued

namespace Nq.SelPrep

theorem rootIsMin_iff (o : Option Int) (l : List Int) : rootIsMin o l = true ↔ RootIsMin o l := by
  cases o with
  | none =>
    unfold rootIsMin RootIsMin
    rw [List.isEmpty_iff]
    constructor
    · intro h; exact Or.inl ⟨rfl, h⟩
    · rintro (⟨_, h⟩ | ⟨m, hm, _⟩)
      · exact h
      · cases hm
  | some m =>
    simp only [rootIsMin, RootIsMin, Bool.and_eq_true, List.contains_iff_mem, List.all_eq_true, decide_eq_true_eq]
    constructor
    · rintro ⟨h1, h2⟩; exact Or.inr ⟨m, rfl, h1, h2⟩
    · rintro (⟨h, _⟩ | ⟨m', hm, h1, h2⟩)
      · cases h
      · cases hm; exact ⟨h1, h2⟩

theorem rootsOk_iff : ∀ (cs : List Chan) (ls : List (List Int)), rootsOk cs ls = true ↔ RootsOk cs ls
  | [], [] => by simp [rootsOk, RootsOk]
  | [], _ :: _ => by simp [rootsOk, RootsOk]
  | _ :: _, [] => by simp [rootsOk, RootsOk]
  | c :: cs, l :: ls => by
    simp only [rootsOk, RootsOk, Bool.and_eq_true, rootIsMin_iff, rootsOk_iff cs ls]

theorem heapRoots_iff (s : Snap) (q : Queued) : heapRoots s q = true ↔ HeapRoots s q := by
  simp only [heapRoots, HeapRoots, Bool.and_eq_true, rootIsMin_iff, rootsOk_iff, and_assoc]

theorem cover_root {o : Option Int} {l : List Int} (h : RootIsMin o l) : Cover o.toList l := by
  rcases h with ⟨rfl, rfl⟩ | ⟨m, rfl, hm, hle⟩
  · exact Cover.refl []
  · exact ⟨fun x hx => by rw [Option.toList_some, List.mem_singleton] at hx; exact hx ▸ hm,
      fun t ht => ⟨m, by simp, hle t ht⟩⟩

theorem cover_chans : ∀ (cs : List Chan) (ls : List (List Int)), RootsOk cs ls →
    Cover (cs.filterMap fun c => if c.passOpen then none else c.pqMin) (chanQueued cs ls)
  | [], [], _ => Cover.refl []
  | [], _ :: _, h => h.elim
  | _ :: _, [], h => h.elim
  | c :: cs, l :: ls, h => by
    have ih := cover_chans cs ls h.2
    have h1 : Cover (if c.passOpen then none else c.pqMin).toList (if c.passOpen then [] else l) := by
      cases c.passOpen
      · exact cover_root h.1
      · exact Cover.refl []
    have := h1.append ih
    rw [List.filterMap_cons, chanQueued]
    cases hq : (if c.passOpen then none else c.pqMin) with
    | none => rw [hq] at this; exact this
    | some x => rw [hq] at this; exact this

theorem cover_due (s : Snap) (q : Queued) (h : HeapRoots s q) : Cover (dueTimes s) (queuedDue s q) := by
  obtain ⟨hc, hf, hd⟩ := h
  unfold dueTimes queuedDue
  refine Cover.append ?_ (Cover.refl _)
  cases s.exitasap
  · refine (((?_ : Cover _ _).append (cover_root hf)).append (cover_root hd)).append (Cover.refl _)
    cases jobAvail s
    · exact Cover.refl []
    · exact cover_chans _ _ hc
  · exact Cover.refl []

end Nq.SelPrep
