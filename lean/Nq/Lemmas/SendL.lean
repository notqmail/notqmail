/-
  Lemmas about the qmail-send report reader model (`Nq.SendReport`): which parts of the state each
  routine can touch, which events it can emit, the REPORTMAX bound; then the main result: the reader is simulated
  byte by byte by the reference reader of `Nq.Spec.TB` (`step_sim`, `feed_sim`), the reference reader marks only
  deliveries in flight, each at most once, hence both hold of the events of a whole stream (`feed_stream`).
-/
import Nq.SendReport
import Nq.Spec.TrustBoundary

namespace Nq.Lemmas.SendL
open Nq Nq.SendReport Nq.Spec.TB

/-- events that touch neither a recipient file nor a bounce file -/
def quiet : Ev → Bool
  | .mark _ _ _ => false
  | .openWriteFail _ => false
  | .stray => false
  | .openAppend _ => false
  | .bounce _ => false
  | _ => true

/-- the line buffer and the slot table are untouched -/
def Frame (st st' : St) : Prop := st'.drev = st.drev ∧ st'.dlen = st.dlen ∧ st'.slots = st.slots

theorem Frame.refl (st : St) : Frame st st := ⟨rfl, rfl, rfl⟩
theorem Frame.trans {a b c : St} (h1 : Frame a b) (h2 : Frame b c) : Frame a c :=
  ⟨h2.1.trans h1.1, h2.2.1.trans h1.2.1, h2.2.2.trans h1.2.2⟩

theorem nextPlan_frame (st : St) : Frame st (nextPlan st).2 ∧ (nextPlan st).2.jobs = st.jobs := by
  simp [nextPlan, Frame]

theorem markdone_cases (c : Nat) (st : St) (id pos : Nat) :
    markdone c st id pos = ((nextPlan st).2, [.mark (Clean.fmtqfn (chanaddr c) id true) pos [68]]) ∨
    markdone c st id pos = ((nextPlan st).2,
      [.openWriteFail (Clean.fmtqfn (chanaddr c) id true),
       .log (str "warning: trouble marking " ++ Clean.fmtqfn (chanaddr c) id true ++
         str "; message will be delivered twice!\n")]) := by
  by_cases h : (nextPlan st).1 = 1
  · exact .inr (if_pos h)
  · exact .inl (if_neg h)

theorem markdone_proj (c : Nat) (st : St) (id pos : Nat) :
    attemptsOf (markdone c st id pos).2 = [Clean.fmtqfn (chanaddr c) id true] ∧
    (marksOf (markdone c st id pos).2 = [(Clean.fmtqfn (chanaddr c) id true, pos)] ∨ marksOf (markdone c st id pos).2 = []) ∧
    bouncesOf (markdone c st id pos).2 = [] ∧ writesOK (markdone c st id pos).2 = true := by
  rcases markdone_cases c st id pos with h | h <;> rw [h]
  · exact ⟨rfl, .inl rfl, rfl, rfl⟩
  · exact ⟨rfl, .inr rfl, rfl, rfl⟩

inductive CloseEv : Ev → Prop
  | unlink (p : Bytes) : CloseEv (.unlink p)
  | stat (p : Bytes) : CloseEv (.stat p)
  | pq (w i d : Nat) : CloseEv (.pq w i d)
  | statWarn (p t : Bytes) : CloseEv (.log (str "warning: unable to stat " ++ p ++ t))
  | unlinkWarn (p t : Bytes) : CloseEv (.log (str "warning: unable to unlink " ++ p ++ t))

theorem CloseEv.quiet {e : Ev} (h : CloseEv e) : quiet e = true := by cases h <;> rfl

theorem statOthers_spec (id : Nat) (cs : List Nat) (st : St) :
    Frame st (statOthers id cs st).1 ∧ (statOthers id cs st).1.jobs = st.jobs ∧
    ∀ e ∈ (statOthers id cs st).2.1, CloseEv e := by
  induction cs generalizing st with
  | nil => exact ⟨Frame.refl st, rfl, fun _ h => nomatch h⟩
  | cons c cs ih =>
    obtain ⟨hf, hj⟩ := nextPlan_frame st
    by_cases h1 : (nextPlan st).1 = 1
    · have e : statOthers id (c :: cs) st = _ := if_pos h1
      rw [e]
      exact ⟨hf, hj, List.forall_mem_singleton.2 (.stat _)⟩
    by_cases h2 : (nextPlan st).1 = 2
    · have e : statOthers id (c :: cs) st = _ := (if_neg h1).trans (if_pos h2)
      rw [e]
      exact ⟨hf, hj, List.forall_mem_cons.2 ⟨.stat _, List.forall_mem_singleton.2 (.statWarn _ _)⟩⟩
    · have e : statOthers id (c :: cs) st = _ := (if_neg h1).trans (if_neg h2)
      rw [e]
      obtain ⟨g1, g2, g3⟩ := ih (nextPlan st).2
      exact ⟨hf.trans g1, g2.trans hj, List.forall_mem_cons.2 ⟨.stat _, g3⟩⟩

abbrev dflt : Job := ⟨0, 0, 0, false, false, 0, 0⟩

/-- the parts of the job table the report reader's decisions depend on never change -/
def JobsSame (a b : List Job) : Prop :=
  ∀ j, (a.getD j dflt).id = (b.getD j dflt).id ∧ (a.getD j dflt).dying = (b.getD j dflt).dying

theorem JobsSame.refl (a : List Job) : JobsSame a a := fun _ => ⟨rfl, rfl⟩
theorem JobsSame.trans {a b c : List Job} (h1 : JobsSame a b) (h2 : JobsSame b c) : JobsSame a c :=
  fun j => ⟨(h1 j).1.trans (h2 j).1, (h1 j).2.trans (h2 j).2⟩

theorem set_same (l : List Job) (i : Nat) (x : Job) (hid : x.id = (l.getD i dflt).id) (hdy : x.dying = (l.getD i dflt).dying) :
    JobsSame (l.set i x) l := by
  intro j
  by_cases h : i = j
  · subst h
    by_cases hl : i < l.length
    · simp only [List.getD_eq_getElem?_getD, List.getElem?_set_self hl, Option.getD_some] at hid hdy ⊢
      exact ⟨hid, hdy⟩
    · rw [List.set_eq_of_length_le (Nat.le_of_not_lt hl)]; exact ⟨rfl, rfl⟩
  · simp only [List.getD_eq_getElem?_getD, List.getElem?_set_ne h, and_self]

theorem jobClose_spec (env : Env) (st : St) (j : Nat) :
    Frame st (jobClose env st j).1 ∧ JobsSame (jobClose env st j).1.jobs st.jobs ∧
    ∀ e ∈ (jobClose env st j).2, CloseEv e := by
  generalize hr : jobClose env st j = r
  unfold jobClose at hr
  cases hj : st.jobs[j]? with
  | none => rw [hj] at hr; subst hr; exact ⟨Frame.refl st, JobsSame.refl _, fun _ h => nomatch h⟩
  | some jb =>
    -- `job_close` writes only `refs` of job `j` (`hs`: `id` and `dying` stay) and otherwise consumes plan numbers
    -- (`nextPlan_frame`, `statOthers_spec`); after that its branches in source order, each event a `CloseEv`
    have hg : st.jobs.getD j dflt = jb := by simp [List.getD_eq_getElem?_getD, hj]
    have hs : JobsSame (setJob st j { jb with refs := jb.refs - 1 }).jobs st.jobs :=
      set_same _ _ _ (by rw [hg]) (by rw [hg])
    have hf : Frame st (setJob st j { jb with refs := jb.refs - 1 }) := ⟨rfl, rfl, rfl⟩
    obtain ⟨nf, nj⟩ := nextPlan_frame (setJob st j { jb with refs := jb.refs - 1 })
    rw [hj] at hr
    simp only [] at hr
    generalize nextPlan (setJob st j { jb with refs := jb.refs - 1 }) = ps at nf nj hr
    obtain ⟨p, st'⟩ := ps
    simp only [] at nf nj hr
    by_cases h1 : 0 < jb.refs - 1
    · rw [if_pos h1] at hr; subst hr; exact ⟨hf, hs, fun _ h => nomatch h⟩
    rw [if_neg h1] at hr
    by_cases h2 : jb.hiteof = true ∧ jb.numtodo = 0
    · rw [if_pos h2] at hr
      by_cases h3 : p = 1
      · rw [if_pos h3] at hr; subst hr
        exact ⟨hf.trans nf, nj ▸ hs, List.forall_mem_cons.2 ⟨.unlink _, List.forall_mem_cons.2
          ⟨.unlinkWarn _ _, List.forall_mem_singleton.2 (.pq _ _ _)⟩⟩⟩
      · rw [if_neg h3] at hr
        obtain ⟨s1, s2, s3⟩ := statOthers_spec jb.id (otherChannels jb.channel) st'
        have hu := List.forall_mem_cons.2 ⟨CloseEv.unlink (Clean.fmtqfn (chanaddr jb.channel) jb.id true), s3⟩
        have hfr := (hf.trans nf).trans s1
        have hjs : JobsSame (statOthers jb.id (otherChannels jb.channel) st').1.jobs st.jobs := s2 ▸ nj ▸ hs
        by_cases h4 : (statOthers jb.id (otherChannels jb.channel) st').2.2 = true
        · rw [if_pos h4] at hr; subst hr; exact ⟨hfr, hjs, hu⟩
        · rw [if_neg h4] at hr; subst hr
          exact ⟨hfr, hjs, List.forall_mem_append.2 ⟨hu, List.forall_mem_singleton.2 (.pq _ _ _)⟩⟩
    · rw [if_neg h2] at hr; subst hr; exact ⟨hf, hs, List.forall_mem_singleton.2 (.pq _ _ _)⟩

theorem marksOf_append (a b : List Ev) : marksOf (a ++ b) = marksOf a ++ marksOf b := by
  induction a with
  | nil => rfl
  | cons e a ih =>
    cases e with
    | mark p pos w => exact congrArg (_ :: ·) ih
    | _ => exact ih

theorem bouncesOf_append (a b : List Ev) : bouncesOf (a ++ b) = bouncesOf a ++ bouncesOf b := by
  induction a with
  | nil => rfl
  | cons e a ih =>
    cases e with
    | openAppend p => exact congrArg (_ :: ·) ih
    | _ => exact ih

theorem writesOK_append (a b : List Ev) : writesOK (a ++ b) = (writesOK a && writesOK b) := by
  induction a with
  | nil => rfl
  | cons e a ih =>
    cases e with
    | mark p pos w =>
      show (w == [68] && writesOK (a ++ b)) = ((w == [68] && writesOK a) && writesOK b)
      rw [ih, Bool.and_assoc]
    | stray => rfl
    | _ => exact ih

theorem attemptsOf_append (a b : List Ev) : attemptsOf (a ++ b) = attemptsOf a ++ attemptsOf b := by
  induction a with
  | nil => rfl
  | cons e a ih =>
    cases e with
    | mark p pos w => exact congrArg (_ :: ·) ih
    | openWriteFail p => exact congrArg (_ :: ·) ih
    | _ => exact ih

theorem quiet_nil (q : List Ev) (h : ∀ e ∈ q, quiet e = true) :
    marksOf q = [] ∧ bouncesOf q = [] ∧ writesOK q = true ∧ attemptsOf q = [] := by
  induction q with
  | nil => exact ⟨rfl, rfl, rfl, rfl⟩
  | cons e r ih =>
    have he := h e (List.mem_cons_self ..)
    have hr := ih fun x hx => h x (List.mem_cons_of_mem _ hx)
    cases e with
    | mark | openWriteFail | stray | openAppend | bounce => cases he
    | _ => exact hr

theorem append_quiet (a q : List Ev) (h : ∀ e ∈ q, quiet e = true) :
    marksOf (a ++ q) = marksOf a ∧ bouncesOf (a ++ q) = bouncesOf a ∧ writesOK (a ++ q) = writesOK a ∧
    attemptsOf (a ++ q) = attemptsOf a := by
  obtain ⟨q1, q2, q3, q4⟩ := quiet_nil q h
  rw [marksOf_append, bouncesOf_append, writesOK_append, attemptsOf_append, q1, q2, q3, q4]
  exact ⟨List.append_nil _, List.append_nil _, Bool.and_true _, List.append_nil _⟩

/-! ### one report line -/

def WARN : Bytes := str "warning: internal error: delivery report out of range\n"

/-- `h`: the slot is out of range or not in use (`getD` covers both) -/
theorem processLine_unused (env : Env) (st : St) (dl : Bytes)
    (h : st.slots.getD (dl.headD 0).toNat none = none) :
    processLine env st dl = (st, [.log WARN]) := by
  unfold processLine
  simp only [h]
  rfl

theorem finishReport_spec (env : Env) (st : St) (r : St × List Ev) (d j : Nat) (hf : Frame st r.1) :
    (finishReport env r d j).1.drev = st.drev ∧ (finishReport env r d j).1.dlen = st.dlen ∧
    (finishReport env r d j).1.slots = st.slots.set d none ∧ JobsSame (finishReport env r d j).1.jobs r.1.jobs ∧
    marksOf (finishReport env r d j).2 = marksOf r.2 ∧ bouncesOf (finishReport env r d j).2 = bouncesOf r.2 ∧
    writesOK (finishReport env r d j).2 = writesOK r.2 ∧ attemptsOf (finishReport env r d j).2 = attemptsOf r.2 := by
  obtain ⟨hc, hj, hq⟩ := jobClose_spec env r.1 j
  unfold finishReport
  simp only []
  refine ⟨hc.1.trans hf.1, hc.2.1.trans hf.2.1, by rw [hc.2.2, hf.2.2], hj, ?_⟩
  rw [List.append_assoc]
  refine append_quiet _ _ fun e he => ?_
  rcases List.mem_append.1 he with he | he
  · exact (hq e he).quiet
  · rw [List.mem_singleton.1 he]; rfl

theorem reportCore_cases (env : Env) (st : St) (sl : Slot) (jb : Job) (letter : Byte) (text : Bytes) :
    (letter = 75 ∧ reportCore env st sl jb letter text =
      (setJob (markdone env.chan st jb.id sl.mpos).1 sl.j { jb with numtodo := jb.numtodo - 1 },
       .log (str "delivery " ++ Clean.fmtUlong sl.delid ++ str ": success: " ++ logsafe text ++ [LF]) ::
         (markdone env.chan st jb.id sl.mpos).2)) ∨
    (letter = 68 ∧ reportCore env st sl jb letter text =
      (setJob (markdone env.chan st jb.id sl.mpos).1 sl.j { jb with numtodo := jb.numtodo - 1 },
       .log (str "delivery " ++ Clean.fmtUlong sl.delid ++ str ": failure: " ++ logsafe text ++ [LF]) ::
         addbounce jb.id sl.recip text ++ (markdone env.chan st jb.id sl.mpos).2)) ∨
    (letter = 90 ∧ reportCore env st sl jb letter text =
      (st, [.log (str "delivery " ++ Clean.fmtUlong sl.delid ++ str ": deferral: " ++ logsafe text ++ [LF])])) ∨
    (¬(letter = 75 ∨ letter = 68) ∧ reportCore env st sl jb letter text =
      (st, [.log (str "delivery " ++ Clean.fmtUlong sl.delid ++ str ": report mangled, will defer\n")])) := by
  unfold reportCore
  by_cases hK : letter = 75
  · exact .inl ⟨hK, if_pos hK⟩
  by_cases hZ : letter = 90
  · exact .inr (.inr (.inl ⟨hZ, (if_neg hK).trans (if_pos hZ)⟩))
  by_cases hD : letter = 68
  · exact .inr (.inl ⟨hD, (if_neg hK).trans ((if_neg hZ).trans (if_pos hD))⟩)
  · exact .inr (.inr (.inr ⟨fun h => h.elim hK hD, (if_neg hK).trans ((if_neg hZ).trans (if_neg hD))⟩))

/-- when does a report ask for a mark (the reference reader's condition) -/
abbrev wantsMark (jobs : List Job) (sl : Slot) (l : Byte) : Prop :=
  l = 75 ∨ l = 68 ∨ (l = 90 ∧ (jobs.getD sl.j dflt).dying = true)

/-- K and D try to mark this delivery's record (once; a failed open_write loses the mark), D also appends one
bounce; everything else only logs -/
theorem reportCore_spec (env : Env) (st : St) (sl : Slot) (jb : Job) (letter : Byte) (text : Bytes)
    (hjb : jb = st.jobs.getD sl.j dflt) {r : St × List Ev} (hr : reportCore env st sl jb letter text = r) :
    Frame st r.1 ∧ JobsSame r.1.jobs st.jobs ∧ writesOK r.2 = true ∧
    (bouncesOf r.2 = [] ∨ bouncesOf r.2 = [Clean.fmtqfn (str "bounce/") jb.id false]) ∧
    ((letter = 75 ∨ letter = 68) →
      attemptsOf r.2 = [Clean.fmtqfn (chanaddr env.chan) jb.id true] ∧
      (marksOf r.2 = [(Clean.fmtqfn (chanaddr env.chan) jb.id true, sl.mpos)] ∨ marksOf r.2 = [])) ∧
    (¬(letter = 75 ∨ letter = 68) → attemptsOf r.2 = [] ∧ marksOf r.2 = [] ∧ bouncesOf r.2 = []) := by
  obtain ⟨p1, p2, p3, p4⟩ := markdone_proj env.chan st jb.id sl.mpos
  obtain ⟨nf, nj⟩ := nextPlan_frame st
  have hm : (markdone env.chan st jb.id sl.mpos).1 = (nextPlan st).2 := by
    rcases markdone_cases env.chan st jb.id sl.mpos with h | h <;> rw [h]
  have hfr : Frame st (setJob (markdone env.chan st jb.id sl.mpos).1 sl.j { jb with numtodo := jb.numtodo - 1 }) := by
    rw [hm]; exact nf
  have hdec : JobsSame (setJob (markdone env.chan st jb.id sl.mpos).1 sl.j { jb with numtodo := jb.numtodo - 1 }).jobs
      st.jobs := by
    rw [hm, setJob, nj]; exact set_same _ _ _ (by rw [hjb]) (by rw [hjb])
  rcases reportCore_cases env st sl jb letter text with ⟨rfl, e⟩ | ⟨rfl, e⟩ | ⟨rfl, e⟩ | ⟨hno, e⟩ <;>
    rw [e] at hr <;> subst hr
  · exact ⟨hfr, hdec, p4, .inl p3, fun _ => ⟨p1, p2⟩, fun h => absurd (.inl rfl) h⟩
  · exact ⟨hfr, hdec, p4, .inr (congrArg (_ :: ·) p3), fun _ => ⟨p1, p2⟩, fun h => absurd (.inr rfl) h⟩
  · exact ⟨Frame.refl st, JobsSame.refl _, rfl, .inl rfl, fun h => absurd h (by decide), fun _ => ⟨rfl, rfl, rfl⟩⟩
  · exact ⟨Frame.refl st, JobsSame.refl _, rfl, .inl rfl, fun h => absurd h hno, fun _ => ⟨rfl, rfl, rfl⟩⟩

theorem processLine_some (env : Env) (st : St) (dl : Bytes) (sl : Slot)
    (h : st.slots.getD (dl.headD 0).toNat none = some sl) :
    processLine env st dl =
      finishReport env
        (reportCore env st sl (st.jobs.getD sl.j dflt)
          (if dl.getD 1 0 = 90 ∧ (st.jobs.getD sl.j dflt).dying = true then 68 else dl.getD 1 0)
          (if dl.getD 1 0 = 90 ∧ (st.jobs.getD sl.j dflt).dying = true then dl.dropLast.drop 2 ++ DYINGMSG
           else cstr2 (dl.drop 2)))
        (dl.headD 0).toNat sl.j := by
  unfold processLine
  simp only [h]

/-- what `processLine` does with the report `dl` of a slot in use, `sl`: the line buffer is left alone, the slot freed;
K, D and a Z for a dying message try to mark this delivery's record once; anything else marks and bounces nothing -/
structure Processed (env : Env) (st : St) (dl : Bytes) (jobs : List Job) (sl : Slot) (r : St × List Ev) : Prop where
  drev : r.1.drev = st.drev
  dlen : r.1.dlen = st.dlen
  slots : r.1.slots = st.slots.set (dl.headD 0).toNat none
  jobsSame : JobsSame r.1.jobs jobs
  writes : writesOK r.2 = true
  bounces : bouncesOf r.2 = [] ∨ bouncesOf r.2 = [Clean.fmtqfn (str "bounce/") (st.jobs.getD sl.j dflt).id false]
  marked : wantsMark jobs sl (dl.getD 1 0) →
    attemptsOf r.2 = [(entryOf env.chan jobs sl).1] ∧ (marksOf r.2 = [entryOf env.chan jobs sl] ∨ marksOf r.2 = [])
  unmarked : ¬ wantsMark jobs sl (dl.getD 1 0) → attemptsOf r.2 = [] ∧ marksOf r.2 = [] ∧ bouncesOf r.2 = []

theorem processLine_spec (env : Env) (st : St) (dl : Bytes) (jobs : List Job) (sl : Slot)
    (hJ : JobsSame st.jobs jobs) (h : st.slots.getD (dl.headD 0).toNat none = some sl)
    {r : St × List Ev} (hr : processLine env st dl = r) : Processed env st dl jobs sl r := by
  rw [processLine_some env st dl sl h] at hr
  have hent : entryOf env.chan jobs sl =
      (Clean.fmtqfn (chanaddr env.chan) (st.jobs.getD sl.j dflt).id true, sl.mpos) := by
    unfold entryOf; rw [(hJ sl.j).1]
  have hdy := (hJ sl.j).2
  generalize hjb : st.jobs.getD sl.j dflt = jb at hr hent hdy ⊢
  generalize hl : (if dl.getD 1 0 = 90 ∧ jb.dying = true then (68 : Byte) else dl.getD 1 0) = letter at hr
  generalize (if dl.getD 1 0 = 90 ∧ jb.dying = true then dl.dropLast.drop 2 ++ DYINGMSG
    else cstr2 (dl.drop 2)) = text at hr
  -- a `Z` for a message past its queue lifetime is handled as `D`
  have hiff : (letter = 75 ∨ letter = 68) ↔ wantsMark jobs sl (dl.getD 1 0) := by
    unfold wantsMark
    rw [← hl, ← hdy]
    by_cases hz : dl.getD 1 0 = 90 ∧ jb.dying = true
    · rw [if_pos hz]
      exact ⟨fun _ => .inr (.inr hz), fun _ => .inr rfl⟩
    · rw [if_neg hz]
      exact ⟨fun hh => hh.elim .inl fun hh => .inr (.inl hh),
        fun hh => hh.elim .inl fun hh => hh.elim .inr fun hh => absurd hh hz⟩
  obtain ⟨c1, c2, c3, c4, c5, c6⟩ := reportCore_spec env st sl jb letter text hjb.symm rfl
  obtain ⟨f1, f2, f3, f4, f5, f6, f7, f8⟩ :=
    finishReport_spec env st (reportCore env st sl jb letter text) (dl.headD 0).toNat sl.j c1
  subst hr
  refine ⟨f1, f2, f3, (f4.trans c2).trans hJ, f7.trans c3, ?_, ?_, ?_⟩
  · rw [f6, hjb]; exact c4
  · rw [f8, f5, hent]; exact fun hw => c5 (hiff.2 hw)
  · rw [f8, f5, f6]; exact fun hw => c6 fun hh => hw (hiff.1 hh)

theorem processLine_line (env : Env) (st : St) (dl : Bytes) :
    (processLine env st dl).1.drev = st.drev ∧ (processLine env st dl).1.dlen = st.dlen ∧
    writesOK (processLine env st dl).2 = true := by
  cases h : st.slots.getD (dl.headD 0).toNat none with
  | none => rw [processLine_unused env st dl h]; exact ⟨rfl, rfl, rfl⟩
  | some sl =>
    have p := processLine_spec env st dl st.jobs sl (JobsSame.refl _) h rfl
    exact ⟨p.drev, p.dlen, p.writes⟩

/-! ### one byte; the REPORTMAX bound -/

def push (st : St) (ch : Byte) : St :=
  if st.dlen < Nq.Gen.REPORTMAX then { st with drev := ch :: st.drev, dlen := st.dlen + 1 } else st

theorem step_eq (env : Env) (st : St) (ch : Byte) :
    step env st ch =
      if ch = 0 ∧ (push st ch).dlen > 1 then
        processLine env { push st ch with drev := [], dlen := 0 } (push st ch).drev.reverse
      else (push st ch, []) := rfl

theorem step_cases (env : Env) (st : St) (ch : Byte) :
    step env st ch = (push st ch, []) ∨
    step env st ch = processLine env { push st ch with drev := [], dlen := 0 } (push st ch).drev.reverse := by
  rw [step_eq]
  by_cases hc : ch = 0 ∧ (push st ch).dlen > 1
  · exact .inr (if_pos hc)
  · exact .inl (if_neg hc)

theorem push_dlen (st : St) (ch : Byte) (h : st.dlen ≤ Nq.Gen.REPORTMAX) :
    (push st ch).dlen ≤ Nq.Gen.REPORTMAX := by
  unfold push
  split
  · assumption
  · exact h

theorem step_dlen (env : Env) (st : St) (ch : Byte) (h : st.dlen ≤ Nq.Gen.REPORTMAX) :
    (step env st ch).1.dlen ≤ Nq.Gen.REPORTMAX := by
  rcases step_cases env st ch with e | e <;> rw [e]
  · exact push_dlen st ch h
  · rw [(processLine_line env _ _).2.1]; exact Nat.zero_le _

/-! ### the whole stream: simulation by the reference reader of `Nq.Spec.TB` -/

def refPush (st : RefSt) (ch : Byte) : RefSt :=
  if st.n < Nq.Gen.REPORTMAX then { st with rev := ch :: st.rev, n := st.n + 1 } else st

theorem refStep_eq (c : Nat) (jobs : List Job) (st : RefSt) (ch : Byte) :
    refStep c jobs st ch =
      if ch = 0 ∧ (refPush st ch).n > 1 then
        match (refPush st ch).slots.getD (((refPush st ch).rev.reverse.headD 0).toNat) none with
        | none => ({ (refPush st ch) with rev := [], n := 0 }, [])
        | some sl =>
          ({ rev := [], n := 0,
             slots := (refPush st ch).slots.set (((refPush st ch).rev.reverse.headD 0).toNat) none },
           if wantsMark jobs sl ((refPush st ch).rev.reverse.getD 1 0) then [entryOf c jobs sl] else [])
      else (refPush st ch, []) := rfl

/-- the simulation relation between the model state and the reference reader's state -/
def Rel (jobs : List Job) (st : St) (rst : RefSt) : Prop :=
  rst.rev = st.drev ∧ rst.n = st.dlen ∧ rst.slots = st.slots ∧ JobsSame st.jobs jobs

theorem push_rel {jobs : List Job} {st : St} {rst : RefSt} (ch : Byte) (hR : Rel jobs st rst) :
    Rel jobs (push st ch) (refPush rst ch) := by
  obtain ⟨r1, r2, r3, r4⟩ := hR
  unfold push refPush
  rw [r2]
  split
  · exact ⟨congrArg (ch :: ·) r1, rfl, r3, r4⟩
  · exact ⟨r1, r2, r3, r4⟩

theorem step_sim (env : Env) (jobs : List Job) (st : St) (rst : RefSt) (ch : Byte) (hR : Rel jobs st rst) :
    attemptsOf (step env st ch).2 = (refStep env.chan jobs rst ch).2.map (·.1) ∧
    (marksOf (step env st ch).2).Sublist (refStep env.chan jobs rst ch).2 ∧
    Rel jobs (step env st ch).1 (refStep env.chan jobs rst ch).1 := by
  have hR1 := push_rel ch hR
  generalize hr : step env st ch = r
  generalize hq : refStep env.chan jobs rst ch = q
  rw [step_eq] at hr
  rw [refStep_eq] at hq
  generalize push st ch = st1 at hR1 hr
  generalize refPush rst ch = rst1 at hR1 hq
  obtain ⟨rrev, rn, rslots⟩ := rst1
  obtain ⟨r1, r2, r3, r4⟩ := hR1
  simp only at r1 r2 r3
  subst r1 r2 r3
  -- after the push both readers hold the same line, length and slot table, so `hc`, `hs` and `hw` decide for both; where
  -- the reference marks, the model makes that one attempt and marks that record or nothing (`open_write` failed): `Sublist`
  by_cases hc : ch = 0 ∧ st1.dlen > 1
  · rw [if_pos hc] at hr hq
    cases hs : st1.slots.getD (st1.drev.reverse.headD 0).toNat none with
    | none =>
      simp only [hs] at hq
      rw [processLine_unused env { st1 with drev := [], dlen := 0 } _ hs] at hr
      subst hr hq
      exact ⟨rfl, List.Sublist.refl _, rfl, rfl, rfl, r4⟩
    | some sl =>
      simp only [hs] at hq
      have p := processLine_spec env { st1 with drev := [], dlen := 0 } st1.drev.reverse jobs sl r4 hs hr
      have hrel : Rel jobs r.1
          { rev := [], n := 0, slots := st1.slots.set (st1.drev.reverse.headD 0).toNat none } :=
        ⟨p.drev.symm, p.dlen.symm, p.slots.symm, p.jobsSame⟩
      by_cases hw : wantsMark jobs sl (st1.drev.reverse.getD 1 0)
      · obtain ⟨a1, a2⟩ := p.marked hw
        rw [if_pos hw] at hq
        subst hq
        rw [a1]
        refine ⟨rfl, ?_, hrel⟩
        rcases a2 with a2 | a2 <;> rw [a2]
        · exact List.Sublist.refl _
        · exact List.nil_sublist _
      · obtain ⟨a1, a2, -⟩ := p.unmarked hw
        rw [if_neg hw] at hq
        subst hq
        rw [a1, a2]
        exact ⟨rfl, List.Sublist.refl _, hrel⟩
  · rw [if_neg hc] at hr hq
    subst hr hq
    exact ⟨rfl, List.Sublist.refl _, rfl, rfl, rfl, r4⟩

theorem feed_sim (env : Env) (jobs : List Job) (st : St) (rst : RefSt) (s : Bytes) (hR : Rel jobs st rst) :
    attemptsOf (feed env st s).2 = (refRun env.chan jobs rst s).map (·.1) ∧
    (marksOf (feed env st s).2).Sublist (refRun env.chan jobs rst s) := by
  induction s generalizing st rst with
  | nil => exact ⟨rfl, List.Sublist.refl _⟩
  | cons c r ih =>
    obtain ⟨s1, s2, s3⟩ := step_sim env jobs st rst c hR
    obtain ⟨i1, i2⟩ := ih _ _ s3
    simp only [feed, refRun, attemptsOf_append, marksOf_append, List.map_append]
    exact ⟨by rw [s1, i1], List.Sublist.append s2 i2⟩

/-! ### the reference reader only marks deliveries in flight, each at most once (multiset inclusion) -/

theorem count_inflight_set (c : Nat) (jobs : List Job) (slots : List (Option Slot)) (d : Nat) (sl : Slot)
    (h : slots.getD d none = some sl) (x : Bytes × Nat) :
    (inflight c jobs (slots.set d none)).count x + (if (entryOf c jobs sl == x) = true then 1 else 0)
      = (inflight c jobs slots).count x := by
  unfold inflight
  generalize entryOf c jobs = f
  induction slots generalizing d with
  | nil => nomatch h
  | cons a r ih =>
    cases d with
    | zero =>
      have ha : a = some sl := h
      subst ha
      exact (List.count_cons ..).symm
    | succ n =>
      have hn := ih n h
      cases a with
      | none => exact hn
      | some v =>
        show (f v :: _).count x + _ = (f v :: _).count x
        rw [List.count_cons, List.count_cons, Nat.add_right_comm, hn]

theorem refStep_sub (c : Nat) (jobs : List Job) (rst : RefSt) (ch : Byte) (x : Bytes × Nat) :
    (refStep c jobs rst ch).2.count x + (inflight c jobs (refStep c jobs rst ch).1.slots).count x
      ≤ (inflight c jobs rst.slots).count x := by
  have hslots : (refPush rst ch).slots = rst.slots := by unfold refPush; split <;> rfl
  rw [refStep_eq, ← hslots]
  generalize refPush rst ch = st1
  by_cases hc : ch = 0 ∧ st1.n > 1
  · rw [if_pos hc]
    cases hs : st1.slots.getD ((st1.rev.reverse.headD 0).toNat) none with
    | none => exact Nat.le_of_eq (Nat.zero_add _)
    | some sl =>
      rw [← count_inflight_set c jobs st1.slots _ sl hs x]
      by_cases hw : wantsMark jobs sl (st1.rev.reverse.getD 1 0)
      · simp only [if_pos hw]
        rw [List.count_singleton]
        exact Nat.le_of_eq (Nat.add_comm _ _)
      · simp only [if_neg hw]
        exact Nat.le_trans (Nat.le_of_eq (Nat.zero_add _)) (Nat.le_add_right _ _)
  · rw [if_neg hc]
    exact Nat.le_of_eq (Nat.zero_add _)

theorem refRun_sub (c : Nat) (jobs : List Job) (rst : RefSt) (s : Bytes) (x : Bytes × Nat) :
    (refRun c jobs rst s).count x ≤ (inflight c jobs rst.slots).count x := by
  induction s generalizing rst with
  | nil => exact Nat.zero_le _
  | cons ch r ih =>
    show ((refStep c jobs rst ch).2 ++ refRun c jobs (refStep c jobs rst ch).1 r).count x ≤ _
    rw [List.count_append]
    exact Nat.le_trans (Nat.add_le_add_left (ih _) _) (refStep_sub c jobs rst ch x)

theorem subMultiset_of_count {α : Type} [BEq α] (xs pool : List α) (h : ∀ x, xs.count x ≤ pool.count x) :
    subMultiset xs pool = true := by
  unfold subMultiset
  rw [List.all_eq_true]
  intro x _
  simpa using h x

theorem feed_stream (env : Env) (st : St) (s : Bytes) (h0 : st.drev = []) (h1 : st.dlen = 0) :
    sendStrict env.chan st.jobs st.slots s (feed env st s).2 = true ∧
    subMultiset (marksOf (feed env st s).2) (inflight env.chan st.jobs st.slots) = true := by
  have hR : Rel st.jobs st { slots := st.slots } := ⟨h0.symm, h1.symm, rfl, JobsSame.refl _⟩
  obtain ⟨a1, a2⟩ := feed_sim env st.jobs st _ s hR
  exact ⟨Bool.and_eq_true_iff.2 ⟨beq_iff_eq.2 a1, List.isSublist_iff_sublist.mpr a2⟩,
    subMultiset_of_count _ _ fun x =>
      Nat.le_trans (List.Sublist.count_le x a2) (refRun_sub env.chan st.jobs { slots := st.slots } s x)⟩

theorem step_writesOK (env : Env) (st : St) (ch : Byte) : writesOK (step env st ch).2 = true := by
  rcases step_cases env st ch with e | e <;> rw [e]
  · rfl
  · exact (processLine_line env _ _).2.2

theorem feed_writesOK (env : Env) (st : St) (s : Bytes) : writesOK (feed env st s).2 = true := by
  induction s generalizing st with
  | nil => rfl
  | cons c r ih => simp only [feed, writesOK_append, step_writesOK, ih, Bool.and_self]

end Nq.Lemmas.SendL
