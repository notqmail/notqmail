/-
  The step-based reference reader `refMarks` (Nq.Spec.TrustBoundary) computes exactly the declarative
  reader `refMarksDecl` (Nq.Spec.ReportRef) on EVERY byte stream.  The only fact about REPORTMAX that
  is used is `2 ≤ REPORTMAX`.
-/
import Nq.Spec.ReportRef
import Nq.Lemmas.SendL
import Nq.Lemmas.Basic

namespace Nq.Lemmas.SendRefL
open Nq Nq.SendReport Nq.Spec.TB Nq.Lemmas.SendL

theorem two_le_R : 2 ≤ Nq.Gen.REPORTMAX := by unfold Nq.Gen.REPORTMAX; omega

/-- the reader's state after the bytes `p` of the current line have been read -/
def rd (p : Bytes) (cur : List (Option Slot)) : RefSt :=
  { rev := (p.take Nq.Gen.REPORTMAX).reverse, n := min Nq.Gen.REPORTMAX p.length, slots := cur }

theorem rd_nil (cur : List (Option Slot)) : rd [] cur = { rev := [], n := 0, slots := cur } := by
  simp [rd]

theorem push_rd (p : Bytes) (cur : List (Option Slot)) (ch : Byte) :
    refPush (rd p cur) ch = rd (p ++ [ch]) cur := by
  unfold refPush rd
  rw [List.length_append]
  generalize Nq.Gen.REPORTMAX = R
  by_cases h : p.length < R
  · rw [Nat.min_eq_right (Nat.le_of_lt h), if_pos h, List.take_of_length_le (Nat.le_of_lt h),
      Nat.min_eq_right (show p.length + [ch].length ≤ R from h),
      List.take_of_length_le (show (p ++ [ch]).length ≤ R from List.length_append ▸ h), List.reverse_append]
    rfl
  · have hle : R ≤ p.length := Nat.le_of_not_lt h
    rw [Nat.min_eq_left hle, if_neg (Nat.lt_irrefl R), Nat.min_eq_left (Nat.le_trans hle (Nat.le_add_right ..)),
      List.take_append_of_le_length hle]

/-- `p = []`: the first byte of a line is the delivery number, NUL or not -/
theorem refStep_store (c : Nat) (jobs : List Job) (p : Bytes) (cur : List (Option Slot)) (ch : Byte)
    (h : ch ≠ 0 ∨ p = []) :
    refStep c jobs (rd p cur) ch = (rd (p ++ [ch]) cur, []) := by
  rw [refStep_eq, push_rd]
  have : ¬ (ch = 0 ∧ (rd (p ++ [ch]) cur).n > 1) := by
    rintro ⟨h0, hn⟩
    rcases h with h | h
    · exact h h0
    · subst h
      exact absurd hn (Nat.not_lt.2 (Nat.min_le_right _ _))
  rw [if_neg this]

theorem rd_line (d : Byte) (text : Bytes) (cur : List (Option Slot)) :
    (rd (d :: text ++ [0]) cur).n > 1 ∧ (rd (d :: text ++ [0]) cur).rev.reverse.headD 0 = d ∧
    (rd (d :: text ++ [0]) cur).rev.reverse.getD 1 0 = text.headD 0 := by
  unfold rd
  refine ⟨Nat.le_min.2 ⟨two_le_R, ?_⟩, ?_⟩
  · rw [List.length_append, List.length_cons]; exact Nat.succ_le_succ (Nat.succ_le_succ (Nat.zero_le _))
  · show ((List.take _ _).reverse.reverse.headD 0 = d ∧ (List.take _ _).reverse.reverse.getD 1 0 = text.headD 0)
    rw [List.reverse_reverse, ← Nat.sub_add_cancel two_le_R]
    cases text <;> exact ⟨rfl, rfl⟩

theorem refStep_end (c : Nat) (jobs : List Job) (d : Byte) (text : Bytes) (cur : List (Option Slot)) :
    refStep c jobs (rd (d :: text) cur) 0 =
      match cur.getD d.toNat none with
      | none => (rd [] cur, [])
      | some sl =>
        (rd [] (cur.set d.toNat none),
         if wantsMark jobs sl (text.headD 0) then [entryOf c jobs sl] else []) := by
  obtain ⟨hn, hh, hl⟩ := rd_line d text cur
  have hs : (rd (d :: text ++ [0]) cur).slots = cur := rfl
  rw [refStep_eq, push_rd]
  generalize rd (d :: text ++ [0]) cur = q at hn hh hl hs ⊢
  subst hs
  rw [if_pos ⟨rfl, hn⟩, hh, hl, rd_nil, rd_nil]
  cases q.slots.getD d.toNat none <;> rfl

/-! ### whole lines -/

theorem refRun_cons (c : Nat) (jobs : List Job) (st : RefSt) (ch : Byte) (rest : Bytes) :
    refRun c jobs st (ch :: rest) =
      (refStep c jobs st ch).2 ++ refRun c jobs (refStep c jobs st ch).1 rest := rfl

theorem refRun_text (c : Nat) (jobs : List Job) (cur : List (Option Slot)) :
    ∀ (text p tail : Bytes), (∀ b ∈ text, b ≠ 0) →
      refRun c jobs (rd p cur) (text ++ tail) = refRun c jobs (rd (p ++ text) cur) tail := by
  intro text
  induction text with
  | nil => intro p tail _; simp
  | cons t r ih =>
    intro p tail h
    have ht : t ≠ 0 := h t (by simp)
    rw [List.cons_append, refRun_cons, refStep_store c jobs p cur t (Or.inl ht)]
    simp only [List.nil_append]
    rw [ih (p ++ [t]) tail (fun b hb => h b (by simp [hb]))]
    simp

theorem refRun_report (c : Nat) (jobs : List Job) (cur : List (Option Slot)) (d : Byte)
    (text rest : Bytes) (h : ∀ b ∈ text, b ≠ 0) :
    refRun c jobs (rd [] cur) (d :: (text ++ 0 :: rest)) =
      (refStep c jobs (rd (d :: text) cur) 0).2 ++
        refRun c jobs (refStep c jobs (rd (d :: text) cur) 0).1 rest := by
  rw [refRun_cons, refStep_store c jobs [] cur d (Or.inr rfl)]
  simp only [List.nil_append]
  rw [refRun_text c jobs cur text [d] (0 :: rest) h, refRun_cons]
  simp

theorem refRun_tail (c : Nat) (jobs : List Job) (cur : List (Option Slot)) (d : Byte)
    (text : Bytes) (h : ∀ b ∈ text, b ≠ 0) :
    refRun c jobs (rd [] cur) (d :: text) = [] := by
  rw [refRun_cons, refStep_store c jobs [] cur d (Or.inr rfl)]
  simp only [List.nil_append]
  have := refRun_text c jobs cur text [d] [] h
  rw [List.append_nil] at this
  rw [this]
  rfl

theorem getD_set_none (l : List (Option Slot)) (d e : Nat) :
    (l.set d none).getD e none = if e = d then none else l.getD e none := by
  simp only [List.getD_eq_getElem?_getD, List.getElem?_set]
  by_cases h : d = e
  · subst h
    by_cases h2 : d < l.length <;> simp [h2]
  · have h' : ¬ e = d := fun x => h x.symm
    simp [h, h']

theorem declReports_tail (fuel : Nat) (d : Byte) (r : Bytes)
    (h : r.drop (r.takeWhile (· != 0)).length = []) : declReports (fuel + 1) (d :: r) = [] := by
  simp only [declReports, h]

theorem declReports_report (fuel : Nat) (d : Byte) (r rest : Bytes) (z : Byte)
    (h : r.drop (r.takeWhile (· != 0)).length = z :: rest) :
    declReports (fuel + 1) (d :: r) =
      (d.toNat, (r.takeWhile (· != 0)).headD 0) :: declReports fuel rest := by
  simp only [declReports, h]

/-! ### the two readers agree -/

/-- the step reader on a fresh line with the mutated table `cur`, where `cur` is
the original table with the delivery numbers in `seen` cleared -/
theorem refRun_eq_decl (c : Nat) (jobs : List Job) (orig : List (Option Slot)) :
    ∀ (fuel : Nat) (s : Bytes) (seen : List Nat) (cur : List (Option Slot)),
      s.length < fuel →
      (∀ e, cur.getD e none = if e ∈ seen then none else orig.getD e none) →
      refRun c jobs (rd [] cur) s = declMarks c jobs orig seen (declReports fuel s) := by
  intro fuel
  induction fuel with
  | zero => intro s seen cur h; exact absurd h (Nat.not_lt_zero _)
  | succ fuel ih =>
    intro s seen cur hlen hinv
    cases s with
    | nil => rfl
    | cons d r =>
      obtain ⟨hfree, ⟨hd, hr⟩ | ⟨rest, hd, hr, hl⟩⟩ := takeWhile_nul r
      · have ht := refRun_tail c jobs cur d _ hfree
        rw [hr] at ht
        rw [declReports_tail fuel d r hd, ht]
        rfl
      · rw [declReports_report fuel d r rest 0 hd]
        have hlen' : rest.length < fuel := Nat.lt_trans hl (Nat.lt_of_succ_lt_succ hlen)
        generalize r.takeWhile (· != 0) = text at hfree hr ⊢
        subst hr
        have hd' := hinv d.toNat
        rw [refRun_report c jobs cur d text rest hfree, refStep_end, declMarks]
        by_cases hm : d.toNat ∈ seen
        · rw [if_pos hm] at hd' ⊢
          rw [hd']
          exact ih rest seen cur hlen' hinv
        · rw [if_neg hm] at hd' ⊢
          rw [← hd']
          cases cur.getD d.toNat none with
          | none => exact ih rest seen cur hlen' hinv
          | some sl =>
            refine congrArg (_ ++ ·) (ih rest (d.toNat :: seen) (cur.set d.toNat none) hlen' fun e => ?_)
            rw [getD_set_none, hinv e]
            by_cases he : e = d.toNat
            · rw [if_pos he, if_pos (he ▸ List.mem_cons_self ..)]
            · rw [if_neg he]
              by_cases hs : e ∈ seen
              · rw [if_pos hs, if_pos (List.mem_cons_of_mem _ hs)]
              · rw [if_neg hs, if_neg fun h => (List.mem_cons.1 h).elim he hs]

theorem refMarks_eq_decl (c : Nat) (jobs : List Job) (slots : List (Option Slot)) (s : Bytes) :
    refMarks c jobs slots s = refMarksDecl c jobs slots s := by
  unfold refMarks refMarksDecl
  rw [← rd_nil]
  exact refRun_eq_decl c jobs slots (s.length + 1) s [] slots (Nat.lt_succ_self _) (by simp)

theorem sendStrict_eq_decl (c : Nat) (jobs : List Job) (slots : List (Option Slot)) (s : Bytes)
    (evs : List Ev) : sendStrict c jobs slots s evs = sendStrictDecl c jobs slots s evs := by
  unfold sendStrict sendStrictDecl
  rw [refMarks_eq_decl]

theorem feed_stream_decl (env : Env) (st : St) (s : Bytes) (h0 : st.drev = []) (h1 : st.dlen = 0) :
    sendStrictDecl env.chan st.jobs st.slots s (feed env st s).2 = true := by
  rw [← sendStrict_eq_decl]
  exact (Nq.Lemmas.SendL.feed_stream env st s h0 h1).1

/-! ### non-vacuity -/

-- delnum 0 / text "Ko"; delnum 0 (a NUL in first position) / empty text; the tail `[1, 90]` is unterminated
example : declReports 9 [0, 75, 111, 0, 0, 0, 1, 90] = [(0, 75), (0, 0)] := by decide
-- a NUL-free stream is no report at all
example : declReports 4 [3, 75, 111] = [] := by decide
-- delnums 2, 0, 2: the third report counts only once its NUL has arrived
example : declReports 10 [2, 90, 0, 0, 68, 120, 0, 2, 75] = [(2, 90), (0, 68)] := by decide
example : declReports 11 [2, 90, 0, 0, 68, 120, 0, 2, 75, 0] = [(2, 90), (0, 68), (2, 75)] := by decide

-- slot 0 in flight (record position 5): the first report for it (`K`) marks; the second report for
-- delivery 0 (`D`) and the report for delivery 1 (not in flight) are ignored
example : (refMarksDecl 0 [⟨7, 1, 1, false, false, 0, 0⟩] [some ⟨0, 1, 5, []⟩]
    [0, 75, 0, 0, 68, 0, 1, 75, 0]).map (·.2) = [5] := by decide
-- a first report `Z` for a message that is not dying decides the delivery without a mark
example : (refMarksDecl 0 [⟨7, 1, 1, false, false, 0, 0⟩] [some ⟨0, 1, 5, []⟩]
    [0, 90, 0, 0, 75, 0]).map (·.2) = [] := by decide
example : (refMarksDecl 0 [⟨7, 1, 1, false, true, 0, 0⟩] [some ⟨0, 1, 5, []⟩]
    [0, 90, 0, 0, 75, 0]).map (·.2) = [5] := by decide

end Nq.Lemmas.SendRefL
