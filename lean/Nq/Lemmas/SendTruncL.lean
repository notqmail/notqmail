/-
  Oversized delivery reports are truncated (property C18, qmail-send.c `del_dochan`): every log line the
  model `Nq.SendReport.feed` writes for a delivery carries at most REPORTMAX − 2 bytes of report text
  (or REPORTMAX − 3 bytes followed by the fixed sentence for a message past its queue lifetime) —
  the oracle predicate `Nq.Spec.TB.truncOK` (`feed_truncOK`, for `C18_send_trunc`).
  Core Lean only.
-/
import Nq.Lemmas.Basic
import Nq.Lemmas.SendL
import Nq.Lemmas.CleanL

namespace Nq.Lemmas.SendTruncL
open Nq Nq.SendReport Nq.Spec.TB Nq.Lemmas.SendL

/-! ### `str` literals as explicit byte lists (`String.toUTF8` does not reduce by `decide`) -/

theorem loop_eq (bs : ByteArray) : ∀ (k i : Nat) (r : List UInt8), bs.size - i = k →
    ByteArray.toList.loop bs i r = r.reverse ++ bs.data.toList.drop i :=
  byteArray_loop_eq bs

/-! The four phrases after the delivery number are a colon, a blank, a word without blank, a blank (and a rest);
each literal is turned into its bytes by `str_ofList`. -/

theorem s_delivery : str "delivery " = DELIVERY := (str_ofList _).trans rfl

theorem s_success : str ": success: " = 58 :: 32 :: ([115, 117, 99, 99, 101, 115, 115, 58] ++ [32]) :=
  (str_ofList _).trans rfl

theorem s_failure : str ": failure: " = 58 :: 32 :: ([102, 97, 105, 108, 117, 114, 101, 58] ++ [32]) :=
  (str_ofList _).trans rfl

theorem s_deferral : str ": deferral: " = 58 :: 32 :: ([100, 101, 102, 101, 114, 114, 97, 108, 58] ++ [32]) :=
  (str_ofList _).trans rfl

theorem s_mangled : str ": report mangled, will defer\n" =
    58 :: 32 :: ([114, 101, 112, 111, 114, 116] ++
      32 :: [109, 97, 110, 103, 108, 101, 100, 44, 32, 119, 105, 108, 108, 32, 100, 101, 102, 101, 114, 10]) :=
  (str_ofList _).trans rfl

/-! ### reading a log line -/

/-- the oracle's test of one log line -/
def lineOK (t : Bytes) : Bool := match reportTextOf t with | some x => textFits x | none => true

def LogsOK (evs : List Ev) : Prop := ∀ t, Ev.log t ∈ evs → lineOK t = true

theorem truncOK_iff (evs : List Ev) : truncOK evs = true ↔ LogsOK evs := by
  unfold truncOK
  rw [List.all_eq_true]
  constructor
  · intro h t ht
    exact h _ ht
  · intro h e he
    cases e with
    | log t => exact h t he
    | _ => rfl

/-- a line that does not start with 'd' is not a delivery line -/
theorem lineOK_other (c : Byte) (rest : Bytes) (h : c ≠ 100) : lineOK (c :: rest) = true := by
  have : reportTextOf (c :: rest) = none := by
    unfold reportTextOf
    rw [if_neg]
    intro he
    simp only [List.take_succ_cons, DELIVERY, List.cons.injEq] at he
    exact h he.1
  simp only [lineOK, this]

theorem lineOK_lit (c : Char) (b : Byte) (cs : List Char) (t : Bytes) (hc : String.utf8EncodeChar c = [b])
    (hb : b ≠ 100) : lineOK (str (String.ofList (c :: cs)) ++ t) = true := by
  rw [str_cons, hc]
  exact lineOK_other b _ hb

theorem lineOK_w (cs : List Char) (t : Bytes) : lineOK (str (String.ofList ('w' :: cs)) ++ t) = true :=
  lineOK_lit 'w' 119 cs t rfl (by decide)

theorem dropWhile_digits (ds rest : Bytes) (h : ds.all isDigit = true) :
    (ds ++ rest).dropWhile (· != 58) = rest.dropWhile (· != 58) := by
  refine List.dropWhile_append_of_pos fun c hc => ?_
  have hd := List.all_eq_true.1 h c hc
  simp only [isDigit, Bool.and_eq_true, decide_eq_true_eq] at hd
  have : c ≠ 58 := fun he => absurd (he ▸ hd.2) (by decide)
  simpa using this

/-- the text of `delivery <n>: <word> <x>` is `<x>` when `<word>` has no blank -/
theorem text_of (n : Nat) (w x : Bytes) (hw : ∀ c ∈ w, (c != 32) = true) :
    reportTextOf (DELIVERY ++ (Clean.fmtUlong n ++ (58 :: 32 :: (w ++ 32 :: x)))) = some x := by
  unfold reportTextOf
  rw [if_pos (List.take_left' (l₁ := DELIVERY) (i := 9) rfl),
    List.dropWhile_append_of_pos (p := (· != 58)) (l₁ := DELIVERY) (by decide),
    dropWhile_digits _ _ (Nq.Lemmas.CleanL.fmtUlong_digits n), List.dropWhile_cons_of_neg (by decide)]
  show some (((w ++ 32 :: x).dropWhile (· != 32)).drop 1) = some x
  rw [List.dropWhile_append_of_pos hw, List.dropWhile_cons_of_neg (by decide)]
  rfl

theorem lineOK_delivery (n : Nat) (s : String) (w y x : Bytes) (hs : str s = 58 :: 32 :: (w ++ 32 :: y))
    (hw : ∀ c ∈ w, (c != 32) = true) (hfit : textFits (y ++ x) = true) :
    lineOK (str "delivery " ++ Clean.fmtUlong n ++ (str s ++ x)) = true := by
  rw [s_delivery, hs, List.append_assoc, List.cons_append, List.cons_append, List.append_assoc w,
    List.cons_append]
  unfold lineOK
  rw [text_of n w (y ++ x) hw]
  exact hfit

/-! ### the bound on the text -/

theorem logsafe_length (s : Bytes) : (logsafe s).length = s.length := by simp [logsafe]

theorem logsafe_append (a b : Bytes) : logsafe (a ++ b) = logsafe a ++ logsafe b := by simp [logsafe]

theorem fits_plain (dl : Bytes) (h : dl.length ≤ Nq.Gen.REPORTMAX) :
    textFits (logsafe (cstr2 (dl.drop 2)) ++ [LF]) = true := by
  have h1 : (cstr2 (dl.drop 2)).length ≤ TEXTMAX := by
    refine Nat.le_trans (List.takeWhile_prefix _).length_le ?_
    rw [List.length_drop]
    exact Nat.sub_le_sub_right h 2
  unfold textFits
  refine Bool.or_eq_true_iff.2 (.inl (decide_eq_true ?_))
  rw [List.length_append, logsafe_length]
  exact Nat.add_le_add_right h1 1

theorem fits_dying (dl : Bytes) (h : dl.length ≤ Nq.Gen.REPORTMAX) :
    textFits (logsafe (dl.dropLast.drop 2 ++ DYINGMSG) ++ [LF]) = true := by
  have e : logsafe (dl.dropLast.drop 2 ++ DYINGMSG) ++ [LF] = logsafe (dl.dropLast.drop 2) ++ DYINGLOG := by
    rw [logsafe_append, List.append_assoc]; rfl
  have h1 : dl.length - 1 - 2 ≤ TEXTMAX - 1 := Nat.sub_le_sub_right (Nat.sub_le_sub_right h 1) 2
  rw [e]
  unfold textFits
  refine Bool.or_eq_true_iff.2 (.inr (Bool.and_eq_true_iff.2
    ⟨decide_eq_true ?_, List.isSuffixOf_iff_suffix.mpr (List.suffix_append _ _)⟩))
  rw [List.length_append, logsafe_length, List.length_drop, List.length_dropLast]
  exact Nat.add_le_add_right h1 _

/-! ### which log lines each routine writes -/

theorem LogsOK_append (a b : List Ev) (ha : LogsOK a) (hb : LogsOK b) : LogsOK (a ++ b) := by
  intro t ht
  rcases List.mem_append.mp ht with h | h
  · exact ha t h
  · exact hb t h

theorem LogsOK_nil : LogsOK [] := fun t ht => by cases ht

theorem markdone_logs (c : Nat) (st : St) (id pos : Nat) : LogsOK (markdone c st id pos).2 := by
  intro t ht
  rcases markdone_cases c st id pos with h | h <;> rw [h] at ht
  · cases List.mem_singleton.1 ht
  · rcases List.mem_cons.1 ht with ht | ht
    · cases ht
    · rw [Ev.log.inj (List.mem_singleton.1 ht), List.append_assoc]
      exact lineOK_w _ _

theorem closeEv_lineOK {t : Bytes} (h : CloseEv (.log t)) : lineOK t = true := by
  cases h with
  | statWarn p w => rw [List.append_assoc]; exact lineOK_w _ _
  | unlinkWarn p w => rw [List.append_assoc]; exact lineOK_w _ _

theorem jobClose_logs (env : Env) (st : St) (j : Nat) : LogsOK (jobClose env st j).2 :=
  fun _ ht => closeEv_lineOK ((jobClose_spec env st j).2.2 _ ht)

theorem statusLine_ok (env : Env) (st : St) : lineOK (statusLine env st) = true := by
  unfold statusLine
  rw [List.append_assoc, List.append_assoc, List.append_assoc]
  exact lineOK_lit 's' 115 _ _ rfl (by decide)

theorem finishReport_logs (env : Env) (r : St × List Ev) (d j : Nat) (h : LogsOK r.2) :
    LogsOK (finishReport env r d j).2 := by
  unfold finishReport
  refine LogsOK_append _ _ (LogsOK_append _ _ h (jobClose_logs env r.1 j)) ?_
  intro t ht
  rw [Ev.log.inj (List.mem_singleton.1 ht)]
  exact statusLine_ok _ _

theorem reportCore_logs (env : Env) (st : St) (sl : Slot) (jb : Job) (letter : Byte) (text : Bytes)
    (hfit : textFits (logsafe text ++ [LF]) = true) : LogsOK (reportCore env st sl jb letter text).2 := by
  have hm := markdone_logs env.chan st jb.id sl.mpos
  intro t ht
  rcases reportCore_cases env st sl jb letter text with ⟨rfl, e⟩ | ⟨rfl, e⟩ | ⟨rfl, e⟩ | ⟨-, e⟩ <;> rw [e] at ht
  · rcases List.mem_cons.1 ht with ht | ht
    · rw [Ev.log.inj ht, List.append_assoc, List.append_assoc]
      exact lineOK_delivery _ _ _ [] _ s_success (by decide) hfit
    · exact hm t ht
  · rcases List.mem_cons.1 ht with ht | ht
    · rw [Ev.log.inj ht, List.append_assoc, List.append_assoc]
      exact lineOK_delivery _ _ _ [] _ s_failure (by decide) hfit
    · rcases List.mem_append.1 ht with ht | ht
      · rcases List.mem_cons.1 ht with ht | ht
        · cases ht
        · cases List.mem_singleton.1 ht
      · exact hm t ht
  · rw [Ev.log.inj (List.mem_singleton.1 ht), List.append_assoc, List.append_assoc]
    exact lineOK_delivery _ _ _ [] _ s_deferral (by decide) hfit
  · -- the oracle reads `report` as the word, so the "text" of this line is `mangled, will defer\n`
    rw [Ev.log.inj (List.mem_singleton.1 ht), ← List.append_nil (str ": report mangled, will defer\n")]
    exact lineOK_delivery _ _ _ _ [] s_mangled (by decide) (by decide)

theorem processLine_logs (env : Env) (st : St) (dl : Bytes) (h : dl.length ≤ Nq.Gen.REPORTMAX) :
    LogsOK (processLine env st dl).2 := by
  cases hs : st.slots.getD (dl.headD 0).toNat none with
  | none =>
    rw [processLine_unused env st dl hs]
    intro t ht
    rw [Ev.log.inj (List.mem_singleton.1 ht), WARN, ← List.append_nil (str _)]
    exact lineOK_w _ _
  | some sl =>
    rw [processLine_some env st dl sl hs]
    apply finishReport_logs
    apply reportCore_logs
    by_cases hd : dl.getD 1 0 = 90 ∧ (st.jobs.getD sl.j dflt).dying = true
    · rw [if_pos hd]; exact fits_dying dl h
    · rw [if_neg hd]; exact fits_plain dl h

/-- the invariant of the report line: at most REPORTMAX bytes are kept, and `dlen` is their number -/
def LineInv (st : St) : Prop := st.dlen ≤ Nq.Gen.REPORTMAX ∧ st.drev.length = st.dlen

theorem push_inv {st : St} (ch : Byte) (hi : LineInv st) : LineInv (push st ch) := by
  refine ⟨push_dlen st ch hi.1, ?_⟩
  unfold push
  split
  · exact congrArg (· + 1) hi.2
  · exact hi.2

theorem step_logs (env : Env) (st : St) (ch : Byte) (hi : LineInv st) :
    LogsOK (step env st ch).2 ∧ LineInv (step env st ch).1 := by
  have h1 := push_inv ch hi
  have hd := step_dlen env st ch hi.1
  rcases step_cases env st ch with e | e <;> rw [e] at hd ⊢
  · exact ⟨LogsOK_nil, h1⟩
  · obtain ⟨d1, d2, -⟩ := processLine_line env { push st ch with drev := [], dlen := 0 } (push st ch).drev.reverse
    refine ⟨processLine_logs env _ _ (by rw [List.length_reverse, h1.2]; exact h1.1), hd, ?_⟩
    rw [d1, d2]; rfl

theorem feed_logs (env : Env) (st : St) (s : Bytes) (hi : LineInv st) : LogsOK (feed env st s).2 := by
  induction s generalizing st with
  | nil => exact LogsOK_nil
  | cons c r ih =>
    obtain ⟨s1, s2⟩ := step_logs env st c hi
    simp only [feed]
    exact LogsOK_append _ _ s1 (ih _ s2)

theorem feed_truncOK (env : Env) (st : St) (s : Bytes) (h1 : st.dlen ≤ Nq.Gen.REPORTMAX) (h2 : st.drev.length = st.dlen) :
    truncOK (feed env st s).2 = true :=
  (truncOK_iff _).mpr (feed_logs env st s ⟨h1, h2⟩)

end Nq.Lemmas.SendTruncL
