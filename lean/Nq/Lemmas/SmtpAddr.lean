/-
  Lemmas for C08 about address parsing: the scanner of ip.c on a well-formed literal `[d.d.d.d]` (which holds
  no `@`), and the lower-case keys of qmail-newmrh.
-/
import Nq.Spec.SmtpPolicy
import Nq.Lemmas.SmtpPolicy

namespace Nq.Lemmas.Smtp
open Nq Nq.SmtpSession Nq.SmtpPolicy

theorem lower_of_prefix (s D : Bytes) (h : s <+: D) (hD : lower D = D) : lower s = s := by
  obtain ⟨t, rfl⟩ := h
  exact (lower_fixed_append hD).1

theorem stripTrail_prefix (l : Bytes) : stripTrail l <+: l := by
  unfold stripTrail
  have h := List.dropWhile_suffix (l := l.reverse) isWs
  have := List.reverse_prefix.2 h
  simpa using this

theorem newmrhKeys_lower (content : Bytes) : ∀ k ∈ newmrhKeys content, lower k = k := by
  intro k hk
  unfold newmrhKeys at hk
  obtain ⟨hk1, _⟩ := List.mem_filter.1 hk
  obtain ⟨l, _, rfl⟩ := List.mem_map.1 hk1
  exact lower_of_prefix _ _ (stripTrail_prefix _) (lower_idem l)

theorem isDigit_ne (c : Byte) (h : isDigit c = true) : c ≠ AT ∧ c ≠ DOT ∧ c ≠ RBR := by
  unfold isDigit at h
  simp only [Bool.and_eq_true, decide_eq_true_eq] at h
  obtain ⟨h1, h2⟩ := h
  rw [UInt8.le_iff_toNat_le] at h1 h2
  simp at h1 h2
  refine ⟨?_, ?_, ?_⟩ <;> (intro e; subst e; revert h1 h2; decide)

theorem allDigits_spec (d : Bytes) (h : allDigits d = true) : d ≠ [] ∧ ∀ c ∈ d, isDigit c = true := by
  unfold allDigits at h
  simp only [Bool.and_eq_true, Bool.not_eq_true', List.all_eq_true] at h
  exact ⟨by intro e; simp [e] at h, h.2⟩

theorem scanNum_digits (d : Bytes) (c : Byte) (r : Bytes) (hd : allDigits d = true) (hc : isDigit c = false) :
    scanNum (d ++ c :: r) = some (numVal d, c :: r) := by
  obtain ⟨h1, h2⟩ := allDigits_spec d hd
  unfold scanNum
  simp [takeWhile_stop isDigit d r c h2 hc, dropWhile_stop isDigit d r c h2 hc, h1]

theorem scanBracket_lit (d1 d2 d3 d4 : Bytes) (h1 : allDigits d1 = true) (h2 : allDigits d2 = true)
    (h3 : allDigits d3 = true) (h4 : allDigits d4 = true) :
    scanBracket (ipLit d1 d2 d3 d4) = some ((numVal d1, numVal d2, numVal d3, numVal d4), []) := by
  have hdot : isDigit DOT = false := by decide
  have hrbr : isDigit RBR = false := by decide
  unfold scanBracket ipLit
  simp [expect, scanNum_digits _ _ _ h1 hdot, scanNum_digits _ _ _ h2 hdot, scanNum_digits _ _ _ h3 hdot,
    scanNum_digits _ _ _ h4 hrbr]

theorem ipLit_noAt (d1 d2 d3 d4 : Bytes) (h1 : allDigits d1 = true) (h2 : allDigits d2 = true)
    (h3 : allDigits d3 = true) (h4 : allDigits d4 = true) : AT ∉ ipLit d1 d2 d3 d4 := by
  have g : ∀ d, allDigits d = true → AT ∉ d := by
    intro d hd hm
    exact (isDigit_ne AT ((allDigits_spec d hd).2 AT hm)).1 rfl
  intro hm
  unfold ipLit at hm
  simp only [List.mem_cons, List.mem_append, List.not_mem_nil, or_false] at hm
  rcases hm with h | h | h | h | h | h | h | h | h
  all_goals first
    | exact absurd h (by decide)
    | exact g _ h1 h
    | exact g _ h2 h
    | exact g _ h3 h
    | exact g _ h4 h

end Nq.Lemmas.Smtp
