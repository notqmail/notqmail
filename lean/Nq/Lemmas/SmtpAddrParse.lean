/- Nq.Lemmas.SmtpAddrParse — `addrparse = specAddrparse`, and the `…S` trace checkers built on the spec are those of `Nq.Spec.SmtpPolicy`. -/
import Nq.Lemmas.SmtpAddrPath
import Nq.Lemmas.SmtpLip
import Nq.Spec.SmtpAddrParse

namespace Nq.SmtpPolicy
open Nq Nq.SmtpSession Nq.SmtpAddrSpec

theorem addrparse_eq_spec (cfg : Cfg) (arg : Bytes) : addrparse cfg arg = specAddrparse cfg arg := by
  have hl : Gen.ADDRMAX = addrLimit := rfl
  simp only [addrparse, specAddrparse, addrCore, Nq.Lemmas.Smtp.lipSubst_eq_spec, addrRaw_eq_spec, hl]
  by_cases h : (lipSpec cfg (specPath arg)).length + 1 ≤ addrLimit
  · rw [if_pos h, if_neg (by omega)]
  · rw [if_neg h, if_pos (by omega)]

theorem addrparse_fun_eq : addrparse = specAddrparse := by
  funext cfg arg; exact addrparse_eq_spec cfg arg

theorem AddrSpec_iff (cfg : Cfg) (arg : Bytes) (res : Option Bytes) :
    AddrSpec cfg arg res ↔ res = specAddrparse cfg arg := by
  constructor
  · rintro ⟨a, hp, h⟩
    have ha := (IsPath_iff arg a).mp hp
    subst ha
    rcases h with ⟨h1, h2⟩ | ⟨h1, h2⟩
    · rw [h2, specAddrparse, if_pos h1]
    · rw [h2, specAddrparse, if_neg (by omega)]
  · intro h
    refine ⟨specPath arg, specPath_is arg, ?_⟩
    by_cases hl : (lipSpec cfg (specPath arg)).length + 1 ≤ addrLimit
    · exact Or.inl ⟨hl, by rw [h, specAddrparse, if_pos hl]⟩
    · exact Or.inr ⟨by omega, by rw [h, specAddrparse, if_neg hl]⟩

/-! The `…S` checkers are the checkers of `Nq.Spec.SmtpPolicy` with `specAddrparse` written for `addrparse`: once that one
function is rewritten, the two sides are the same term. -/

theorem acceptedRcptS_eq : acceptedRcptS = acceptedRcpt := by
  unfold acceptedRcptS acceptedRcpt; rw [addrparse_fun_eq]; rfl

theorem openTxnBS_eq : openTxnBS = openTxnB := by
  unfold openTxnBS openTxnB; rw [addrparse_fun_eq]; rfl

theorem submitOKBS_eq : submitOKBS = submitOKB := by
  unfold submitOKBS submitOKB; rw [openTxnBS_eq, acceptedRcptS_eq]; rfl

theorem gateOKBS_eq : gateOKBS = gateOKB := by
  unfold gateOKBS gateOKB; rw [openTxnBS_eq, addrparse_fun_eq]; rfl

theorem evOKBS_eq : evOKBS = evOKB := by
  unfold evOKBS evOKB; rw [submitOKBS_eq, gateOKBS_eq]; rfl

theorem traceBadS_eq (cfg : Cfg) : ∀ (tr pre : List Ev) (i : Nat), traceBadS cfg pre tr i = traceBad cfg pre tr i := by
  intro tr
  induction tr with
  | nil => intro pre i; rfl
  | cons x r ih =>
    intro pre i
    simp only [traceBadS, traceBad, evOKBS_eq, ih]

end Nq.SmtpPolicy
