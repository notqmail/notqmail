/- Nq.Lemmas.SmtpAddrPath — start / source route of the path spec against the model; the composed statement `addrRaw = specPath`. -/
import Nq.Lemmas.SmtpAddrSpec
import Nq.Lemmas.SmtpBytes
namespace Nq.SmtpAddrSpec
open Nq Nq.SmtpSession

theorem dropWhile_sp_form (r : Bytes) : ∃ k, r = List.replicate k SP ++ r.dropWhile (· == SP) ∧
    (r.dropWhile (· == SP)).head? ≠ some SP := by
  induction r with
  | nil => exact ⟨0, by simp⟩
  | cons c r ih =>
    by_cases hc : c = SP
    · obtain ⟨k, h1, h2⟩ := ih
      refine ⟨k + 1, ?_, ?_⟩
      · subst hc
        rw [List.dropWhile_cons, if_pos (by simp), List.replicate_succ, List.cons_append, ← h1]
      · subst hc
        rw [List.dropWhile_cons, if_pos (by simp)]; exact h2
    · exact ⟨0, by simp [List.dropWhile_cons, hc]⟩

theorem IsStart_model (arg : Bytes) (term : Byte) (body : Bytes) (h : IsStart arg term body) :
    addrStart arg = (term, body) := by
  rcases h with ⟨pre, ha, hp, ht⟩ | ⟨hl, ht, h⟩
  · have hm : SmtpSession.LTc ∈ arg := by subst ha; simp [LAB]
    subst ha ht
    simp only [addrStart, if_pos hm]
    rw [show SmtpSession.LTc = LAB from rfl, dropThrough_split LAB pre body hp]
  · have hm : ¬ SmtpSession.LTc ∈ arg := hl
    subst ht
    simp only [addrStart, if_neg hm]
    rcases h with ⟨hc, hb⟩ | ⟨pre, k, ha, hp, hb⟩
    · subst hb
      rw [show SmtpSession.COLON = COL from rfl, dropWhile_ne_none COL arg hc]; rfl
    · subst ha
      rw [show SmtpSession.COLON = COL from rfl, dropWhile_ne_split COL pre _ hp]
      simp only [List.drop_succ_cons, List.drop_zero]
      rw [Lemmas.SmtpCmd.dropWhile_sp _ body (fun _ => List.eq_of_mem_replicate) hb]

theorem specStart_is (arg : Bytes) : IsStart arg (specStart arg).1 (specStart arg).2 := by
  unfold specStart
  cases h1 : splitFirst LAB arg with
  | some p =>
    obtain ⟨a, b⟩ := splitFirst_some LAB arg p h1
    exact Or.inl ⟨p.1, a, b, rfl⟩
  | none =>
    have hl := (splitFirst_eq_none LAB arg).1 h1
    cases h2 : splitFirst COL arg with
    | none => exact Or.inr ⟨hl, rfl, Or.inl ⟨(splitFirst_eq_none COL arg).1 h2, rfl⟩⟩
    | some p =>
      obtain ⟨a, b⟩ := splitFirst_some COL arg p h2
      obtain ⟨k, hk, hh⟩ := dropWhile_sp_form p.2
      refine Or.inr ⟨hl, rfl, Or.inr ⟨p.1, k, ?_, b, hh⟩⟩
      simp only []
      rw [← hk]; exact a

theorem IsRoute_model (body rest : Bytes) (h : IsRoute body rest) : stripRoute body = rest := by
  rcases h with ⟨hh, hr⟩ | ⟨r, hb, h⟩
  · subst hr
    cases rest with
    | nil => rfl
    | cons c r =>
      have hc : c ≠ AT := by simpa using hh
      simp [stripRoute, if_neg hc]
  · subst hb
    simp only [stripRoute, if_true]
    rcases h with ⟨hc, hr⟩ | ⟨p, hp, hc⟩
    · subst hr; exact dropThrough_none COL r hc
    · subst hp; exact dropThrough_split COL p rest hc

theorem specRoute_is (body : Bytes) : IsRoute body (specRoute body) := by
  cases body with
  | nil => exact Or.inl ⟨by simp, rfl⟩
  | cons c r =>
    by_cases hc : c = AT
    · subst hc
      simp only [specRoute, if_true]
      refine Or.inr ⟨r, rfl, ?_⟩
      cases h : splitFirst COL r with
      | none => exact Or.inl ⟨(splitFirst_eq_none COL r).1 h, rfl⟩
      | some p =>
        obtain ⟨a, b⟩ := splitFirst_some COL r p h
        exact Or.inr ⟨p.1, a, b⟩
    · refine Or.inl ⟨by simpa using hc, ?_⟩
      simp [specRoute, if_neg hc]

theorem addrStart_term (arg : Bytes) : (addrStart arg).1 = RAB ∨ (addrStart arg).1 = SP := by
  unfold addrStart; split
  · exact Or.inl rfl
  · exact Or.inr rfl

theorem IsPath_model (arg a : Bytes) (h : IsPath arg a) : a = addrRaw arg := by
  obtain ⟨term, body, rest, h1, h2, h3⟩ := h
  have e1 := IsStart_model arg term body h1
  have e2 := IsRoute_model body rest h2
  have ht : term = RAB ∨ term = SP := by
    have := addrStart_term arg; rw [e1] at this; exact this
  have hb : BSL ≠ term := by rcases ht with rfl | rfl <;> decide
  have hd : DQ ≠ term := by rcases ht with rfl | rfl <;> decide
  have e3 := IsUnq_unq term hb hd rest a h3
  simp only [addrRaw, e1, e2]; exact e3

theorem specPath_is (arg : Bytes) : IsPath arg (specPath arg) :=
  ⟨_, _, _, specStart_is arg, specRoute_is _, specUnq_is _ _⟩

theorem addrRaw_eq_spec (arg : Bytes) : addrRaw arg = specPath arg :=
  (IsPath_model arg _ (specPath_is arg)).symm

theorem IsPath_iff (arg a : Bytes) : IsPath arg a ↔ a = specPath arg :=
  ⟨fun h => by rw [← addrRaw_eq_spec]; exact IsPath_model arg a h, fun h => h ▸ specPath_is arg⟩

end Nq.SmtpAddrSpec
