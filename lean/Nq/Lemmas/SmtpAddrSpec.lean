/-
  Nq.Lemmas.SmtpAddrSpec — the path grammar of `Nq.Spec.SmtpAddr` against the model of addrparse():
  the lexer satisfies the grammar, the grammar determines the address, the model's loop computes it.
-/
import Nq.SmtpSession
import Nq.Spec.SmtpAddr
namespace Nq.SmtpAddrSpec
open Nq Nq.SmtpSession

theorem lexQ_dq (r : Bytes) : lexQ (DQ :: r) = ([], .closed r) := by rw [lexQ.eq_def]; simp
theorem lexQ_bsl_nil : lexQ [BSL] = ([], .opn true) := by rw [lexQ]; simp [BSL, DQ]
theorem lexQ_bsl_cons (d : Byte) (r : Bytes) : lexQ (BSL :: d :: r) = (.esc d :: (lexQ r).1, (lexQ r).2) := by
  rw [lexQ]; simp [BSL, DQ]
theorem lexQ_ch (c : Byte) (r : Bytes) (h1 : c ≠ DQ) (h2 : c ≠ BSL) :
    lexQ (c :: r) = (.ch c :: (lexQ r).1, (lexQ r).2) := by
  rw [lexQ.eq_def]; simp [if_neg h1, if_neg h2]
theorem lexQ_spec (s : Bytes) :
    (∀ q ∈ (lexQ s).1, q.ok) ∧ s = qtext (lexQ s).1 ++ (lexQ s).2.text ∧
    (∀ r, (lexQ s).2 = .closed r → r.length < s.length) := by
  induction s using lexQ.induct with
  | case1 => simp [lexQ, qtext, QEnd.text]
  | case2 r => rw [lexQ_dq]; simp [qtext, QEnd.text]
  | case3 => rw [lexQ_bsl_nil]; simp [qtext, QEnd.text]
  | case4 d r' _ ih =>
    obtain ⟨a, b, c3⟩ := ih
    rw [lexQ_bsl_cons]
    refine ⟨List.forall_mem_cons.2 ⟨trivial, a⟩, ?_, fun r0 hr0 => Nat.lt_succ_of_lt (Nat.lt_succ_of_lt (c3 r0 hr0))⟩
    simp only [qtext, List.flatMap_cons, QItem.text] at b ⊢
    simp; exact b
  | case5 c r h1 h2 ih =>
    obtain ⟨a, b, c3⟩ := ih
    rw [lexQ_ch c r h1 h2]
    refine ⟨List.forall_mem_cons.2 ⟨⟨h2, h1⟩, a⟩, ?_, fun r0 hr0 => Nat.lt_succ_of_lt (c3 r0 hr0)⟩
    simp only [qtext, List.flatMap_cons, QItem.text] at b ⊢
    simp; exact b

theorem lexTop_nil (term : Byte) (n : Nat) : lexTop term n [] = ([], .eos) := by
  cases n <;> rw [lexTop.eq_def]
theorem lexTop_term (term : Byte) (n : Nat) (r : Bytes) : lexTop term (n+1) (term :: r) = ([], .term r) := by
  rw [lexTop.eq_def]; simp
theorem lexTop_dq_closed (term : Byte) (n : Nat) (r : Bytes) (h : DQ ≠ term) (qs : List QItem) (r' : Bytes)
    (hq : lexQ r = (qs, .closed r')) :
    lexTop term (n+1) (DQ :: r) = (.quoted qs :: (lexTop term n r').1, (lexTop term n r').2) := by
  rw [lexTop.eq_def]; simp [if_neg h, hq]
theorem lexTop_dq_opn (term : Byte) (n : Nat) (r : Bytes) (h : DQ ≠ term) (qs : List QItem) (d : Bool)
    (hq : lexQ r = (qs, .opn d)) :
    lexTop term (n+1) (DQ :: r) = ([], .openq qs d) := by
  rw [lexTop.eq_def]; simp [if_neg h, hq]
theorem lexTop_bsl_nil (term : Byte) (n : Nat) (h : BSL ≠ term) : lexTop term (n+1) [BSL] = ([], .bsl) := by
  rw [lexTop.eq_def]; simp [if_neg h, BSL, DQ]
theorem lexTop_bsl_cons (term : Byte) (n : Nat) (d : Byte) (r : Bytes) (h : BSL ≠ term) :
    lexTop term (n+1) (BSL :: d :: r) = (.esc d :: (lexTop term n r).1, (lexTop term n r).2) := by
  rw [lexTop.eq_def]; simp [if_neg h, BSL, DQ]
theorem lexTop_ch (term : Byte) (n : Nat) (c : Byte) (r : Bytes) (h0 : c ≠ term) (h1 : c ≠ DQ) (h2 : c ≠ BSL) :
    lexTop term (n+1) (c :: r) = (.ch c :: (lexTop term n r).1, (lexTop term n r).2) := by
  rw [lexTop.eq_def]; simp [if_neg h0, if_neg h1, if_neg h2]

theorem lexTop_spec (term : Byte) (n : Nat) (s : Bytes) : s.length ≤ n →
    (∀ i ∈ (lexTop term n s).1, i.ok term) ∧ (lexTop term n s).2.ok ∧
    s = itemsText (lexTop term n s).1 ++ (lexTop term n s).2.text term := by
  induction n, s using lexTop.induct term with
  | case1 x =>
    intro hs
    have : x = [] := List.eq_nil_of_length_eq_zero (Nat.le_zero.1 hs)
    subst this; rw [lexTop_nil]; simp [itemsText, Ending.text, Ending.ok]
  | case2 n => intro _; rw [lexTop_nil]; simp [itemsText, Ending.text, Ending.ok]
  | case3 n r => intro _; rw [lexTop_term]; simp [itemsText, Ending.text, Ending.ok]
  | case4 n r qs r' hq h0 ih =>
    intro hs
    obtain ⟨qa, qb, qc⟩ := lexQ_spec r
    rw [hq] at qa qb qc
    obtain ⟨a, b, c3⟩ := ih (by have := qc r' rfl; simp at hs; omega)
    rw [lexTop_dq_closed term n r h0 qs r' hq]
    refine ⟨List.forall_mem_cons.2 ⟨qa, a⟩, b, ?_⟩
    simp only [itemsText, List.flatMap_cons, Item.text, QEnd.text] at c3 qb ⊢
    rw [qb]; simp; exact c3
  | case5 n r qs d hq h0 =>
    intro _
    obtain ⟨qa, qb, _⟩ := lexQ_spec r
    rw [hq] at qa qb
    rw [lexTop_dq_opn term n r h0 qs d hq]
    refine ⟨by simp, qa, ?_⟩
    simp only [itemsText, List.flatMap_nil, Ending.text, QEnd.text] at qb ⊢
    rw [qb]; simp
  | case6 n h0 _ => intro _; rw [lexTop_bsl_nil term n h0]; simp [itemsText, Ending.text, Ending.ok]
  | case7 n d r' h0 _ ih =>
    intro hs
    obtain ⟨a, b, c3⟩ := ih (by simp at hs; omega)
    rw [lexTop_bsl_cons term n d r' h0]
    refine ⟨List.forall_mem_cons.2 ⟨trivial, a⟩, b, ?_⟩
    simp only [itemsText, List.flatMap_cons, Item.text] at c3 ⊢
    simp; exact c3
  | case8 n c r h0 h1 h2 ih =>
    intro hs
    obtain ⟨a, b, c3⟩ := ih (by simp at hs; omega)
    rw [lexTop_ch term n c r h0 h1 h2]
    refine ⟨List.forall_mem_cons.2 ⟨⟨h2, h1, h0⟩, a⟩, b, ?_⟩
    simp only [itemsText, List.flatMap_cons, Item.text] at c3 ⊢
    simp; exact c3

theorem specUnq_is (term : Byte) (s : Bytes) : IsUnq term s (specUnq term s) := by
  obtain ⟨a, b, c⟩ := lexTop_spec term s.length s (Nat.le_refl _)
  exact ⟨_, _, a, b, c, rfl⟩

/-! ### the grammar determines the address: it is what the copy loop of the model computes -/

theorem unq_esc (term : Byte) (q : Bool) (c : Byte) (r : Bytes) : unq term true q (c :: r) = c :: unq term false q r := by
  cases q <;> rfl

theorem unq_nil (term : Byte) (e q : Bool) : unq term e q [] = [] := by
  cases e <;> cases q <;> rfl

theorem unq_q_ch (term : Byte) (c : Byte) (r : Bytes) (h1 : c ≠ SmtpAddrSpec.BSL) (h2 : c ≠ SmtpAddrSpec.DQ) :
    unq term false true (c :: r) = c :: unq term false true r := by
  have h1' : c ≠ SmtpSession.BSL := h1
  have h2' : c ≠ SmtpSession.DQ := h2
  simp [unq, if_neg h1', if_neg h2']

theorem unq_q_bsl (term : Byte) (r : Bytes) : unq term false true (SmtpAddrSpec.BSL :: r) = unq term true true r := by
  simp [unq]

theorem unq_q_dq (term : Byte) (r : Bytes) : unq term false true (SmtpAddrSpec.DQ :: r) = unq term false false r := by
  simp [unq, SmtpSession.BSL, SmtpSession.DQ, SmtpAddrSpec.DQ]

theorem unq_t_ch (term : Byte) (c : Byte) (r : Bytes) (h1 : c ≠ SmtpAddrSpec.BSL) (h2 : c ≠ SmtpAddrSpec.DQ) (h0 : c ≠ term) :
    unq term false false (c :: r) = c :: unq term false false r := by
  have h1' : c ≠ SmtpSession.BSL := h1
  have h2' : c ≠ SmtpSession.DQ := h2
  simp [unq, if_neg h1', if_neg h2', h0]

theorem unq_t_bsl (term : Byte) (r : Bytes) (h : SmtpAddrSpec.BSL ≠ term) :
    unq term false false (SmtpAddrSpec.BSL :: r) = unq term true false r := by
  have h' : SmtpSession.BSL ≠ term := h
  simp [unq, h']

theorem unq_t_dq (term : Byte) (r : Bytes) (h : SmtpAddrSpec.DQ ≠ term) :
    unq term false false (SmtpAddrSpec.DQ :: r) = unq term false true r := by
  have h' : SmtpSession.DQ ≠ term := h
  simp [unq, h', SmtpSession.BSL, SmtpSession.DQ, SmtpAddrSpec.DQ]

theorem unq_t_term (term : Byte) (r : Bytes) : unq term false false (term :: r) = [] := by
  simp [unq]

theorem unq_qitems (term : Byte) : ∀ (qs : List QItem), (∀ q ∈ qs, q.ok) → ∀ r,
    unq term false true (qtext qs ++ r) = qs.map QItem.val ++ unq term false true r := by
  intro qs
  induction qs with
  | nil => intro _ r; simp [qtext]
  | cons q qs ih =>
    intro hok r
    have hq := hok q (List.mem_cons_self ..)
    have ih' := ih (fun x hx => hok x (List.mem_cons_of_mem _ hx)) r
    cases q with
    | ch c =>
      obtain ⟨h1, h2⟩ := hq
      simp only [qtext, List.flatMap_cons, QItem.text, List.map_cons, QItem.val, List.cons_append, List.nil_append] at ih' ⊢
      rw [unq_q_ch term c _ h1 h2, ih']
    | esc c =>
      simp only [qtext, List.flatMap_cons, QItem.text, List.map_cons, QItem.val, List.cons_append, List.nil_append] at ih' ⊢
      rw [unq_q_bsl, unq_esc, ih']

theorem unq_items (term : Byte) (hb : SmtpAddrSpec.BSL ≠ term) (hd : SmtpAddrSpec.DQ ≠ term) :
    ∀ (items : List Item), (∀ i ∈ items, i.ok term) → ∀ r,
    unq term false false (itemsText items ++ r) = itemsVal items ++ unq term false false r := by
  intro items
  induction items with
  | nil => intro _ r; simp [itemsText, itemsVal]
  | cons i items ih =>
    intro hok r
    have hi := hok i (List.mem_cons_self ..)
    have ih' := ih (fun x hx => hok x (List.mem_cons_of_mem _ hx)) r
    cases i with
    | ch c =>
      obtain ⟨h1, h2, h0⟩ := hi
      simp only [itemsText, itemsVal, List.flatMap_cons, Item.text, Item.val, List.cons_append, List.nil_append] at ih' ⊢
      rw [unq_t_ch term c _ h1 h2 h0, ih']
    | esc c =>
      simp only [itemsText, itemsVal, List.flatMap_cons, Item.text, Item.val, List.cons_append, List.nil_append] at ih' ⊢
      rw [unq_t_bsl term _ hb, unq_esc, ih']
    | quoted qs =>
      simp only [itemsText, itemsVal, List.flatMap_cons, Item.text, Item.val, List.cons_append, List.nil_append, List.append_assoc] at ih' ⊢
      rw [unq_t_dq term _ hd, unq_qitems term qs hi, unq_q_dq, ih']

theorem IsUnq_unq (term : Byte) (hb : SmtpAddrSpec.BSL ≠ term) (hd : SmtpAddrSpec.DQ ≠ term) (s a : Bytes)
    (h : IsUnq term s a) : a = unq term false false s := by
  obtain ⟨items, e, hok, heok, hs, ha⟩ := h
  subst hs ha
  rw [unq_items term hb hd items hok]
  congr 1
  cases e with
  | eos => simp [Ending.text, Ending.val, unq_nil]
  | term r => simp [Ending.text, Ending.val, unq_t_term]
  | bsl => simp only [Ending.text, Ending.val]; rw [unq_t_bsl term _ hb, unq_nil]
  | openq qs d =>
    simp only [Ending.text, Ending.val]
    rw [unq_t_dq term _ hd, unq_qitems term qs heok]
    cases d
    · simp [unq_nil]
    · simp only [if_true]; rw [unq_q_bsl, unq_nil]; simp

theorem unq_eq_spec (term : Byte) (hb : SmtpAddrSpec.BSL ≠ term) (hd : SmtpAddrSpec.DQ ≠ term) (s : Bytes) :
    unq term false false s = specUnq term s :=
  (IsUnq_unq term hb hd s _ (specUnq_is term s)).symm

end Nq.SmtpAddrSpec
