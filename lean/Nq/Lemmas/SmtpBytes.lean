/-
  Nq.Lemmas.SmtpBytes — the string cutting of the qmail-smtpd model and of its specifications: at the first occurrence of a
  byte (`splitFirst`, `readLine`, `dropThrough`, `dropWhile (· != b)`), at every occurrence (`splitOnB`, `pieces`), at the last
  `@` (`splitLastAt`).  Each function is given by its value on `pre ++ b :: post` with `b` absent from the relevant side, and on
  input without `b`.
-/
import Nq.Lemmas.Basic
import Nq.Spec.SmtpAddr
import Nq.Spec.CmdLine

/-! ### at the first occurrence -/

namespace Nq.SmtpAddrSpec
open Nq Nq.SmtpSession

theorem splitFirst_append (b : Byte) (post : Bytes) : ∀ (pre : Bytes), b ∉ pre → splitFirst b (pre ++ b :: post) = some (pre, post)
  | [], _ => by simp [splitFirst]
  | c :: r, h => by
    obtain ⟨hc, hr⟩ := List.ne_and_not_mem_of_not_mem_cons h
    simp [splitFirst, hc.symm, splitFirst_append b post r hr]

theorem splitFirst_eq_none (b : Byte) : ∀ (s : Bytes), splitFirst b s = none ↔ b ∉ s
  | [] => by simp [splitFirst]
  | c :: r => by
    by_cases hc : c = b
    · simp [splitFirst, hc]
    · have hc' : ¬ b = c := fun e => hc e.symm
      cases hr : splitFirst b r <;> simp [splitFirst, hc, hc', hr, ← splitFirst_eq_none b r]

theorem splitFirst_some (b : Byte) (s : Bytes) (p : Bytes × Bytes) (h : splitFirst b s = some p) :
    s = p.1 ++ b :: p.2 ∧ b ∉ p.1 := by
  by_cases hm : b ∈ s
  · obtain ⟨pre, post, rfl, hn⟩ := List.eq_append_cons_of_mem hm
    rw [splitFirst_append b post pre hn] at h
    cases h
    exact ⟨rfl, hn⟩
  · rw [(splitFirst_eq_none b s).2 hm] at h; cases h

theorem dropThrough_eq (b : Byte) : ∀ (s : Bytes), dropThrough b s = ((splitFirst b s).map (·.2)).getD []
  | [] => rfl
  | c :: r => by
    by_cases hc : c = b
    · simp [dropThrough, splitFirst, hc]
    · cases hr : splitFirst b r <;> simp [dropThrough, splitFirst, hc, hr, dropThrough_eq b r]

theorem dropThrough_split (b : Byte) (pre post : Bytes) (h : b ∉ pre) : dropThrough b (pre ++ b :: post) = post := by
  rw [dropThrough_eq, splitFirst_append b post pre h]; rfl

theorem dropThrough_none (b : Byte) (s : Bytes) (h : b ∉ s) : dropThrough b s = [] := by
  rw [dropThrough_eq, (splitFirst_eq_none b s).2 h]; rfl

theorem dropWhile_ne_split (b : Byte) (pre post : Bytes) (h : b ∉ pre) : (pre ++ b :: post).dropWhile (· != b) = b :: post :=
  dropWhile_stop _ pre post b (fun a ha => bne_iff_ne.2 fun e => h (e ▸ ha)) (by simp)

theorem dropWhile_ne_none (b : Byte) (s : Bytes) (h : b ∉ s) : s.dropWhile (· != b) = [] := by
  have := List.dropWhile_append_of_pos (p := (· != b)) (l₁ := s) (l₂ := []) fun a ha => bne_iff_ne.2 fun e => h (e ▸ ha)
  rwa [List.append_nil] at this

end Nq.SmtpAddrSpec

namespace Nq.Lemmas.SmtpCmd
open Nq Nq.SmtpSession Nq.SmtpAddrSpec Nq.CmdLineSpec

theorem readLine_nil : readLine [] = none := rfl

theorem readLine_lf (r : Bytes) : readLine (LF :: r) = some ([], r) := by simp [readLine]

theorem readLine_cons (c : Byte) (r : Bytes) (h : c ≠ LF) :
    readLine (c :: r) = (readLine r).map (fun x => (c :: x.1, x.2)) := by
  simp only [readLine, if_neg h]
  cases readLine r with
  | none => rfl
  | some x => obtain ⟨l, r'⟩ := x; rfl

/-- the line reader of commands() is the spec's cut at the first LF -/
theorem readLine_eq : ∀ (inp : Bytes), readLine inp = splitFirst LF inp
  | [] => rfl
  | c :: r => by
    by_cases hc : c = LF
    · simp [readLine, splitFirst, hc]
    · rw [readLine_cons c r hc, readLine_eq r, splitFirst, if_neg hc]
      cases splitFirst LF r <;> rfl

theorem readLine_some (inp l r : Bytes) (h : readLine inp = some (l, r)) : inp = l ++ LF :: r ∧ LF ∉ l :=
  splitFirst_some LF inp (l, r) (readLine_eq inp ▸ h)

theorem readLine_append (l r : Bytes) (h : LF ∉ l) : readLine (l ++ LF :: r) = some (l, r) := by
  rw [readLine_eq, splitFirst_append LF r l h]

theorem readLine_none_iff (inp : Bytes) : readLine inp = none ↔ LF ∉ inp := by
  rw [readLine_eq, splitFirst_eq_none]

theorem dropWhile_sp (sp a : Bytes) (h1 : ∀ c ∈ sp, c = SP) (h2 : a.head? ≠ some SP) : (sp ++ a).dropWhile (· == SP) = a := by
  rw [List.dropWhile_append_of_pos (fun c hc => beq_iff_eq.mpr (h1 c hc))]
  exact List.dropWhile_beq_eq_self_of_head?_ne h2

end Nq.Lemmas.SmtpCmd

/-! ### at every occurrence -/

namespace Nq.Lemmas.Smtp
open Nq Nq.SmtpSession Nq.CmdLineSpec

theorem splitOnB_eq (sep : Byte) : ∀ l : Bytes, splitOnB sep l = splitSep sep l
  | [] => rfl
  | c :: r => by simp only [splitOnB, splitSep, splitOnB_eq sep r]; rfl

theorem splitOnB_ne_nil (sep : Byte) (l : Bytes) : splitOnB sep l ≠ [] :=
  splitOnB_eq sep l ▸ splitSep_ne_nil sep l

theorem splitOnB_nosep (sep : Byte) (l : Bytes) (h : sep ∉ l) : splitOnB sep l = [l] := by
  rw [splitOnB_eq, splitSep_nosep sep l h]

theorem splitOnB_append (sep : Byte) (r a : Bytes) (h : sep ∉ a) : splitOnB sep (a ++ sep :: r) = a :: splitOnB sep r := by
  rw [splitOnB_eq, splitOnB_eq, splitSep_append sep r a h]

theorem splitOnB_four (sep : Byte) (l a b c e : Bytes) (h : splitOnB sep l = [a, b, c, e]) :
    l = a ++ sep :: (b ++ sep :: (c ++ sep :: e)) := by
  rw [splitOnB_eq] at h
  obtain ⟨-, ⟨h0, _⟩ | ⟨l1, rfl, h1⟩⟩ := splitSep_cons sep l _ _ h
  · cases h0
  obtain ⟨-, ⟨h0, _⟩ | ⟨l2, rfl, h2⟩⟩ := splitSep_cons sep l1 _ _ h1
  · cases h0
  obtain ⟨-, ⟨h0, _⟩ | ⟨l3, rfl, h3⟩⟩ := splitSep_cons sep l2 _ _ h2
  · cases h0
  obtain ⟨-, ⟨_, rfl⟩ | ⟨_, _, h4⟩⟩ := splitSep_cons sep l3 _ _ h3
  · rfl
  · exact absurd h4 (splitSep_ne_nil sep _)

/-- core's `splitOn` is the splitter of the models -/
theorem splitOnPPrepend_eq (sep : Byte) : ∀ (l acc : Bytes),
    List.splitOnPPrepend (· == sep) l acc =
      match splitSep sep l with
      | p :: ps => (acc.reverse ++ p) :: ps
      | [] => []
  | [], acc => by simp [splitSep]
  | c :: r, acc => by
    obtain ⟨p, ps, hp⟩ := List.exists_cons_of_ne_nil (splitSep_ne_nil sep r)
    rw [List.splitOnPPrepend.eq_2, splitSep, hp]
    by_cases h : c = sep
    · simp [h, splitOnPPrepend_eq sep r [], hp]
    · simp [h, splitOnPPrepend_eq sep r (c :: acc), hp]

theorem pieces_eq : ∀ (inp : Bytes), pieces inp = splitSep LF inp
  | [] => rfl
  | c :: r => by simp only [pieces, splitSep, pieces_eq r]; rfl

/-! ### at the last `@` -/

theorem splitLastAt_eq : ∀ s : Bytes, splitLastAt s = (splitLastB AT s).map fun p => (p.1 ++ [AT], p.2)
  | [] => rfl
  | x :: r => by
    simp only [splitLastAt, splitLastB, splitLastAt_eq r]
    cases splitLastB AT r with
    | some p => rfl
    | none => by_cases h : x = AT <;> simp [h]

theorem splitLastAt_append (d : Bytes) (hd : AT ∉ d) (box : Bytes) : splitLastAt (box ++ AT :: d) = some (box ++ [AT], d) := by
  rw [splitLastAt_eq, splitLastB_append AT d hd box]; rfl

theorem splitLastAt_some (a p d : Bytes) (h : splitLastAt a = some (p, d)) : ∃ l, p = l ++ [AT] ∧ a = l ++ AT :: d ∧ AT ∉ d := by
  rw [splitLastAt_eq] at h
  obtain ⟨⟨l, d'⟩, hs, e⟩ := Option.map_eq_some_iff.1 h
  cases e
  exact ⟨l, rfl, splitLastB_some hs⟩

theorem splitLastAt_eq_none (a : Bytes) : splitLastAt a = none ↔ AT ∉ a := by
  rw [splitLastAt_eq, Option.map_eq_none_iff]; exact splitLastB_eq_none

end Nq.Lemmas.Smtp
