/-
  Lemmas for `Nq.SmtpCmdIO`: commands() over substdio, for every buffer state and every read script, computes what the pure
  line reader computes on the bytes delivered (`Delivers`: a prefix of the bytes to come, all of them when no read fails);
  the session over substdio is `SmtpSession.run` on those bytes.
-/
import Nq.Lemmas.SmtpIO
import Nq.Lemmas.SmtpCmdSession

namespace Nq.Lemmas.SmtpCmd
open Nq Nq.Substdio Nq.SmtpIn Nq.SmtpIO Nq.SmtpSession Nq.SmtpCmdIO Nq.Lemmas.SmtpIO Nq.Lemmas.Smtp

/-! ### one line over substdio -/

/-- what `getLine` did: consumed a line and its LF, or stopped inside an unterminated rest -/
def LAgree (s : ISt) : LineRes → Prop
  | .line l s' => pending s = l ++ LF :: pending s' ∧ LF ∉ l ∧ IWF s' ∧ (0 ∉ s.rs → 0 ∉ s'.rs)
  | .eof _ => LF ∉ pending s
  | .err _ => 0 ∈ s.rs ∧ ∃ pre, pre <+: pending s ∧ LF ∉ pre

theorem LAgree.delivers {s : ISt} {r : LineRes} (h : LAgree s r) (hr : ∀ l s', r ≠ .line l s') :
    ∃ pre, Delivers s pre ∧ LF ∉ pre := by
  cases r with
  | line l s' => exact absurd rfl (hr l s')
  | eof _ => exact ⟨_, .all s, h⟩
  | err _ => obtain ⟨h1, pre, h2, h3⟩ := h; exact ⟨pre, ⟨h2, fun hn => absurd h1 hn⟩, h3⟩

theorem getLine_spec (fuel : Nat) (s : ISt) (h : IWF s) (hf : (pending s).length < fuel) : LAgree s (getLine fuel s) := by
  induction fuel generalizing s with
  | zero => omega
  | succ fuel ih =>
    simp only [getLine]
    obtain ⟨g1, _, _, g4, g5⟩ := get1_spec s h
    generalize get1 s = gr at g1 g4 g5
    obtain ⟨s', r⟩ := gr
    cases r with
    | byte c =>
      simp only at g1 g4 g5 ⊢
      have hp : pending s = c :: pending s' := g5.symm
      by_cases hc : c = LF
      · rw [if_pos hc]
        exact ⟨by rw [hp, hc]; rfl, List.not_mem_nil, g1, fun hn => (g4 hn).1⟩
      · rw [if_neg hc]
        have := ih s' g1 (by rw [hp] at hf; exact Nat.lt_of_succ_lt_succ hf)
        generalize getLine fuel s' = lr at this
        cases lr with
        | line l s'' =>
          obtain ⟨a1, a2, a3, a5⟩ := this
          exact ⟨by rw [hp, a1]; rfl, by simpa [Ne.symm hc] using a2, a3, fun hn => a5 (g4 hn).1⟩
        | eof s'' =>
          have : LF ∉ pending s' := this
          show LF ∉ pending s
          rw [hp]; simpa [Ne.symm hc] using this
        | err s'' =>
          obtain ⟨a1, pre, a2, a3⟩ := this
          exact ⟨Decidable.by_contra fun hn => (g4 hn).1 a1, c :: pre, by rw [hp]; exact List.cons_prefix_cons.2 ⟨rfl, a2⟩,
            by simpa [Ne.symm hc] using a3⟩
    | eof => simp only at g5 ⊢; show LF ∉ pending s; unfold pending; rw [g5.1]; exact List.not_mem_nil
    | err => simp only at g4 ⊢; exact ⟨Decidable.by_contra fun hn => (g4 hn).2 rfl, [], List.nil_prefix, List.not_mem_nil⟩

theorem readLineIO_spec (s : ISt) (h : IWF s) : LAgree s (readLineIO s) := getLine_spec _ s h (Nat.lt_succ_self _)

/-! ### commands() with handlers that leave `ss` alone -/

theorem cmdsIOFuel_spec (table : List Bytes) (fuel : Nat) (s : ISt) (h : IWF s) (hf : (pending s).length < fuel) :
    ∃ pre, Delivers s pre ∧ (cmdsIOFuel table fuel s).1 = cmds table pre ∧ ((cmdsIOFuel table fuel s).2 = .err → 0 ∈ s.rs) := by
  induction fuel generalizing s with
  | zero => omega
  | succ fuel ih =>
    simp only [cmdsIOFuel]
    have hl := readLineIO_spec s h
    generalize readLineIO s = lr at hl
    cases lr with
    | line l s' =>
      obtain ⟨e, hnl, a2, a4⟩ := hl
      obtain ⟨pre, p1, p2, p3⟩ := ih s' a2 (by rw [e] at hf; simp at hf; omega)
      have e' : pending s = (l ++ [LF]) ++ pending s' := by rw [e]; simp
      refine ⟨(l ++ [LF]) ++ pre, p1.append e' a4, ?_, fun he => Decidable.by_contra fun hn => a4 hn (p3 he)⟩
      simp only
      rw [p2, List.append_assoc, List.singleton_append, cmds_line table l pre hnl]
    | eof s' => exact ⟨_, .all s, (cmds_none table _ hl).symm, nofun⟩
    | err s' =>
      obtain ⟨pre, p1, p2⟩ := LAgree.delivers hl nofun
      exact ⟨pre, p1, (cmds_none table _ p2).symm, fun _ => hl.1⟩

theorem commandsIO_spec (table : List Bytes) (s : ISt) (h : IWF s) :
    ∃ pre, Delivers s pre ∧ (commandsIO table s).1 = cmds table pre ∧ ((commandsIO table s).2 = .err → 0 ∈ s.rs) :=
  cmdsIOFuel_spec table _ s h (Nat.lt_succ_self _)

theorem istart_IWF (size : Nat) (src : Bytes) (rs : List Nat) : IWF (istart size src rs) := by
  simp [IWF, istart]

theorem istart_pending (size : Nat) (src : Bytes) (rs : List Nat) : pending (istart size src rs) = src := by
  simp [pending, istart]

/-! ### the session over substdio -/

theorem nextCmdIO_none {qq : QQ} {s : Sess} {i : ISt} (h : IWF i) (hx : nextCmdIO qq s i = none) :
    ∃ pre, Delivers i pre ∧ nextCmd qq s pre = none := by
  unfold nextCmdIO at hx
  have hl := readLineIO_spec i h
  generalize readLineIO i = lr at hl hx
  cases lr with
  | line l i' =>
    simp only at hx
    split at hx
    · split at hx <;> cases hx
    · cases hx
  | _ =>
    obtain ⟨pre, p1, p2⟩ := hl.delivers nofun
    exact ⟨pre, p1, nextCmd_eq_none.2 p2⟩

/-- one command read over substdio is the command the pure reader finds on the bytes delivered; unless it ends the
session, it consumed a stretch `m` of the stream which alone determines it -/
theorem nextCmdIO_some (cfg : Cfg) {qq : QQ} {s : Sess} {i i1 : ISt} {c : Cmd} (h : IWF i)
    (hx : nextCmdIO qq s i = some (c, i1)) :
    ((sstep cfg s c).2.halt = true ∧ ∃ pre r, Delivers i pre ∧ nextCmd qq s pre = some (c, r)) ∨
    (IWF i1 ∧ (0 ∉ i.rs → 0 ∉ i1.rs) ∧
      ∃ m, m ≠ [] ∧ pending i = m ++ pending i1 ∧ ∀ t, nextCmd qq s (m ++ t) = some (c, t)) := by
  unfold nextCmdIO at hx
  have hl := readLineIO_spec i h
  generalize readLineIO i = lr at hl hx
  cases lr with
  | eof i' => cases hx
  | err i' => cases hx
  | line l i' =>
    obtain ⟨e, hnl, a2, a4⟩ := hl
    have hrl : ∀ t, readLine (l ++ LF :: t) = some (l, t) := fun t => readLine_append l t hnl
    simp only at hx
    by_cases hd : (parseLine l).1 = .data ∧ (dataGate s && !qq.openFails) = true
    · rw [if_pos hd] at hx
      obtain ⟨hv, hg⟩ := hd
      have hg' : dataGate s = true ∧ qq.openFails = false := by simpa using hg
      have hbad : ∀ b, b ≠ .ok → (sstep cfg s (.data { blast := b, close := qq.close })).2.halt = true :=
        fun b hb => (data_open_out hg'.1 rfl).2.2 hb
      have hb := sblast_sim i' a2
      generalize sblast i' = sr at hb hx
      cases sr with
      | accepted b i'' =>
        cases hx
        obtain ⟨hdb, b2, _, b4⟩ := hb
        obtain ⟨m, m1, m2⟩ := dblast_accept_rest _ b _ hdb
        refine .inr ⟨b2, fun hn => b4 (a4 hn), l ++ LF :: m, by simp, ?_, fun t => ?_⟩
        · rw [e]; unfold pending; rw [m1]; simp
        · rw [List.append_assoc, List.cons_append, nextCmd_data qq s _ l _ (hrl _) hv hg, m2]
      | stray =>
        obtain ⟨rfl, rfl⟩ : _ = c ∧ i' = i1 := by simpa using hx
        refine .inl ⟨hbad _ nofun, pending i, [], .all i, ?_⟩
        rw [e, nextCmd_data qq s _ l _ (hrl _) hv hg, show dblast (pending i') = .stray from hb]
      | died =>
        obtain ⟨rfl, rfl⟩ : _ = c ∧ i' = i1 := by simpa using hx
        obtain ⟨pre', p1, p2⟩ := hb
        refine .inl ⟨hbad _ nofun, (l ++ [LF]) ++ pre', [], p1.append (show pending i = (l ++ [LF]) ++ pending i' by rw [e]; simp) a4, ?_⟩
        rw [List.append_assoc, List.singleton_append, nextCmd_data qq s _ l pre' (hrl _) hv hg, show dblast pre' = .incomplete from p2]
    · rw [if_neg hd] at hx
      obtain ⟨rfl, rfl⟩ : _ = c ∧ i' = i1 := by simpa using hx
      refine .inr ⟨a2, a4, l ++ [LF], by simp, by rw [e]; simp, fun t => ?_⟩
      rw [List.append_assoc, List.singleton_append, nextCmd_plain qq s _ l t (hrl t) hd]

theorem runIOFuel_sim (cfg : Cfg) (qq : QQ) (n : Nat) (s : Sess) (i : ISt) (h : IWF i) (hf : (pending i).length < n) :
    ∃ pre, Delivers i pre ∧ runIOFuel cfg qq n s i = runFuel cfg qq n s pre := by
  induction n generalizing s i with
  | zero => omega
  | succ n ih =>
    simp only [runIOFuel]
    cases hx : nextCmdIO qq s i with
    | none =>
      obtain ⟨pre, p1, p2⟩ := nextCmdIO_none h hx
      exact ⟨pre, p1, (runFuel_none cfg n p2).symm⟩
    | some x =>
      obtain ⟨c, i'⟩ := x
      simp only
      rcases nextCmdIO_some cfg h hx with ⟨hh, pre, r, p1, p2⟩ | ⟨w, hrs, m, hm0, e, hm⟩
      · exact ⟨pre, p1, by rw [runFuel_some cfg n p2, if_pos hh, if_pos hh]⟩
      · have hlen : (pending i').length < n := by
          have := List.length_pos_iff.2 hm0
          rw [e, List.length_append] at hf; omega
        obtain ⟨pre', q1, q2⟩ := ih (sstep cfg s c).1 i' w hlen
        exact ⟨m ++ pre', q1.append e hrs, by rw [runFuel_some cfg n (hm pre'), q2]⟩

theorem runIO_any (cfg : Cfg) (qq : QQ) (i : ISt) (h : IWF i) : ∃ pre, Delivers i pre ∧ runIO cfg qq i = run cfg qq pre := by
  obtain ⟨pre, p1, p2⟩ := runIOFuel_sim cfg qq _ {} i h (Nat.lt_succ_self _)
  exact ⟨pre, p1, p2.trans (runFuel_eq_run cfg qq _ pre (Nat.lt_succ_of_le p1.1.length_le))⟩

end Nq.Lemmas.SmtpCmd
