/-
  The C19 model of commands.c's verb / argument split, `Nq.Pop3.parseLine`, is the same function as
  `Nq.SmtpCmdIO.splitCmd`, hence equal to the independent splitter `CmdLineSpec.specSplit` and characterised by
  `CmdLineSpec.IsSplit`: qmail-pop3d and qmail-popup inherit C08's specification of the split of one line (not that
  of the cutting of the input into lines, `IsLines` / `commandsIO`: nothing connects it to `Nq.Pop3.feedByte`).  A file
  of its own, since it needs `Nq.Pop3` as well as the C08 lemmas and C08 does not depend on the POP3 model.  Core Lean only.
-/
import Nq.Pop3
import Nq.Lemmas.SmtpCmdSpec

namespace Nq.Lemmas.SmtpCmd
open Nq Nq.SmtpSession Nq.SmtpCmdIO Nq.CmdLineSpec

theorem pop3_parseLine_eq (l : Bytes) : Nq.Pop3.parseLine l = splitCmd l := by
  unfold Nq.Pop3.parseLine splitCmd stripCR
  have hb : ∀ (c d : Byte), decide (c = d) = (c == d) := by
    intro c d; by_cases h : c = d <;> simp [h]
  have e1 : ∀ (x : Bytes), x.takeWhile (fun c => decide (c ≠ NUL)) = x.takeWhile (· != NUL) := by
    intro x; congr 1; funext c; simp [bne, hb]
  have e2 : ∀ (x : Bytes), x.takeWhile (fun c => decide (c ≠ SP)) = x.takeWhile (· != SP) := by
    intro x; congr 1; funext c; simp [bne, hb]
  have e3 : ∀ (x : Bytes), x.dropWhile (fun c => decide (c ≠ SP)) = x.dropWhile (· != SP) := by
    intro x; congr 1; funext c; simp [bne, hb]
  have e4 : ∀ (x : Bytes), x.dropWhile (fun c => decide (c = SP)) = x.dropWhile (· == SP) := by
    intro x; congr 1
  simp only [e1, e2, e3, e4]

theorem pop3_parseLine_spec (l : Bytes) : Nq.Pop3.parseLine l = specSplit l := by
  rw [pop3_parseLine_eq, specSplit_eq]

theorem pop3_parseLine_isSplit (l v a : Bytes) : Nq.Pop3.parseLine l = (v, a) ↔ IsSplit l v a := by
  rw [pop3_parseLine_spec]
  constructor
  · intro h
    have := isSplit_spec l
    rw [h] at this; exact this
  · exact isSplit_unique l v a

/-- a line `verb SP^k arg`, with or without a CR, is an instance of the grammar `IsSplit` -/
theorem pop3_parse_words (verb arg cr : Bytes) (k : Nat)
    (hv : ∀ c ∈ verb, c ≠ SP ∧ c ≠ NUL) (ha : ∀ c ∈ arg, c ≠ NUL) (hh : arg.head? ≠ some SP)
    (hk : arg ≠ [] → k ≠ 0)
    (hcr : cr = [CR] ∨ (cr = [] ∧ (verb ++ (List.replicate k SP ++ arg)).getLast? ≠ some CR)) :
    Nq.Pop3.parseLine (verb ++ (List.replicate k SP ++ arg) ++ cr) = (verb, arg) := by
  refine (pop3_parseLine_isSplit _ _ _).mpr
    ⟨verb ++ (List.replicate k SP ++ arg), _, [], List.replicate k SP, ?_, (List.append_nil _).symm, ?_, .inl rfl,
      (List.append_assoc ..).symm, fun h => (hv _ h).1 rfl, fun c hc => List.eq_of_mem_replicate hc, hh, ?_⟩
  · rcases hcr with rfl | ⟨rfl, h⟩
    · exact .inl rfl
    · exact .inr ⟨List.append_nil _, by rwa [List.append_nil]⟩
  · intro h
    rcases List.mem_append.mp h with h | h
    · exact (hv _ h).2 rfl
    · rcases List.mem_append.mp h with h | h
      · exact absurd (List.eq_of_mem_replicate h) (by decide)
      · exact ha _ h rfl
  · intro h
    by_cases ha0 : arg = []
    · exact ha0
    · exact absurd (by simpa using h) (hk ha0)

end Nq.Lemmas.SmtpCmd
