/-
  The byte-level session `SmtpSession.run` is laid out over its input as `CmdLineSpec.Framed` says: command
  lines read by the independent splitter, message bodies delimited by the reference decoder.
-/
import Nq.Lemmas.SmtpCmdSpec
import Nq.Lemmas.SmtpDecode
import Nq.Lemmas.SmtpFraming
import Nq.Lemmas.SmtpSession

namespace Nq.Lemmas.SmtpCmd
open Nq Nq.SmtpIn Nq.SmtpSession Nq.SmtpCmdIO Nq.CmdLineSpec Nq.Lemmas.Smtp

/-- a line that is not a DATA reaching `blast()` -/
theorem nextCmd_plain (qq : QQ) (s : Sess) (inp l rest : Bytes) (h : readLine inp = some (l, rest))
    (hd : ¬ ((parseLine l).1 = .data ∧ (dataGate s && !qq.openFails) = true)) :
    nextCmd qq s inp = some (lineCmd qq (parseLine l).1 (parseLine l).2, rest) := by
  simp only [nextCmd, h]
  cases hv : (parseLine l).1 <;> simp only [lineCmd]
  have : ¬ ((dataGate s && !qq.openFails) = true) := fun e => hd ⟨hv, e⟩
  rw [if_neg this]

theorem nextCmd_data (qq : QQ) (s : Sess) (inp l rest : Bytes) (h : readLine inp = some (l, rest))
    (hv : (parseLine l).1 = .data) (hg : (dataGate s && !qq.openFails) = true) :
    nextCmd qq s inp =
      match dblast rest with
      | .accepted _ r => some (.data { blast := .ok, close := qq.close }, r)
      | .stray => some (.data { blast := .stray, close := qq.close }, [])
      | .incomplete => some (.data { blast := .eof, close := qq.close }, []) := by
  simp only [nextCmd, h, hv, hg, if_true]
  rfl

theorem lineIs_lineCmd (qq : QQ) (l : Bytes) : LineIs l (lineCmd qq (parseLine l).1 (parseLine l).2) := by
  unfold LineIs
  rw [specParse_eq]
  cases hv : (parseLine l).1 <;> simp [lineCmd, verbOfCmd, argOfCmd]

theorem lineIs_data (l : Bytes) (env : DataEnv) (hv : (parseLine l).1 = .data) : LineIs l (.data env) := by
  unfold LineIs
  rw [specParse_eq, hv]
  simp [verbOfCmd, argOfCmd]

theorem lineCmd_data {qq : QQ} {v : Verb} {arg : Bytes} {env : DataEnv} (h : lineCmd qq v arg = .data env) :
    v = .data ∧ env.openFails = qq.openFails := by
  cases v <;> cases h
  exact ⟨rfl, rfl⟩

theorem nextCmd_eq_none {qq : QQ} {s : Sess} {inp : Bytes} : nextCmd qq s inp = none ↔ LF ∉ inp := by
  refine ⟨fun h => ?_, fun h => by simp only [nextCmd, (readLine_none_iff inp).2 h]⟩
  cases hr : readLine inp with
  | none => exact (readLine_none_iff inp).1 hr
  | some x =>
    obtain ⟨l, rest⟩ := x
    by_cases hd : (parseLine l).1 = .data ∧ (dataGate s && !qq.openFails) = true
    · rw [nextCmd_data qq s inp l rest hr hd.1 hd.2] at h
      cases hb : dblast rest <;> rw [hb] at h <;> cases h
    · rw [nextCmd_plain qq s inp l rest hr hd] at h
      cases h

/-- nothing is claimed about the bytes after a command that ends the session -/
theorem nextCmd_some (cfg : Cfg) {qq : QQ} {s : Sess} {inp r : Bytes} {c : Cmd}
    (h : nextCmd qq s inp = some (c, r)) :
    ∃ l rest, inp = l ++ LF :: rest ∧ LF ∉ l ∧ LineIs l c ∧ r.length ≤ rest.length ∧
      ((sstep cfg s c).2.halt = true ∨
       ((sstep cfg s c).2.replies.head? ≠ some .go ∧ r = rest) ∨
       ((sstep cfg s c).2.replies.head? = some .go ∧ ∃ body, rfcDecode rest = .accepted body r)) := by
  cases hr : readLine inp with
  | none => rw [nextCmd_eq_none.2 ((readLine_none_iff inp).1 hr)] at h; cases h
  | some x =>
    obtain ⟨l, rest⟩ := x
    obtain ⟨e, hnl⟩ := readLine_some inp l rest hr
    refine ⟨l, rest, e, hnl, ?_⟩
    by_cases hd : (parseLine l).1 = .data ∧ (dataGate s && !qq.openFails) = true
    · obtain ⟨hv, hg⟩ := hd
      have hg' : dataGate s = true ∧ qq.openFails = false := by simpa using hg
      rw [nextCmd_data qq s inp l rest hr hv hg] at h
      cases hb : dblast rest with
      | accepted b r' =>
        rw [hb] at h
        cases h
        have hdec : rfcDecode rest = .accepted b r := by rw [← Nq.Lemmas.dblast_eq_rfcDecode]; exact hb
        obtain ⟨m, e, -⟩ := dblast_accept_rest rest b r hb
        exact ⟨lineIs_data l _ hv, by rw [e, List.length_append]; exact Nat.le_add_left _ _,
          .inr (.inr ⟨(data_open_out hg'.1 rfl).1, b, hdec⟩)⟩
      | stray =>
        rw [hb] at h
        cases h
        exact ⟨lineIs_data l _ hv, Nat.zero_le _, .inl ((data_open_out hg'.1 rfl).2.2 (by simp))⟩
      | incomplete =>
        rw [hb] at h
        cases h
        exact ⟨lineIs_data l _ hv, Nat.zero_le _, .inl ((data_open_out hg'.1 rfl).2.2 (by simp))⟩
    · rw [nextCmd_plain qq s inp l rest hr hd] at h
      cases h
      refine ⟨lineIs_lineCmd qq l, Nat.le_refl _, .inr (.inl ⟨fun hgo => hd ?_, rfl⟩)⟩
      -- a 354 would mean a DATA past both gates
      obtain ⟨env, ce, g1, g2⟩ := go_only_data cfg s _ hgo
      obtain ⟨hv, ho⟩ := lineCmd_data ce
      exact ⟨hv, by simp [g1, ← ho, g2]⟩

theorem runFuel_none {qq : QQ} {s : Sess} {inp : Bytes} (cfg : Cfg) (n : Nat) (h : nextCmd qq s inp = none) :
    runFuel cfg qq (n + 1) s inp = [] := by
  simp only [runFuel, h]

theorem runFuel_some {qq : QQ} {s : Sess} {inp r : Bytes} {c : Cmd} (cfg : Cfg) (n : Nat)
    (h : nextCmd qq s inp = some (c, r)) :
    runFuel cfg qq (n + 1) s inp = (c, (sstep cfg s c).2) ::
      (if (sstep cfg s c).2.halt then [] else runFuel cfg qq n (sstep cfg s c).1 r) := by
  simp only [runFuel, h]

theorem runFuel_framed (cfg : Cfg) (qq : QQ) (n : Nat) (s : Sess) (inp : Bytes) (h : inp.length < n) :
    Framed inp (runFuel cfg qq n s inp) := by
  induction n generalizing s inp with
  | zero => omega
  | succ n ih =>
    cases hx : nextCmd qq s inp with
    | none =>
      rw [runFuel_none cfg n hx]
      exact Framed.eof inp (nextCmd_eq_none.1 hx)
    | some x =>
      obtain ⟨c, r⟩ := x
      obtain ⟨l, rest, e, hnl, hli, hlen, hk⟩ := nextCmd_some cfg hx
      have hr : Framed r (runFuel cfg qq n (sstep cfg s c).1 r) :=
        ih _ r (by rw [e] at h; simp at h; omega)
      rw [runFuel_some cfg n hx, e]
      by_cases hh : (sstep cfg s c).2.halt = true
      · rw [if_pos hh]
        exact Framed.last l rest c _ hnl hli hh
      · rw [if_neg hh]
        have hh' : (sstep cfg s c).2.halt = false := by simpa using hh
        rcases hk with hk | ⟨hgo, rfl⟩ | ⟨hgo, body, hdec⟩
        · exact absurd hk hh
        · exact Framed.cmd l r c _ _ hnl hli hh' hgo hr
        · exact Framed.data l rest body r c _ _ hnl hli hh' hgo hdec hr


/-! ### the session does not depend on the fuel -/

theorem nextCmd_shorter (cfg : Cfg) (qq : QQ) (s : Sess) (inp : Bytes) (c : Cmd) (r : Bytes)
    (h : nextCmd qq s inp = some (c, r)) : r.length < inp.length := by
  obtain ⟨l, rest, e, _, _, hlen, _⟩ := nextCmd_some cfg h
  rw [e]; simp only [List.length_append, List.length_cons]; omega

theorem runFuel_fuel (cfg : Cfg) (qq : QQ) (n m : Nat) (s : Sess) (inp : Bytes) (hn : inp.length < n)
    (hm : inp.length < m) : runFuel cfg qq n s inp = runFuel cfg qq m s inp := by
  induction n generalizing m s inp with
  | zero => omega
  | succ n ih =>
    cases m with
    | zero => omega
    | succ m =>
      cases hx : nextCmd qq s inp with
      | none => rw [runFuel_none cfg n hx, runFuel_none cfg m hx]
      | some x =>
        obtain ⟨c, r⟩ := x
        have := nextCmd_shorter cfg qq s inp c r hx
        rw [runFuel_some cfg n hx, runFuel_some cfg m hx, ih m _ r (by omega) (by omega)]

theorem runFuel_eq_run (cfg : Cfg) (qq : QQ) (n : Nat) (inp : Bytes) (h : inp.length < n) : runFuel cfg qq n {} inp = run cfg qq inp :=
  runFuel_fuel cfg qq n _ {} inp h (by omega)

theorem emit_incomplete (bs : Bytes) : emit bs .incomplete = .incomplete := rfl

end Nq.Lemmas.SmtpCmd
