/-
  The model of commands.c (`SmtpSession.readLine/parseLine/verbOf`, `SmtpCmdIO.cmds/splitCmd/tableIdx`)
  against the independent line / word splitter of `Nq.Spec.CmdLine`.
-/
import Nq.SmtpCmdIO
import Nq.Lemmas.SmtpBytes

namespace Nq.Lemmas.SmtpCmd
open Nq Nq.SmtpSession Nq.SmtpCmdIO Nq.CmdLineSpec Nq.Lemmas.Smtp

/-! ### case folding -/

theorem ciByteB_iff (x y : Byte) : ciByteB x y = true ↔ lowerByte x = lowerByte y := by
  rw [← UInt8.toNat_inj, lowerByte_toNat, lowerByte_toNat]
  unfold ciByteB isUpperN
  simp only [Bool.or_eq_true, Bool.and_eq_true, beq_iff_eq, decide_eq_true_eq]
  generalize x.toNat = a
  generalize y.toNat = b
  constructor
  · rintro ((h | ⟨hu, h⟩) | ⟨hu, h⟩)
    · rw [h]
    · rw [if_pos hu, if_neg (by omega), h]
    · rw [if_pos hu, if_neg (by omega), h]
  · intro h
    by_cases ha : 65 ≤ a ∧ a ≤ 90 <;> by_cases hb : 65 ≤ b ∧ b ≤ 90
    · rw [if_pos ha, if_pos hb] at h
      exact .inl (.inl (Nat.add_right_cancel h))
    · rw [if_pos ha, if_neg hb] at h
      exact .inl (.inr ⟨ha, h.symm⟩)
    · rw [if_neg ha, if_pos hb] at h
      exact .inr ⟨hb, h⟩
    · rw [if_neg ha, if_neg hb] at h
      exact .inl (.inl h)
theorem ciEqB_iff : ∀ (s t : Bytes), ciEqB s t = true ↔ lower s = lower t
  | [], [] => by simp [ciEqB, lower]
  | [], _ :: _ => by simp [ciEqB, lower]
  | _ :: _, [] => by simp [ciEqB, lower]
  | x :: s, y :: t => by
    have ih := ciEqB_iff s t
    simp only [lower] at ih
    simp only [ciEqB, lower, List.map_cons, Bool.and_eq_true, List.cons.injEq, ciByteB_iff, ih]

theorem specIdx_eq (table : List Bytes) (v : Bytes) : specIdx table v = tableIdx table v := by
  unfold tableIdx
  induction table with
  | nil => rfl
  | cons t ts ih =>
    simp only [specIdx, List.findIdx_cons]
    by_cases h : ciEqB t v = true
    · have h' : (lower t == lower v) = true := by simpa using (ciEqB_iff t v).1 h
      rw [if_pos h, h']; rfl
    · have h' : (lower t == lower v) = false := by
        cases hb : (lower t == lower v) with
        | false => rfl
        | true => exact absurd ((ciEqB_iff t v).2 (by simpa using hb)) h
      rw [if_neg h, h', ih]; rfl

/-! ### verb and argument -/

theorem chopCR_eq (l : Bytes) : chopCR l = stripCR l := by
  unfold chopCR stripCR
  rcases List.eq_nil_or_concat l with rfl | ⟨b, c, rfl⟩
  · rfl
  · by_cases h : c = CR
    · simp [h]
    · simp [h]

theorem cstr_eq : ∀ (l : Bytes), cstr l = l.takeWhile (· != NUL)
  | [] => rfl
  | c :: r => by
    by_cases h : c = NUL
    · simp [cstr, h]
    · simp [cstr, h, cstr_eq r]

theorem word_eq : ∀ (l : Bytes), word l = l.takeWhile (· != SP)
  | [] => rfl
  | c :: r => by
    by_cases h : c = SP
    · simp [word, h]
    · simp [word, h, word_eq r]

theorem afterWord_eq : ∀ (l : Bytes), afterWord l = l.dropWhile (· != SP)
  | [] => rfl
  | c :: r => by
    by_cases h : c = SP
    · simp [afterWord, h]
    · simp [afterWord, h, afterWord_eq r]

theorem skipSp_eq : ∀ (l : Bytes), skipSp l = l.dropWhile (· == SP)
  | [] => rfl
  | c :: r => by
    by_cases h : c = SP
    · simp [skipSp, h, skipSp_eq r]
    · simp [skipSp, h]

theorem specSplit_eq (l : Bytes) : specSplit l = splitCmd l := by
  unfold specSplit splitCmd
  rw [chopCR_eq, cstr_eq, word_eq, afterWord_eq, skipSp_eq]

theorem parseLine_split (l : Bytes) : parseLine l = (verbOf (splitCmd l).1, (splitCmd l).2) := rfl

theorem verbOf_eq (v : Bytes) : verbOf v = verbAt (tableIdx smtpTexts v) := by
  unfold verbOf verbAt tableIdx smtpTexts
  rw [List.find?_eq_getElem?_findIdx, List.findIdx_map]
  rfl

theorem specVerb_eq (v : Bytes) : specVerb v = verbOf v := by
  rw [verbOf_eq]
  unfold specVerb verbAt smtpTexts
  rw [specIdx_eq]
  rfl

theorem specParse_eq (l : Bytes) : specParse l = parseLine l := by
  unfold specParse
  rw [parseLine_split, specSplit_eq, specVerb_eq]

/-! ### lines -/

theorem specLines_noLF (inp : Bytes) (h : LF ∉ inp) : specLines inp = [] := by
  simp [specLines, pieces_eq, splitSep_nosep LF inp h]

theorem specLines_line (l r : Bytes) (h : LF ∉ l) : specLines (l ++ LF :: r) = l :: specLines r := by
  unfold specLines
  rw [pieces_eq, pieces_eq, splitSep_append LF r l h]
  cases hp : splitSep LF r with
  | nil => exact absurd hp (splitSep_ne_nil LF r)
  | cons p ps => rfl

theorem specTail_noLF (inp : Bytes) (h : LF ∉ inp) : specTail inp = inp := by
  simp [specTail, pieces_eq, splitSep_nosep LF inp h]

theorem specTail_line (l r : Bytes) (h : LF ∉ l) : specTail (l ++ LF :: r) = specTail r := by
  unfold specTail
  rw [pieces_eq, pieces_eq, splitSep_append LF r l h]
  cases hp : splitSep LF r with
  | nil => exact absurd hp (splitSep_ne_nil LF r)
  | cons p ps => simp [List.getLast?_cons_cons]

theorem specFirstLine_eq (inp : Bytes) : specFirstLine inp = readLine inp := by
  unfold specFirstLine
  by_cases hm : LF ∈ inp
  · obtain ⟨l, r, rfl, hn⟩ := List.eq_append_cons_of_mem hm
    have hl : ∀ a ∈ l, (a != LF) = true := fun a ha => bne_iff_ne.2 fun e => hn (e ▸ ha)
    rw [if_pos hm, readLine_append l r hn, takeWhile_stop _ l r LF hl (by simp), dropWhile_stop _ l r LF hl (by simp)]
    rfl
  · rw [if_neg hm, (readLine_none_iff inp).2 hm]

theorem cmdsFuel_spec (table : List Bytes) : ∀ (n : Nat) (inp : Bytes), inp.length < n → cmdsFuel table n inp = specCalls table inp
  | 0, _, h => by omega
  | n + 1, inp, h => by
    simp only [cmdsFuel]
    cases hr : readLine inp with
    | none =>
      have := (readLine_none_iff inp).1 hr
      simp [specCalls, specLines_noLF inp this]
    | some x =>
      obtain ⟨l, r⟩ := x
      obtain ⟨e, hn⟩ := readLine_some inp l r hr
      have hl : r.length < n := by rw [e] at h; simp at h; omega
      simp only
      rw [cmdsFuel_spec table n r hl, e]
      simp only [specCalls, specLines_line l r hn, List.map_cons, callOf, specSplit_eq, specIdx_eq]

theorem cmds_spec (table : List Bytes) (inp : Bytes) : cmds table inp = specCalls table inp :=
  cmdsFuel_spec table _ inp (by omega)

theorem cmds_line (table : List Bytes) (l r : Bytes) (h : LF ∉ l) :
    cmds table (l ++ LF :: r) = callOf table l :: cmds table r := by
  simp only [cmds_spec, specCalls, specLines_line l r h, List.map_cons, callOf, specSplit_eq, specIdx_eq]

theorem cmds_none (table : List Bytes) (inp : Bytes) (h : LF ∉ inp) : cmds table inp = [] := by
  rw [cmds_spec, specCalls, specLines_noLF inp h]; rfl

/-! ### the executable splitter satisfies the relations, and the relations determine it -/

theorem isLines_spec (inp : Bytes) : IsLines inp (specLines inp) (specTail inp) := by
  by_cases hm : LF ∈ inp
  · obtain ⟨l, r, rfl, hn⟩ := List.eq_append_cons_of_mem hm
    obtain ⟨i1, i2, i3⟩ := isLines_spec r
    rw [specLines_line l r hn, specTail_line l r hn]
    refine ⟨?_, ?_, i3⟩
    · simp only [List.map_cons, List.flatten_cons, List.append_assoc, List.cons_append, List.nil_append]
      rw [← i1]
    · intro l' hl'
      rcases List.mem_cons.1 hl' with rfl | h2
      · exact hn
      · exact i2 l' h2
  · rw [specLines_noLF inp hm, specTail_noLF inp hm]
    exact ⟨by simp, by simp, hm⟩
termination_by inp.length
decreasing_by subst inp; simp only [List.length_append, List.length_cons]; omega

theorem isLines_unique : ∀ (ls : List Bytes) (inp tail : Bytes), IsLines inp ls tail → ls = specLines inp ∧ tail = specTail inp
  | [], inp, tail, ⟨h1, _, h3⟩ => by
    simp only [List.map_nil, List.flatten_nil, List.nil_append] at h1
    subst h1
    rw [specLines_noLF _ h3, specTail_noLF _ h3]
    exact ⟨rfl, rfl⟩
  | l :: ls, inp, tail, ⟨h1, h2, h3⟩ => by
    have hl : LF ∉ l := h2 l (by simp)
    have e : inp = l ++ LF :: ((ls.map (· ++ [LF])).flatten ++ tail) := by
      rw [h1]; simp
    obtain ⟨r1, r2⟩ := isLines_unique ls _ tail ⟨rfl, fun x hx => h2 x (by simp [hx]), h3⟩
    rw [e, specLines_line l _ hl, specTail_line l _ hl, ← r1, ← r2]
    exact ⟨rfl, rfl⟩

theorem stripCR_snoc (body : Bytes) : stripCR (body ++ [CR]) = body := by
  simp [stripCR]

theorem stripCR_id (l : Bytes) (h : l.getLast? ≠ some CR) : stripCR l = l := by
  simp [stripCR, h]

theorem takeWhile_bne_stop (x : Byte) (v rest : Bytes) (hv : x ∉ v) (h : rest = [] ∨ rest.head? = some x) :
    (v ++ rest).takeWhile (· != x) = v ∧ (v ++ rest).dropWhile (· != x) = rest := by
  have hv' : ∀ c ∈ v, (c != x) = true := fun c hc => bne_iff_ne.mpr (fun e => hv (e ▸ hc))
  cases rest with
  | nil => exact ⟨(List.takeWhile_append_of_pos hv').trans (List.append_nil v), List.dropWhile_append_of_pos hv'⟩
  | cons c r =>
    have hc : (c != x) = false := by simpa using h
    exact ⟨takeWhile_stop _ v r c hv' hc, dropWhile_stop _ v r c hv' hc⟩

theorem isSplit_unique (l v a : Bytes) (h : IsSplit l v a) : specSplit l = (v, a) := by
  obtain ⟨body, t, junk, sp, hCR, hbody, tNoNul, junkNul, ht, vNoSp, spBlank, aNoSp, aEmpty⟩ := h
  rw [specSplit_eq]
  unfold splitCmd
  have e1 : stripCR l = body := by
    rcases hCR with rfl | ⟨rfl, hc⟩
    · exact stripCR_snoc body
    · exact stripCR_id _ hc
  have e2 : (stripCR l).takeWhile (· != NUL) = t := by rw [e1, hbody]; exact (takeWhile_bne_stop NUL t junk tNoNul junkNul).1
  simp only [e2]
  have hrest : sp ++ a = [] ∨ (sp ++ a).head? = some SP := by
    cases sp with
    | nil => left; simp [aEmpty rfl]
    | cons c r => right; simp [spBlank c (by simp)]
  have := takeWhile_bne_stop SP v (sp ++ a) vNoSp hrest
  rw [ht, List.append_assoc, this.1, this.2, dropWhile_sp sp a spBlank aNoSp]

theorem head_dropWhile_p {α : Type} (p : α → Bool) (c : α) (r l : List α) (h : l.dropWhile p = c :: r) : p c = false := by
  have := List.head?_dropWhile_not p l
  rw [h] at this
  exact this

theorem isSplit_spec (l : Bytes) : IsSplit l (specSplit l).1 (specSplit l).2 := by
  rw [specSplit_eq]
  unfold splitCmd
  simp only
  generalize ht : (stripCR l).takeWhile (· != NUL) = t
  -- the witnesses are the `takeWhile` / `dropWhile` pieces of `splitCmd`; the nine goals are the clauses of `IsSplit` in order
  refine ⟨stripCR l, t, (stripCR l).dropWhile (· != NUL), (t.dropWhile (· != SP)).takeWhile (· == SP), ?_, ?_, ?_, ?_, ?_, ?_, ?_, ?_, ?_⟩
  · unfold stripCR
    by_cases h : l.getLast? = some CR
    · left
      rw [if_pos h]
      rcases List.eq_nil_or_concat l with rfl | ⟨b, c, rfl⟩
      · simp at h
      · have hc : c = CR := by simpa using h
        subst hc; simp
    · right; rw [if_neg h]; exact ⟨rfl, h⟩
  · rw [← ht]; exact (List.takeWhile_append_dropWhile (p := (· != NUL)) (l := stripCR l)).symm
  · rw [← ht]
    intro hm
    have := List.all_eq_true.mp List.all_takeWhile _ hm
    simp at this
  · cases hd : (stripCR l).dropWhile (· != NUL) with
    | nil => left; rfl
    | cons c r =>
      right
      have := head_dropWhile_p _ c r _ hd
      simp only [List.head?_cons, Option.some.injEq]
      simpa using this
  · rw [List.append_assoc, List.takeWhile_append_dropWhile, List.takeWhile_append_dropWhile]
  · intro hm
    have := List.all_eq_true.mp List.all_takeWhile _ hm
    simp at this
  · intro c hc
    have := List.all_eq_true.mp List.all_takeWhile _ hc
    simpa using this
  · cases hd : ((t.dropWhile (· != SP)).dropWhile (· == SP)) with
    | nil => simp
    | cons c r =>
      have := head_dropWhile_p _ c r _ hd
      simp only [List.head?_cons, ne_eq, Option.some.injEq]
      simpa using this
  · intro he
    cases hd : t.dropWhile (· != SP) with
    | nil => rfl
    | cons c r =>
      have := head_dropWhile_p _ c r _ hd
      have hc : c = SP := by simpa using this
      rw [hd, hc] at he
      simp at he

end Nq.Lemmas.SmtpCmd
