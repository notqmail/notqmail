/-
  The five-state decoder of qmail-smtpd `blast()` equals the line-based reference decoder.
  `lineRes k` decodes one line and hands it to the continuation `k`; the reference decoder is `lineRes` at the start of
  a line, `midDecode` is the same from inside a line, and the state of the automaton is the part of the current line
  it has read and not yet passed on (`drun_spec`).
-/
import Nq.SmtpIn

namespace Nq.Lemmas
open Nq Nq.SmtpIn

@[simp] theorem emit_nil (r : DRes) : emit [] r = r := by cases r <;> simp [emit]
@[simp] theorem emit_emit (a b : Bytes) (r : DRes) : emit a (emit b r) = emit (a ++ b) r := by
  cases r <;> simp [emit]

theorem takeLine_cons (c : Byte) (r : Bytes) :
    takeLine (c :: r) =
      if c = CR ∧ r.head? = some LF then some ([], r.tail)
      else (takeLine r).map fun p => (c :: p.1, p.2) := by
  cases r with
  | nil => simp [takeLine]
  | cons d r =>
    rw [takeLine]
    cases takeLine (d :: r) <;> simp

theorem takeLine_eq (inp l rest : Bytes) (h : takeLine inp = some (l, rest)) :
    inp = l ++ CR :: LF :: rest := by
  induction inp generalizing l with
  | nil => simp [takeLine] at h
  | cons c r ih =>
    rw [takeLine_cons] at h
    split at h
    · rename_i hc
      obtain ⟨t, rfl⟩ := List.head?_eq_some_iff.1 hc.2
      simp at h
      simp [hc.1, ← h.1, ← h.2]
    · cases h2 : takeLine r with
      | none => simp [h2] at h
      | some p =>
        obtain ⟨l', r'⟩ := p
        simp [h2] at h
        obtain ⟨rfl, rfl⟩ := h
        rw [List.cons_append, ← ih _ h2]

def lineRes (k : Bytes → Bytes → DRes) (inp : Bytes) : DRes :=
  match takeLine inp with
  | none => if LF ∈ inp then .stray else .incomplete
  | some (l, rest) => if LF ∈ l then .stray else k l rest

theorem lineRes_crlf (k : Bytes → Bytes → DRes) (r : Bytes) : lineRes k (CR :: LF :: r) = k [] r := by
  simp [lineRes, takeLine_cons]

theorem lineRes_lf (k : Bytes → Bytes → DRes) (r : Bytes) : lineRes k (LF :: r) = .stray := by
  have : LF ≠ CR := by decide
  rw [lineRes, takeLine_cons]
  cases takeLine r <;> simp [this]

theorem lineRes_cons (k : Bytes → Bytes → DRes) {c : Byte} {r : Bytes} (h1 : c ≠ LF)
    (h2 : ¬(c = CR ∧ r.head? = some LF)) :
    lineRes k (c :: r) = lineRes (fun l => k (c :: l)) r := by
  rw [lineRes, lineRes, takeLine_cons, if_neg h2]
  cases takeLine r <;> simp [Ne.symm h1]

theorem emit_lineRes (a : Bytes) (k : Bytes → Bytes → DRes) (inp : Bytes) :
    emit a (lineRes k inp) = lineRes (fun l rest => emit a (k l rest)) inp := by
  unfold lineRes
  split <;> split <;> rfl

theorem lineRes_congr {k k' : Bytes → Bytes → DRes} {inp : Bytes}
    (h : ∀ l rest, inp = l ++ CR :: LF :: rest → k l rest = k' l rest) :
    lineRes k inp = lineRes k' inp := by
  unfold lineRes
  split
  · rfl
  · rename_i l rest hl
    rw [h l rest (takeLine_eq _ _ _ hl)]

theorem lineRes_line (w : Bytes) : ∀ (l : Bytes) (k : Bytes → Bytes → DRes), LF ∉ l →
    lineRes k (l ++ CR :: LF :: w) = k l w
  | [], k, _ => lineRes_crlf k w
  | c :: l, k, h => by
    obtain ⟨hc, hl⟩ := List.ne_and_not_mem_of_not_mem_cons h
    have h2 : (l ++ CR :: LF :: w).head? ≠ some LF := by
      cases l with
      | nil => simp [CR, LF]
      | cons d l => simpa using (List.ne_of_not_mem_cons hl).symm
    rw [List.cons_append, lineRes_cons k hc.symm (fun hh => h2 hh.2), lineRes_line w l _ hl]

theorem lineRes_bare (post : Bytes) : ∀ (l : Bytes) (k : Bytes → Bytes → DRes), LF ∉ l →
    l.getLast? ≠ some CR → lineRes k (l ++ LF :: post) = .stray
  | [], k, _, _ => lineRes_lf k post
  | c :: l, k, h, hl => by
    obtain ⟨hc, hl'⟩ := List.ne_and_not_mem_of_not_mem_cons h
    cases l with
    | nil =>
      have : c ≠ CR := by simpa using hl
      rw [List.cons_append, lineRes_cons k hc.symm (by simp [this])]
      exact lineRes_lf _ post
    | cons d l =>
      have hd : d ≠ LF := (List.ne_of_not_mem_cons hl').symm
      rw [List.cons_append, lineRes_cons k hc.symm (by simp [hd])]
      exact lineRes_bare post (d :: l) _ hl' (by simpa [List.getLast?_cons_cons] using hl)

theorem rfcDecode_eq_lineRes (inp : Bytes) :
    rfcDecode inp = lineRes (fun l rest =>
      if l = [DOT] then .accepted [] rest else emit (unstuff l ++ [LF]) (rfcDecode rest)) inp := by
  rw [rfcDecode.eq_1 inp, lineRes]
  split <;> simp [*]

/-- the reference decoder from inside a line: nothing is unstuffed and no lone dot is recognised before the next CR LF -/
def midDecode (inp : Bytes) : DRes := lineRes (fun l rest => emit (l ++ [LF]) (rfcDecode rest)) inp

theorem midDecode_lf (r : Bytes) : midDecode (LF :: r) = .stray := lineRes_lf _ r

theorem midDecode_crlf (r : Bytes) : midDecode (CR :: LF :: r) = emit [LF] (rfcDecode r) := lineRes_crlf _ r

theorem midDecode_cons {c : Byte} {r : Bytes} (h1 : c ≠ LF) (h2 : ¬(c = CR ∧ r.head? = some LF)) :
    midDecode (c :: r) = emit [c] (midDecode r) := by
  rw [midDecode, lineRes_cons _ h1 h2, midDecode, emit_lineRes]
  simp

theorem rfcDecode_nodot {inp : Bytes} (h : inp.head? ≠ some DOT) : rfcDecode inp = midDecode inp := by
  rw [rfcDecode_eq_lineRes]
  apply lineRes_congr
  intro l rest e
  cases l with
  | nil => rfl
  | cons x l =>
    have hx : x ≠ DOT := by subst e; simpa using h
    simp [unstuff, hx]

theorem rfcDecode_dot_crlf (r : Bytes) : rfcDecode (DOT :: CR :: LF :: r) = .accepted [] r := by
  have hdl : DOT ≠ LF := by decide
  have hdc : DOT ≠ CR := by decide
  rw [rfcDecode_eq_lineRes, lineRes_cons _ hdl (fun h => hdc h.1), lineRes_crlf]; rfl

theorem rfcDecode_dot {r : Bytes} (h : ∀ r', r ≠ CR :: LF :: r') : rfcDecode (DOT :: r) = midDecode r := by
  have hdl : DOT ≠ LF := by decide
  have hdc : DOT ≠ CR := by decide
  rw [rfcDecode_eq_lineRes, lineRes_cons _ hdl (fun h => hdc h.1)]
  apply lineRes_congr
  intro l rest e
  cases l with
  | nil => exact absurd e (h rest)
  | cons x l => simp [unstuff]

theorem drun_spec (inp : Bytes) :
    drun .s1 inp = rfcDecode inp ∧ drun .s2 inp = rfcDecode (DOT :: inp) ∧
    drun .s3 inp = rfcDecode (DOT :: CR :: inp) ∧
    drun .s0 inp = midDecode inp ∧ drun .s4 inp = midDecode (CR :: inp) := by
  have hcl : CR ≠ LF := by decide
  have hcd : CR ≠ DOT := by decide
  have hld : LF ≠ DOT := by decide
  induction inp with
  | nil =>
    refine ⟨?_, ?_, ?_, ?_, ?_⟩ <;> simp [drun, rfcDecode_eq_lineRes, midDecode, lineRes, takeLine, CR, LF, DOT]
  | cons c r ih =>
    obtain ⟨i1, i2, i3, i0, i4⟩ := ih
    -- a data byte inside a line, and behind a CR that turned out to be data
    have mid (h1 : c ≠ LF) (h2 : c ≠ CR) : midDecode (c :: r) = emit [c] (drun .s0 r) := by
      rw [i0, midDecode_cons h1 (fun h => h2 h.1)]
    have cr (h1 : c ≠ LF) : midDecode (CR :: c :: r) = emit [CR] (midDecode (c :: r)) :=
      midDecode_cons hcl (by simpa using h1)
    by_cases h1 : c = LF
    · subst h1
      refine ⟨?_, ?_, ?_, ?_, ?_⟩
      · rw [rfcDecode_nodot (by simp [hld]), midDecode_lf]; simp [drun, dstep]
      · rw [rfcDecode_dot (by simp [Ne.symm hcl]), midDecode_lf]; simp [drun, dstep]
      · rw [rfcDecode_dot_crlf]; simp [drun, dstep]
      · rw [midDecode_lf]; simp [drun, dstep]
      · rw [midDecode_crlf, ← i1]; simp [drun, dstep]
    · by_cases h2 : c = CR
      · subst h2
        refine ⟨?_, ?_, ?_, ?_, ?_⟩
        · rw [rfcDecode_nodot (by simp [hcd]), ← i4]; simp [drun, dstep, hcl, hcd]
        · rw [← i3]; simp [drun, dstep, hcl]
        · rw [rfcDecode_dot (by simp [hcl]), cr hcl, ← i4]; simp [drun, dstep, hcl]
        · rw [← i4]; simp [drun, dstep, hcl]
        · rw [cr hcl, ← i4]; simp [drun, dstep, hcl]
      · refine ⟨?_, ?_, ?_, ?_, ?_⟩
        · by_cases h3 : c = DOT
          · subst h3; rw [← i2]; simp [drun, dstep, h1]
          · rw [rfcDecode_nodot (by simpa using h3), mid h1 h2]; simp [drun, dstep, h1, h2, h3]
        · rw [rfcDecode_dot (by simp [h2]), mid h1 h2]; simp [drun, dstep, h1, h2]
        · rw [rfcDecode_dot (by simp [h1]), cr h1, mid h1 h2]; simp [drun, dstep, h1, h2]
        · rw [mid h1 h2]; simp [drun, dstep, h1, h2]
        · rw [cr h1, mid h1 h2]; simp [drun, dstep, h1, h2]

theorem dblast_eq_rfcDecode (inp : Bytes) : dblast inp = rfcDecode inp := (drun_spec inp).1

end Nq.Lemmas
