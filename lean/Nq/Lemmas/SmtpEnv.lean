/-
  Lemmas about the envelope commands of qmail-remote (`Nq.SmtpEnv`): which bytes of an address reach the command line.
-/
import Nq.SmtpEnv
import Nq.Lemmas.Basic

namespace Nq.Lemmas
open Nq Nq.SmtpEnv

theorem lastAt_eq : ∀ s : Bytes, lastAt s = splitLastB AT s
  | [] => rfl
  | x :: r => by
    simp only [lastAt, splitLastB, lastAt_eq r]
    cases splitLastB AT r <;> rfl

theorem lastAt_none {a : Bytes} (e : lastAt a = none) : AT ∉ a :=
  splitLastB_eq_none.1 (lastAt_eq a ▸ e)

theorem mem_escape (x : Byte) (hx : x ≠ BSL) (m : Bytes) : x ∈ escape m ↔ x ∈ m := by
  induction m with
  | nil => simp [escape]
  | cons c m ih =>
    simp only [escape, List.mem_append, ih, List.mem_cons]
    by_cases hc : c = CR ∨ c = LF ∨ c = DQ ∨ c = BSL
    · simp [hc, hx]
    · simp [hc]

theorem mem_quote (x : Byte) (h1 : x ≠ BSL) (h2 : x ≠ DQ) (b : Bytes) : x ∈ quote b ↔ x ∈ b := by
  unfold quote
  by_cases hq : quoteNeed b = true
  · simp [hq, mem_escape x h1, h2]
  · simp [hq]

theorem mem_mangle (x : Byte) (h1 : x ≠ BSL) (h2 : x ≠ DQ) (a : Bytes) : x ∈ mangle a ↔ x ∈ a := by
  unfold mangle
  cases e : lastAt a with
  | none => simp
  | some p =>
    obtain ⟨b, h⟩ := p
    have := (splitLastB_some (lastAt_eq a ▸ e)).1
    simp only
    rw [this]
    simp [mem_quote x h1 h2]

theorem isOneLine_iff (body : Bytes) :
    isOneLine (body ++ [CR, LF]) = true ↔ (CR ∉ body ∧ LF ∉ body) := by
  simp [isOneLine, List.reverse_append]

end Nq.Lemmas
