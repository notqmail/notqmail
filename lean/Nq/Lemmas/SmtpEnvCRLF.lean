/- where an adjacent CR LF can occur in a mangled address (helper lemmas for `C06_envelope_crlf`) -/
import Nq.Lemmas.SmtpEnv
namespace Nq.Lemmas
open Nq Nq.SmtpEnv

theorem hasCRLF_append (x y : Bytes) :
    hasCRLF (x ++ y) = (hasCRLF x || hasCRLF y || (x.getLast? == some CR && y.head? == some LF)) := by
  induction x with
  | nil => cases y <;> simp [hasCRLF]
  | cons c x ih =>
    cases x with
    | nil =>
      cases y with
      | nil => simp [hasCRLF]
      | cons d y => simp [hasCRLF]; cases hasCRLF (d :: y) <;> simp
    | cons d x =>
      simp only [List.cons_append, hasCRLF] at ih ⊢
      rw [ih]
      simp [List.getLast?_cons_cons, Bool.or_assoc]

theorem hasCRLF_of_no_cr {b : Bytes} (h : CR ∉ b) : hasCRLF b = false := by
  induction b with
  | nil => rfl
  | cons c b ih =>
    cases b with
    | nil => rfl
    | cons d b =>
      obtain ⟨hc, hb⟩ := List.ne_and_not_mem_of_not_mem_cons h
      simp [hasCRLF, ih hb, hc.symm]

theorem head_escape (m : Bytes) : (escape m).head? ≠ some LF := by
  cases m with
  | nil => simp [escape]
  | cons c m =>
    by_cases hc : c = CR ∨ c = LF ∨ c = DQ ∨ c = BSL
    · simp only [escape]; rw [if_pos hc]; simp [BSL, LF]
    · have : c ≠ LF := fun e => hc (Or.inr (Or.inl e))
      simp only [escape]; rw [if_neg hc]; simp [this]

theorem hasCRLF_escape (m : Bytes) : hasCRLF (escape m) = false := by
  induction m with
  | nil => rfl
  | cons c m ih =>
    have hh := head_escape m
    have hf : ((escape m).head? == some LF) = false := by simpa using hh
    simp only [escape]
    rw [hasCRLF_append, ih, hf]
    by_cases hc : c = CR ∨ c = LF ∨ c = DQ ∨ c = BSL
    · rw [if_pos hc]; simp [hasCRLF, BSL, CR]
    · rw [if_neg hc]; simp [hasCRLF]

theorem okByte_cr : okByte CR = false := by decide

theorem hasCRLF_quote_append (b t : Bytes) (ht : t.head? ≠ some LF) :
    hasCRLF (quote b ++ t) = hasCRLF t := by
  have ht' : (t.head? == some LF) = false := by simpa using ht
  unfold quote
  by_cases hq : quoteNeed b = true
  · simp only [hq, if_true]
    have e : DQ :: (escape b ++ [DQ]) ++ t = [DQ] ++ (escape b ++ ([DQ] ++ t)) := by simp
    rw [e, hasCRLF_append, hasCRLF_append, hasCRLF_append, hasCRLF_escape]
    simp [hasCRLF, ht', DQ, CR, LF]
  · rw [if_neg hq]
    -- a box that needs no quotes consists of `ok` bytes, and CR is not one of them
    have hall : b.all okByte = true := by
      cases h : b.all okByte with
      | true => rfl
      | false => simp [quoteNeed, h] at hq
    have hcr : CR ∉ b := by
      intro hm
      have := List.all_eq_true.mp hall CR hm
      rw [okByte_cr] at this
      cases this
    rw [hasCRLF_append, hasCRLF_of_no_cr hcr, ht']
    simp

end Nq.Lemmas
