/- Nq.Lemmas.SmtpFlush — every event list of `cmdsEv` is disciplined; what `disciplinedB` means. -/
import Nq.SmtpFlush

namespace Nq.SmtpFlush
open Nq Nq.Substdio Nq.SmtpIO Nq.SmtpCmdIO

theorem disc_append : ∀ (a b : List FEv) (out : Nat),
    disciplinedB out (a ++ b) = (disciplinedB out a && disciplinedB (outAfter out a) b) := by
  intro a
  induction a with
  | nil => intro b out; simp [disciplinedB, outAfter]
  | cons e a ih =>
    intro b out
    cases e <;> simp [disciplinedB, outAfter, ih, Bool.and_assoc]

theorem outAfter_append : ∀ (a b : List FEv) (out : Nat), outAfter out (a ++ b) = outAfter (outAfter out a) b := by
  intro a
  induction a with
  | nil => intro b out; rfl
  | cons e a ih => intro b out; cases e <;> simp [outAfter, ih]

/-- a piece of the run that starts with `o` outstanding bytes is fine and leaves `o'` -/
def Piece (o : Nat) (evs : List FEv) (o' : Nat) : Prop := disciplinedB o evs = true ∧ outAfter o evs = o'

theorem Piece.append {o o' o'' : Nat} {a b : List FEv} (ha : Piece o a o') (hb : Piece o' b o'') : Piece o (a ++ b) o'' := by
  obtain ⟨a1, a2⟩ := ha; obtain ⟨b1, b2⟩ := hb
  exact ⟨by rw [disc_append, a1, a2, b1]; rfl, by rw [outAfter_append, a2, b2]⟩

theorem Piece.nil (o : Nat) : Piece o [] o := ⟨rfl, rfl⟩

theorem piece_flush_add (pend k : Nat) : Piece (pend + k) (flushO pend) k := by
  unfold flushO
  by_cases h : pend = 0
  · subst h; exact ⟨rfl, by simp [outAfter]⟩
  · rw [if_neg h]; exact ⟨by simp [disciplinedB], by simp [outAfter]⟩

theorem piece_flush (pend : Nat) : Piece pend (flushO pend) 0 := piece_flush_add pend 0

theorem piece_gen_put (size pend n : Nat) : Piece pend (.gen n :: (putO size pend n).1) (putO size pend n).2 := by
  have hg : Piece pend [.gen n] (pend + n) := ⟨rfl, rfl⟩
  unfold putO
  split
  · split
    · exact hg.append ((piece_flush_add pend n).append ⟨by simp [disciplinedB], by simp [outAfter]⟩)
    · exact hg.append (piece_flush_add pend n)
  · exact hg

theorem piece_read (s : ISt) (pend : Nat) : Piece pend (readEv s pend).2.1 (readEv s pend).2.2 := by
  unfold readEv
  by_cases h : s.p = 0
  · rw [if_pos h]
    exact (piece_flush pend).append ⟨rfl, rfl⟩
  · rw [if_neg h]; exact Piece.nil pend

theorem piece_getLine : ∀ (fuel : Nat) (s : ISt) (pend : Nat),
    Piece pend (getLineEv fuel s pend).2.1 (getLineEv fuel s pend).2.2 := by
  intro fuel
  induction fuel with
  | zero => intro s pend; exact Piece.nil pend
  | succ fuel ih =>
    intro s pend
    have hr := piece_read s pend
    rw [getLineEv]
    generalize readEv s pend = q at hr
    obtain ⟨⟨s', g⟩, evs, pend'⟩ := q
    cases g with
    | byte c =>
      simp only
      by_cases hc : c = LF
      · rw [if_pos hc]; exact hr
      · rw [if_neg hc]; exact hr.append (ih s' pend')
    | eof => exact hr
    | err => exact hr

theorem piece_cmd (o i : Nat) : Piece o [FEv.cmd i] o := ⟨rfl, rfl⟩
theorem piece_fl : Piece 0 [FEv.fl] 0 := ⟨rfl, rfl⟩

theorem disc_of_piece {o o' : Nat} {a b : List FEv} (ha : Piece o a o') (hb : disciplinedB o' b = true) :
    disciplinedB o (a ++ b) = true := by
  rw [disc_append, ha.1, ha.2, hb]; rfl

theorem disc_cmdsEvFuel {σ : Type} (table : List Bytes) (flags : Nat → Bool) (h : Handler σ) (size : Nat) :
    ∀ (fuel : Nat) (st : σ) (s : ISt) (pend : Nat), disciplinedB pend (cmdsEvFuel table flags h size fuel st s pend) = true := by
  intro fuel
  induction fuel with
  | zero => intro st s pend; rfl
  | succ fuel ih =>
    intro st s pend
    have hl := piece_getLine ((pending s).length + 1) s pend
    rw [cmdsEvFuel]
    generalize getLineEv ((pending s).length + 1) s pend = q at hl
    obtain ⟨res, evs, pend'⟩ := q
    have hl' : Piece pend evs pend' := hl
    cases res with
    | line l s' =>
      simp only
      generalize h st (callOf table l) = r
      generalize (callOf table l).1 = ci
      have hp := piece_gen_put size pend' r.2.1
      generalize putO size pend' r.2.1 = pq at hp
      split
      · have := ((hl'.append hp).append (piece_flush _)).1
        simpa [List.append_assoc] using this
      · split
        · have h3 := (((hl'.append hp).append (piece_cmd pq.2 ci)).append (piece_flush _)).append piece_fl
          have := disc_of_piece h3 (ih r.1 s' 0)
          simpa [List.append_assoc] using this
        · have h1 := (hl'.append hp).append (piece_cmd pq.2 ci)
          have := disc_of_piece h1 (ih r.1 s' pq.2)
          simpa [List.append_assoc] using this
    | eof s' => exact hl'.1
    | err s' => exact hl'.1

theorem disc_cmdsEv {σ : Type} (table : List Bytes) (flags : Nat → Bool) (h : Handler σ) (size : Nat) (st : σ) (s : ISt) (banner : Nat) :
    disciplinedB 0 (cmdsEv table flags h size st s banner) = true := by
  unfold cmdsEv
  have hp := piece_gen_put size 0 banner
  have := disc_cmdsEvFuel table flags h size ((pending s).length + 1) st s (putO size 0 banner).2
  have h4 := disc_of_piece hp this
  simpa using h4

theorem written_add_outAfter (evs : List FEv) : ∀ (out : Nat), disciplinedB out evs = true →
    written evs + outAfter out evs = out + generated evs := by
  induction evs with
  | nil => intro out _; exact Nat.zero_add out
  | cons x r ih =>
    intro out h
    cases x with
    | gen n =>
      show written r + outAfter (out + n) r = out + (n + generated r)
      rw [ih (out + n) h, Nat.add_assoc]
    | wr n =>
      obtain ⟨h1, h2⟩ := Bool.and_eq_true_iff.1 h
      have := ih (out - n) h2
      have := of_decide_eq_true h1
      show n + written r + outAfter (out - n) r = out + generated r
      omega
    | rd =>
      obtain ⟨h1, h2⟩ := Bool.and_eq_true_iff.1 h
      rw [of_decide_eq_true h1]
      exact ih 0 h2
    | fl =>
      obtain ⟨h1, h2⟩ := Bool.and_eq_true_iff.1 h
      rw [of_decide_eq_true h1]
      exact ih 0 h2
    | cmd i => exact ih out h

theorem disc_meaning : ∀ (pre : List FEv) (out : Nat) (e : FEv) (post : List FEv),
    disciplinedB out (pre ++ e :: post) = true →
    written pre ≤ out + generated pre ∧ ((e = .rd ∨ e = .fl) → written pre = out + generated pre) := by
  intro pre out e post h
  rw [disc_append, Bool.and_eq_true] at h
  have hc := written_add_outAfter pre out h.1
  refine ⟨by omega, ?_⟩
  -- a read or a flush callback is allowed only when nothing is outstanding
  rintro (rfl | rfl)
  · rw [of_decide_eq_true (Bool.and_eq_true_iff.1 h.2).1] at hc; exact hc
  · rw [of_decide_eq_true (Bool.and_eq_true_iff.1 h.2).1] at hc; exact hc

end Nq.SmtpFlush
