/-
  Framing facts about the reference decoder (hence, by `dblast_eq_rfcDecode`, about the
  qmail-smtpd automaton).
-/
import Nq.Lemmas.SmtpDecode
import Nq.Spec.SmtpRef
import Nq.Spec.Wire

namespace Nq.Lemmas
open Nq Nq.SmtpIn Nq.SmtpRef

/-- lines accepted before the terminator: LF-free and not a lone dot -/
def bodyLine (l : Bytes) : Prop := LF ∉ l ∧ l ≠ [DOT]

theorem rfcDecode_line (l w : Bytes) (h : LF ∉ l) :
    rfcDecode (l ++ CR :: LF :: w) =
      if l = [DOT] then .accepted [] w else emit (unstuff l ++ [LF]) (rfcDecode w) := by
  rw [rfcDecode_eq_lineRes, lineRes_line w l _ h]

theorem joinCRLF_cons (l : Bytes) (ls : List Bytes) (w : Bytes) :
    joinWith [CR, LF] (l :: ls) ++ w = l ++ CR :: LF :: (joinWith [CR, LF] ls ++ w) := by
  simp [joinWith]

theorem rfcDecode_lines : ∀ (ls : List Bytes) (w : Bytes), (∀ l ∈ ls, bodyLine l) →
    rfcDecode (joinWith [CR, LF] ls ++ w) = emit (joinWith [LF] (ls.map unstuff)) (rfcDecode w)
  | [], w, _ => by simp [joinWith]
  | l :: ls, w, hall => by
    have hl := hall l (by simp)
    rw [joinCRLF_cons, rfcDecode_line l _ hl.1, if_neg hl.2,
      rfcDecode_lines ls w (fun x hx => hall x (by simp [hx]))]
    simp [joinWith]

theorem rfcDecode_bare (l post : Bytes) (h1 : LF ∉ l) (h2 : l.getLast? ≠ some CR) :
    rfcDecode (l ++ LF :: post) = .stray := by
  rw [rfcDecode_eq_lineRes, lineRes_bare post l _ h1 h2]

theorem rfcDecode_framing_mpr (ls : List Bytes) (rest : Bytes) (h : ∀ l ∈ ls, bodyLine l) :
    rfcDecode (joinWith [CR, LF] ls ++ [DOT, CR, LF] ++ rest) =
      .accepted (joinWith [LF] (ls.map unstuff)) rest := by
  have := rfcDecode_line [DOT] rest (by decide)
  rw [List.append_assoc, rfcDecode_lines ls _ h]
  simp_all [emit]

theorem rfcDecode_framing_mp (inp : Bytes) : ∀ (body rest : Bytes), rfcDecode inp = .accepted body rest →
    ∃ ls : List Bytes, inp = joinWith [CR, LF] ls ++ [DOT, CR, LF] ++ rest ∧ (∀ l ∈ ls, bodyLine l) ∧
      body = joinWith [LF] (ls.map unstuff) := by
  induction inp using rfcDecode.induct with
  | case1 x h hl | case2 x h hl | case3 x l r h hl =>
    intro body rest e
    rw [rfcDecode_eq_lineRes, lineRes, h] at e
    simp [hl] at e
  | case4 x r h _ =>
    intro body rest e
    rw [rfcDecode_eq_lineRes, lineRes, h] at e
    simp at e
    obtain ⟨rfl, rfl⟩ := e
    exact ⟨[], by simp [joinWith, takeLine_eq _ _ _ h], by simp, by simp [joinWith]⟩
  | case5 x l r h hl hd ih =>
    intro body rest e
    rw [rfcDecode_eq_lineRes, lineRes, h] at e
    simp only [hl, hd, if_false] at e
    cases hr : rfcDecode r with
    | stray => simp [hr, emit] at e
    | incomplete => simp [hr, emit] at e
    | accepted b' r' =>
      simp [hr, emit] at e
      obtain ⟨rfl, rfl⟩ := e
      obtain ⟨ls, e1, e2, e3⟩ := ih b' r' hr
      refine ⟨l :: ls, ?_, ?_, ?_⟩
      · rw [takeLine_eq _ _ _ h, e1]; simp [joinWith]
      · intro y hy
        rcases List.mem_cons.1 hy with rfl | hy
        · exact ⟨hl, hd⟩
        · exact e2 y hy
      · simp [joinWith, e3]

theorem noBareLFGo_line (v l : Bytes) (prev : Byte) (h : LF ∉ l) :
    Wire.noBareLFGo prev (l ++ CR :: LF :: v) = Wire.noBareLFGo LF v := by
  induction l generalizing prev with
  | nil => simp [Wire.noBareLFGo, CR, LF]
  | cons c l ih =>
    obtain ⟨hc, hl⟩ := List.ne_and_not_mem_of_not_mem_cons h
    simp [Wire.noBareLFGo, hc.symm, ih c hl]

/-- the second alternative: with no line at all nothing is passed over, and the scan is still behind `prev` -/
theorem noBareLF_join : ∀ (ls : List Bytes) (prev : Byte) (w : Bytes), (∀ l ∈ ls, LF ∉ l) →
    Wire.noBareLFGo prev (joinWith [CR, LF] ls ++ w) = Wire.noBareLFGo LF w ∨ ls = []
  | [], _, _, _ => .inr rfl
  | l :: ls, prev, w, hall => by
    rw [joinCRLF_cons, noBareLFGo_line _ l prev (hall l (by simp))]
    rcases noBareLF_join ls LF w (fun x hx => hall x (by simp [hx])) with h | rfl
    · exact .inl h
    · exact .inl rfl

theorem noBareLF_framed (ls : List Bytes) (h : ∀ l ∈ ls, LF ∉ l) :
    Wire.noBareLF (joinWith [CR, LF] ls ++ [DOT, CR, LF]) = true := by
  unfold Wire.noBareLF
  rcases noBareLF_join ls 0 [DOT, CR, LF] h with e | e
  · rw [e]; decide
  · rw [e]; decide

end Nq.Lemmas

namespace Nq.Lemmas.SmtpCmd
open Nq Nq.SmtpIn

/-- what `blast()` accepts depends only on the bytes it consumed -/
theorem dblast_accept_rest (inp body rest : Bytes) (h : dblast inp = .accepted body rest) :
    ∃ m, inp = m ++ rest ∧ ∀ rest', dblast (m ++ rest') = .accepted body rest' := by
  rw [Nq.Lemmas.dblast_eq_rfcDecode] at h
  obtain ⟨ls, e, hb, hbody⟩ := Nq.Lemmas.rfcDecode_framing_mp inp body rest h
  refine ⟨SmtpRef.joinWith [CR, LF] ls ++ [DOT, CR, LF], e, fun rest' => ?_⟩
  rw [Nq.Lemmas.dblast_eq_rfcDecode, Nq.Lemmas.rfcDecode_framing_mpr ls rest' hb, hbody]

end Nq.Lemmas.SmtpCmd
