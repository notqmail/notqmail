/-
  Lemmas for the chunked-I/O versions of the two `blast()` loops (`Nq.SmtpIO`): the Mealy machines
  composed with the substdio stream laws of `Nq.Lemmas.C20Substdio`.
-/
import Nq.SmtpIO
import Nq.Lemmas.C20Substdio
import Nq.Lemmas.SmtpPrefix

namespace Nq.Lemmas.SmtpIO
open Nq Nq.Substdio Nq.SmtpIn Nq.SmtpOut Nq.SmtpIO Nq.Lemmas.C20

theorem get1_spec (s : ISt) (h : IWF s) :
    IWF (get1 s).1 ∧ (get1 s).1.size = s.size ∧ (icpIn s → icpIn (get1 s).1) ∧
    (0 ∉ s.rs → 0 ∉ (get1 s).1.rs ∧ (get1 s).2 ≠ .err) ∧
    (match (get1 s).2 with
     | .byte c => c :: ((get1 s).1.data ++ (get1 s).1.src) = s.data ++ s.src
     | .eof => s.data ++ s.src = [] ∧ (get1 s).1.data ++ (get1 s).1.src = []
     | .err => (get1 s).1.data ++ (get1 s).1.src = s.data ++ s.src) := by
  obtain ⟨⟨g1, g2, g3, grs⟩, g4, gf⟩ := get_spec s 1 h
  unfold get1
  generalize Substdio.get s 1 = gr at g1 g2 g3 grs g4 gf
  obtain ⟨s', rr⟩ := gr
  cases rr with
  | err =>
    simp only at g1 g2 g3 g4 ⊢
    exact ⟨g1, g2, g3, fun hn => absurd (gf rfl) hn, g4⟩
  | eof =>
    simp only at g1 g2 g3 g4 ⊢
    have hd : s'.data = [] := List.eq_nil_of_length_eq_zero (by have := g1.2; omega)
    have hs : s'.src = [] := g4.2.2 (by decide)
    have e : s'.data ++ s'.src = [] := by rw [hd, hs]; rfl
    exact ⟨g1, g2, g3, fun hn => ⟨grs hn, by simp⟩, by rw [← g4.1]; exact e, e⟩
  | got b =>
    simp only at g1 g2 g3 g4
    cases b with
    | nil => exact absurd rfl (g4.2.2 (by decide))
    | cons c t =>
      have ht : t = [] := List.eq_nil_of_length_eq_zero (by have := g4.1; simp only [List.length_cons] at this; omega)
      subst ht
      simp only
      exact ⟨g1, g2, g3, fun hn => ⟨grs hn, by simp⟩, by simpa using g4.2.1⟩

/-! ## qmail-smtpd blast() over any read chunking -/

/-- `pre` is what the descriptor hands over from `s` on before its first failing read: a prefix of the bytes to come
(buffered or still in the kernel), all of them when no read fails -/
def Delivers (s : ISt) (pre : Bytes) : Prop := pre <+: s.data ++ s.src ∧ (0 ∉ s.rs → pre = s.data ++ s.src)

theorem Delivers.all (s : ISt) : Delivers s (s.data ++ s.src) := ⟨List.prefix_refl _, fun _ => rfl⟩

theorem Delivers.failed {s : ISt} (h : 0 ∈ s.rs) : Delivers s [] := ⟨List.nil_prefix, fun hn => absurd h hn⟩

theorem Delivers.append {s s' : ISt} {m pre : Bytes} (e : s.data ++ s.src = m ++ (s'.data ++ s'.src))
    (hrs : 0 ∉ s.rs → 0 ∉ s'.rs) (h : Delivers s' pre) : Delivers s (m ++ pre) :=
  ⟨by rw [e]; exact (List.prefix_append_right_inj m).2 h.1, fun hn => by rw [e, h.2 (hrs hn)]⟩

/-- what the chunked loop did, against the pure automaton: on the whole stream when it returned or met a stray newline, on
the bytes delivered when `saferead` ended the process -/
def SSim (st : DSt) (s : ISt) : SRes → Prop
  | .accepted b s' =>
    drun st (s.data ++ s.src) = .accepted b (s'.data ++ s'.src) ∧ IWF s' ∧ s'.size = s.size ∧ (0 ∉ s.rs → 0 ∉ s'.rs)
  | .stray => drun st (s.data ++ s.src) = .stray
  | .died => ∃ pre, Delivers s pre ∧ drun st pre = .incomplete

theorem sloop_spec (fuel : Nat) (s : ISt) (st : DSt) (h : IWF s) (hf : (s.data ++ s.src).length < fuel) :
    SSim st s (sloop fuel s st) := by
  induction fuel generalizing s st with
  | zero => omega
  | succ fuel ih =>
    simp only [sloop]
    obtain ⟨g1, g2, _, g4, g5⟩ := get1_spec s h
    generalize get1 s = gr at g1 g2 g4 g5
    obtain ⟨s', r⟩ := gr
    cases r with
    | byte c =>
      simp only at g1 g2 g4 g5 ⊢
      have hp : s.data ++ s.src = [c] ++ (s'.data ++ s'.src) := g5.symm
      cases hd : (dstep st c).2 with
      | data bs =>
        simp only
        have hr := ih s' (dstep st c).1 g1 (by rw [hp] at hf; exact Nat.lt_of_succ_lt_succ hf)
        generalize sloop fuel s' (dstep st c).1 = r at hr
        cases r with
        | accepted b s'' =>
          obtain ⟨a1, a2, a3, a4⟩ := hr
          exact ⟨by rw [hp]; simp only [List.singleton_append, drun, hd, a1]; rfl, a2, a3.trans g2, fun hn => a4 (g4 hn).1⟩
        | stray =>
          have hr : drun (dstep st c).1 (s'.data ++ s'.src) = .stray := hr
          show drun st (s.data ++ s.src) = .stray
          rw [hp]; simp only [List.singleton_append, drun, hd, hr]; rfl
        | died =>
          obtain ⟨pre, p1, p2⟩ := hr
          exact ⟨[c] ++ pre, p1.append hp fun hn => (g4 hn).1, by simp only [List.singleton_append, drun, hd, p2]; rfl⟩
      | done => exact ⟨by rw [hp]; simp only [List.singleton_append, drun, hd], g1, g2, fun hn => (g4 hn).1⟩
      | stray => show drun st (s.data ++ s.src) = .stray; rw [hp]; simp only [List.singleton_append, drun, hd]
    | eof => exact ⟨[], ⟨List.nil_prefix, fun _ => g5.1.symm⟩, rfl⟩
    | err => exact ⟨[], .failed (Decidable.by_contra fun hn => (g4 hn).2 rfl), rfl⟩

theorem sblast_sim (s : ISt) (h : IWF s) : SSim .s1 s (sblast s) := sloop_spec _ s .s1 h (by omega)

theorem sblast_view (s : ISt) (h : IWF s) :
    (sblast s = .died ∧ 0 ∈ s.rs) ∨ (sblast s).view = dblast (s.data ++ s.src) := by
  have hs := sblast_sim s h
  generalize sblast s = r at hs
  cases r with
  | accepted b s' => exact .inr hs.1.symm
  | stray => exact .inr (Eq.symm hs)
  | died =>
    obtain ⟨pre, p1, p2⟩ := hs
    by_cases hn : 0 ∈ s.rs
    · exact .inl ⟨rfl, hn⟩
    · exact .inr (by rw [dblast, ← p1.2 hn, p2]; rfl)

/-! ## qmail-remote blast() over any read chunking and any write chunking -/

theorem putAll_postW : ∀ (ds : List Bytes) (o : OSt), OWF o → OPostW o ds.flatten (putAll o ds)
  | [], o, h => .refl h
  | d :: ds, o, h => by
    have p := put_post o d h
    rw [putAll]
    generalize put o d = r at p
    obtain ⟨o1, ok⟩ := r
    cases ok
    · exact p.stop rfl
    · exact p.trans rfl (putAll_postW ds o1 p.wf) rfl

theorem rputs_flatten (st : RSt) (c : Byte) : (rputs st c).flatten = (rstep st c).2 := by
  rcases byte_class c with rfl | rfl | rfl | ⟨h1, h2, h3⟩
  · cases st <;> rfl
  · cases st <;> rfl
  · cases st <;> rfl
  · cases st <;> simp [rputs, rstep, h1, h2, h3]

/-- which outcomes are not a failing call -/
def ended : ORes → Bool
  | .sent _ | .partialLine _ => true
  | _ => false

/-- what the chunked encoder loop did on the message `m` from `smtpto` as `o`, against the pure encoder: `smtpto` was handed
`rfull st m`, all of it unless a call failed; `rerr`/`werr` = "the script contains a failing call" -/
def OAgree (m : Bytes) (o : OSt) (rerr werr : Prop) (st : RSt) (R : ORes) : Prop :=
  OPost o (rfull st m) (R.ost, ended R) ∧
  match R with
  | .sent o' => o'.buf = [] ∧ (rrun st m).isSome = true
  | .partialLine _ => rrun st m = none
  | .tempRead _ => rerr
  | .dropped _ => werr

theorem OAgree.step {m' d : Bytes} {o o' : OSt} {rerr rerr' : Prop} {st st' : RSt} {R : ORes}
    (p : OPostW o d (o', true)) (h : OAgree m' o' rerr' (0 ∈ o'.ws) st' R) (hr : rerr' → rerr)
    (m : Bytes) (hf : d ++ rfull st' m' = rfull st m) (hs : (rrun st' m').isSome = (rrun st m).isSome) :
    OAgree m o rerr (0 ∈ o.ws) st R := by
  refine ⟨p.toOPost.trans rfl h.1 hf, ?_⟩
  have h2 := h.2
  cases R with
  | sent o2 => exact ⟨h2.1, hs ▸ h2.2⟩
  | partialLine o2 =>
    rw [show rrun st' m' = none from h2] at hs
    cases hm : rrun st m with
    | none => rfl
    | some e => rw [hm] at hs; cases hs
  | tempRead o2 => exact hr h2
  | dropped o2 => exact p.ws h2

/-- Fuel: every byte costs one turn, and so does the end of the input; met in `.cr` it costs a second one, the loop
going round once more in `.top` on the exhausted stream.  Hence `+ 2`, and the second alternative of `hf`, which
is that last turn. -/
theorem oloop_spec (fuel : Nat) (i : ISt) (o : OSt) (st : RSt) (hi : IWF i) (ho : OWF o)
    (hf : (i.data ++ i.src).length + 2 ≤ fuel ∨ (i.data ++ i.src = [] ∧ st = .top ∧ 1 ≤ fuel)) :
    OAgree (i.data ++ i.src) o (0 ∈ i.rs) (0 ∈ o.ws) st (oloop fuel i o st) := by
  induction fuel generalizing i o st with
  | zero => omega
  | succ fuel ih =>
    simp only [oloop]
    obtain ⟨g1, _, _, g4, g5⟩ := get1_spec i hi
    generalize get1 i = gr at g1 g4 g5
    obtain ⟨i', r⟩ := gr
    have hrs : 0 ∈ i'.rs → 0 ∈ i.rs := fun h' => Decidable.by_contra fun hn => (g4 hn).1 h'
    cases r with
    | err => exact ⟨⟨ho, id, rfl, _, rfl, nofun⟩, Decidable.by_contra fun hn => (g4 hn).2 rfl⟩
    | byte c =>
      simp only at g1 g5 ⊢
      have p := putAll_postW (rputs st c) o ho
      rw [rputs_flatten] at p
      rw [← g5]
      generalize putAll o (rputs st c) = r at p
      obtain ⟨o', b⟩ := r
      cases b with
      | false => exact ⟨p.toOPost.stop (rfull_cons st c _).symm, p.fail rfl⟩
      | true =>
        have hlen : (i'.data ++ i'.src).length + 2 ≤ fuel := by
          rcases hf with hf | hf
          · rw [← g5] at hf; simp at hf ⊢; omega
          · rw [← g5] at hf; simp at hf
        exact (ih i' o' (rstep st c).1 g1 p.wf (Or.inl hlen)).step p hrs _ (rfull_cons st c _).symm
          (by rw [rrun_cons, Option.isSome_map])
    | eof =>
      simp only at g1 g5 ⊢
      rw [g5.1]
      cases st with
      | mid => exact ⟨(OPostW.refl ho).toOPost, rfl⟩
      | top =>
        have p := putAll_postW [[DOT, CR, LF]] o ho
        generalize putAll o [[DOT, CR, LF]] = r at p
        obtain ⟨o1, b⟩ := r
        cases b with
        | false => exact ⟨p.toOPost, p.fail rfl⟩
        | true =>
          obtain ⟨f, fb, -⟩ := flush_post o1 p.wf
          replace f := p.trans rfl f rfl
          simp only [if_true]
          generalize flush o1 = r2 at f fb
          obtain ⟨o2, b2⟩ := r2
          cases b2 with
          | false => exact ⟨f.toOPost, f.fail rfl⟩
          | true => exact ⟨f.toOPost, fb, rfl⟩
      | cr =>
        have p := putAll_postW [[CR, LF]] o ho
        generalize putAll o [[CR, LF]] = r at p
        obtain ⟨o1, b⟩ := r
        cases b with
        | false => exact ⟨p.toOPost.stop rfl, p.fail rfl⟩
        | true =>
          have hfuel : 1 ≤ fuel := by
            rcases hf with hf | hf
            · omega
            · exact absurd hf.2.1 (by simp)
          have := ih i' o1 .top g1 p.wf (Or.inr ⟨g5.2, rfl, hfuel⟩)
          rw [g5.2] at this
          exact this.step p hrs [] rfl rfl

theorem oblast_spec (i : ISt) (o : OSt) (hi : IWF i) (ho : OWF o) :
    OAgree (i.data ++ i.src) o (0 ∈ i.rs) (0 ∈ o.ws) .top (oblast i o) :=
  oloop_spec _ i o .top hi ho (Or.inl (Nat.le_refl _))

/-- `blast()` returned: the socket has taken what was pending and then the whole encoding -/
theorem oblast_sent {i : ISt} {o o' : OSt} (hi : IWF i) (ho : OWF o) (h : oblast i o = .sent o') :
    ∃ e, rblast (i.data ++ i.src) = some e ∧ o'.out = o.out ++ o.buf ++ e ∧ o'.buf = [] ∧ OPost o e (o', true) := by
  obtain ⟨p, hs⟩ := oblast_spec i o hi ho
  rw [h] at p hs
  obtain ⟨e, he⟩ := Option.isSome_iff_exists.1 hs.2
  rw [rfull_of_some _ _ e he] at p
  have := p.eq rfl
  exact ⟨e, he, by rw [← this]; show o'.out = o'.out ++ o'.buf; rw [hs.1, List.append_nil], hs.1, p⟩

theorem oblast_sent_fresh {i : ISt} {o o' : OSt} (hi : IWF i) (ho : OWF o) (hf : o.out = [] ∧ o.buf = [])
    (h : oblast i o = .sent o') : rblast (i.data ++ i.src) = some o'.out := by
  obtain ⟨e, he, h2, -⟩ := oblast_sent hi ho h
  rw [h2, hf.1, hf.2]
  exact he

end Nq.Lemmas.SmtpIO
