/-
  Lemmas for C08: the IP-literal scanner of ip.c (`scanBracket`, with `scan_ulong`'s wrap-around and the
  truncation to `unsigned char`) recognises exactly the literals of the split-at-dots specification
  `ipLiteral`, with the same value; hence `lipSubst = lipSpec` for every address.
-/
import Nq.Lemmas.SmtpAddr

namespace Nq.Lemmas.Smtp
open Nq Nq.SmtpSession Nq.SmtpPolicy

theorem numVal_go (ds : Bytes) : ∀ (acc : UInt8) (n : Nat), acc.toNat = n % 256 → (∀ d ∈ ds, isDigit d = true) →
    (ds.foldl (fun acc d => acc * 10 + (d - 48)) acc).toNat = (ds.foldl (fun acc d => acc * 10 + (d.toNat - 48)) n) % 256 := by
  induction ds with
  | nil => intro acc n h _; simpa using h
  | cons d r ih =>
    intro acc n h hd
    simp only [List.foldl_cons]
    apply ih
    · have hdig := hd d (List.mem_cons_self ..)
      unfold isDigit at hdig
      simp only [Bool.and_eq_true, decide_eq_true_eq] at hdig
      obtain ⟨h1, h2⟩ := hdig
      have h1' : (48 : UInt8) ≤ d := h1
      rw [UInt8.le_iff_toNat_le] at h1 h2
      simp at h1 h2
      -- `UInt8` arithmetic is arithmetic modulo 256; the subtraction is exact since `48 ≤ d`
      rw [UInt8.toNat_add, UInt8.toNat_mul, UInt8.toNat_sub_of_le _ _ h1', h]
      simp
    · intro x hx; exact hd x (List.mem_cons_of_mem _ hx)

theorem numVal_eq (ds : Bytes) (h : ∀ d ∈ ds, isDigit d = true) : numVal ds = UInt8.ofNat (decVal ds % 256) := by
  apply UInt8.toNat_inj.1
  have := numVal_go ds 0 0 (by simp) h
  unfold numVal decVal
  rw [this]
  simp

theorem allDigits_noDot (d : Bytes) (h : allDigits d = true) : DOT ∉ d := fun hm =>
  (isDigit_ne DOT ((allDigits_spec d h).2 DOT hm)).2.1 rfl

theorem ipLiteral_lit (d1 d2 d3 d4 : Bytes) (h1 : allDigits d1 = true) (h2 : allDigits d2 = true)
    (h3 : allDigits d3 = true) (h4 : allDigits d4 = true) :
    ipLiteral (ipLit d1 d2 d3 d4) = some (numVal d1, numVal d2, numVal d3, numVal d4) := by
  have e : d1 ++ DOT :: (d2 ++ DOT :: (d3 ++ DOT :: (d4 ++ [RBR]))) = (d1 ++ DOT :: (d2 ++ DOT :: (d3 ++ DOT :: d4))) ++ [RBR] := by simp
  unfold ipLiteral ipLit
  simp only [e, List.getLast?_append, List.getLast?_singleton, List.dropLast_concat, and_self, if_true,
    Option.some_or]
  rw [splitOnB_append DOT _ d1 (allDigits_noDot d1 h1), splitOnB_append DOT _ d2 (allDigits_noDot d2 h2),
    splitOnB_append DOT _ d3 (allDigits_noDot d3 h3), splitOnB_nosep DOT d4 (allDigits_noDot d4 h4)]
  simp only [h1, h2, h3, h4, Bool.and_self, if_true]
  rw [numVal_eq d1 (allDigits_spec d1 h1).2, numVal_eq d2 (allDigits_spec d2 h2).2, numVal_eq d3 (allDigits_spec d3 h3).2,
    numVal_eq d4 (allDigits_spec d4 h4).2]

theorem expect_some (b : Byte) (s r : Bytes) (h : expect b s = some r) : s = b :: r := by
  cases s with
  | nil => simp [expect] at h
  | cons c t =>
    unfold expect at h
    by_cases hc : c = b
    · simp [hc] at h; rw [hc, h]
    · simp [hc] at h

theorem scanNum_some (s r : Bytes) (a : Byte) (h : scanNum s = some (a, r)) :
    ∃ ds, allDigits ds = true ∧ s = ds ++ r ∧ a = numVal ds := by
  unfold scanNum at h
  by_cases he : s.takeWhile isDigit = []
  · simp [he] at h
  · simp only [he, if_false, Option.some.injEq, Prod.mk.injEq] at h
    obtain ⟨rfl, rfl⟩ := h
    refine ⟨s.takeWhile isDigit, ?_, (List.takeWhile_append_dropWhile (p := isDigit) (l := s)).symm, rfl⟩
    unfold allDigits
    simp only [Bool.and_eq_true, Bool.not_eq_true', List.all_eq_true]
    refine ⟨by simpa [List.isEmpty_iff] using he, ?_⟩
    intro x hx
    exact List.all_eq_true.1 List.all_takeWhile x hx

theorem scanBracket_form (d : Bytes) (ip : Ip) (h : scanBracket d = some (ip, [])) :
    ∃ d1 d2 d3 d4, allDigits d1 = true ∧ allDigits d2 = true ∧ allDigits d3 = true ∧ allDigits d4 = true ∧
      d = ipLit d1 d2 d3 d4 ∧ ip = (numVal d1, numVal d2, numVal d3, numVal d4) := by
  unfold scanBracket at h
  -- nine nested matches, `[` n `.` n `.` n `.` n `]` in source order: each `split` opens one, `e1 … e9` are their equations
  split at h
  · cases h
  rename_i s1 e1
  split at h
  · cases h
  rename_i a s2 e2
  split at h
  · cases h
  rename_i s3 e3
  split at h
  · cases h
  rename_i b s4 e4
  split at h
  · cases h
  rename_i s5 e5
  split at h
  · cases h
  rename_i c s6 e6
  split at h
  · cases h
  rename_i s7 e7
  split at h
  · cases h
  rename_i e s8 e8
  split at h
  · cases h
  rename_i s9 e9
  simp only [Option.some.injEq, Prod.mk.injEq] at h
  obtain ⟨hip, rfl⟩ := h
  obtain ⟨d1, g1, rfl, rfl⟩ := scanNum_some _ _ _ e2
  obtain ⟨d2, g2, rfl, rfl⟩ := scanNum_some _ _ _ e4
  obtain ⟨d3, g3, rfl, rfl⟩ := scanNum_some _ _ _ e6
  obtain ⟨d4, g4, rfl, rfl⟩ := scanNum_some _ _ _ e8
  refine ⟨d1, d2, d3, d4, g1, g2, g3, g4, ?_, hip.symm⟩
  rw [expect_some _ _ _ e1, expect_some _ _ _ e3, expect_some _ _ _ e5, expect_some _ _ _ e7, expect_some _ _ _ e9]
  rfl

theorem ipLiteral_form (d : Bytes) (ip : Ip) (h : ipLiteral d = some ip) :
    ∃ d1 d2 d3 d4, allDigits d1 = true ∧ allDigits d2 = true ∧ allDigits d3 = true ∧ allDigits d4 = true ∧
      d = ipLit d1 d2 d3 d4 := by
  unfold ipLiteral at h
  cases d with
  | nil => simp at h
  | cons c r =>
    simp only at h
    split at h
    next hc =>
      obtain ⟨rfl, hl⟩ := hc
      obtain ⟨r', rfl⟩ := List.getLast?_eq_some_iff.1 hl
      rw [List.dropLast_concat] at h
      split at h
      next a b c e hsp =>
        split at h
        next hd =>
          simp only [Bool.and_eq_true] at hd
          obtain ⟨⟨⟨ha, hb⟩, hc⟩, he⟩ := hd
          refine ⟨a, b, c, e, ha, hb, hc, he, ?_⟩
          rw [splitOnB_four DOT r' a b c e hsp]
          simp [ipLit]
        next => cases h
      next => cases h
    next => cases h

theorem scan_eq_literal (d : Bytes) :
    (match scanBracket d with | some (ip, []) => some ip | _ => none) = ipLiteral d := by
  cases hl : ipLiteral d with
  | some ip =>
    obtain ⟨d1, d2, d3, d4, g1, g2, g3, g4, rfl⟩ := ipLiteral_form d ip hl
    rw [ipLiteral_lit d1 d2 d3 d4 g1 g2 g3 g4] at hl
    rw [scanBracket_lit d1 d2 d3 d4 g1 g2 g3 g4]
    exact hl
  | none =>
    cases hs : scanBracket d with
    | none => rfl
    | some r =>
      obtain ⟨ip, rest⟩ := r
      cases rest with
      | cons x t => rfl
      | nil =>
        obtain ⟨d1, d2, d3, d4, g1, g2, g3, g4, rfl, rfl⟩ := scanBracket_form d ip hs
        rw [ipLiteral_lit d1 d2 d3 d4 g1 g2 g3 g4] at hl
        cases hl

theorem lipSubst_eq_spec (cfg : Cfg) (a : Bytes) : lipSubst cfg a = lipSpec cfg a := by
  unfold lipSubst lipSpec
  cases hh : cfg.liphost with
  | none => rfl
  | some h =>
    cases hs : splitLastAt a with
    | none => rfl
    | some pd =>
      obtain ⟨p, d⟩ := pd
      simp only
      rw [← scan_eq_literal d]
      cases hb : scanBracket d with
      | none => rfl
      | some r =>
        obtain ⟨ip, rest⟩ := r
        cases rest <;> rfl

end Nq.Lemmas.Smtp
