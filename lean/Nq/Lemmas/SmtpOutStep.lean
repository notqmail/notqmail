/-
  The outbound encoder (qmail-remote `blast`) step by step.  `rstep` looks at a byte only to compare it with LF, CR
  and '.', so proofs about the encoder split on `byte_class` and rewrite with one of the four equations.
-/
import Nq.SmtpOut

namespace Nq.Lemmas
open Nq Nq.SmtpOut

theorem byte_class (x : Byte) : x = LF ∨ x = CR ∨ x = DOT ∨ (x ≠ LF ∧ x ≠ CR ∧ x ≠ DOT) := by
  by_cases h1 : x = LF
  · exact .inl h1
  · by_cases h2 : x = CR
    · exact .inr (.inl h2)
    · by_cases h3 : x = DOT
      · exact .inr (.inr (.inl h3))
      · exact .inr (.inr (.inr ⟨h1, h2, h3⟩))

theorem rstep_LF (s : RSt) : rstep s LF = (.top, [CR, LF]) := by
  cases s <;> rfl

theorem rstep_CR (s : RSt) : rstep s CR = match s with | .cr => (.mid, [CR, LF, CR]) | _ => (.cr, []) := by
  cases s <;> rfl

theorem rstep_DOT (s : RSt) :
    rstep s DOT = (.mid, match s with | .top => [DOT, DOT] | .mid => [DOT] | .cr => [CR, LF, DOT, DOT]) := by
  cases s <;> rfl

theorem rstep_other (s : RSt) (x : Byte) (h1 : x ≠ LF) (h2 : x ≠ CR) (h3 : x ≠ DOT) :
    rstep s x = (.mid, match s with | .cr => [CR, LF, x] | _ => [x]) := by
  cases s <;> simp [rstep, h1, h2, h3]

theorem rstate_append (s : RSt) (a b : Bytes) : rstate s (a ++ b) = rstate (rstate s a) b := by
  induction a generalizing s with
  | nil => rfl
  | cons c a ih => exact ih _

theorem rpart_append (s : RSt) (a b : Bytes) : rpart s (a ++ b) = rpart s a ++ rpart (rstate s a) b := by
  induction a generalizing s with
  | nil => rfl
  | cons c a ih => simp only [List.cons_append, rpart, rstate, ih, List.append_assoc]

theorem rfull_cons (st : RSt) (c : Byte) (m : Bytes) :
    rfull st (c :: m) = (rstep st c).2 ++ rfull (rstep st c).1 m := by
  simp [rfull, rpart, rstate]

theorem rrun_cons (s : RSt) (c : Byte) (m : Bytes) :
    rrun s (c :: m) = (rrun (rstep s c).1 m).map (fun e => (rstep s c).2 ++ e) := by
  simp only [rrun]
  cases rrun (rstep s c).1 m <;> rfl

theorem rrun_eq (s : RSt) (m : Bytes) : rrun s m = (rfinish (rstate s m)).map (fun f => rpart s m ++ f) := by
  induction m generalizing s with
  | nil => simp [rrun, rstate, rpart]
  | cons c m ih =>
    rw [rrun_cons, ih]
    simp only [rstate, rpart]
    cases rfinish (rstate (rstep s c).1 m) <;> simp

end Nq.Lemmas
