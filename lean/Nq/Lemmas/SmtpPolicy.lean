/-
  Lemmas for C08: the rcpthosts / badmailfrom lookups of the model equal their declarative
  specifications (`MatchSpec`, `BadSender`) and the Boolean checkers used by the oracle.
-/
import Nq.Lemmas.SmtpBytes
import Nq.Spec.SmtpPolicy

namespace Nq.Lemmas.Smtp
open Nq Nq.SmtpSession Nq.SmtpPolicy

/-! ### case folding -/

theorem lowerByte_eq_dot (c : UInt8) : lowerByte c = 46 ↔ c = 46 :=
  caseless_of (c := 46) (by decide) c

theorem lower_head_dot (e : Bytes) : (lower e).head? = some DOT ↔ e.head? = some DOT := by
  cases e with
  | nil => simp [lower]
  | cons c r => simp [lower, DOT, lowerByte_eq_dot]

theorem lower_of_suffix (s D : Bytes) (h : s <:+ D) (hD : lower D = D) : lower s = s := by
  obtain ⟨t, rfl⟩ := h
  exact (lower_fixed_append hD).2

/-! ### the strings rcpthosts() looks up -/

theorem mem_dotTails (E : Bytes) : ∀ (t : Bytes), E ∈ dotTails t ↔ E.head? = some DOT ∧ E <:+ t
  | [] => by
    simp only [dotTails, List.not_mem_nil, false_iff]
    rintro ⟨h1, h2⟩
    have : E = [] := List.suffix_nil.1 h2
    subst this
    simp at h1
  | c :: r => by
    unfold dotTails
    by_cases hc : c = DOT
    · simp only [hc, if_true, List.mem_cons, mem_dotTails E r, List.suffix_cons_iff]
      constructor
      · rintro (rfl | ⟨h1, h2⟩)
        · exact ⟨by simp, Or.inl rfl⟩
        · exact ⟨h1, Or.inr h2⟩
      · rintro ⟨h1, rfl | h2⟩
        · exact Or.inl rfl
        · exact Or.inr ⟨h1, h2⟩
    · simp only [hc, if_false, mem_dotTails E r, List.suffix_cons_iff]
      constructor
      · rintro ⟨h1, h2⟩
        exact ⟨h1, Or.inr h2⟩
      · rintro ⟨h1, rfl | h2⟩
        · simp at h1; exact absurd h1 hc
        · exact ⟨h1, h2⟩

theorem mem_candidates (E D : Bytes) :
    E ∈ candidates D ↔ D ≠ [] ∧ (E = D ∨ (E.head? = some DOT ∧ E <:+ D)) := by
  cases D with
  | nil => simp [candidates]
  | cons c t =>
    simp only [candidates, List.mem_cons, mem_dotTails, List.suffix_cons_iff, ne_eq, reduceCtorEq, not_false_eq_true,
      true_and]
    constructor
    · rintro (h | ⟨h1, h2⟩)
      · exact Or.inl h
      · exact Or.inr ⟨h1, Or.inr h2⟩
    · rintro (h | ⟨h1, h | h2⟩)
      · exact Or.inl h
      · exact Or.inl h
      · exact Or.inr ⟨h1, h2⟩

theorem candidate_suffix (s D : Bytes) (h : s ∈ candidates D) : s <:+ D := by
  rcases (mem_candidates s D).1 h with ⟨_, rfl | ⟨_, h2⟩⟩
  · exact List.suffix_refl _
  · exact h2

theorem lower_mem_candidates (e d : Bytes) : lower e ∈ candidates (lower d) ↔ covers e d := by
  rw [mem_candidates, lower_head_dot]
  unfold covers
  simp [lower_eq_nil]

theorem cmLookup_iff (es : List Bytes) (k : Bytes) : cmLookup es k = true ↔ ∃ e ∈ es, lower e = lower k := by
  simp [cmLookup, List.any_eq_true]

theorem coversB_iff (e d : Bytes) : coversB e d = true ↔ covers e d := by
  unfold coversB covers
  simp [List.isSuffixOf_iff_suffix]

/-- constmap part of rcpthosts() -/
theorem rh_lookup_iff (rh : List Bytes) (d : Bytes) :
    (candidates (lower d)).any (cmLookup rh) = true ↔ ∃ e ∈ rh, covers e d := by
  simp only [List.any_eq_true, cmLookup_iff]
  constructor
  · rintro ⟨s, hs, e, he, h⟩
    have : lower s = s := lower_of_suffix s _ (candidate_suffix s _ hs) (lower_idem d)
    rw [this] at h
    exact ⟨e, he, (lower_mem_candidates e d).1 (h ▸ hs)⟩
  · rintro ⟨e, he, h⟩
    have hm := (lower_mem_candidates e d).2 h
    exact ⟨lower e, hm, e, he, (lower_idem e).symm⟩

/-- cdb part of rcpthosts(), for lower-case keys -/
theorem more_lookup_iff (ks : List Bytes) (hk : ∀ k ∈ ks, lower k = k) (d : Bytes) :
    (candidates (lower d)).any (fun s => ks.contains s) = true ↔ ∃ e ∈ ks, covers e d := by
  simp only [List.any_eq_true, List.contains_iff_mem]
  constructor
  · rintro ⟨s, hs, hmem⟩
    refine ⟨s, hmem, (lower_mem_candidates s d).1 ?_⟩
    rw [hk s hmem]; exact hs
  · rintro ⟨e, he, h⟩
    have hm := (lower_mem_candidates e d).2 h
    rw [hk e he] at hm
    exact ⟨e, hm, he⟩

theorem match_iff (cfg : Cfg) (hl : MoreLower cfg) (a : Bytes) : rcpthostsMatch cfg a = true ↔ MatchSpec cfg a := by
  unfold rcpthostsMatch MatchSpec domainOf hostEntries
  cases hr : cfg.rh with
  | none => simp
  | some rh =>
    cases hs : splitLastAt a with
    | none => simp
    | some pd =>
      obtain ⟨p, dom⟩ := pd
      cases hm : cfg.more with
      | none =>
        simp only [Bool.or_false, rh_lookup_iff]
        simp
      | some ks =>
        simp only [Bool.or_eq_true, rh_lookup_iff, more_lookup_iff ks (hl ks hm)]
        simp only [reduceCtorEq, Option.map_some, Option.some.injEq, Option.getD_some, List.mem_append, false_or,
          exists_eq_left']
        constructor
        · rintro (⟨e, he, h⟩ | ⟨e, he, h⟩)
          · exact ⟨e, Or.inl he, h⟩
          · exact ⟨e, Or.inr he, h⟩
        · rintro ⟨e, he | he, h⟩
          · exact Or.inl ⟨e, he, h⟩
          · exact Or.inr ⟨e, he, h⟩

theorem matchSpecB_iff (cfg : Cfg) (a : Bytes) : matchSpecB cfg a = true ↔ MatchSpec cfg a := by
  unfold matchSpecB MatchSpec
  cases hr : cfg.rh with
  | none => simp
  | some rh =>
    cases hd : domainOf a with
    | none => simp
    | some d => simp [List.any_eq_true, coversB_iff]

/-! ### badmailfrom -/

theorem bmf_iff (cfg : Cfg) (a : Bytes) : bmfcheck cfg a = true ↔ BadSender cfg a := by
  unfold bmfcheck BadSender domainOf
  cases hb : cfg.bmf with
  | none => simp
  | some es =>
    cases hs : splitLastAt a with
    | none => simp [cmLookup_iff]
    | some pd =>
      obtain ⟨p, d⟩ := pd
      simp only [Bool.or_eq_true, cmLookup_iff, Option.some.injEq, exists_eq_left', Option.map_some]
      constructor
      · rintro (⟨e, he, h⟩ | ⟨e, he, h⟩)
        · exact ⟨e, he, Or.inl h⟩
        · exact ⟨e, he, Or.inr h⟩
      · rintro ⟨e, he, h | h⟩
        · exact Or.inl ⟨e, he, h⟩
        · exact Or.inr ⟨e, he, h⟩

theorem badSenderB_iff (cfg : Cfg) (a : Bytes) : badSenderB cfg a = true ↔ BadSender cfg a := by
  unfold badSenderB BadSender
  cases hb : cfg.bmf with
  | none => simp
  | some es =>
    cases hd : domainOf a with
    | none => simp [List.any_eq_true]
    | some d => simp [List.any_eq_true]

end Nq.Lemmas.Smtp
