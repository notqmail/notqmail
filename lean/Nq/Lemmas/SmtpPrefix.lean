/-
  What is on the wire *before* the encoder is done (refused message, dropped connection, failing read):
  prefixes of `rfull`, and the state-machine-free characterisations of `canon`.
-/
import Nq.SmtpOut
import Nq.Spec.Wire
import Nq.Lemmas.SmtpOutStep

namespace Nq.Lemmas
open Nq Nq.SmtpOut Nq.Wire

theorem rfull_of_some (s : RSt) (m e : Bytes) (h : rrun s m = some e) : rfull s m = e := by
  rw [rrun_eq] at h
  unfold rfull
  cases hf : rfinish (rstate s m) with
  | none => rw [hf] at h; cases h
  | some f => rw [hf] at h; simp at h ⊢; exact h

theorem rrun_eq_none (s : RSt) (m : Bytes) : rrun s m = none ↔ rstate s m = .mid := by
  rw [rrun_eq]
  cases rstate s m <;> simp [rfinish]

theorem rfull_of_none (s : RSt) (m : Bytes) (h : rrun s m = none) : rfull s m = rpart s m ∧ rstate s m = .mid := by
  have hs := (rrun_eq_none s m).1 h
  exact ⟨by simp [rfull, hs, rfinish], hs⟩

theorem rrun_complete (s : RSt) (m : Bytes) (h : rrun s m = none) :
    rrun s (m ++ [LF]) = some (rpart s m ++ [CR, LF, DOT, CR, LF]) := by
  obtain ⟨_, hs⟩ := rfull_of_none s m h
  rw [rrun_eq, rstate_append, rpart_append, hs]
  simp [rstate, rstep, rpart, rfinish]

/-! ## prefixes of a well-formed payload -/

theorem noBareLFGo_prefix (prev : Byte) (p t : Bytes) (h : noBareLFGo prev (p ++ t) = true) :
    noBareLFGo prev p = true := by
  induction p generalizing prev with
  | nil => simp [noBareLFGo]
  | cons c p ih =>
    simp only [List.cons_append, noBareLFGo, Bool.and_eq_true] at h ⊢
    exact ⟨h.1, ih c h.2⟩

theorem splitGo_append (cur p t : Bytes) :
    splitGo cur (p ++ t) = ((splitGo cur p).1 ++ (splitGo (splitGo cur p).2.reverse t).1,
                            (splitGo (splitGo cur p).2.reverse t).2) := by
  induction p generalizing cur with
  | nil => simp [splitGo]
  | cons c p ih =>
    simp only [List.cons_append, splitGo]
    by_cases hc : c = LF ∧ cur.head? = some CR
    · rw [if_pos hc, if_pos hc, ih]; simp [consLine]
    · rw [if_neg hc, if_neg hc, ih]

theorem splitGo_nil_nil (cur t : Bytes) (h : splitGo cur t = ([], [])) : t = [] ∧ cur = [] := by
  induction t generalizing cur with
  | nil => simp [splitGo] at h; exact ⟨rfl, h⟩
  | cons c t ih =>
    simp only [splitGo] at h
    by_cases hc : c = LF ∧ cur.head? = some CR
    · rw [if_pos hc] at h; simp [consLine] at h
    · rw [if_neg hc] at h
      have := (ih _ h).2
      simp at this

theorem lone_dot_only_at_end (w p t : Bytes) (ls : List Bytes) (hw : splitCRLF w = (ls ++ [[DOT]], []))
    (hls : [DOT] ∉ ls) (h : w = p ++ t) (hd : [DOT] ∈ (splitCRLF p).1) : t = [] := by
  unfold splitCRLF at hw hd
  rw [h, splitGo_append] at hw
  generalize (splitGo [] p).1 = A at hw hd
  generalize hB : splitGo (splitGo [] p).2.reverse t = B at hw
  obtain ⟨B1, B2⟩ := B
  simp only [Prod.mk.injEq] at hw
  obtain ⟨h1, h2⟩ := hw
  subst h2
  -- `h1 : A ++ B1 = ls ++ [[DOT]]`, `A` the lines of `p` with its lone dot: where does `A` end?
  rcases List.append_eq_append_iff.mp h1 with ⟨a', e1, e2⟩ | ⟨c', e1, e2⟩
  · -- inside `ls` (`ls = A ++ a'`): the lone dot of `A` would be a line of `ls`
    exact absurd (by rw [e1]; exact List.mem_append_left _ hd) hls
  · cases c' with
    | nil =>
      -- at its end (`A = ls`): the same
      simp at e1 e2
      exact absurd (by rw [← e1]; exact hd) hls
    | cons x c'' =>
      -- behind it (`[[DOT]] = x :: c'' ++ B1`): `p` has the terminator line too, no line and no rest is left for `t`
      have hB1 : B1 = [] := by
        have := congrArg List.length e2
        simp only [List.length_cons, List.length_nil, List.length_append] at this
        exact List.eq_nil_of_length_eq_zero (by omega)
      subst hB1
      exact (splitGo_nil_nil _ _ hB).1

/-! ## `canon` without the state machine -/

theorem canon_eq_self (m : Bytes) (h : CR ∉ m) : canon m = m := by
  unfold canon
  induction m with
  | nil => rfl
  | cons x m ih =>
    obtain ⟨hx, hm⟩ := List.ne_and_not_mem_of_not_mem_cons h
    simp [crun, cstep, hx.symm, ih hm]

theorem crun_c (m : Bytes) : crun .c m = match m with
    | [] => [LF]
    | x :: m' => if x = LF then LF :: crun .n m' else LF :: x :: crun .n m' := by
  cases m with
  | nil => simp [crun, cfinish]
  | cons x m' => by_cases h : x = LF <;> simp [crun, cstep, h]

theorem canon_eq_canonSpec (m : Bytes) : canon m = canonSpec m := by
  unfold canon
  induction m using canonSpec.induct with
  | case1 => simp [crun, cfinish, canonSpec]
  | case2 => simp [crun, cstep, cfinish, canonSpec]
  | case3 c h => simp [crun, cstep, cfinish, canonSpec, h]
  | case4 m ih => simp [crun, cstep, canonSpec, ih, CR, LF]
  | case5 d m hd ih => simp [crun, cstep, canonSpec, ih, hd]
  | case6 c d m hc ih =>
    rw [canonSpec, if_neg hc, ← ih]
    simp [crun, cstep, hc]

/-- away from CR CR the encoder's discipline **is** the documented one -/
theorem canonSpec_eq_canonDoc (m : Bytes) (h : noCRCR m = true) : canonSpec m = canonDoc m := by
  induction m using canonSpec.induct with
  | case1 => simp [canonSpec, canonDoc]
  | case2 => simp [canonSpec, canonDoc]
  | case3 c hc => simp [canonSpec, canonDoc]
  | case4 m ih =>
    have h' : noCRCR m = true := by
      cases m with
      | nil => rfl
      | cons x m' => simp [noCRCR, CR, LF] at h ⊢; exact h
    simp [canonSpec, canonDoc, ih h', CR, LF]
  | case5 d m hd ih =>
    have hdcr : d ≠ CR := by
      intro e; subst e; simp [noCRCR] at h
    have h' : noCRCR (d :: m) = true := by simp [noCRCR] at h; exact h.2
    have h'' : noCRCR m = true := by
      cases m with
      | nil => rfl
      | cons x m' => simp [noCRCR] at h' ⊢; exact h'.2
    rw [canonSpec, canonDoc, if_pos rfl, if_neg hd, if_pos rfl, if_neg hd, ih h'']
    cases m with
    | nil => simp [canonDoc, hdcr]
    | cons x m' => simp [canonDoc, hdcr]
  | case6 c d m hc ih =>
    have h' : noCRCR (d :: m) = true := by simp [noCRCR] at h; exact h.2
    rw [canonSpec, canonDoc, if_neg hc, if_neg hc, ih h']

end Nq.Lemmas
