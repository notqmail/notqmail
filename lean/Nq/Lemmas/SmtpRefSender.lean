/-
  qmail-remote's `blast()` against the reference sender of `Nq.Spec.SmtpRef`: it transmits `canon m` exactly as RFC 5321
  prescribes and refuses exactly the messages whose `canon m` ends inside a line (`rblast_some_iff`, `rblast_none_iff`).
-/
import Nq.Lemmas.SmtpOutStep
import Nq.Spec.SmtpRef

namespace Nq.Lemmas
open Nq Nq.SmtpOut Nq.SmtpRef

/-- read on from the start of a line (`b`) or from inside one, `m` ends at the start of a line -/
def endsLine : Bool → Bytes → Bool
  | b, [] => b
  | _, x :: m => endsLine (x == LF) m

/-- the reference sender, refusing a message that ends inside a line -/
def refSend (b : Bool) (m : Bytes) : Option Bytes := if endsLine b m then some (encGo b m) else none

theorem encGo_lf (b : Bool) (m : Bytes) : encGo b (LF :: m) = CR :: LF :: encGo true m := by
  simp [encGo]
theorem encGo_dot (m : Bytes) : encGo true (DOT :: m) = DOT :: DOT :: encGo false m := by
  simp [encGo, DOT, LF]
theorem encGo_cons {b : Bool} {x : Byte} (m : Bytes) (h1 : x ≠ LF) (h2 : b = true → x ≠ DOT) :
    encGo b (x :: m) = x :: encGo false m := by
  simpa [encGo, h1] using h2

theorem refSend_step (b b' : Bool) (x : Byte) (m : Bytes) (f : Bytes → Bytes) (hb : (x == LF) = b')
    (he : encGo b (x :: m) = f (encGo b' m)) : refSend b (x :: m) = (refSend b' m).map f := by
  simp only [refSend, endsLine, hb, he]
  split <;> rfl

theorem refSend_lf (b : Bool) (m : Bytes) : refSend b (LF :: m) = (refSend true m).map (CR :: LF :: ·) :=
  refSend_step b true LF m _ (beq_self_eq_true LF) (encGo_lf b m)

theorem refSend_dot (m : Bytes) : refSend true (DOT :: m) = (refSend false m).map (DOT :: DOT :: ·) :=
  refSend_step true false DOT m _ (by decide) (encGo_dot m)

theorem refSend_cons {b : Bool} {x : Byte} (m : Bytes) (h1 : x ≠ LF) (h2 : b = true → x ≠ DOT) :
    refSend b (x :: m) = (refSend false m).map (x :: ·) :=
  refSend_step b false x m _ (by simpa using h1) (encGo_cons m h1 h2)

/-- **`blast()` of qmail-remote is the reference sender applied to `canon m`**, state by state: at `top` the reference
sender is at the start of a line, in `mid` inside one, and in `cr` the line end that `canon` still owes puts it at the
start of a line wherever it was. -/
theorem rrun_refSend (m : Bytes) :
    rrun .top m = refSend true (crun .n m) ∧ rrun .mid m = refSend false (crun .n m) ∧
    ∀ b, rrun .cr m = refSend b (crun .c m) := by
  have hdc : DOT ≠ CR := by decide
  have hdl : DOT ≠ LF := by decide
  have hcl : CR ≠ LF := by decide
  have hcd : CR ≠ DOT := by decide
  induction m with
  | nil => exact ⟨rfl, rfl, fun b => by cases b <;> rfl⟩
  | cons x m ih =>
    obtain ⟨i1, i2, i3⟩ := ih
    rcases byte_class x with rfl | rfl | rfl | ⟨h1, h2, h3⟩
    · refine ⟨?_, ?_, fun b => ?_⟩ <;>
        simp only [rrun_cons, rstep_LF, crun, cstep, i1, refSend_lf, if_neg (Ne.symm hcl), if_true, List.cons_append,
          List.nil_append]
    · refine ⟨?_, ?_, fun b => ?_⟩
      · simp only [rrun_cons, rstep_CR, crun, cstep, if_true, List.nil_append, i3 true, Option.map_id']
      · simp only [rrun_cons, rstep_CR, crun, cstep, if_true, List.nil_append, i3 false, Option.map_id']
      · simp only [rrun_cons, rstep_CR, crun, cstep, if_neg hcl, List.cons_append, List.nil_append, refSend_lf,
          refSend_cons _ hcl (fun _ => hcd), i2, Option.map_map]
        rfl
    · refine ⟨?_, ?_, fun b => ?_⟩
      · simp only [rrun_cons, rstep_DOT, crun, cstep, if_neg hdc, List.cons_append, List.nil_append, refSend_dot, i2]
      · simp only [rrun_cons, rstep_DOT, crun, cstep, if_neg hdc, List.cons_append, List.nil_append,
          refSend_cons (b := false) _ hdl (by simp), i2]
      · simp only [rrun_cons, rstep_DOT, crun, cstep, if_neg hdl, List.cons_append, List.nil_append, refSend_lf,
          refSend_dot, i2, Option.map_map]
        rfl
    · refine ⟨?_, ?_, fun b => ?_⟩
      · simp only [rrun_cons, rstep_other _ x h1 h2 h3, crun, cstep, if_neg h2, List.cons_append, List.nil_append,
          refSend_cons _ h1 (fun _ => h3), i2]
      · simp only [rrun_cons, rstep_other _ x h1 h2 h3, crun, cstep, if_neg h2, List.cons_append, List.nil_append,
          refSend_cons (b := false) _ h1 (by simp), i2]
      · simp only [rrun_cons, rstep_other _ x h1 h2 h3, crun, cstep, if_neg h1, List.cons_append, List.nil_append,
          refSend_lf, refSend_cons _ h1 (fun _ => h3), i2, Option.map_map]
        rfl

theorem endsLine_iff : ∀ (m : Bytes) (b : Bool), endsLine b m = true ↔ if m = [] then b = true else m.getLast? = some LF
  | [], b => by simp [endsLine]
  | [x], b => by simp [endsLine]
  | x :: y :: m, b => by
    rw [endsLine, endsLine_iff (y :: m)]
    simp [List.getLast?_cons_cons]

theorem endsLine_true (m : Bytes) : endsLine true m = true ↔ completeLines m := by
  rw [endsLine_iff, completeLines]
  by_cases hm : m = [] <;> simp [hm]

theorem rblast_some_iff (m e : Bytes) : rblast m = some e ↔ completeLines (canon m) ∧ e = rfcEncode (canon m) := by
  rw [rblast, (rrun_refSend m).1, refSend, ← canon, ← endsLine_true, ← rfcEncode]
  by_cases h : endsLine true (canon m) = true <;> simp [h, eq_comm]

theorem rblast_none_iff (m : Bytes) : rblast m = none ↔ ¬completeLines (canon m) := by
  rw [rblast, (rrun_refSend m).1, refSend, ← canon, ← endsLine_true]
  by_cases h : endsLine true (canon m) = true <;> simp [h]

end Nq.Lemmas
