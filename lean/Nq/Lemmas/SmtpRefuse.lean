/-
  The exact refusal criterion of qmail-remote.c `blast()` (`perm_partialline()`), in terms of the encoder's state and
  of the raw last bytes of the message (the run of CRs at its end); in terms of `canon m` it is `rblast_none_iff`.
  Helper lemmas for `C06_refused_bytes`.
-/
import Nq.Lemmas.SmtpOutStep

namespace Nq.Lemmas
open Nq Nq.SmtpOut

theorem canon_eq_nil_iff (m : Bytes) : canon m = [] ↔ m = [] := by
  constructor
  · intro h
    cases m with
    | nil => rfl
    | cons x m =>
      exfalso
      unfold canon at h
      cases m with
      | nil => by_cases h2 : x = CR <;> simp_all [crun, cstep, cfinish]
      | cons y m => by_cases h2 : x = CR <;> by_cases h3 : y = LF <;> simp_all [crun, cstep]
  · intro h; subst h; rfl

theorem rstate_cr_cr (s : RSt) (hs : s ≠ .cr) (l : Bytes) : rstate s (CR :: CR :: l) = rstate .mid l := by
  cases s with
  | top => rfl
  | mid => rfl
  | cr => exact absurd rfl hs

/-- two CRs take every state but `.cr` to `.mid`, so the parity of the run decides -/
theorem rstate_crs (k : Nat) (s : RSt) (hs : s ≠ .cr) :
    rstate s (List.replicate (k + 1) CR) = if (k + 1) % 2 = 1 then .cr else .mid := by
  induction k using Nat.strongRecOn generalizing s with
  | ind k ih =>
    rcases k with _ | _ | k
    · cases s with
      | top => rfl
      | mid => rfl
      | cr => exact absurd rfl hs
    · exact rstate_cr_cr s hs []
    · rw [List.replicate_succ, List.replicate_succ, rstate_cr_cr s hs,
        ih k (Nat.lt_add_of_pos_right (Nat.succ_pos 1)) .mid (by simp)]
      exact congrArg (fun n => if n = 1 then RSt.cr else .mid) (Nat.add_mod_right (k + 1) 2).symm

theorem rstate_nocr_end (p : Bytes) (h : p.getLast? ≠ some CR) :
    rstate .top p = if p = [] then .top else if p.getLast? = some LF then .top else .mid := by
  rcases List.eq_nil_or_concat p with rfl | ⟨q, x, rfl⟩
  · rfl
  · have hx : x ≠ CR := by simpa using h
    rw [List.concat_eq_append, rstate_append]
    rcases byte_class x with rfl | rfl | rfl | ⟨h1, h2, h3⟩
    · simp [rstate, rstep_LF]
    · exact absurd rfl hx
    · simp [rstate, rstep_DOT, DOT, LF]
    · simp [rstate, rstep_other _ x h1 h2 h3, h1]

end Nq.Lemmas
