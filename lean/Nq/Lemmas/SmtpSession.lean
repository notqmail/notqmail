/-
  Lemmas for C08: the RCPT and DATA handlers of `Nq.SmtpSession.sstep` in normal form, the transaction
  invariant phrased over the observable history, and the equivalence between the declarative predicates of
  `Nq.Spec.SmtpPolicy` and their executable checkers.
-/
import Nq.Spec.SmtpPolicy
import Nq.Lemmas.SmtpPolicy

namespace Nq.Lemmas.Smtp
open Nq Nq.SmtpSession Nq.SmtpPolicy

/-! ### lastSeg -/

theorem lastSeg_none {α : Type} (p : α → Bool) : ∀ (l : List α), (∀ x ∈ l, p x = false) → lastSeg p l = none
  | [], _ => rfl
  | x :: r, h => by
    have h1 := lastSeg_none p r (fun y hy => h y (List.mem_cons_of_mem _ hy))
    have h2 : p x = false := h x (List.mem_cons_self ..)
    simp [lastSeg, h1, h2]

theorem lastSeg_found {α : Type} (p : α → Bool) (y : α) (mid : List α) (hy : p y = true)
    (hmid : ∀ x ∈ mid, p x = false) : ∀ (pre : List α), lastSeg p (pre ++ y :: mid) = some (y, mid)
  | [] => by simp [lastSeg, lastSeg_none p mid hmid, hy]
  | x :: pre => by simp [lastSeg, lastSeg_found p y mid hy hmid pre]

theorem lastSeg_none_imp {α : Type} (p : α → Bool) : ∀ (l : List α), lastSeg p l = none → ∀ x ∈ l, p x = false
  | [], _ => by simp
  | x :: r, h => by
    unfold lastSeg at h
    cases h1 : lastSeg p r with
    | some res => simp [h1] at h
    | none =>
      simp [h1] at h
      intro z hz
      rcases List.mem_cons.1 hz with rfl | hz'
      · exact h
      · exact lastSeg_none_imp p r h1 z hz'

theorem lastSeg_spec {α : Type} (p : α → Bool) : ∀ (l : List α) (y : α) (mid : List α), lastSeg p l = some (y, mid) →
    ∃ pre, l = pre ++ y :: mid ∧ p y = true ∧ ∀ x ∈ mid, p x = false
  | [], _, _, h => by simp [lastSeg] at h
  | x :: r, y, mid, h => by
    unfold lastSeg at h
    cases h1 : lastSeg p r with
    | some res =>
      simp [h1] at h
      subst h
      obtain ⟨pre, e, hy, hm⟩ := lastSeg_spec p r _ _ h1
      exact ⟨x :: pre, by simp [e], hy, hm⟩
    | none =>
      simp [h1] at h
      obtain ⟨hp, rfl, rfl⟩ := h
      exact ⟨[], rfl, hp, lastSeg_none_imp p r h1⟩

theorem lastSeg_snoc {α : Type} (p : α → Bool) (x : α) : ∀ (l : List α),
    lastSeg p (l ++ [x]) = if p x then some (x, []) else (lastSeg p l).map (fun r => (r.1, r.2 ++ [x]))
  | [] => by simp [lastSeg]
  | y :: l => by
    simp only [List.cons_append, lastSeg, lastSeg_snoc p x l]
    by_cases hx : p x = true
    · simp [hx]
    · simp [hx]
      cases lastSeg p l with
      | some res => simp
      | none => by_cases hy : p y = true <;> simp [hy]

/-! ### the open transaction: checker = declarative form -/

/-- what a single event contributes when it is the last discarding one -/
def startOf (cfg : Cfg) (x : Ev) : Option (Bytes × List Ev) :=
  match x with
  | (.mail a, oj) => if oj.replies = [.mailok] then (addrparse cfg a).map (fun s => (s, [])) else none
  | _ => none

theorem openTxnB_snoc (cfg : Cfg) (hist : List Ev) (x : Ev) :
    openTxnB cfg (hist ++ [x]) =
      if discards x then startOf cfg x else (openTxnB cfg hist).map (fun r => (r.1, r.2 ++ [x])) := by
  unfold openTxnB
  rw [lastSeg_snoc]
  by_cases hx : discards x = true
  · simp only [hx, if_true]
    obtain ⟨c, o⟩ := x
    cases c <;> simp [startOf]
  · simp only [hx]
    cases h : lastSeg discards hist with
    | none => simp
    | some res =>
      obtain ⟨⟨c, oj⟩, mid⟩ := res
      cases c <;> simp
      by_cases h2 : oj.replies = [.mailok]
      · simp [h2]; cases addrparse cfg _ <;> simp
      · simp [h2]

theorem openTxnB_iff (cfg : Cfg) (hist : List Ev) (snd : Bytes) (mid : List Ev) :
    openTxnB cfg hist = some (snd, mid) ↔ OpenTxn cfg hist snd mid := by
  constructor
  · intro h
    unfold openTxnB at h
    cases h1 : lastSeg discards hist with
    | none => simp [h1] at h
    | some res =>
      obtain ⟨⟨c, oj⟩, mid'⟩ := res
      obtain ⟨pre, e, hy, hm⟩ := lastSeg_spec discards hist _ _ h1
      cases c <;> simp [h1] at h
      rename_i a
      obtain ⟨h2, s, h3, rfl, rfl⟩ := h
      exact ⟨pre, a, oj, e, h2, h3, hm⟩
  · rintro ⟨pre, a, oj, e, h2, h3, hm⟩
    have hd : discards (Cmd.mail a, oj) = true := by simp [discards, h2]
    unfold openTxnB
    rw [e, lastSeg_found discards _ mid hd hm pre]
    simp [h2, h3]

/-! ### one step: the two guarded handlers in normal form -/

/-- the RCPT gate of `smtp_rcpt`, on the state variables -/
structure RcptGate (cfg : Cfg) (s : Sess) (arg a : Bytes) : Prop where
  seen : s.seenmail = true
  unflagged : s.flagbarf = false
  parsed : addrparse cfg arg = some a
  allowed : cfg.relay.isSome = true ∨ rcpthostsMatch cfg a = true

theorem sstep_rcpt_ok {cfg : Cfg} {s : Sess} {arg a : Bytes} (hg : RcptGate cfg s arg a) :
    sstep cfg s (.rcpt arg) = ({ s with rcptto := s.rcptto ++ [a ++ relaySuffix cfg] }, { replies := [.rcptok] }) := by
  obtain ⟨h1, h2, h3, h4⟩ := hg
  cases hr : cfg.relay with
  | some rc => simp [sstep, h1, h2, h3, hr, relaySuffix]
  | none => simp [sstep, h1, h2, h3, hr, relaySuffix, h4.resolve_left (by simp [hr])]

theorem sstep_rcpt_no {cfg : Cfg} {s : Sess} {arg : Bytes} (hg : ¬ ∃ a, RcptGate cfg s arg a) :
    ∃ r, r ∈ [Reply.wantmail, .syntax, .bmf, .nogateway] ∧ sstep cfg s (.rcpt arg) = (s, { replies := [r] }) := by
  by_cases h1 : s.seenmail = true
  · cases ha : addrparse cfg arg with
    | none => exact ⟨.syntax, by simp, by simp [sstep, h1, ha]⟩
    | some a =>
      by_cases h2 : s.flagbarf = true
      · exact ⟨.bmf, by simp, by simp [sstep, h1, ha, h2]⟩
      · cases hr : cfg.relay with
        | some rc => exact absurd ⟨a, h1, by simpa using h2, ha, .inl (by simp [hr])⟩ hg
        | none =>
          have h4 : rcpthostsMatch cfg a = false := Bool.eq_false_iff.2 fun hm => hg ⟨a, h1, by simpa using h2, ha, .inr hm⟩
          exact ⟨.nogateway, by simp, by simp [sstep, h1, ha, h2, hr, h4]⟩
  · exact ⟨.wantmail, by simp, by simp [sstep, h1]⟩

theorem not_rcptok {r : Reply} (h : r ∈ [Reply.wantmail, .syntax, .bmf, .nogateway]) :
    r ≠ .rcptok ∧ r ≠ .go ∧ r ≠ .accepted ∧ ∀ t, r ≠ .qqfail t := by
  simp only [List.mem_cons, List.not_mem_nil, or_false] at h
  rcases h with rfl | rfl | rfl | rfl <;> exact ⟨nofun, nofun, nofun, fun _ => nofun⟩

theorem dataGate_true (s : Sess) : dataGate s = true ↔ s.seenmail = true ∧ s.rcptto ≠ [] := by
  simp [dataGate]

theorem sstep_data_shut {cfg : Cfg} {s : Sess} {env : DataEnv} (hg : dataGate s = false) :
    sstep cfg s (.data env) = (s, { replies := [if s.seenmail then .wantrcpt else .wantmail] }) := by
  by_cases h1 : s.seenmail = true
  · have h2 : s.rcptto.isEmpty = true := by simpa [dataGate, h1] using hg
    simp [sstep, h1, h2]
  · simp [sstep, h1]

/-- past both gates `seenmail = 0` comes before `qmail_open`: the transaction is closed whatever happens next -/
theorem sstep_data_open {cfg : Cfg} {s : Sess} {env : DataEnv} (hg : dataGate s = true) :
    sstep cfg s (.data env) = ({ s with seenmail := false },
      if env.openFails then { replies := [.qqt] }
      else match env.blast with
        | .eof => { replies := [.go], halt := true }
        | .stray => { replies := [.go, .stray], halt := true }
        | .ok => { replies := [.go, closeReply env.close], submit := some ⟨s.mailfrom, s.rcptto, env.close⟩ }) := by
  obtain ⟨h1, h2⟩ := (dataGate_true s).1 hg
  simp only [sstep, h1, List.isEmpty_iff, h2]
  by_cases ho : env.openFails = true
  · simp [ho]
  · cases hb : env.blast <;> simp [ho]

theorem data_open_out {cfg : Cfg} {s : Sess} {env : DataEnv} (hg : dataGate s = true) (ho : env.openFails = false) :
    (sstep cfg s (.data env)).2.replies.head? = some .go ∧ ((sstep cfg s (.data env)).2.halt = true ↔ env.blast ≠ .ok) := by
  rw [sstep_data_open hg, ho]
  cases env.blast <;> simp

theorem gate_step (cfg : Cfg) (s : Sess) (arg : Bytes) :
    (sstep cfg s (.rcpt arg)).2.replies = [.rcptok] ↔ ∃ a, RcptGate cfg s arg a := by
  by_cases hg : ∃ a, RcptGate cfg s arg a
  · obtain ⟨a, ha⟩ := hg
    rw [sstep_rcpt_ok ha]; exact ⟨fun _ => ⟨a, ha⟩, fun _ => rfl⟩
  · obtain ⟨r, hr, e⟩ := sstep_rcpt_no hg
    rw [e]; exact ⟨fun h => absurd (List.head_eq_of_cons_eq h) (not_rcptok hr).1, fun h => absurd h hg⟩

theorem nondata_step (cfg : Cfg) (s : Sess) (c : Cmd) :
    (∃ env, c = .data env) ∨
      ((sstep cfg s c).2.submit = none ∧
        ∃ r, (sstep cfg s c).2.replies = [r] ∧ r ≠ .go ∧ r ≠ .accepted ∧ ∀ t, r ≠ .qqfail t) := by
  cases c with
  | data env => exact .inl ⟨env, rfl⟩
  | mail arg => right; cases ha : addrparse cfg arg <;> simp [sstep, ha]
  | rcpt arg =>
    right
    by_cases hg : ∃ a, RcptGate cfg s arg a
    · obtain ⟨a, ha⟩ := hg
      rw [sstep_rcpt_ok ha]; exact ⟨rfl, _, rfl, nofun, nofun, fun _ => nofun⟩
    · obtain ⟨r, hr, e⟩ := sstep_rcpt_no hg
      rw [e]; exact ⟨rfl, r, rfl, (not_rcptok hr).2⟩
  | _ => exact .inr ⟨rfl, _, rfl, nofun, nofun, fun _ => nofun⟩

theorem submit_iff (cfg : Cfg) (s : Sess) (c : Cmd) (sub : Submit) :
    (sstep cfg s c).2.submit = some sub ↔
      ∃ env, c = .data env ∧ dataGate s = true ∧ env.openFails = false ∧ env.blast = .ok ∧ sub = ⟨s.mailfrom, s.rcptto, env.close⟩ := by
  by_cases hc : ∃ env, c = .data env
  · obtain ⟨env, rfl⟩ := hc
    cases hg : dataGate s with
    | false => rw [sstep_data_shut hg]; exact ⟨nofun, fun ⟨_, _, h, _⟩ => nomatch h⟩
    | true =>
      rw [sstep_data_open hg]
      cases ho : env.openFails with
      | true => exact ⟨nofun, fun ⟨_, he, _, h, _⟩ => by cases he; rw [ho] at h; cases h⟩
      | false =>
        cases hb : env.blast with
        | ok => exact ⟨fun h => ⟨env, rfl, rfl, ho, hb, (Option.some.inj h).symm⟩, fun ⟨_, he, _, _, _, h⟩ => by cases he; rw [h]; rfl⟩
        | _ => exact ⟨nofun, fun ⟨_, he, _, _, h, _⟩ => by cases he; rw [hb] at h; cases h⟩
  · rw [((nondata_step cfg s c).resolve_left hc).1]
    exact ⟨nofun, fun ⟨env, he, _⟩ => absurd ⟨env, he⟩ hc⟩

theorem go_only_data (cfg : Cfg) (s : Sess) (c : Cmd) (h : (sstep cfg s c).2.replies.head? = some .go) :
    ∃ env, c = .data env ∧ dataGate s = true ∧ env.openFails = false := by
  rcases nondata_step cfg s c with ⟨env, rfl⟩ | ⟨_, r, hr, hgo, _⟩
  · refine ⟨env, rfl, ?_⟩
    cases hg : dataGate s with
    | false => rw [sstep_data_shut hg] at h; cases hsm : s.seenmail <;> simp [hsm] at h
    | true =>
      rw [sstep_data_open hg] at h
      cases ho : env.openFails with
      | false => exact ⟨rfl, rfl⟩
      | true => rw [ho] at h; cases h
  · rw [hr] at h; exact absurd (Option.some.inj h) hgo

/-! ### the invariant linking the state variables to the observable history -/

/-- the four state variables of qmail-smtpd are functions of the history: while a transaction is open (`openTxnB`: a MAIL
    answered 250 and nothing since that discards it) `seenmail` is set, `mailfrom` is that MAIL's address, `rcptto` holds the
    RCPTs accepted since, `flagbarf` is the badmailfrom verdict on the sender; otherwise `seenmail` is clear (the other
    three are then never read) -/
def Inv (cfg : Cfg) (hist : List Ev) (s : Sess) : Prop :=
  match openTxnB cfg hist with
  | some (snd, mid) =>
    s.seenmail = true ∧ s.mailfrom = snd ∧ s.rcptto = mid.filterMap (acceptedRcpt cfg) ∧ s.flagbarf = bmfcheck cfg snd
  | none => s.seenmail = false

theorem inv_init (cfg : Cfg) : Inv cfg [] {} := by
  simp [Inv, openTxnB, lastSeg]

theorem Inv.of_open {cfg : Cfg} {hist : List Ev} {s : Sess} {snd : Bytes} {mid : List Ev} (h : Inv cfg hist s)
    (ho : openTxnB cfg hist = some (snd, mid)) :
    s.seenmail = true ∧ s.mailfrom = snd ∧ s.rcptto = mid.filterMap (acceptedRcpt cfg) ∧ s.flagbarf = bmfcheck cfg snd := by
  unfold Inv at h; rw [ho] at h; exact h

theorem Inv.open_of_seen {cfg : Cfg} {hist : List Ev} {s : Sess} (h : Inv cfg hist s) (h1 : s.seenmail = true) :
    ∃ mid, openTxnB cfg hist = some (s.mailfrom, mid) ∧ s.rcptto = mid.filterMap (acceptedRcpt cfg) ∧
      s.flagbarf = bmfcheck cfg s.mailfrom := by
  cases ho : openTxnB cfg hist with
  | none => unfold Inv at h; rw [ho] at h; rw [h1] at h; cases h
  | some r =>
    obtain ⟨_, h2, h3, h4⟩ := h.of_open ho
    exact ⟨r.2, by rw [h2], h3, by rw [h2]; exact h4⟩

theorem Inv.closed {cfg : Cfg} {hist : List Ev} {s : Sess} (h : openTxnB cfg hist = none) (h1 : s.seenmail = false) :
    Inv cfg hist s := by
  unfold Inv; rw [h]; exact h1

theorem inv_step (cfg : Cfg) (hist : List Ev) (s : Sess) (c : Cmd) (h : Inv cfg hist s) :
    Inv cfg (hist ++ [(c, (sstep cfg s c).2)]) (sstep cfg s c).1 := by
  -- HELO, EHLO, RSET and an accepted MAIL discard the transaction (`discards`) and reset the variables; HELP … QUIT and
  -- a refused MAIL touch neither side; RCPT appends to `rcptto` exactly when `acceptedRcpt` holds of the event; DATA
  -- leaves the transaction open at its two gates and closes it (`seenmail = 0`) once it got past them
  have keep : ∀ o : Out, discards (c, o) = false → acceptedRcpt cfg (c, o) = none → Inv cfg (hist ++ [(c, o)]) s := by
    intro o hd ha
    unfold Inv at h ⊢
    rw [openTxnB_snoc, hd]
    cases h0 : openTxnB cfg hist with
    | none => rw [h0] at h; exact h
    | some r => rw [h0] at h; simpa [ha] using h
  have reset : ∀ o : Out, discards (c, o) = true → startOf cfg (c, o) = none → Inv cfg (hist ++ [(c, o)]) { s with seenmail := false } := by
    intro o hd hs
    exact Inv.closed (by rw [openTxnB_snoc, hd, if_pos rfl, hs]) rfl
  cases c with
  | helo => exact reset _ rfl rfl
  | ehlo => exact reset _ rfl rfl
  | rset => exact reset _ rfl rfl
  | help => exact keep _ rfl rfl
  | noop => exact keep _ rfl rfl
  | vrfy => exact keep _ rfl rfl
  | unimpl => exact keep _ rfl rfl
  | quit => exact keep _ rfl rfl
  | mail arg =>
    cases ha : addrparse cfg arg with
    | none => simp only [sstep, ha]; exact keep _ rfl rfl
    | some a => unfold Inv; rw [openTxnB_snoc]; simp [sstep, discards, startOf, ha]
  | rcpt arg =>
    by_cases hg : ∃ a, RcptGate cfg s arg a
    · obtain ⟨a, ha⟩ := hg
      rw [sstep_rcpt_ok ha]
      obtain ⟨mid, h0, h3, h4⟩ := h.open_of_seen ha.seen
      unfold Inv
      rw [openTxnB_snoc, show discards (Cmd.rcpt arg, _) = false from rfl, h0]
      exact ⟨ha.seen, rfl, by simp [acceptedRcpt, ha.parsed, h3], h4⟩
    · obtain ⟨r, hr, e⟩ := sstep_rcpt_no hg
      rw [e]
      exact keep _ rfl (by simp [acceptedRcpt, (not_rcptok hr).1])
  | data env =>
    cases hg : dataGate s with
    | false =>
      rw [sstep_data_shut hg]
      exact keep _ (by cases hsm : s.seenmail <;> simp [discards, hsm]) rfl
    | true =>
      rw [sstep_data_open hg]
      refine reset _ ?_ rfl
      by_cases ho : env.openFails = true
      · simp [discards, ho]
      · cases hb : env.blast <;> simp [discards, ho, closeReply]

theorem submit_step (cfg : Cfg) (hist : List Ev) (s : Sess) (c : Cmd) (sub : Submit) (h : Inv cfg hist s)
    (hs : (sstep cfg s c).2.submit = some sub) : SubmitOK cfg hist sub := by
  obtain ⟨env, rfl, hg, _, _, rfl⟩ := (submit_iff cfg s c sub).1 hs
  obtain ⟨h1, h2⟩ := (dataGate_true s).1 hg
  obtain ⟨mid, h0, h3, _⟩ := h.open_of_seen h1
  exact ⟨mid, (openTxnB_iff cfg hist _ mid).1 h0, h3, h2⟩

/-! ### the RCPT gate -/

theorem addrparse_limit (cfg : Cfg) (arg a : Bytes) (h : addrparse cfg arg = some a) : a.length + 1 ≤ addrLimit := by
  unfold addrparse at h
  split at h
  · simp at h
  · simp at h; subst h
    have : Gen.ADDRMAX = addrLimit := rfl
    omega

theorem gate_inv (cfg : Cfg) (hl : MoreLower cfg) (hist : List Ev) (s : Sess) (arg : Bytes) (h : Inv cfg hist s) :
    (sstep cfg s (.rcpt arg)).2.replies = [.rcptok] ↔ GateOK cfg hist arg := by
  rw [gate_step]
  constructor
  · rintro ⟨a, h1, hb, ha, hm⟩
    obtain ⟨mid, h0, _, h4⟩ := h.open_of_seen h1
    exact ⟨s.mailfrom, mid, a, (openTxnB_iff cfg hist _ mid).1 h0, by rw [← bmf_iff, ← h4, hb]; simp, ha,
      addrparse_limit cfg arg a ha, hm.imp id (match_iff cfg hl a).1⟩
  · rintro ⟨snd, mid, a, ho, hb, ha, _, hm⟩
    obtain ⟨h1, _, _, h4⟩ := h.of_open ((openTxnB_iff cfg hist snd mid).2 ho)
    exact ⟨a, h1, by rw [h4]; exact Bool.eq_false_iff.2 fun hq => hb ((bmf_iff cfg snd).1 hq), ha,
      hm.imp id (match_iff cfg hl a).2⟩

/-! ### checkers = declarative predicates -/

theorem submitOKB_iff (cfg : Cfg) (pre : List Ev) (sub : Submit) : submitOKB cfg pre sub = true ↔ SubmitOK cfg pre sub := by
  unfold submitOKB SubmitOK
  constructor
  · intro h
    cases h0 : openTxnB cfg pre with
    | none => simp [h0] at h
    | some r =>
      obtain ⟨snd, mid⟩ := r
      simp [h0] at h
      obtain ⟨⟨rfl, h2⟩, h3⟩ := h
      exact ⟨mid, (openTxnB_iff cfg pre _ mid).1 h0, h2, h3⟩
  · rintro ⟨mid, ho, h2, h3⟩
    have h0 := (openTxnB_iff cfg pre _ mid).2 ho
    simp [h0, ← h2, h3]

theorem gateOKB_iff (cfg : Cfg) (pre : List Ev) (arg : Bytes) : gateOKB cfg pre arg = true ↔ GateOK cfg pre arg := by
  unfold gateOKB GateOK
  constructor
  · intro h
    cases h0 : openTxnB cfg pre with
    | none => simp [h0] at h
    | some r =>
      obtain ⟨snd, mid⟩ := r
      cases ha : addrparse cfg arg with
      | none => simp [h0, ha] at h
      | some adr =>
        simp [h0, ha] at h
        obtain ⟨hb, hlen, hm⟩ := h
        refine ⟨snd, mid, adr, (openTxnB_iff cfg pre snd mid).1 h0, ?_, rfl, hlen, ?_⟩
        · rw [← badSenderB_iff, hb]; simp
        · rcases hm with hm | hm
          · exact Or.inl hm
          · exact Or.inr ((matchSpecB_iff cfg adr).1 hm)
  · rintro ⟨snd, mid, adr, ho, hb, ha, hlen, hm⟩
    have h0 := (openTxnB_iff cfg pre snd mid).2 ho
    have hb' : badSenderB cfg snd = false := by
      cases hq : badSenderB cfg snd with
      | false => rfl
      | true => exact absurd ((badSenderB_iff cfg snd).1 hq) hb
    simp only [h0, ha, hb']
    rcases hm with hm | hm
    · simp [hm, hlen]
    · simp [(matchSpecB_iff cfg adr).2 hm, hlen]

/-! ### lifting to whole sessions -/

theorem trace_split (cfg : Cfg) : ∀ (pre : List Ev) (s : Sess) (hist : List Ev) (cs : List Cmd) (x : Ev) (post : List Ev),
    Inv cfg hist s → trace cfg s cs = pre ++ x :: post →
    ∃ s', Inv cfg (hist ++ pre) s' ∧ x.2 = (sstep cfg s' x.1).2
  | [], s, hist, cs, x, post, hi, ht => by
    cases cs with
    | nil => simp [trace] at ht
    | cons c cs' =>
      simp only [trace, List.nil_append, List.cons.injEq] at ht
      exact ⟨s, by simpa using hi, ht.1 ▸ rfl⟩
  | y :: pre', s, hist, cs, x, post, hi, ht => by
    cases cs with
    | nil => simp [trace] at ht
    | cons c cs' =>
      simp only [trace, List.cons_append, List.cons.injEq] at ht
      obtain ⟨hy, ht'⟩ := ht
      by_cases hh : (sstep cfg s c).2.halt = true
      · simp [hh] at ht'
      · simp only [hh] at ht'
        have hi' := inv_step cfg hist s c hi
        rw [hy] at hi'
        obtain ⟨s', h1, h2⟩ := trace_split cfg pre' _ _ cs' x post hi' (by simpa using ht')
        exact ⟨s', by simpa using h1, h2⟩

theorem evOKB_step (cfg : Cfg) (hl : MoreLower cfg) (hist : List Ev) (s : Sess) (c : Cmd) (hi : Inv cfg hist s) :
    evOKB cfg hist (c, (sstep cfg s c).2) = true := by
  unfold evOKB
  simp only [Bool.and_eq_true]
  constructor
  · cases hs : (sstep cfg s c).2.submit with
    | none => rfl
    | some sub =>
      exact (submitOKB_iff cfg hist sub).2 (submit_step cfg hist s c sub hi hs)
  · cases c with
    | rcpt arg =>
      simp only
      have := gate_inv cfg hl hist s arg hi
      rw [← gateOKB_iff] at this
      by_cases hg : gateOKB cfg hist arg = true
      · simp [hg, this.2 hg]
      · have hn : ¬ (sstep cfg s (.rcpt arg)).2.replies = [.rcptok] := fun h => hg (this.1 h)
        simp [hg, hn]
    | _ => rfl

theorem traceBad_none (cfg : Cfg) (hl : MoreLower cfg) : ∀ (cs : List Cmd) (s : Sess) (hist : List Ev) (i : Nat),
    Inv cfg hist s → traceBad cfg hist (trace cfg s cs) i = none
  | [], _, _, _, _ => by simp [trace, traceBad]
  | c :: cs, s, hist, i, hi => by
    simp only [trace, traceBad, evOKB_step cfg hl hist s c hi, if_true]
    by_cases hh : (sstep cfg s c).2.halt = true
    · simp [hh, traceBad]
    · simp only [hh]
      exact traceBad_none cfg hl cs _ _ (i + 1) (inv_step cfg hist s c hi)

theorem runFuel_is_trace (cfg : Cfg) (qq : QQ) : ∀ (n : Nat) (s : Sess) (inp : Bytes),
    runFuel cfg qq n s inp = trace cfg s ((runFuel cfg qq n s inp).map Prod.fst)
  | 0, _, _ => by simp [runFuel, trace]
  | n + 1, s, inp => by
    unfold runFuel
    cases h : nextCmd qq s inp with
    | none => simp [trace]
    | some cr =>
      obtain ⟨c, rest⟩ := cr
      simp only
      by_cases hh : (sstep cfg s c).2.halt = true
      · simp [hh, trace]
      · simp only [hh, List.map_cons, trace]
        congr 1
        simpa using runFuel_is_trace cfg qq n (sstep cfg s c).1 rest

end Nq.Lemmas.Smtp
