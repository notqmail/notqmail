/-
  The SMTP DATA wire format at the level of lines: `wire ls` is what RFC 5321 §4.5.2 puts on the connection for the
  lines `ls`.  The decoder reads it back (`rfcDecode_wire`), the reference sender and qmail-remote's `blast()` write it
  (`rfcEncode_wire`, `rblast_wire`), and its shape is known (`splitCRLF_wire`, `noBareLF_wire`, `termOnce_wire`,
  `linesStuffed_wire`).
-/
import Nq.Lemmas.DotStuff
import Nq.Lemmas.SmtpFraming
import Nq.Lemmas.SmtpRefSender
import Nq.Spec.Wire

namespace Nq.Lemmas
open Nq Nq.SmtpIn Nq.SmtpOut Nq.SmtpRef Nq.Wire

/-- the lines `ls` as they are transmitted: each dot-stuffed and ended by CR LF, then the lone dot -/
def wire (ls : List Bytes) : Bytes := joinWith [CR, LF] (ls.map stuff) ++ [DOT, CR, LF]

def LFfree (ls : List Bytes) : Prop := ∀ l ∈ ls, LF ∉ l

theorem unstuff_stuff : ∀ l : Bytes, unstuff (stuff l) = l
  | [] => rfl
  | c :: l => by by_cases h : c = DOT <;> simp [stuff, unstuff, h]

theorem stuffedLine_stuff : ∀ l : Bytes, stuffedLine (stuff l) = true
  | [] => rfl
  | c :: l => by by_cases h : c = DOT <;> simp [stuff, stuffedLine, h]

theorem dot_not_mem_stuff (ls : List Bytes) : [DOT] ∉ ls.map stuff := fun hm => by
  obtain ⟨l, -, e⟩ := List.mem_map.1 hm
  exact stuff_ne_dot l e

theorem LFfree.cons {l : Bytes} {ls : List Bytes} (h : LF ∉ l) (hs : LFfree ls) : LFfree (l :: ls) :=
  List.forall_mem_cons.2 ⟨h, hs⟩

theorem wire_cons (l : Bytes) (ls : List Bytes) : wire (l :: ls) = stuff l ++ CR :: LF :: wire ls := by
  simp [wire, joinWith]

theorem LFfree.stuff {ls : List Bytes} (h : LFfree ls) : LFfree (ls.map stuff) := by
  intro l hl
  obtain ⟨l', h', rfl⟩ := List.mem_map.1 hl
  exact fun hm => h l' h' ((mem_stuff LF l').1 hm)

/-! ### the wire format read back -/

theorem rfcDecode_wire (ls : List Bytes) (rest : Bytes) (h : LFfree ls) :
    rfcDecode (wire ls ++ rest) = .accepted (joinWith [LF] ls) rest := by
  have := rfcDecode_framing_mpr (ls.map stuff) rest (fun l hl => ⟨h.stuff l hl, fun e => dot_not_mem_stuff ls (e ▸ hl)⟩)
  rwa [show (ls.map stuff).map unstuff = ls by simp [Function.comp_def, unstuff_stuff]] at this

theorem splitGo_line (w : Bytes) : ∀ (l cur : Bytes), LF ∉ l →
    splitGo cur (l ++ CR :: LF :: w) = consLine (cur.reverse ++ l) (splitGo [] w)
  | [], cur, _ => by simp [splitGo, CR, LF]
  | c :: l, cur, h => by
    obtain ⟨hc, hl⟩ := List.ne_and_not_mem_of_not_mem_cons h
    simp [splitGo, hc.symm, splitGo_line w l (c :: cur) hl]

theorem splitCRLF_join : ∀ (ls : List Bytes) (w : Bytes), LFfree ls →
    splitCRLF (joinWith [CR, LF] ls ++ w) = ((ls ++ (splitCRLF w).1), (splitCRLF w).2)
  | [], w, _ => rfl
  | l :: ls, w, h => by
    have := splitCRLF_join ls w (fun x hx => h x (by simp [hx]))
    unfold splitCRLF at this ⊢
    simp [joinWith, splitGo_line _ l [] (h l (by simp)), this, consLine]

theorem splitCRLF_wire (ls : List Bytes) (h : LFfree ls) :
    splitCRLF (wire ls) = (ls.map stuff ++ [[DOT]], []) := by
  rw [wire, splitCRLF_join _ _ h.stuff]; rfl

theorem noBareLF_wire (ls : List Bytes) (h : LFfree ls) : noBareLF (wire ls) = true :=
  noBareLF_framed (ls.map stuff) h.stuff

/-! ### the encoders write it -/

/-- The reference sender of RFC 5321 writes `wire ls` for the lines `ls` of a message of complete lines; away from the
start of a line the rest `l` of the current line goes out as it is. -/
theorem encGo_wire (m : Bytes) (hlast : m ≠ [] → m.getLast? = some LF) :
    (∃ ls, LFfree ls ∧ encGo true m = wire ls ∧ m = joinWith [LF] ls) ∧
    (m ≠ [] → ∃ l ls, LF ∉ l ∧ LFfree ls ∧ encGo false m = l ++ CR :: LF :: wire ls ∧
      m = l ++ LF :: joinWith [LF] ls) := by
  induction m with
  | nil => exact ⟨⟨[], by simp [LFfree], rfl, rfl⟩, fun h => absurd rfl h⟩
  | cons x m ih =>
    have hm2 : m ≠ [] → m.getLast? = some LF := by
      intro hm
      cases m with
      | nil => exact absurd rfl hm
      | cons y m' => simpa [List.getLast?_cons_cons] using hlast (by simp)
    obtain ⟨⟨ls, a, b, c⟩, ih2⟩ := ih hm2
    by_cases h1 : x = LF
    · subst h1
      exact ⟨⟨[] :: ls, a.cons (by simp), by simp [encGo_lf, b, wire_cons, stuff], by simp [joinWith, ← c]⟩,
        fun _ => ⟨[], ls, by simp, a, by simp [encGo_lf, b], by simp [← c]⟩⟩
    · have hm : m ≠ [] := fun hm => h1 (by simpa [hm] using hlast (by simp))
      obtain ⟨l, ls, a, b, c, d⟩ := ih2 hm
      have hl : LF ∉ x :: l := by simp [Ne.symm h1, a]
      refine ⟨⟨(x :: l) :: ls, b.cons hl, ?_, by simp [joinWith, d]⟩,
        fun _ => ⟨x :: l, ls, hl, b, by simp [encGo_cons (b := false) m h1 (by simp), c], by simp [d]⟩⟩
      by_cases h3 : x = DOT
      · simp [h3, encGo_dot, c, wire_cons, stuff_dot]
      · simp [encGo_cons m h1 (fun _ => h3), c, wire_cons, stuff_cons l h3]

theorem rfcEncode_wire (m : Bytes) (h : completeLines m) :
    ∃ ls, LFfree ls ∧ rfcEncode m = wire ls ∧ m = joinWith [LF] ls :=
  (encGo_wire m (fun hne => h.resolve_left hne)).1

theorem rblast_wire (m e : Bytes) (h : rblast m = some e) :
    ∃ ls, LFfree ls ∧ e = wire ls ∧ canon m = joinWith [LF] ls := by
  obtain ⟨hc, rfl⟩ := (rblast_some_iff m e).1 h
  exact rfcEncode_wire (canon m) hc

/-! ### the properties of what either encoder transmits, and the round trips -/

theorem termOnce_wire (ls : List Bytes) (h : LFfree ls) : termOnce (wire ls) = true := by
  simp [termOnce, splitCRLF_wire ls h, dot_not_mem_stuff ls]

theorem linesStuffed_wire (ls : List Bytes) (h : LFfree ls) : linesStuffed (wire ls) = true := by
  simp only [linesStuffed, splitCRLF_wire ls h, List.dropLast_concat, List.all_eq_true]
  intro l hl
  obtain ⟨l', -, rfl⟩ := List.mem_map.1 hl
  simpa [stuffedLine_stuff] using h.stuff _ hl

theorem dblast_wire (ls : List Bytes) (rest : Bytes) (h : LFfree ls) :
    dblast (wire ls ++ rest) = .accepted (joinWith [LF] ls) rest := by
  rw [dblast_eq_rfcDecode, rfcDecode_wire ls rest h]

theorem dblast_rblast (m e rest : Bytes) (h : rblast m = some e) :
    dblast (e ++ rest) = .accepted (canon m) rest := by
  obtain ⟨ls, a, rfl, c⟩ := rblast_wire m e h
  rw [c, dblast_wire ls rest a]

end Nq.Lemmas
