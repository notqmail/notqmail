/-
  The loop body extracted from qmail-smtpd.c `blast()` (`Nq.Gen.SmtpdBlast.stmts`, meaning `Nq.CMini.run`) cut into its
  three statements (`hdr`, `sw`, `tl`); how the state of the hand-written automaton `Nq.SmtpIn.dstep` sits in the local
  `state` (`encS` / `decS`); what a step of `dstep` must leave there (`expS`, `cls`).  `Nq.Lemmas.SmtpdSrc.Main` proves the
  comparison with `dstep` / `hstep` for every state and byte by running the extracted text symbolically (`hdr_steps`,
  `swtl_run`).  `okS` / `allS` and `okH` / `sliceH` are the same comparisons as executable Booleans over the finite
  tables: `allS_true` in `Main` (the switch block, 1280 cases) is a corollary of `swtl_run`; no theorem mentions
  `okH` / `sliceH`.
-/
import Nq.CMini
import Nq.Gen.SmtpdBlast
import Nq.SmtpIn

namespace Nq.SmtpdSrc
open Nq Nq.CMini Nq.SmtpIn Nq.Gen.SmtpdBlast

/-- the three top-level statements of the loop body after the read -/
def hdr : Stmt := stmts.getD 0 .skip    -- `if (flaginheader) { ... }`
def sw : Stmt := stmts.getD 1 .skip     -- `switch (state) { ... }`
def tl : Stmt := stmts.getD 2 .skip     -- `put(&ch);`
def swtl : Stmt := .seq sw tl
def body : Stmt := .seq hdr swtl

def n2b (n : Nat) : Bool := n != 0
def encS : DSt → Nat | .s0 => 0 | .s1 => 1 | .s2 => 2 | .s3 => 3 | .s4 => 4
def decS : Nat → DSt | 0 => .s0 | 1 => .s1 | 2 => .s2 | 3 => .s3 | _ => .s4

/-- `hstep` on the C representation of the hop scanner's state (hops counted from 0) -/
def expH (f p x y z c : Nat) : List Nat × Nat :=
  let h := hstep { inHeader := n2b f, pos := p, mx := n2b x, my := n2b y, mz := n2b z, hops := 0 } (UInt8.ofNat c)
  ([b2n h.inHeader, h.pos, b2n h.mx, b2n h.my, b2n h.mz], h.hops)

def isHops : List Ev → Nat → Bool
  | [], 0 => true
  | .hop :: l, n + 1 => isHops l n
  | _, _ => false

def isNorm : Ctl → Bool | .norm => true | _ => false

/-- the header block of the extracted source does to (flaginheader,pos,flagmaybex,y,z) and `*hops` what `hstep` does -/
def okH (f p x y z c : Nat) : Bool :=
  match run hdr none [0, f, p, x, y, z] c with
  | ⟨env, evs, ctl, sk⟩ =>
    let e := expH f p x y z c
    env == 0 :: e.1 && isHops evs e.2 && isNorm ctl && sk.isNone

def sliceH (p : Nat) : Bool :=
  (List.range 2).all fun f => (List.range 2).all fun x => (List.range 2).all fun y =>
  (List.range 2).all fun z => (List.range 256).all fun c => okH f p x y z c

inductive Cls | next | ret | exit (f : Nat)
  deriving DecidableEq, Repr
def cls : Ctl → Cls | .ret => .ret | .exit f => .exit f | _ => .next

def putEvs (bs : Bytes) : List Ev := bs.map (fun b => Ev.put b.toNat)

def expS (s c : Nat) : Nat × List Ev × Cls :=
  match dstep (decS s) (UInt8.ofNat c) with
  | (s', .data bs) => (encS s', putEvs bs, .next)
  | (s', .done) => (encS s', [], .ret)
  | (s', .stray) => (encS s', [], .exit 0)

/-- the switch and the trailing `put(&ch)` of the extracted source do to `state` and to the output what `dstep` does -/
def okS (s c : Nat) : Bool :=
  match run swtl none [s, 0, 0, 0, 0, 0] c with
  | ⟨env, evs, ctl, sk⟩ =>
    let e := expS s c
    env == [e.1, 0, 0, 0, 0, 0] && decide (evs = e.2.1) && decide (cls ctl = e.2.2) && sk.isNone

def allS : Bool := (List.range 5).all fun s => (List.range 256).all fun c => okS s c

end Nq.SmtpdSrc
