/-
  Nq.Lemmas.SmtpdSrc.Main — one iteration of the loop body EXTRACTED from qmail-smtpd.c blast() (meaning:
  Nq.CMini.run) is one step of the hand-written automaton (`dstep` for `state` and the output, `hstep` for the
  hop scanner), for every automaton state, every scanner state and every byte; and therefore the whole loop over
  any input is `drun`/`hopsOf`.

  The header block is straight-line code: each of its lines is one `let` of `hstep` (`Steps.lineZ` ... `Steps.lineLF`),
  put together in the order of the program text (`hdr_steps`).  The switch jumps to `case state:` and runs to the
  next `break`; those few statements are run on LF, CR, '.' and on a byte that is none of them (`swtl_run`).
-/
import Nq.Lemmas.CMiniIndep
import Nq.Lemmas.HopCount
import Nq.Lemmas.SmtpdSrc.Defs

namespace Nq.SmtpdSrc
open Nq Nq.CMini Nq.SmtpIn Nq.Gen.SmtpdBlast

/-! ### shape of the extracted function -/

theorem shape_stmts : stmts.length = 3 := by decide
theorem shape_vars : varNames = ["state", "flaginheader", "pos", "flagmaybex", "flagmaybey", "flagmaybez"] := by decide
theorem shape_init : initEnv = [1, 1, 0, 1, 1, 1] := by decide

/-! ### layout of the automaton's state in the locals -/

def enc (s : DSt) (h : HSt) : Env := [encS s, b2n h.inHeader, h.pos, b2n h.mx, b2n h.my, b2n h.mz]

theorem initEnv_eq : initEnv = enc .s1 {} := shape_init

theorem decS_encS (s : DSt) : decS (encS s) = s := by cases s <;> rfl
theorem encS_decS : ∀ {s : Nat}, s < 5 → encS (decS s) = s
  | 0, _ | 1, _ | 2, _ | 3, _ | 4, _ => rfl

/-- the program compares the byte, as a number, with entries of NUL-terminated literals; the automaton compares bytes
with entries of lists that have no terminator (`getD` yields 0 past the end of either) -/
theorem getD_str (l : Bytes) (p : Nat) : (l.map UInt8.toNat ++ [0]).getD p 0 = (l.getD p 0).toNat := by
  induction l generalizing p with
  | nil => cases p <;> rfl
  | cons a l ih => cases p with
    | zero => rfl
    | succ p => exact ih p

theorem toNat_beq (a b : Byte) : (a.toNat == b.toNat) = (a == b) := by
  rw [Bool.eq_iff_iff, beq_iff_eq, beq_iff_eq, UInt8.toNat_inj]

/-! ### the header block -/

section header
variable {s : DSt} {c : Byte}

/-- On the locals that hold `(s, h)` and the byte `c`, `S` runs to its end and leaves `(s, h')`, executing `++*hops` as
often as `h'.hops` exceeds `h.hops`. -/
structure Steps (s : DSt) (c : Byte) (S : Stmt) (h h' : HSt) : Prop where
  le : h.hops ≤ h'.hops
  run_eq : run S none (enc s h) c.toNat = ⟨enc s h', List.replicate (h'.hops - h.hops) .hop, .norm, none⟩

theorem Steps.of_eq {S : Stmt} {h h' : HSt} (hh : h'.hops = h.hops)
    (hr : run S none (enc s h) c.toNat = ⟨enc s h', [], .norm, none⟩) : Steps s c S h h' :=
  ⟨Nat.le_of_eq hh.symm, by rw [hr, hh, Nat.sub_self]; rfl⟩

theorem Steps.skip {h : HSt} : Steps s c .skip h h := .of_eq rfl rfl

theorem Steps.seq {a b : Stmt} {h h1 h2 : HSt} (ha : Steps s c a h h1) (hb : Steps s c b h1 h2) :
    Steps s c (.seq a b) h h2 :=
  ⟨Nat.le_trans ha.1 hb.1, by
    rw [run, ha.2]; dsimp only; rw [hb.2, List.replicate_append_replicate]
    congr; have := ha.1; have := hb.1; omega⟩

/-- both branches are given without the test's outcome: what the guarded statements do never depends on their guard -/
theorem Steps.ite {cnd : Expr} {t e : Stmt} {h h1 h2 : HSt} {P : Prop} [Decidable P]
    (hc : eval (enc s h) c.toNat cnd = b2n (decide P)) (ht : Steps s c t h h1) (he : Steps s c e h h2) :
    Steps s c (.ite cnd t e) h (if P then h1 else h2) := by
  by_cases hP : P
  · rw [if_pos hP]; exact ⟨ht.1, by rw [run, hc, decide_eq_true hP]; exact ht.2⟩
  · rw [if_neg hP]; exact ⟨he.1, by rw [run, hc, decide_eq_false hP]; exact he.2⟩

variable {f x y z : Bool} {p n : Nat}

/-- `if (ch != lo[pos]) if (ch != up[pos]) flagmaybez = 0;` -/
theorem Steps.lineZ (lo up : Bytes) :
    Steps s c (.ite (.ne .ch (.strAt (lo.map UInt8.toNat ++ [0]) (.var 2)))
      (.ite (.ne .ch (.strAt (up.map UInt8.toNat ++ [0]) (.var 2))) (.assign 5 (.lit 0)) .skip) .skip)
      ⟨f, p, x, y, z, n⟩ ⟨f, p, x, y, z && (c == lo.getD p 0 || c == up.getD p 0), n⟩ := by
  refine .of_eq rfl ?_
  simp only [run, eval, enc, List.getD_cons_succ, List.getD_cons_zero, getD_str, bne, toNat_beq]
  cases z <;> cases c == lo.getD p 0 <;> cases c == up.getD p 0 <;> rfl

/-- `if (pos < 8) if (ch != lo[pos]) if (ch != up[pos]) flagmaybex = 0;` -/
theorem Steps.lineX (lo up : Bytes) :
    Steps s c (.ite (.lt (.var 2) (.lit 8)) (.ite (.ne .ch (.strAt (lo.map UInt8.toNat ++ [0]) (.var 2)))
      (.ite (.ne .ch (.strAt (up.map UInt8.toNat ++ [0]) (.var 2))) (.assign 3 (.lit 0)) .skip) .skip) .skip)
      ⟨f, p, x, y, z, n⟩ ⟨f, p, if p < 8 then x && (c == lo.getD p 0 || c == up.getD p 0) else x, y, z, n⟩ := by
  refine .of_eq rfl ?_
  simp only [run, eval, enc, List.getD_cons_succ, List.getD_cons_zero, getD_str, bne, toNat_beq]
  by_cases h8 : p < 8 <;> simp only [h8, if_true, if_false, decide_true, decide_false]
  · cases x <;> cases c == lo.getD p 0 <;> cases c == up.getD p 0 <;> rfl
  · cases x <;> rfl

/-- `if (pos < 2) if (ch != "\r\n"[pos]) flagmaybey = 0;` -/
theorem Steps.lineY (l : Bytes) :
    Steps s c (.ite (.lt (.var 2) (.lit 2)) (.ite (.ne .ch (.strAt (l.map UInt8.toNat ++ [0]) (.var 2)))
      (.assign 4 (.lit 0)) .skip) .skip)
      ⟨f, p, x, y, z, n⟩ ⟨f, p, x, if p < 2 then y && (c == l.getD p 0) else y, z, n⟩ := by
  refine .of_eq rfl ?_
  simp only [run, eval, enc, List.getD_cons_succ, List.getD_cons_zero, getD_str, bne, toNat_beq]
  by_cases h2 : p < 2 <;> simp only [h2, if_true, if_false, decide_true, decide_false]
  · cases y <;> cases c == l.getD p 0 <;> rfl
  · cases y <;> rfl

/-- `if (flag) if (pos == k) ++*hops;` where the local `v` holds `flag` -/
theorem Steps.hopIf {v k : Nat} {b : Bool} (hv : (enc s ⟨f, p, x, y, z, n⟩).getD v 0 = b2n b) :
    Steps s c (.ite (.var v) (.ite (.eq (.var 2) (.lit k)) .hop .skip) .skip)
      ⟨f, p, x, y, z, n⟩ ⟨f, p, x, y, z, if b && p == k then n + 1 else n⟩ := by
  constructor
  · cases b <;> cases p == k <;> simp
  · simp only [run, eval, hv]
    simp only [enc, List.getD_cons_succ, List.getD_cons_zero]
    cases b <;> cases p == k <;> simp [b2n]

/-- `if (flagmaybey) if (pos == 1) flaginheader = 0;` -/
theorem Steps.lineF :
    Steps s c (.ite (.var 4) (.ite (.eq (.var 2) (.lit 1)) (.assign 1 (.lit 0)) .skip) .skip)
      ⟨f, p, x, y, z, n⟩ ⟨if y && p == 1 then false else f, p, x, y, z, n⟩ := by
  refine .of_eq rfl ?_
  simp only [run, eval, enc, List.getD_cons_succ, List.getD_cons_zero]
  cases y <;> cases p == 1 <;> rfl

theorem Steps.incr : Steps s c (.incr 2) ⟨f, p, x, y, z, n⟩ ⟨f, p + 1, x, y, z, n⟩ := .of_eq rfl rfl

/-- `if (ch == '\n') { pos = 0; flagmaybex = flagmaybey = flagmaybez = 1; }` -/
theorem Steps.lineLF (h : HSt) :
    Steps s c (.ite (.eq .ch (.lit 10)) (.seq (.assign 2 (.lit 0)) (.seq (.assign 5 (.lit 1))
      (.seq (.assign 4 (.lit 1)) (.assign 3 (.lit 1))))) .skip) h
      (if c = LF then { h with pos := 0, mx := true, my := true, mz := true } else h) := by
  by_cases hl : c = LF
  · subst hl; exact .of_eq rfl rfl
  · rw [if_neg hl]
    refine .of_eq rfl ?_
    have : (c.toNat == 10) = false := (toNat_beq c LF).trans (beq_false_of_ne hl)
    simp only [run, eval, this]; rfl

theorem Steps.ifPos {k : Nat} {t : Stmt} {h h1 : HSt} (ht : Steps s c t h h1) :
    Steps s c (.ite (.lt (.var 2) (.lit k)) t .skip) h (if h.pos < k then h1 else h) := .ite rfl ht .skip

theorem Steps.ifHeader {t : Stmt} {h h1 : HSt} (ht : Steps s c t h h1) :
    Steps s c (.ite (.var 1) t .skip) h (if h.inHeader = true then h1 else h) :=
  .ite (show b2n h.inHeader = _ by cases h.inHeader <;> rfl) ht .skip

end header

/-- Which line lemma applies is read off each statement, so independent lines may stand in any order; the state they
leave is compared with `hstep h c` field by field, the number of hops as a sum. -/
theorem hdr_steps (s : DSt) (h : HSt) (c : Byte) : Steps s c hdr h (hstep h c) := by
  obtain ⟨f, p, x, y, z, n⟩ := h
  apply Eq.subst (motive := Steps s c hdr _)
  case h₂ =>
    apply_rules (transparency := .default) [Steps.seq, Steps.lineZ deliveredLo deliveredUp,
      Steps.lineX receivedLo receivedUp, Steps.lineY [CR, LF], Steps.hopIf (v := 5) rfl, Steps.hopIf (v := 3) rfl,
      Steps.lineF, Steps.incr, Steps.lineLF, Steps.ifPos, Steps.ifHeader]
  case h₁ =>
    cases f
    · rfl
    · by_cases h9 : p < 9 <;> by_cases hl : c = LF <;>
        simp only [hstep, h9, hl, if_true, if_false, Bool.not_true, Bool.false_eq_true, HSt.mk.injEq, Lemmas.HopCount.ite_succ,
          Bool.decide_eq_true, true_and]
          <;> omega

/-- what one iteration must do, in terms of the hand-written automaton -/
def expect (s : DSt) (h : HSt) (c : Byte) : Env × List Ev × Cls :=
  let h' := hstep h c
  let hops := List.replicate (h'.hops - h.hops) Ev.hop
  match dstep s c with
  | (s', .data bs) => (enc s' h', hops ++ putEvs bs, .next)
  | (s', .done) => (enc s' h', hops, .ret)
  | (s', .stray) => (enc s' h', hops, .exit 0)

theorem hstep_pos_le (h : HSt) (c : Byte) (hp : h.pos ≤ 9) : (hstep h c).pos ≤ 9 := by
  cases hin : h.inHeader with
  | false => rw [Lemmas.HopCount.hstep_out h c hin]; exact hp
  | true =>
    by_cases hc : c = LF
    · subst hc; rw [Lemmas.HopCount.hstep_lf h hin]; exact Nat.zero_le 9
    · by_cases h9 : h.pos < 9
      · rw [(Lemmas.HopCount.hstep_in h c hin hc h9).pos]; exact h9
      · rw [Lemmas.HopCount.hstep_past h c hin hc h9]; exact hp

/-! ### the switch and `put(&ch)` -/

/-- the other locals are a variable tail `t`, so that this composes with `hdr_steps` in `iter_step` -/
theorem swtl_run (s : DSt) (c : Byte) (t : Env) :
    (let r := run swtl none (encS s :: t) c.toNat; (r.env, r.evs, cls r.ctl, r.seek)) =
      (let e := expS (encS s) c.toNat; (e.1 :: t, e.2.1, e.2.2, none)) := by
  rw [swtl, run, show tl = .put .ch from rfl, sw, stmts, List.getD_cons_succ, List.getD_cons_zero]
  simp only [expS, decS_encS, UInt8.ofNat_toNat]
  have ne (b : Byte) (h : c ≠ b) : (c.toNat == b.toNat) = false ∧ (b.toNat == c.toNat) = false :=
    ⟨(toNat_beq c b).trans (beq_false_of_ne h), (toNat_beq b c).trans (beq_false_of_ne (Ne.symm h))⟩
  cases s
  all_goals
    -- the statements from `case s:` to the next `break`, then the three bytes the program knows and any other
    rw [run_switch (by rfl)]
    dsimp only [Stmt.cut, Stmt.jumps, cond_true, cond_false]
    by_cases hl : c = LF
    · subst hl; simp [encS, run, eval, dstep, cls, putEvs, b2n, LF, CR, DOT]
    by_cases hc : c = CR
    · subst hc; simp [encS, run, eval, dstep, cls, putEvs, b2n, LF, CR, DOT]
    by_cases hd : c = DOT
    · subst hd; simp [encS, run, eval, dstep, cls, putEvs, b2n, LF, CR, DOT]
    have n10 : (c.toNat == 10) = false ∧ (10 == c.toNat) = false := ne LF hl
    have n13 : (c.toNat == 13) = false ∧ (13 == c.toNat) = false := ne CR hc
    have n46 : (c.toNat == 46) = false ∧ (46 == c.toNat) = false := ne DOT hd
    simp [encS, run, eval, dstep, cls, putEvs, b2n, hl, hc, hd, n10, n13, n46, bne, CR]

theorem allS_true : allS = true := by
  simp only [allS, List.all_eq_true, List.mem_range]
  intro s hs c hc
  have h := swtl_run (decS s) (UInt8.ofNat c) [0, 0, 0, 0, 0]
  rw [encS_decS hs, UInt8.toNat_ofNat_of_lt' hc] at h
  unfold okS
  generalize run swtl none [s, 0, 0, 0, 0, 0] c = r at h ⊢
  obtain ⟨env, evs, ctl, sk⟩ := r
  simp only [Prod.mk.injEq] at h
  simp [h.1, h.2.1, h.2.2.1, h.2.2.2]

/-! ### one iteration -/

theorem iter_step (s : DSt) (h : HSt) (c : Byte) :
    (let r := iter body (enc s h) c.toNat; (r.env, r.evs, cls r.ctl)) = expect s h c := by
  have hs : (let r := run swtl none (enc s (hstep h c)) c.toNat; (r.env, r.evs, cls r.ctl, r.seek)) = _ :=
    swtl_run s c _
  simp only [iter, body, run, (hdr_steps s h c).2]
  generalize run swtl none (enc s (hstep h c)) c.toNat = r at hs ⊢
  obtain ⟨env, evs, ctl, sk⟩ := r
  simp only [Prod.mk.injEq] at hs
  obtain ⟨rfl, rfl, hc, -⟩ := hs
  simp only [hc, expS, decS_encS, UInt8.ofNat_toNat, expect]
  rcases dstep s c with ⟨s', o⟩
  cases o <;> simp [enc]

/-- `pos ≤ 9` is all that `hstep` reaches (`hstep_pos_le`) -/
theorem iter_eq (s : DSt) (h : HSt) (c : Byte) (hp : h.pos ≤ 9) :
    (let r := iter body (enc s h) c.toNat; (r.env, r.evs, cls r.ctl)) = expect s h c :=
  iter_step s h c

/-! ### the whole loop -/

/-- the automaton and the hop scanner run side by side over the input, as `blast()` runs them -/
def mrun : DSt → HSt → Bytes → DRes × HSt
  | _, h, [] => (.incomplete, h)
  | s, h, c :: inp =>
      match (dstep s c).2 with
      | .data bs => let r := mrun (dstep s c).1 (hstep h c) inp
                    (emit bs r.1, r.2)
      | .done => (.accepted [] inp, hstep h c)
      | .stray => (.stray, hstep h c)

theorem mrun_fst : ∀ (inp : Bytes) (s : DSt) (h : HSt), (mrun s h inp).1 = drun s inp
  | [], _, _ => rfl
  | c :: inp, s, h => by
      simp only [mrun, drun]
      cases hd : (dstep s c).2 <;> simp [mrun_fst inp]

theorem mrun_snd : ∀ (inp : Bytes) (s : DSt) (h : HSt) (b rest : Bytes), drun s inp = .accepted b rest →
    ∃ consumed, inp = consumed ++ rest ∧ (mrun s h inp).2 = consumed.foldl hstep h
  | [], _, _, _, _, hd => by simp [drun] at hd
  | c :: inp, s, h, b, rest, hd => by
      simp only [drun] at hd
      simp only [mrun]
      cases ho : (dstep s c).2 with
      | data bs =>
          simp only [ho] at hd
          cases hr : drun (dstep s c).1 inp with
          | accepted b' r' =>
              simp only [hr, emit] at hd
              injection hd with _ hrest
              subst hrest
              obtain ⟨cs, h1, h2⟩ := mrun_snd inp (dstep s c).1 (hstep h c) b' r' hr
              exact ⟨c :: cs, by simp [h1], by simp [h2]⟩
          | stray => simp [hr, emit] at hd
          | incomplete => simp [hr, emit] at hd
      | done =>
          simp only [ho] at hd
          injection hd with _ hrest
          subst hrest
          exact ⟨[c], by simp, by simp⟩
      | stray => simp [ho] at hd

def putsOf : List Ev → Bytes
  | [] => []
  | .put b :: l => UInt8.ofNat b :: putsOf l
  | .hop :: l => putsOf l

def hopCount : List Ev → Nat
  | [] => 0
  | .hop :: l => hopCount l + 1
  | .put _ :: l => hopCount l

theorem putsOf_append (a b : List Ev) : putsOf (a ++ b) = putsOf a ++ putsOf b := by
  induction a with
  | nil => rfl
  | cons e a ih => cases e <;> simp [putsOf, ih]

theorem hopCount_append (a b : List Ev) : hopCount (a ++ b) = hopCount a + hopCount b := by
  induction a with
  | nil => simp [hopCount]
  | cons e a ih => cases e <;> simp [hopCount, ih] <;> omega

theorem putsOf_replicate (n : Nat) : putsOf (List.replicate n Ev.hop) = [] := by
  induction n with
  | zero => rfl
  | succ n ih => simp [List.replicate_succ, putsOf, ih]

theorem hopCount_replicate (n : Nat) : hopCount (List.replicate n Ev.hop) = n := by
  induction n with
  | zero => rfl
  | succ n ih => simp [List.replicate_succ, hopCount, ih]

theorem putsOf_putEvs (bs : Bytes) : putsOf (putEvs bs) = bs := by
  induction bs with
  | nil => rfl
  | cons b bs ih => simp [putEvs, putsOf] at ih ⊢; exact ih

theorem hopCount_putEvs (bs : Bytes) : hopCount (putEvs bs) = 0 := by
  induction bs with
  | nil => rfl
  | cons b bs ih => simp [putEvs, hopCount] at ih ⊢; exact ih

theorem mrun_hops_le : ∀ (inp : Bytes) (s : DSt) (h : HSt), h.hops ≤ (mrun s h inp).2.hops
  | [], _, _ => by simp [mrun]
  | c :: inp, s, h => by
      have := Lemmas.HopCount.hstep_hops_le h c
      simp only [mrun]
      cases (dstep s c).2 with
      | data bs => have := mrun_hops_le inp (dstep s c).1 (hstep h c); simp; omega
      | done => simpa
      | stray => simpa

/-- what an outcome of the extracted loop means for the session: bytes handed to the queue writer, unread input, and the
number of `++*hops` executed -/
def outView : Out → DRes × Nat
  | .returned evs rest => (.accepted (putsOf evs) (rest.map UInt8.ofNat), hopCount evs)
  | .exited _ evs => (.stray, hopCount evs)
  | .starved evs _ => (.incomplete, hopCount evs)

theorem map_ofNat_toNat (l : Bytes) : (l.map (fun b => b.toNat)).map UInt8.ofNat = l := by
  induction l with
  | nil => rfl
  | cons b l ih => simp [ih]

theorem outView_loop_cons (b : Stmt) (env : Env) (c : Nat) (rest : List Nat) :
    outView (loop b env (c :: rest)) =
      match cls (iter b env c).ctl with
      | .ret => (.accepted (putsOf (iter b env c).evs) (rest.map UInt8.ofNat), hopCount (iter b env c).evs)
      | .exit _ => (.stray, hopCount (iter b env c).evs)
      | .next =>
          (emit (putsOf (iter b env c).evs) (outView (loop b (iter b env c).env rest)).1,
            hopCount (iter b env c).evs + (outView (loop b (iter b env c).env rest)).2) := by
  simp only [loop]
  cases (iter b env c).ctl with
  | ret | exit f => rfl
  | norm | brk | cont =>
      simp only [cls]
      cases loop b (iter b env c).env rest <;> simp [outView, putsOf_append, hopCount_append, emit]

theorem loop_run : ∀ (inp : Bytes) (s : DSt) (h : HSt),
    outView (loop body (enc s h) (inp.map (fun b => b.toNat))) = ((mrun s h inp).1, (mrun s h inp).2.hops - h.hops)
  | [], s, h => by simp [loop, outView, mrun, hopCount]
  | c :: inp, s, h => by
      have hi := iter_step s h c
      have ih := loop_run inp (dstep s c).1 (hstep h c)
      have hle := Lemmas.HopCount.hstep_hops_le h c
      simp only [expect] at hi
      simp only [List.map_cons, mrun, outView_loop_cons]
      rcases hd : dstep s c with ⟨s', o⟩
      rw [hd] at hi ih
      -- `hi` now says how the iteration ends: with `return`, in `straynewline()`, or in the next iteration
      cases o with
      | done =>
          simp only [Prod.mk.injEq] at hi
          obtain ⟨_, hev, hc⟩ := hi
          simp only [hc, hev, putsOf_replicate, hopCount_replicate, map_ofNat_toNat]
      | stray =>
          simp only [Prod.mk.injEq] at hi
          obtain ⟨_, hev, hc⟩ := hi
          simp only [hc, hev, hopCount_replicate]
      | data bs =>
          simp only [Prod.mk.injEq] at hi
          obtain ⟨henv, hev, hc⟩ := hi
          have hmono := mrun_hops_le inp s' (hstep h c)
          simp only [hc, henv, hev, ih, putsOf_append, hopCount_append, putsOf_replicate, hopCount_replicate,
            putsOf_putEvs, hopCount_putEvs, List.nil_append, Nat.add_zero, Prod.mk.injEq, true_and]
          omega

theorem loop_eq : ∀ (inp : Bytes) (s : DSt) (h : HSt), h.pos ≤ 9 →
    outView (loop body (enc s h) (inp.map (fun b => b.toNat))) = ((mrun s h inp).1, (mrun s h inp).2.hops - h.hops) :=
  fun inp s h _ => loop_run inp s h

end Nq.SmtpdSrc
