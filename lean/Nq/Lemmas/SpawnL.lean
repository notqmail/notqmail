/-
  Lemmas about the spawn.c model (`Nq.Spawn`): the generated report texts and the case analysis of `docmd`; what
  `report()` can print (a fixed text, or a letter followed by pieces of the child's output: `FromChild`); the framing
  automaton of the command stream; what one event on the children's side can do (`ChildStep`); `Segs`: a property of
  pieces of a session that holds of one byte, of one child-side event and of the end of input holds of every session.
  Its instance `Bal` is the balance "reports written + children running = commands completed", for the whole session
  including the final drain (`session_balance`) and for the part of the script consumed before the main loop exits
  (`run_prefix_balance`); the other instance is in `SpawnStreamL`.
-/
import Nq.Spawn
import Nq.Lemmas.Basic
import Nq.Spec.TrustBoundary

namespace Nq.Lemmas.SpawnL
open Nq Nq.Spawn Nq.Spec.TB Nq.Gen.SpawnTexts

/-- a report body: a status letter followed by NUL-free text -/
def textOK (t : Bytes) : Bool := (match t with | l :: _ => isLetter l | [] => false) && !t.contains 0

def fixedTexts : List Bytes := [L_CRASHED, R_CRASHED, R_SOFT, R_HARD, R_NOOUTPUT] ++ lspawnTexts.map (·.2)

/-- the fixed texts `Nq.Spawn` writes (spawn.c / qmail-lspawn.c / qmail-rspawn.c, as extracted from the current
sources) start with K, Z or D and contain no NUL: the refusals of `docmd()` before and after `open_read`, the texts
of the two `report()`s, the status letters of qmail-lspawn.c. Not among them: `E_NEGATIVE`, `E_NOMEM0`, `E_NOMEM1`,
which `docmd` of the model never writes (`E_NOMEM0` is the report of `Nq.SpawnOOM`). -/
structure TextsOK : Prop where
  early : [E_TOOBIG, E_INUSE, E_NONNUM, E_TOOLONG, E_TOOSHORT, E_NOHOST].all textOK = true
  late : [E_OPEN, E_FSTAT, E_TYPE, E_OWNER, E_PIPE, E_FORK].all textOK = true
  fixed : fixedTexts.all textOK = true
  letters : lspawnLetters.all (fun p => isLetter p.2) = true
  dflt : isLetter lspawnDefault = true

theorem texts_ok : TextsOK := by
  constructor <;> decide +kernel

/-- the refusals for a file that is not a regular file of the queue user (`fstat` outcomes 3, 4, 7, 8) are
temporary (`Z`); `ht` is what `docmd_cases` says of the text reported after `open_read` -/
theorem guard_text_Z {p : Nat} {t : Bytes} (hp : p = 3 ∨ p = 4 ∨ p = 7 ∨ p = 8)
    (ht : (p = 1 ∧ t = E_OPEN) ∨ (p = 2 ∧ t = E_FSTAT) ∨ ((p = 3 ∨ p = 7 ∨ p = 8) ∧ t = E_TYPE) ∨
      (p = 4 ∧ t = E_OWNER) ∨ (p = 5 ∧ t = E_PIPE)) : t.head? = some 90 := by
  rcases ht with ⟨a, _⟩ | ⟨a, _⟩ | ⟨_, b⟩ | ⟨_, b⟩ | ⟨a, _⟩
  · omega
  · omega
  · rw [b]; rfl
  · rw [b]; rfl
  · omega

/-- the validation cascade of `docmd()` up to (not including) `open_read`, except the search for the `@` of the
recipient (`rchrAt`), which `docmd_cases` states beside it -/
structure Checks (st : St) : Prop where
  inRange : st.delnum < Nq.Gen.auto_spawn
  free : slotUsed st.slots st.delnum = false
  chars : badChars true st.messid = false
  len : st.messid.length ≤ MESSID_MAX
  nonempty : st.messid.head? ≠ some 0

def popPlan (st : St) : St := { st with plan := st.plan.tail }

theorem plan_rest {p : Nat} (p1 : p ≠ 1) (p2 : p ≠ 2) (p3 : ¬(p = 3 ∨ p = 7 ∨ p = 8)) (p4 : p ≠ 4) (p5 : p ≠ 5)
    (p6 : p ≠ 6) : p = 0 ∨ p > 8 := by
  rcases p with _ | _ | _ | _ | _ | _ | _ | _ | _ | n
  · exact .inl rfl
  · exact absurd rfl p1
  · exact absurd rfl p2
  · exact absurd (.inl rfl) p3
  · exact absurd rfl p4
  · exact absurd rfl p5
  · exact absurd rfl p6
  · exact absurd (.inr (.inl rfl)) p3
  · exact absurd (.inr (.inr rfl)) p3
  · exact .inr (Nat.le_add_left 9 n)

/-- what `docmd` does with a command: it refuses it before `open_read` and only reports (`early`); or the checks pass, the
file is opened, and then it reports a failure of `open_read`, `fstat` or `pipe` (`late`), or calls `spawn()` with the index
`j` of the last `@` of the recipient, which fails to fork (`nofork`) or starts the child in the command's slot (`started`) -/
inductive Docmd (st : St) : St × List Ev → Prop
  | early (t : Bytes) (ht : t ∈ [E_TOOBIG, E_INUSE, E_NONNUM, E_TOOLONG, E_TOOSHORT, E_NOHOST]) :
      Docmd st (st, [.report st.delnum t])
  | late (hc : Checks st) (t : Bytes)
      (ht : (st.plan.headD 0 = 1 ∧ t = E_OPEN) ∨ (st.plan.headD 0 = 2 ∧ t = E_FSTAT) ∨
        ((st.plan.headD 0 = 3 ∨ st.plan.headD 0 = 7 ∨ st.plan.headD 0 = 8) ∧ t = E_TYPE) ∨
        (st.plan.headD 0 = 4 ∧ t = E_OWNER) ∨ (st.plan.headD 0 = 5 ∧ t = E_PIPE)) :
      Docmd st (popPlan st, [.openRead st.messid.dropLast, .report st.delnum t])
  | nofork (hc : Checks st) (j : Nat) (hj : rchrAt st.recip 0 none = some j) (hp : st.plan.headD 0 = 6) :
      Docmd st (popPlan st, [.openRead st.messid.dropLast,
        .spawnCall st.delnum st.sender.dropLast st.recip.dropLast j, .report st.delnum E_FORK])
  | started (hc : Checks st) (j : Nat) (hj : rchrAt st.recip 0 none = some j)
      (hp : st.plan.headD 0 = 0 ∨ st.plan.headD 0 > 8) :
      Docmd st ({ popPlan st with slots := st.slots.set st.delnum (some []) },
        [.openRead st.messid.dropLast, .spawnCall st.delnum st.sender.dropLast st.recip.dropLast j])

theorem docmd_cases (st : St) : Docmd st (docmd st) := by
  unfold docmd
  dsimp only
  by_cases h1 : st.delnum ≥ Nq.Gen.auto_spawn
  · rw [if_pos h1]; exact .early E_TOOBIG (by simp)
  rw [if_neg h1]
  by_cases h2 : slotUsed st.slots st.delnum = true
  · rw [if_pos h2]; exact .early E_INUSE (by simp)
  rw [if_neg h2]
  by_cases h3 : badChars true st.messid = true
  · rw [if_pos h3]; exact .early E_NONNUM (by simp)
  rw [if_neg h3]
  by_cases h4 : st.messid.length > MESSID_MAX
  · rw [if_pos h4]; exact .early E_TOOLONG (by simp)
  rw [if_neg h4]
  by_cases h5 : st.messid.head? = some 0
  · rw [if_pos h5]; exact .early E_TOOSHORT (by simp)
  rw [if_neg h5]
  cases hj : rchrAt st.recip 0 none with
  | none => exact .early E_NOHOST (by simp)
  | some j =>
    dsimp only
    have hc : Checks st := ⟨Nat.lt_of_not_ge h1, eq_false_of_ne_true h2, eq_false_of_ne_true h3, Nat.le_of_not_gt h4, h5⟩
    by_cases p1 : st.plan.headD 0 = 1
    · rw [if_pos p1]; exact .late hc E_OPEN (.inl ⟨p1, rfl⟩)
    rw [if_neg p1]
    by_cases p2 : st.plan.headD 0 = 2
    · rw [if_pos p2]; exact .late hc E_FSTAT (.inr (.inl ⟨p2, rfl⟩))
    rw [if_neg p2]
    by_cases p3 : st.plan.headD 0 = 3 ∨ st.plan.headD 0 = 7 ∨ st.plan.headD 0 = 8
    · rw [if_pos p3]; exact .late hc E_TYPE (.inr (.inr (.inl ⟨p3, rfl⟩)))
    rw [if_neg p3]
    by_cases p4 : st.plan.headD 0 = 4
    · rw [if_pos p4]; exact .late hc E_OWNER (.inr (.inr (.inr (.inl ⟨p4, rfl⟩))))
    rw [if_neg p4]
    by_cases p5 : st.plan.headD 0 = 5
    · rw [if_pos p5]; exact .late hc E_PIPE (.inr (.inr (.inr (.inr ⟨p5, rfl⟩))))
    rw [if_neg p5]
    by_cases p6 : st.plan.headD 0 = 6
    · rw [if_pos p6]; exact .nofork hc j hj p6
    · rw [if_neg p6]; exact .started hc j hj (plan_rest p1 p2 p3 p4 p5 p6)

/-! ### the message-id check -/

theorem badChars_ok (first : Bool) (m : Bytes) (h0 : ∀ c ∈ m, c ≠ 0) (h : badChars first (m ++ [0]) = false) :
    (∀ c ∈ m, isDigit c = true ∨ c = 47) ∧ (first = true → ∀ c, m.head? = some c → isDigit c = true) := by
  induction m generalizing first with
  | nil => simp
  | cons c r ih =>
    simp only [List.cons_append, badChars, Bool.or_eq_false_iff, Bool.and_eq_false_iff] at h
    obtain ⟨ha, hb⟩ := h
    obtain ⟨i1, _⟩ := ih false (fun x hx => h0 x (by simp [hx])) hb
    -- `ha`: a factor of the test on this byte is false: it is NUL (no: `h0`), or a `/` that is not the first byte, or a digit
    have key : (first = false ∧ c = 47) ∨ isDigit c = true := by
      rcases ha with (ha | ha) | ha
      · exact absurd (by simpa using ha) (h0 c (by simp))
      · exact .inl (by simpa using ha)
      · exact .inr (by simpa using ha)
    refine ⟨List.forall_mem_cons.2 ⟨key.symm.imp_right (·.2), i1⟩, fun hf x hx => ?_⟩
    cases hx
    exact key.resolve_left fun k => by rw [hf] at k; cases k.1

theorem okPath_of_checks {st : St} (hc : Checks st) (m : Bytes) (hm : st.messid = m ++ [0]) (h0 : ∀ c ∈ m, c ≠ 0) :
    okPath m = true := by
  obtain ⟨-, -, h1, h2, h3⟩ := hc
  rw [hm] at h1 h2 h3
  obtain ⟨a, b⟩ := badChars_ok true m h0 h1
  cases m with
  | nil => simp at h3
  | cons c r =>
    have hd : isDigit c = true := b rfl c rfl
    have hlen : (c :: r).length ≤ 99 := by
      have : MESSID_MAX = 100 := by decide
      simp only [List.length_append, List.length_cons, List.length_nil] at h2 ⊢
      omega
    unfold okPath
    simp only [List.isEmpty_cons, Bool.not_false, Bool.true_and, hd, Bool.and_true, Bool.and_eq_true,
      decide_eq_true_eq, List.all_eq_true]
    refine ⟨hlen, ?_⟩
    intro x hx
    rcases a x hx with h | h
    · simp [h]
    · simp [h]

/-! ### reports and slots -/

def nReports (evs : List Ev) : Nat := (reportsOf evs).length

theorem lt_of_getD_some {l : List (Option Bytes)} {i : Nat} {out : Bytes} (h : l.getD i none = some out) : i < l.length := by
  apply Nat.lt_of_not_le
  intro hle
  rw [List.getD_eq_getElem?_getD, List.getElem?_eq_none hle] at h
  cases h

theorem usedCount_set (slots : List (Option Bytes)) (i : Nat) (v : Option Bytes) (hi : i < slots.length) :
    ((slots.set i v).filter Option.isSome).length + (slots.getD i none).isSome.toNat =
      (slots.filter Option.isSome).length + v.isSome.toNat := by
  induction slots generalizing i with
  | nil => cases hi
  | cons a r ih =>
    cases i with
    | zero => cases a <;> cases v <;> rfl
    | succ i =>
      have := ih i (Nat.lt_of_succ_lt_succ hi)
      cases a
      · exact this
      -- the occupied head slot adds 1 on both sides
      · exact (Nat.add_right_comm _ 1 _).trans ((congrArg (· + 1) this).trans (Nat.add_right_comm _ _ 1))

theorem usedCount_set_some (slots : List (Option Bytes)) (i : Nat) (x : Bytes)
    (h : slotUsed slots i = false) (hi : i < slots.length) :
    ((slots.set i (some x)).filter Option.isSome).length = (slots.filter Option.isSome).length + 1 := by
  have := usedCount_set slots i (some x) hi
  rw [show (slots.getD i none).isSome = false from h] at this
  exact this

theorem usedCount_set_none (slots : List (Option Bytes)) (i : Nat) (out : Bytes)
    (h : slots.getD i none = some out) :
    ((slots.set i none).filter Option.isSome).length + 1 = (slots.filter Option.isSome).length := by
  have := usedCount_set slots i none (lt_of_getD_some h)
  rw [h] at this
  exact this

theorem usedCount_set_same (slots : List (Option Bytes)) (i : Nat) (out x : Bytes)
    (h : slots.getD i none = some out) :
    ((slots.set i (some x)).filter Option.isSome).length = (slots.filter Option.isSome).length := by
  have := usedCount_set slots i (some x) (lt_of_getD_some h)
  rw [h] at this
  exact Nat.add_right_cancel this

theorem docmd_balance (st : St) (hl : st.slots.length = Nq.Gen.auto_spawn) :
    nReports (docmd st).2 + usedCount (docmd st).1 = usedCount st + 1 ∧
    (∀ d b, Ev.report d b ∈ (docmd st).2 → d = st.delnum ∧ textOK b = true) ∧
    (docmd st).1.slots.length = st.slots.length := by
  have late := texts_ok.late
  simp only [List.all_cons, List.all_nil, Bool.and_eq_true, Bool.and_true] at late
  obtain ⟨oOPEN, oFSTAT, oTYPE, oOWNER, oPIPE, oFORK⟩ := late
  have one : ∀ {d b t}, Ev.report d b = .report st.delnum t → textOK t = true → d = st.delnum ∧ textOK b = true := by
    intro d b t e ht
    obtain ⟨rfl, rfl⟩ := Ev.report.inj e
    exact ⟨rfl, ht⟩
  have h := docmd_cases st
  generalize docmd st = r at h ⊢
  cases h with
  | early t ht =>
    exact ⟨Nat.add_comm 1 _, fun d b hb => one (List.mem_singleton.1 hb) (List.all_eq_true.1 texts_ok.early _ ht), rfl⟩
  | late hc t ht =>
    refine ⟨Nat.add_comm 1 _, fun d b hb => ?_, rfl⟩
    simp only [List.mem_cons, List.not_mem_nil, or_false, reduceCtorEq, false_or] at hb
    refine one hb ?_
    rcases ht with ⟨-, rfl⟩ | ⟨-, rfl⟩ | ⟨-, rfl⟩ | ⟨-, rfl⟩ | ⟨-, rfl⟩
    · exact oOPEN
    · exact oFSTAT
    · exact oTYPE
    · exact oOWNER
    · exact oPIPE
  | nofork =>
    refine ⟨Nat.add_comm 1 _, fun d b hb => ?_, rfl⟩
    simp only [List.mem_cons, List.not_mem_nil, or_false, reduceCtorEq, false_or] at hb
    exact one hb oFORK
  | started hc =>
    refine ⟨?_, by simp, List.length_set⟩
    exact (Nat.zero_add _).trans (usedCount_set_some st.slots st.delnum [] hc.free (by rw [hl]; exact hc.inRange))

/-! ### `report()`: the body is a fixed text, or a letter followed by pieces of the child's output -/

theorem mem_fixedTexts {t : Bytes} (h : t ∈ [L_CRASHED, R_CRASHED, R_SOFT, R_HARD, R_NOOUTPUT]) : t ∈ fixedTexts :=
  List.mem_append_left _ h

theorem cstr_nul (s : Bytes) : ∀ c ∈ cstr s, c ≠ 0 := (takeWhile_nul s).1

theorem cstr_prefix (s : Bytes) : cstr s <+: s := List.takeWhile_prefix _

/-- a report body that is not one of the fixed texts -/
def FromChild (body out : Bytes) : Prop :=
  ∃ l a b, isLetter l = true ∧ body = [l] ++ a ++ b ∧ a <:+: out ∧ b <:+: out ∧ (∀ c ∈ a, c ≠ 0) ∧ (∀ c ∈ b, c ≠ 0)

theorem lreport_shape (wstat : Nat) (out : Bytes) : lreport wstat out ∈ fixedTexts ∨ FromChild (lreport wstat out) out := by
  unfold lreport
  by_cases h1 : wstat % 128 ≠ 0
  · left; rw [if_pos h1]; exact mem_fixedTexts (by simp)
  · rw [if_neg h1]
    cases h2 : lspawnTexts.lookup (wstat / 256) with
    | some t =>
      left
      have := lookup_mem _ _ _ h2
      simp only [fixedTexts, List.mem_append, List.mem_map]
      exact Or.inr ⟨_, this, rfl⟩
    | none =>
      right
      refine ⟨(lspawnLetters.lookup (wstat / 256)).getD lspawnDefault, cstr out, [], ?_, by simp, (cstr_prefix out).isInfix,
        List.nil_infix, cstr_nul out, by simp⟩
      cases h3 : lspawnLetters.lookup (wstat / 256) with
      | none => exact texts_ok.dflt
      | some l => exact List.all_eq_true.1 texts_ok.letters (wstat / 256, l) (lookup_mem _ _ _ h3)

theorem rsLetter_letter (o : Int) : isLetter (rsLetter o) = true := by
  fun_cases rsLetter o <;> decide

theorem rsText_shape (s : Bytes) (more : Bool) :
    (rsText s more).1 <:+: s ∧ (rsText s more).2 <:+: s ∧ (∀ c ∈ (rsText s more).1, c ≠ 0) ∧ (∀ c ∈ (rsText s more).2, c ≠ 0) := by
  have hsuf : s.drop 1 <:+ s := List.drop_suffix 1 s
  have ha : cstr (s.drop 1) <:+: s := (cstr_prefix _).isInfix.trans hsuf.isInfix
  unfold rsText
  simp only []
  split
  · by_cases h5 : (cstr (s.drop 1)).length = (s.drop 1).length
    · rw [if_pos h5]; exact ⟨List.nil_infix, List.nil_infix, by simp, by simp⟩
    · rw [if_neg h5]; exact ⟨ha, List.nil_infix, cstr_nul _, by simp⟩
  · rename_i c v hd
    have hv : v <:+ s := by
      have h1 : c :: v <:+ s.drop 1 := by rw [← hd]; exact List.drop_suffix _ _
      exact ((List.suffix_cons c v).trans h1).trans hsuf
    by_cases hm : more = true ∧ (c = 90 ∨ c = 68 ∨ c = 75)
    · rw [if_pos hm]; exact ⟨ha, (cstr_prefix v).isInfix.trans hv.isInfix, cstr_nul _, cstr_nul _⟩
    · rw [if_neg hm]; exact ⟨ha, List.nil_infix, cstr_nul _, by simp⟩

theorem rreport_shape (wstat : Nat) (out : Bytes) : rreport wstat out ∈ fixedTexts ∨ FromChild (rreport wstat out) out := by
  -- the cases of `rreport`: four fixed texts, then the letter and the two pieces of the child's output
  fun_cases rreport wstat out
  case case5 =>
    obtain ⟨t1, t2, t3, t4⟩ := rsText_shape out (decide (rsResult none out ≤ rsOrr out))
    exact .inr ⟨_, _, _, rsLetter_letter _, rfl, t1, t2, t3, t4⟩
  all_goals exact .inl (mem_fixedTexts (by simp))

theorem reportBody_shape (k : Kind) (wstat : Nat) (out : Bytes) :
    reportBody k wstat out ∈ fixedTexts ∨ FromChild (reportBody k wstat out) out := by
  cases k
  · exact lreport_shape wstat out
  · exact rreport_shape wstat out

theorem reportBody_textOK (k : Kind) (wstat : Nat) (out : Bytes) : textOK (reportBody k wstat out) = true := by
  rcases reportBody_shape k wstat out with h | ⟨l, a, b, hl, hb, _, _, ha0, hb0⟩
  · exact List.all_eq_true.mp texts_ok.fixed _ h
  · rw [hb]
    have hc : ([l] ++ a ++ b).contains 0 = false := by
      apply eq_false_of_ne_true
      intro h
      rcases List.mem_append.1 (List.contains_iff_mem.1 h) with h | h
      · rcases List.mem_append.1 h with h | h
        · rw [← List.mem_singleton.1 h] at hl
          exact absurd hl (by decide)
        · exact ha0 0 h rfl
      · exact hb0 0 h rfl
    simp only [textOK, hc, Bool.not_false, Bool.and_true]
    simpa using hl

/-! ### the whole session: reports written + children running = commands completed -/

/-- the framing automaton of `getcmd()` alone: next stage, and whether this byte completes a command -/
def stageStep : Stage → Byte → Stage × Bool
  | .delnum, _ => (.messid, false)
  | .messid, c => if c = 0 then (.sender, false) else (.messid, false)
  | .sender, c => if c = 0 then (.recip, false) else (.sender, false)
  | .recip, c => if c = 0 then (.delnum, true) else (.recip, false)

def stageAfter : Stage → Bytes → Stage
  | s, [] => s
  | s, c :: r => stageAfter (stageStep s c).1 r

/-- number of commands completed by a byte string read from stage `s`: a command is one byte followed
by three NUL-terminated fields -/
def countCmds : Stage → Bytes → Nat
  | _, [] => 0
  | s, c :: r => (if (stageStep s c).2 then 1 else 0) + countCmds (stageStep s c).1 r

theorem countCmds_append (s : Stage) (a b : Bytes) :
    countCmds s (a ++ b) = countCmds s a + countCmds (stageAfter s a) b := by
  induction a generalizing s with
  | nil => simp [countCmds, stageAfter]
  | cons c r ih => simp only [List.cons_append, countCmds, stageAfter, ih]; omega

theorem stageAfter_append (s : Stage) (a b : Bytes) : stageAfter s (a ++ b) = stageAfter (stageAfter s a) b := by
  induction a generalizing s with
  | nil => rfl
  | cons c r ih => simp only [List.cons_append, stageAfter, ih]

theorem count_field (s : Stage) (hs : s ≠ .delnum) (m tail : Bytes) (h0 : ∀ c ∈ m, c ≠ 0) :
    countCmds s (m ++ tail) = countCmds s tail := by
  induction m with
  | nil => rfl
  | cons c r ih =>
    have hc : c ≠ 0 := h0 c (by simp)
    have ih := ih (fun x hx => h0 x (by simp [hx]))
    cases s <;> simp [countCmds, stageStep, hc, ih] at hs ⊢

theorem reportsOf_append (a b : List Ev) : reportsOf (a ++ b) = reportsOf a ++ reportsOf b := by
  induction a with
  | nil => rfl
  | cons e a ih => cases e <;> simp [reportsOf, ih]

theorem nReports_append (a b : List Ev) : nReports (a ++ b) = nReports a + nReports b := by
  simp [nReports, reportsOf_append]

/-- two steps one after the other: `a`, `b` reports written, `u0`, `u1`, `u2` slots in use before, between and after,
`c1`, `c2` commands completed -/
theorem balance_trans {a b u0 u1 u2 c1 c2 : Nat} (h1 : a + u1 = u0 + c1) (h2 : b + u2 = u1 + c2) :
    a + b + u2 = u0 + (c1 + c2) := by omega

/-- the session invariant: the slot table keeps its `auto_spawn` entries, so a delivery number that passed `docmd`'s
range check indexes it -/
def SInv (st : St) : Prop := st.slots.length = Nq.Gen.auto_spawn

theorem docmd_reading (st : St) : (docmd st).1.reading = st.reading := by
  have h := docmd_cases st
  generalize docmd st = r at h
  cases h <;> rfl

theorem cstep_reading (st : St) (ch : Byte) : (cstep st ch).1.reading = st.reading := by
  -- of the cases of `cstep` only the NUL that ends the recipient does more than extend a field
  fun_cases cstep st ch
  case case6 => exact docmd_reading _
  all_goals rfl

theorem cfeed_reading (st : St) (bytes : Bytes) : (cfeed st bytes).1.reading = st.reading := by
  induction bytes generalizing st with
  | nil => rfl
  | cons c r ih => simp only [cfeed]; rw [ih, cstep_reading]

theorem cstep_balance (st : St) (ch : Byte) (hi : SInv st) :
    nReports (cstep st ch).2 + usedCount (cstep st ch).1 = usedCount st + (if (stageStep st.stage ch).2 then 1 else 0) ∧
    (cstep st ch).1.stage = (stageStep st.stage ch).1 ∧ SInv (cstep st ch).1 := by
  fun_cases cstep st ch
  case case6 hst hc r =>
    have hb := docmd_balance { st with recip := st.recip ++ [ch] } hi
    rw [hst]
    simp only [stageStep, if_pos hc]
    exact ⟨hb.1, trivial, hb.2.2.trans hi⟩
  -- a byte that does not end the recipient only extends a field: no report, no slot, and `simp` leaves `SInv` of
  -- the unchanged slots as the only goal
  all_goals simp [*, stageStep, nReports, reportsOf, usedCount, SInv]; exact hi
theorem set_none_same (l : List (Option Bytes)) (i : Nat) (h : l.getD i none = none) : l.set i none = l := by
  induction l generalizing i with
  | nil => rfl
  | cons a r ih =>
    cases i with
    | zero => simp only [List.getD_cons_zero] at h; subst h; rfl
    | succ n => simp only [List.getD_cons_succ] at h; simp only [List.set_cons_succ, ih n h]

theorem childExit_cases (k : Kind) (st : St) (slot wstat : Nat) :
    (st.slots.getD slot none = none ∧ childExit k st slot wstat = (st, [])) ∨
    ∃ out, st.slots.getD slot none = some out ∧
      childExit k st slot wstat = ({ st with slots := st.slots.set slot none }, [.report slot (reportBody k wstat out)]) := by
  unfold childExit
  cases h : st.slots.getD slot none with
  | none => exact .inl ⟨rfl, rfl⟩
  | some out => exact .inr ⟨out, rfl, rfl⟩

/-- `sigchld()` changes nothing but the bookkeeping of dead children: the slot stays in use -/
theorem reap_slots (st : St) (slot wstat : Nat) : (reap st slot wstat).slots = st.slots := by
  unfold reap
  cases st.slots.getD slot none with
  | none => rfl
  | some out =>
    cases st.dead.getD slot none with
    | none => rfl
    | some w => rfl

theorem pipeEof_cases (k : Kind) (st : St) (slot : Nat) :
    (pipeEof k st slot = (st, []) ∧ (st.slots.getD slot none = none ∨ st.dead.getD slot none = none)) ∨
    ∃ out ws, st.slots.getD slot none = some out ∧ st.dead.getD slot none = some ws ∧
      pipeEof k st slot = ({ st with slots := st.slots.set slot none, dead := st.dead.set slot none },
        [.report slot (reportBody k ws out)]) := by
  unfold pipeEof
  cases h1 : st.slots.getD slot none with
  | none => exact Or.inl ⟨rfl, Or.inl rfl⟩
  | some out =>
    cases h2 : st.dead.getD slot none with
    | none => exact Or.inl ⟨rfl, Or.inr rfl⟩
    | some ws => exact Or.inr ⟨out, ws, rfl, rfl, rfl⟩

/-! ### the events on the children's side -/

/-- the events on the children's side (output, death in one or two steps, EOF on the pipe) -/
def childOp : Op → Bool
  | .cmd _ => false
  | .eof => false
  | _ => true

theorem inputOf_childOp (op : Op) (h : childOp op = true) : inputOf [op] = [] := by
  cases op <;> simp [childOp] at h <;> rfl

/-- everything an event on the children's side can do: nothing; append to the output of a slot in use; note the wait
status of a slot in use; release a slot in use with one report, made of its output and of the wait status that the death
event itself carries (`exit`) or that the handler stored (`peof`) -/
inductive ChildStep (k : Kind) (st : St) : Op → St × List Ev → Prop
  | idle (op : Op) : ChildStep k st op (st, [])
  | out (slot : Nat) (bytes out : Bytes) (h : st.slots.getD slot none = some out) :
      ChildStep k st (.out slot bytes) ({ st with slots := st.slots.set slot (some (accumulate k out bytes)) }, [])
  | reap (slot ws : Nat) (out : Bytes) (h : st.slots.getD slot none = some out) :
      ChildStep k st (.reap slot ws) ({ st with dead := st.dead.set slot (some ws) }, [])
  | release (op : Op) (slot ws : Nat) (out : Bytes) (dd : List (Option Nat)) (h : st.slots.getD slot none = some out)
      (hw : op = .exit slot ws ∨ (op = .peof slot ∧ st.dead.getD slot none = some ws)) :
      ChildStep k st op ({ st with slots := st.slots.set slot none, dead := dd }, [.report slot (reportBody k ws out)])

theorem childOp_step (k : Kind) (st : St) (op : Op) (hc : childOp op = true) : ChildStep k st op (ostep k st op) := by
  cases op with
  | cmd b => cases hc
  | eof => cases hc
  | out slot b =>
    cases h : st.slots.getD slot none with
    | none => simp only [ostep, h]; exact .idle _
    | some out => simp only [ostep, h]; exact .out slot b out h
  | exit slot ws =>
    by_cases hd : (st.dead.getD slot none).isSome = true
    · simp only [ostep, hd, if_true]; exact .idle _
    · simp only [ostep, hd, Bool.false_eq_true, if_false]
      rcases childExit_cases k st slot ws with ⟨_, e⟩ | ⟨out, h, e⟩ <;> rw [e]
      · exact .idle _
      · exact .release _ slot ws out st.dead h (.inl rfl)
  | reap slot ws =>
    simp only [ostep, Spawn.reap]
    cases h : st.slots.getD slot none with
    | none => exact .idle _
    | some out =>
      cases st.dead.getD slot none with
      | none => exact .reap slot ws out h
      | some w => exact .idle _
  | peof slot =>
    rcases pipeEof_cases k st slot with ⟨e, _⟩ | ⟨out, ws, h1, h2, e⟩ <;> simp only [ostep, e]
    · exact .idle _
    · exact .release _ slot ws out _ h1 (.inr ⟨rfl, h2⟩)
  | cclose slot => exact .idle _

/-- a step that touches only the slot table and the wait statuses and writes only reports -/
def Quiet (st : St) (r : St × List Ev) : Prop :=
  (∃ sl dd, r.1 = { st with slots := sl, dead := dd }) ∧ ∀ e ∈ r.2, ∃ d b, e = Ev.report d b

theorem quiet_nil (st : St) (sl : List (Option Bytes)) (dd : List (Option Nat)) :
    Quiet st ({ st with slots := sl, dead := dd }, []) := ⟨⟨sl, dd, rfl⟩, nofun⟩

theorem quiet_report (st : St) (sl : List (Option Bytes)) (dd : List (Option Nat)) (d : Nat) (b : Bytes) :
    Quiet st ({ st with slots := sl, dead := dd }, [.report d b]) :=
  ⟨⟨sl, dd, rfl⟩, fun _ he => ⟨d, b, List.mem_singleton.1 he⟩⟩

theorem quiet_frame {st : St} {r : St × List Ev} (h : Quiet st r) : r.1.plan = st.plan ∧ r.1.reading = st.reading := by
  obtain ⟨⟨sl, dd, e⟩, -⟩ := h
  rw [e]; exact ⟨rfl, rfl⟩

theorem childOp_quiet (k : Kind) (st : St) (op : Op) (hc : childOp op = true) : Quiet st (ostep k st op) := by
  have h := childOp_step k st op hc
  generalize ostep k st op = r at h ⊢
  cases h with
  | idle => exact quiet_nil st st.slots st.dead
  | out => exact quiet_nil st _ st.dead
  | reap => exact quiet_nil st st.slots _
  | release => exact quiet_report st _ _ _ _

theorem childOp_balance (k : Kind) (st : St) (op : Op) (hi : SInv st) (hc : childOp op = true) :
    nReports (ostep k st op).2 + usedCount (ostep k st op).1 = usedCount st ∧
    (ostep k st op).1.stage = st.stage ∧ SInv (ostep k st op).1 := by
  have h := childOp_step k st op hc
  generalize ostep k st op = r at h ⊢
  cases h with
  | idle => exact ⟨Nat.zero_add _, rfl, hi⟩
  | out slot b out h =>
    exact ⟨(Nat.zero_add _).trans (usedCount_set_same st.slots slot out _ h), rfl, List.length_set.trans hi⟩
  | reap => exact ⟨Nat.zero_add _, rfl, hi⟩
  | release _ slot ws out dd h =>
    exact ⟨(Nat.add_comm _ _).trans (usedCount_set_none st.slots slot out h), rfl, List.length_set.trans hi⟩

theorem childOp_reports (k : Kind) (st : St) (op : Op) (hc : childOp op = true) :
    ∀ e ∈ (ostep k st op).2, ∃ slot ws out, e = Ev.report slot (reportBody k ws out) ∧
        st.slots.getD slot none = some out ∧
        (op = .exit slot ws ∨ (op = .peof slot ∧ st.dead.getD slot none = some ws)) := by
  have h := childOp_step k st op hc
  generalize ostep k st op = r at h ⊢
  cases h with
  | release _ slot ws out dd h hw => exact fun e he => ⟨slot, ws, out, List.mem_singleton.1 he, h, hw⟩
  | _ => exact nofun

/-! ### pieces of a session -/

/-- `R st i e st'` speaks of a piece of a session that leads from `st` to `st'`, reads the bytes `i` from
descriptor 0 and emits `e`.  A property of pieces that holds of the empty piece, of two pieces one after the
other, of one byte read by `getcmd()`, of one event on the children's side and of the end of input holds of
every session (`Segs.of_orun`, `Segs.session`). -/
structure Segs (k : Kind) (R : St → Bytes → List Ev → St → Prop) : Prop where
  refl : ∀ st, R st [] [] st
  trans : ∀ {a b c : St} {i j : Bytes} {e f : List Ev}, R a i e b → R b j f c → R a (i ++ j) (e ++ f) c
  byte : ∀ st ch, R st [ch] (cstep st ch).2 (cstep st ch).1
  child : ∀ st op, childOp op = true → R st [] (ostep k st op).2 (ostep k st op).1
  eof : ∀ st, R st [] [] (stopReading st)

section pieces
variable {k : Kind} {R : St → Bytes → List Ev → St → Prop}

theorem Segs.of_cfeed (h : Segs k R) (st : St) (bytes : Bytes) : R st bytes (cfeed st bytes).2 (cfeed st bytes).1 := by
  induction bytes generalizing st with
  | nil => exact h.refl st
  | cons c r ih => exact h.trans (h.byte st c) (ih _)

theorem ostep_reading (k : Kind) (st : St) (op : Op) (hne : op ≠ .eof) : (ostep k st op).1.reading = st.reading := by
  by_cases hc : childOp op = true
  · exact (quiet_frame (childOp_quiet k st op hc)).2
  · cases op with
    | cmd bytes =>
      cases hr : st.reading with
      | true => simp only [ostep, hr, if_true]; exact (cfeed_reading st bytes).trans hr
      | false => simp only [ostep, hr, Bool.false_eq_true, if_false]
    | eof => exact absurd rfl hne
    | _ => exact absurd rfl hc

/-- the bytes a session starting in `st` reads from descriptor 0 -/
def seen (st : St) (ops : List Op) : Bytes := if st.reading = true then inputOf ops else []

theorem inputOf_cons (op : Op) (r : List Op) (hne : op ≠ .eof) : inputOf (op :: r) = inputOf [op] ++ inputOf r := by
  cases op <;> simp [inputOf] at hne ⊢

theorem seen_cons (k : Kind) (st : St) (op : Op) (r : List Op) :
    seen st (op :: r) = seen st [op] ++ seen (ostep k st op).1 r := by
  unfold seen
  by_cases hne : op = .eof
  · subst hne
    rw [if_neg (show ¬ (ostep k st .eof).1.reading = true from nofun)]
    by_cases hr : st.reading = true
    · rw [if_pos hr, if_pos hr]; rfl
    · rw [if_neg hr, if_neg hr]; rfl
  · rw [ostep_reading k st op hne]
    by_cases hr : st.reading = true
    · rw [if_pos hr, if_pos hr, if_pos hr]; exact inputOf_cons op r hne
    · rw [if_neg hr, if_neg hr, if_neg hr]; rfl

theorem Segs.of_ostep (h : Segs k R) (st : St) (op : Op) : R st (seen st [op]) (ostep k st op).2 (ostep k st op).1 := by
  unfold seen
  by_cases hc : childOp op = true
  · rw [inputOf_childOp op hc, ite_self]
    exact h.child st op hc
  · cases op with
    | cmd bytes =>
      by_cases hr : st.reading = true
      · simp only [ostep, hr, if_true, inputOf, List.append_nil]; exact h.of_cfeed st bytes
      · simp only [ostep, hr, if_false]; exact h.refl st
    | eof => rw [show inputOf [Op.eof] = [] from rfl, ite_self]; exact h.eof st
    | _ => exact absurd rfl hc

theorem Segs.of_orun (h : Segs k R) (st : St) (ops : List Op) : R st (seen st ops) (orun k st ops).2 (orun k st ops).1 := by
  induction ops generalizing st with
  | nil => rw [show seen st [] = [] from ite_self _]; exact h.refl st
  | cons op r ih => rw [seen_cons k]; exact h.trans (h.of_ostep st op) (ih _)

theorem finish_eq (k : Kind) (st : St) (i : Nat) :
    finish k st i = ostep k st (if (st.dead.getD i none).isSome = true then .peof i else .exit i 0) := by
  unfold finish
  cases hd : st.dead.getD i none with
  | none => simp only [Option.isSome_none, Bool.false_eq_true, if_false, ostep, hd]
  | some w => simp only [Option.isSome_some, if_true, ostep]

theorem Segs.of_drain (h : Segs k R) (st : St) (fuel i : Nat) : R st [] (drain k st fuel i).2 (drain k st fuel i).1 := by
  induction fuel generalizing st i with
  | zero => exact h.refl st
  | succ f ih =>
    have h1 : R st [] (finish k st i).2 (finish k st i).1 := by
      rw [finish_eq]; exact h.child st _ (by split <;> rfl)
    exact h.trans h1 (ih _ _)

theorem Segs.session (h : Segs k R) (st0 : St) (script : List Op) (hr : st0.reading = true) (n : Nat) :
    R st0 (inputOf script) ((orun k st0 script).2 ++ (drain k (stopReading (orun k st0 script).1) n 0).2)
      (drain k (stopReading (orun k st0 script).1) n 0).1 := by
  have := h.trans (h.of_orun st0 script) (h.trans (h.eof _) (h.of_drain _ n 0))
  rw [show seen st0 script = inputOf script from if_pos hr] at this
  simpa only [List.append_nil, List.nil_append] using this

end pieces

/-! ### reports written + slots in use = commands completed, over every piece of a session -/

def Bal (st : St) (i : Bytes) (e : List Ev) (st' : St) : Prop :=
  SInv st → nReports e + usedCount st' = usedCount st + countCmds st.stage i ∧ st'.stage = stageAfter st.stage i ∧ SInv st'

theorem bal_segs (k : Kind) : Segs k Bal where
  refl st hi := ⟨Nat.zero_add _, rfl, hi⟩
  trans h1 h2 hi := by
    obtain ⟨a1, a2, a3⟩ := h1 hi
    obtain ⟨b1, b2, b3⟩ := h2 a3
    rw [a2] at b1 b2
    rw [nReports_append, countCmds_append, stageAfter_append]
    exact ⟨balance_trans a1 b1, b2, b3⟩
  byte st ch hi := cstep_balance st ch hi
  child st op hc hi := childOp_balance k st op hi hc
  eof st hi := ⟨Nat.zero_add _, rfl, hi⟩

theorem finish_slots (k : Kind) (st : St) (i : Nat) : (finish k st i).1.slots = st.slots.set i none := by
  unfold finish
  cases hd : st.dead.getD i none with
  | none =>
    rcases childExit_cases k st i 0 with ⟨h, e⟩ | ⟨out, _, e⟩ <;> rw [e]
    exact (set_none_same _ _ h).symm
  | some w =>
    rcases pipeEof_cases k st i with ⟨e, hn⟩ | ⟨out, ws, _, _, e⟩ <;> rw [e]
    rcases hn with hn | hn
    · exact (set_none_same _ _ hn).symm
    · rw [hd] at hn; cases hn

/-- slots `i … i+fuel-1` cleared -/
def clearRange : List (Option Bytes) → Nat → Nat → List (Option Bytes)
  | l, _, 0 => l
  | l, i, f + 1 => clearRange (l.set i none) (i + 1) f

theorem drain_slots (k : Kind) (st : St) (fuel i : Nat) : (drain k st fuel i).1.slots = clearRange st.slots i fuel := by
  induction fuel generalizing st i with
  | zero => rfl
  | succ f ih => simp only [drain, clearRange, ih, finish_slots]

theorem clearRange_cons (x : Option Bytes) (l : List (Option Bytes)) (i f : Nat) :
    clearRange (x :: l) (i + 1) f = x :: clearRange l i f := by
  induction f generalizing l i with
  | zero => rfl
  | succ f ih => simp only [clearRange, List.set_cons_succ, ih]

theorem clearRange_all (l : List (Option Bytes)) : (clearRange l 0 l.length).filter Option.isSome = [] := by
  induction l with
  | nil => rfl
  | cons a r ih =>
    simp only [List.length_cons, clearRange, List.set_cons_zero, clearRange_cons]
    simpa using ih

theorem filter_replicate_none (n : Nat) :
    (List.replicate n (none : Option Bytes)).filter Option.isSome = [] := by
  induction n with
  | zero => rfl
  | succ n ih => simp [List.replicate_succ, ih]

theorem init_facts (plan : List Nat) :
    SInv ({ plan := plan } : St) ∧ usedCount ({ plan := plan } : St) = 0 ∧
    ({ plan := plan } : St).reading = true ∧ ({ plan := plan } : St).stage = .delnum := by
  refine ⟨?_, ?_, rfl, rfl⟩
  · unfold SInv
    exact List.length_replicate
  · unfold usedCount
    have : ({ plan := plan } : St).slots = List.replicate Nq.Gen.auto_spawn none := rfl
    rw [this, filter_replicate_none]; rfl

theorem runFrom_eq (k : Kind) (st0 : St) (script : List Op) :
    runFrom k st0 script =
      ((drain k (stopReading (orun k st0 script).1) Nq.Gen.auto_spawn 0).1,
       Ev.hello Nq.Gen.auto_spawn ::
         ((orun k st0 script).2 ++ (drain k (stopReading (orun k st0 script).1) Nq.Gen.auto_spawn 0).2)) := rfl

theorem session_balance (k : Kind) (st0 : St) (script : List Op) (hi : SInv st0) (hr : st0.reading = true)
    (hu : usedCount st0 = 0) :
    nReports (runFrom k st0 script).2 = countCmds st0.stage (inputOf script) ∧ usedCount (runFrom k st0 script).1 = 0 := by
  have o3 : SInv (orun k st0 script).1 := ((bal_segs k).of_orun st0 script hi).2.2
  obtain ⟨s1, -, -⟩ := (bal_segs k).session st0 script hr Nq.Gen.auto_spawn hi
  have hz : usedCount (drain k (stopReading (orun k st0 script).1) Nq.Gen.auto_spawn 0).1 = 0 := by
    unfold usedCount
    rw [drain_slots, show Nq.Gen.auto_spawn = (stopReading (orun k st0 script).1).slots.length from o3.symm, clearRange_all]
    rfl
  rw [hz, hu, Nat.add_zero, Nat.zero_add] at s1
  rw [runFrom_eq]
  -- the projections of the pair are reduced first: left to the unifier, they make it run the drain loop on its numeral
  -- fuel. The greeting is not a report
  dsimp only
  exact ⟨s1, hz⟩

theorem run_prefix_balance (k : Kind) (plan : List Nat) (ops : List Op) :
    nReports (orun k { plan := plan } ops).2 + usedCount (orun k { plan := plan } ops).1 =
      countCmds .delnum (inputOf ops) := by
  obtain ⟨hi, hu, hr, hs⟩ := init_facts plan
  have o1 := ((bal_segs k).of_orun _ ops hi).1
  rw [show seen _ ops = inputOf ops from if_pos hr, hs, hu, Nat.zero_add] at o1
  exact o1

/-! ### the exit test of the main loop -/

theorem getD_none_of_unused (l : List (Option Bytes)) (h : (l.filter Option.isSome).length = 0) (i : Nat) :
    l.getD i none = none := by
  induction l generalizing i with
  | nil => rfl
  | cons a r ih =>
    cases a with
    | some v => simp at h
    | none =>
      cases i with
      | zero => rfl
      | succ n =>
        simp only [List.getD_cons_succ]
        exact ih (by simpa using h) n

theorem exited_iff (st : St) : exited st = true ↔ st.reading = false ∧ usedCount st = 0 := by
  unfold exited
  cases st.reading <;> simp

/-- a slot in use — its child running, or reaped with the report still to be written — keeps the
program alive after the end of input -/
theorem not_exited_of_used (st : St) (i : Nat) (out : Bytes) (h : st.slots.getD i none = some out) :
    exited st = false := by
  cases he : exited st with
  | false => rfl
  | true =>
    obtain ⟨_, hu⟩ := (exited_iff st).mp he
    have := getD_none_of_unused st.slots hu i
    rw [h] at this; cases this

theorem stopReading_of_closed (st : St) (hr : st.reading = false) : stopReading st = st := by
  cases st
  simp only [stopReading] at hr ⊢
  subst hr; rfl

/-- once the exit test holds no event has any effect: leaving (`_exit(0)`) and going on are the same -/
theorem ostep_exited (k : Kind) (st : St) (op : Op) (h : exited st = true) : ostep k st op = (st, []) := by
  obtain ⟨hr, hu⟩ := (exited_iff st).mp h
  have hn : ∀ i out, st.slots.getD i none ≠ some out := fun i out e =>
    nomatch (getD_none_of_unused st.slots hu i).symm.trans e
  by_cases hc : childOp op = true
  · have h := childOp_step k st op hc
    generalize ostep k st op = r at h ⊢
    cases h with
    | idle => rfl
    | out slot _ out e => exact absurd e (hn slot out)
    | reap slot _ out e => exact absurd e (hn slot out)
    | release _ slot _ out _ e => exact absurd e (hn slot out)
  · cases op with
    | cmd bytes => simp only [ostep, hr, Bool.false_eq_true, if_false]
    | eof => simp only [ostep, stopReading_of_closed st hr]
    | _ => exact absurd rfl hc

theorem orun_exited (k : Kind) (st : St) (ops : List Op) (h : exited st = true) : orun k st ops = (st, []) := by
  induction ops with
  | nil => rfl
  | cons op r ih => simp only [orun, ostep_exited k st op h, ih, List.append_nil]

/-- the events after the exit point (`consumed`) do not matter: the model that stops there, as the
program does, and the model that runs the whole script agree -/
theorem orun_take_consumed (k : Kind) (st : St) (ops : List Op) :
    orun k st (ops.take (consumed k st ops)) = orun k st ops := by
  induction ops generalizing st with
  | nil => rfl
  | cons op r ih =>
    by_cases h : exited st = true
    · simp only [consumed, h, if_true, List.take_zero]
      rw [orun_exited k st _ h, orun_exited k st _ h]
    · simp only [consumed, h, Bool.false_eq_true, if_false, List.take_succ_cons, orun, ih]

theorem consumed_le (k : Kind) (st : St) (ops : List Op) : consumed k st ops ≤ ops.length := by
  induction ops generalizing st with
  | nil => exact Nat.le_refl _
  | cons op r ih =>
    by_cases h : exited st = true
    · simp only [consumed, h, if_true]; exact Nat.zero_le _
    · simp only [consumed, h, Bool.false_eq_true, if_false, List.length_cons]
      exact Nat.succ_le_succ (ih _)

end Nq.Lemmas.SpawnL
