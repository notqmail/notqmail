/-
  Lemmas about spawn.c `getcmd()` with failing allocations (`Nq.SpawnOOM`).
-/
import Nq.Spec.SpawnOOMSpec

namespace Nq.Lemmas.SpawnOOML
open Nq Nq.Spawn Nq.SpawnOOM Nq.Gen.SpawnTexts

theorem cstepA_abort (oom : List Nat) (s : StA) (ch : Byte) (hs : s.st.stage ≠ .delnum)
    (h : (s.abort || oom.contains s.calls) = true) :
    cstepA oom s ch =
      if ch = 0 then
        match s.st.stage with
        | .recip => ({ st := { s.st with stage := .delnum }, abort := false, calls := s.calls + 1 },
            [.report s.st.delnum E_NOMEM0])
        | .sender => ({ st := { s.st with stage := .recip }, abort := true, calls := s.calls + 1 }, [])
        | _ => ({ st := { s.st with stage := .sender }, abort := true, calls := s.calls + 1 }, [])
      else ({ st := s.st, abort := true, calls := s.calls + 1 }, []) := by
  unfold cstepA
  cases hst : s.st.stage with
  | delnum => exact absurd hst hs
  | recip => simp only [h, if_true]
  | _ =>
    simp only [h, if_true]
    split <;> rfl

theorem cfeedA_append (oom : List Nat) (s : StA) (a b : Bytes) :
    cfeedA oom s (a ++ b) = ((cfeedA oom (cfeedA oom s a).1 b).1, (cfeedA oom s a).2 ++ (cfeedA oom (cfeedA oom s a).1 b).2) := by
  induction a generalizing s with
  | nil => simp [cfeedA]
  | cons c a ih => simp [cfeedA, ih, List.append_assoc]

theorem cfeedA_quiet (oom : List Nat) (s : StA) (bs : Bytes) (hs : s.st.stage ≠ .delnum) (ha : s.abort = true)
    (hb : ∀ c ∈ bs, c ≠ 0) : cfeedA oom s bs = ({ st := s.st, abort := true, calls := s.calls + bs.length }, []) := by
  induction bs generalizing s with
  | nil => cases s; simp [cfeedA] at ha ⊢; exact ha
  | cons c bs ih =>
    have hc : c ≠ 0 := hb c (by simp)
    simp only [cfeedA, cstepA_abort oom s c hs (by rw [ha]; rfl), if_neg hc]
    have := ih { st := s.st, abort := true, calls := s.calls + 1 } hs rfl (fun d hd => hb d (by simp [hd]))
    rw [this]
    simp [Nat.add_assoc, Nat.add_comm 1]

theorem abort_recip (oom : List Nat) (s : StA) (rc : Bytes) (hs : s.st.stage = .recip) (ha : s.abort = true)
    (hr : ∀ c ∈ rc, c ≠ 0) :
    cfeedA oom s (rc ++ [0]) = ({ st := { s.st with stage := .delnum }, abort := false, calls := s.calls + rc.length + 1 },
      [.report s.st.delnum E_NOMEM0]) := by
  rw [cfeedA_append, cfeedA_quiet oom s rc (by simp [hs]) ha hr]
  simp only [cfeedA, List.nil_append, List.append_nil]
  rw [cstepA_abort oom _ 0 (by simp [hs]) rfl, if_pos rfl]
  simp only [hs]

theorem abort_sender (oom : List Nat) (s : StA) (sd rc : Bytes) (hs : s.st.stage = .sender) (ha : s.abort = true)
    (hsd : ∀ c ∈ sd, c ≠ 0) (hr : ∀ c ∈ rc, c ≠ 0) :
    cfeedA oom s (sd ++ 0 :: (rc ++ [0])) =
      ({ st := { s.st with stage := .delnum }, abort := false, calls := s.calls + sd.length + 1 + rc.length + 1 },
       [.report s.st.delnum E_NOMEM0]) := by
  rw [cfeedA_append, cfeedA_quiet oom s sd (by simp [hs]) ha hsd]
  simp only [cfeedA, List.nil_append]
  rw [cstepA_abort oom _ 0 (by simp [hs]) rfl, if_pos rfl]
  simp only [hs]
  simp only [List.nil_append]
  rw [abort_recip oom _ rc rfl rfl hr]

theorem abort_messid (oom : List Nat) (s : StA) (m sd rc : Bytes) (hs : s.st.stage = .messid) (ha : s.abort = true)
    (hm : ∀ c ∈ m, c ≠ 0) (hsd : ∀ c ∈ sd, c ≠ 0) (hr : ∀ c ∈ rc, c ≠ 0) :
    cfeedA oom s (m ++ 0 :: (sd ++ 0 :: (rc ++ [0]))) =
      ({ st := { s.st with stage := .delnum }, abort := false,
         calls := s.calls + m.length + 1 + sd.length + 1 + rc.length + 1 },
       [.report s.st.delnum E_NOMEM0]) := by
  rw [cfeedA_append, cfeedA_quiet oom s m (by simp [hs]) ha hm]
  simp only [cfeedA, List.nil_append]
  rw [cstepA_abort oom _ 0 (by simp [hs]) rfl, if_pos rfl]
  simp only [hs]
  simp only [List.nil_append]
  rw [abort_sender oom _ sd rc rfl rfl hsd hr]

theorem cstepA_ok (oom : List Nat) (s : StA) (ch : Byte) (ha : s.abort = false) (hn : oom.contains s.calls = false) :
    (cstepA oom s ch).1.st = (cstep s.st ch).1 ∧ (cstepA oom s ch).2 = (cstep s.st ch).2 ∧
    (cstepA oom s ch).1.abort = false ∧ s.calls ≤ (cstepA oom s ch).1.calls ∧ (cstepA oom s ch).1.calls ≤ s.calls + 1 := by
  have hn' : s.calls ∉ oom := by simpa using hn
  unfold cstepA
  cases h : s.st.stage <;> simp [ha, hn']

end Nq.Lemmas.SpawnOOML
