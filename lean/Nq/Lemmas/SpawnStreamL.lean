/-
  The open/spawn discipline over a whole session of the spawn.c model (`Nq.Spawn.run`): the invariant
  of `getcmd()`'s framing automaton (`Rel`: which fields have been collected, message id NUL-free, one
  NUL appended exactly at the stage change), the connection between the model's framing and the
  independent command grammar `parseCmds` of the oracle (`parseCmds_eq`), and the stream theorem
  `run_opensOK` (for `C18_spawn_stream`), the instance `Opn` of `SpawnL.Segs`.
-/
import Nq.Lemmas.SpawnL

namespace Nq.Lemmas.SpawnStreamL
open Nq Nq.Spawn Nq.Spec.TB Nq.Gen.SpawnTexts Nq.Lemmas.SpawnL

/-- NUL-free -/
def NF (m : Bytes) : Prop := ∀ c ∈ m, c ≠ 0

theorem NF_nil : NF [] := by intro c hc; cases hc

theorem NF_snoc (m : Bytes) (c : Byte) (h : NF m) (hc : c ≠ 0) : NF (m ++ [c]) := by
  intro x hx
  rcases List.mem_append.mp hx with h1 | h1
  · exact h x h1
  · simp only [List.mem_singleton] at h1; rw [h1]; exact hc

/-! ### the commands a byte string completes, read from a given point of the framing automaton

`cmdsFrom stage d m s rc bytes`: `d m s rc` are the fields collected so far (without their NULs). -/

def cmdsFrom : Stage → Nat → Bytes → Bytes → Bytes → Bytes → List Cmd
  | _, _, _, _, _, [] => []
  | .delnum, _, _, _, _, c :: r => cmdsFrom .messid c.toNat [] [] [] r
  | .messid, d, m, s, rc, c :: r =>
      if c = 0 then cmdsFrom .sender d m [] [] r else cmdsFrom .messid d (m ++ [c]) s rc r
  | .sender, d, m, s, rc, c :: r =>
      if c = 0 then cmdsFrom .recip d m s [] r else cmdsFrom .sender d m (s ++ [c]) rc r
  | .recip, d, m, s, rc, c :: r =>
      if c = 0 then ⟨d, m, s, rc⟩ :: cmdsFrom .delnum 0 [] [] [] r else cmdsFrom .recip d m s (rc ++ [c]) r

/-- one field of the automaton, stated with the very expressions `parseCmds` cuts a field with (`takeWhile`, `drop` of
its length), for `parseCmds_eq` to rewrite with -/
theorem cf_field (d : Nat) (r : Bytes) : ∀ m s rc : Bytes,
    (cmdsFrom .messid d m s rc r = match r.drop (r.takeWhile (· != 0)).length with
      | [] => []
      | _ :: t => cmdsFrom .sender d (m ++ r.takeWhile (· != 0)) [] [] t) ∧
    (cmdsFrom .sender d m s rc r = match r.drop (r.takeWhile (· != 0)).length with
      | [] => []
      | _ :: t => cmdsFrom .recip d m (s ++ r.takeWhile (· != 0)) [] t) ∧
    (cmdsFrom .recip d m s rc r = match r.drop (r.takeWhile (· != 0)).length with
      | [] => []
      | _ :: t => ⟨d, m, s, rc ++ r.takeWhile (· != 0)⟩ :: cmdsFrom .delnum 0 [] [] [] t) := by
  induction r with
  | nil => intro m s rc; exact ⟨rfl, rfl, rfl⟩
  | cons c r ih =>
    intro m s rc
    -- a NUL ends the field at once (`takeWhile` is empty, nothing is dropped before it); any other byte joins the
    -- field collected so far (the induction hypothesis at `m ++ [c]` …), `takeWhile` keeps it and the `drop` skips it
    by_cases hc : c = 0
    · simp [cmdsFrom, hc]
    · simp [cmdsFrom, hc, (ih (m ++ [c]) s rc).1, (ih m (s ++ [c]) rc).2.1, (ih m s (rc ++ [c])).2.2]

theorem drop_cons_length {r t : Bytes} {c : Byte} {n : Nat} (h : r.drop n = c :: t) : t.length < r.length := by
  have := congrArg List.length h
  simp only [List.length_drop, List.length_cons] at this
  omega

/-! ### `parseCmds` (the oracle's grammar) = the framing automaton -/

/-- with enough fuel the oracle's command grammar cuts the stream exactly as `getcmd()`'s automaton: field by field
(`cf_field`), each `split` being the oracle's own test whether the field is terminated -/
theorem parseCmds_eq (fuel : Nat) (s : Bytes) (h : s.length < fuel) :
    parseCmds fuel s = cmdsFrom .delnum 0 [] [] [] s := by
  induction fuel generalizing s with
  | zero => omega
  | succ f ih =>
    cases s with
    | nil => rfl
    | cons d r =>
      simp only [parseCmds, cmdsFrom]
      rw [(cf_field d.toNat r [] [] []).1]
      split <;> rename_i h1 <;> rw [h1]
      dsimp only
      rw [(cf_field d.toNat _ _ [] []).2.1]
      split <;> rename_i h2 <;> rw [h2]
      dsimp only
      rw [(cf_field d.toNat _ _ _ []).2.2]
      split <;> rename_i h3 <;> rw [h3]
      have l1 := drop_cons_length h1
      have l2 := drop_cons_length h2
      have l3 := drop_cons_length h3
      rw [ih _ (by simp only [List.length_cons] at h; omega)]
      rfl

/-! ### the invariant of `getcmd()` -/

/-- `Rel stage delnum messid sender recip d m s rc`: what the state's fields hold at each stage, `d m s rc` being the
fields collected so far; the message id is NUL-free and gets its single NUL exactly when the stage changes to `sender` -/
inductive Rel : Stage → Nat → Bytes → Bytes → Bytes → Nat → Bytes → Bytes → Bytes → Prop
  | delnum {dn mi se re d m s rc} : Rel .delnum dn mi se re d m s rc
  | messid {se re d m s rc} (nf : NF m) : Rel .messid d m se re d m s rc
  | sender {re d m s rc} (nf : NF m) : Rel .sender d (m ++ [0]) s re d m s rc
  | recip {d m s rc} (nf : NF m) : Rel .recip d (m ++ [0]) (s ++ [0]) rc d m s rc

/-- the commands still to be completed by `bytes` from state `st` all belong to `cmds` -/
def Inv (cmds : List Cmd) (st : St) (bytes : Bytes) : Prop :=
  ∃ d m s rc, Rel st.stage st.delnum st.messid st.sender st.recip d m s rc ∧ ∀ c ∈ cmdsFrom st.stage d m s rc bytes, c ∈ cmds

abbrev badPlan (pl : List Nat) : Prop := pl.headD 0 = 3 ∨ pl.headD 0 = 4 ∨ pl.headD 0 = 7 ∨ pl.headD 0 = 8

theorem not_badPlan {pl : List Nat} (h : pl.headD 0 = 6 ∨ pl.headD 0 = 0 ∨ pl.headD 0 > 8) : ¬ badPlan pl := by
  omega

theorem block_open_report (cmds : List Cmd) (pl : List Nat) (p : Bytes) (d : Nat) (t : Bytes) (rest : List Ev)
    (hok : okPath p = true) (a1 : cmds.any (fun c => c.messid == p) = true)
    (hbad : badPlan pl → t.head? = some 90 ∧ cmds.any (fun c => c.messid == p && c.delnum == d) = true) :
    opensGo cmds none pl (.openRead p :: .report d t :: rest) = opensGo cmds none pl.tail rest := by
  simp only [opensGo, hok, a1, Bool.true_and]
  by_cases hb : badPlan pl
  · obtain ⟨z, a2⟩ := hbad hb
    simp only [hb, decide_true, z, a2, beq_self_eq_true, Bool.and_self, Bool.true_and]
  · simp only [hb, decide_false, Bool.true_and]

theorem block_open_spawn (cmds : List Cmd) (pl : List Nat) (p : Bytes) (d : Nat) (s rc : Bytes) (j : Nat) (rest : List Ev)
    (hok : okPath p = true) (a1 : cmds.any (fun c => c.messid == p) = true) (hb : ¬ badPlan pl)
    (a3 : cmds.any (fun c => c.messid == p && c.delnum == d && c.sender == s && c.recip == rc) = true) :
    opensGo cmds none pl (.openRead p :: .spawnCall d s rc j :: rest) = opensGo cmds none pl.tail rest := by
  simp only [opensGo, hok, a1, a3, hb, decide_false, Bool.true_and]

theorem block_report (cmds : List Cmd) (pl : List Nat) (d : Nat) (t : Bytes) (rest : List Ev) :
    opensGo cmds none pl (.report d t :: rest) = opensGo cmds none pl rest := by
  simp only [opensGo, Bool.true_and]

/-- `docmd` on a command of the session: its events leave the open/spawn monitor in the idle state
and consume one `plan` entry per `open_read` -/
theorem docmd_opens (cmds : List Cmd) (st : St) (m s rc : Bytes) (hm : st.messid = m ++ [0]) (h0 : NF m)
    (hs : st.sender = s ++ [0]) (hr : st.recip = rc ++ [0])
    (hc : (⟨st.delnum, m, s, rc⟩ : Cmd) ∈ cmds) (rest : List Ev) :
    opensGo cmds none st.plan ((docmd st).2 ++ rest) = opensGo cmds none (docmd st).1.plan rest := by
  have hdl : st.messid.dropLast = m := by rw [hm, List.dropLast_concat]
  have hsd : st.sender.dropLast = s := by rw [hs, List.dropLast_concat]
  have hrd : st.recip.dropLast = rc := by rw [hr, List.dropLast_concat]
  have a1 : cmds.any (fun c => c.messid == m) = true := List.any_eq_true.mpr ⟨_, hc, beq_self_eq_true m⟩
  have a2 : cmds.any (fun c => c.messid == m && c.delnum == st.delnum) = true := List.any_eq_true.mpr ⟨_, hc, by simp⟩
  have a3 : cmds.any (fun c => c.messid == m && c.delnum == st.delnum && c.sender == s && c.recip == rc) = true :=
    List.any_eq_true.mpr ⟨_, hc, by simp⟩
  have h := docmd_cases st
  generalize docmd st = r at h ⊢
  cases h with
  | early t => exact block_report cmds _ _ _ rest
  | late hck t ht =>
    rw [hdl]
    refine block_open_report cmds st.plan m st.delnum t rest (okPath_of_checks hck m hm h0) a1 ?_
    exact fun hb => ⟨guard_text_Z hb ht, a2⟩
  | nofork hck j _ h6 =>
    rw [hdl, hsd, hrd]
    show opensGo cmds none st.plan (.openRead m :: .spawnCall st.delnum s rc j :: (.report st.delnum E_FORK :: rest)) = _
    rw [block_open_spawn cmds st.plan m st.delnum s rc j _ (okPath_of_checks hck m hm h0) a1 (not_badPlan (.inl h6)) a3,
      block_report]
    rfl
  | started hck j _ h08 =>
    rw [hdl, hsd, hrd]
    exact block_open_spawn cmds st.plan m st.delnum s rc j rest (okPath_of_checks hck m hm h0) a1 (not_badPlan (.inr h08)) a3

theorem cstep_opens (cmds : List Cmd) (st : St) (ch : Byte) (r : Bytes) (hI : Inv cmds st (ch :: r)) :
    Inv cmds (cstep st ch).1 r ∧
    ∀ rest, opensGo cmds none st.plan ((cstep st ch).2 ++ rest) = opensGo cmds none (cstep st ch).1.plan rest := by
  obtain ⟨d, m, s, rc, hR, hS⟩ := hI
  -- per stage `cstep` and `cmdsFrom` make the same move on `ch`, so `hS` carries over, and nothing is written; only the
  -- NUL that ends the recipient runs `docmd`: on the command at the head of `cmdsFrom`, which `hS` puts in `cmds`, with
  -- the field shapes that `Rel` records (`docmd_opens`)
  obtain ⟨stage, dn, mi, se, re, slots, plan, reading, dead⟩ := st
  cases hR with
  | delnum =>
    simp only [cmdsFrom] at hS
    exact ⟨⟨_, _, _, _, .messid NF_nil, hS⟩, fun rest => rfl⟩
  | messid nf =>
    by_cases hc : ch = 0
    · subst hc
      simp only [cmdsFrom, if_true] at hS
      simp only [cstep, if_true]
      exact ⟨⟨_, _, _, _, .sender nf, hS⟩, fun rest => rfl⟩
    · simp only [cmdsFrom, if_neg hc] at hS
      simp only [cstep, if_neg hc]
      exact ⟨⟨_, _, _, _, .messid (NF_snoc _ ch nf hc), hS⟩, fun rest => rfl⟩
  | sender nf =>
    by_cases hc : ch = 0
    · subst hc
      simp only [cmdsFrom, if_true] at hS
      simp only [cstep, if_true]
      exact ⟨⟨_, _, _, _, .recip nf, hS⟩, fun rest => rfl⟩
    · simp only [cmdsFrom, if_neg hc] at hS
      simp only [cstep, if_neg hc]
      exact ⟨⟨_, _, _, _, .sender nf, hS⟩, fun rest => rfl⟩
  | recip nf =>
    by_cases hc : ch = 0
    · subst hc
      simp only [cmdsFrom, if_true] at hS
      simp only [cstep, if_true]
      exact ⟨⟨0, [], [], [], .delnum, fun c hcm => hS c (List.mem_cons_of_mem _ hcm)⟩,
        docmd_opens cmds ⟨.recip, dn, _, _, _, slots, plan, reading, dead⟩ m s re rfl nf rfl rfl (hS _ (.head _))⟩
    · simp only [cmdsFrom, if_neg hc] at hS
      simp only [cstep, if_neg hc]
      exact ⟨⟨_, _, _, _, .recip nf, hS⟩, fun rest => rfl⟩

theorem opens_reports (cmds : List Cmd) (evs : List Ev) (h : ∀ e ∈ evs, ∃ d b, e = Ev.report d b) (pl : List Nat)
    (rest : List Ev) : opensGo cmds none pl (evs ++ rest) = opensGo cmds none pl rest := by
  induction evs with
  | nil => rfl
  | cons e r ih =>
    obtain ⟨d, b, he⟩ := h e (by simp)
    subst he
    rw [List.cons_append, block_report]
    exact ih (fun x hx => h x (List.mem_cons_of_mem _ hx))

theorem quiet_inv {st : St} {r : St × List Ev} (h : Quiet st r) (cmds : List Cmd) (bytes : Bytes)
    (hI : Inv cmds st bytes) : Inv cmds r.1 bytes := by
  obtain ⟨⟨sl, dd, e⟩, -⟩ := h
  rw [e]; exact hI

/-- over a piece of a session the events move the open/spawn monitor from the plan before to the plan after, and
the commands still to be completed stay among `cmds` -/
def Opn (cmds : List Cmd) (st : St) (i : Bytes) (e : List Ev) (st' : St) : Prop :=
  ∀ tail, Inv cmds st (i ++ tail) →
    Inv cmds st' tail ∧ ∀ rest, opensGo cmds none st.plan (e ++ rest) = opensGo cmds none st'.plan rest

theorem opn_segs (cmds : List Cmd) (k : Kind) : Segs k (Opn cmds) where
  refl _ _ hI := ⟨hI, fun _ => rfl⟩
  trans h1 h2 tail hI := by
    rw [List.append_assoc] at hI
    obtain ⟨a1, a2⟩ := h1 _ hI
    obtain ⟨b1, b2⟩ := h2 _ a1
    exact ⟨b1, fun rest => by rw [List.append_assoc, a2, b2]⟩
  byte st ch tail hI := cstep_opens cmds st ch tail hI
  child st op hc tail hI :=
    have q := childOp_quiet k st op hc
    ⟨quiet_inv q cmds tail hI, fun rest => by rw [opens_reports cmds _ q.2, (quiet_frame q).1]⟩
  eof _ _ hI := ⟨hI, fun _ => rfl⟩

theorem run_opensOK (k : Kind) (plan : List Nat) (script : List Op) (fuel : Nat) (hf : (inputOf script).length < fuel) :
    opensOK (parseCmds fuel (inputOf script)) plan (run k plan script).2 = true := by
  have hI : Inv (parseCmds fuel (inputOf script)) ({ plan := plan } : St) (inputOf script ++ []) := by
    refine ⟨0, [], [], [], .delnum, fun c hc => ?_⟩
    rw [parseCmds_eq fuel _ hf]; rwa [List.append_nil] at hc
  have o2 := ((opn_segs _ k).session _ script rfl Nq.Gen.auto_spawn [] hI).2 []
  rw [List.append_nil] at o2
  unfold opensOK run
  rw [runFrom_eq]
  simp only [opensGo]
  rw [o2]
  rfl

end Nq.Lemmas.SpawnStreamL
