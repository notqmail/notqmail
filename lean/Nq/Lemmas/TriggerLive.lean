/-
  Lemmas about the trigger protocol `Nq.Trigger` (property C16).  For safety and liveness alike: `accept` as the
  relation `Step` (`accept_step`) and accepted runs as `List.foldlM` (`acceptAll_eq`, `acceptAllX_eq`).  For the bounded-steps
  liveness (`C16_bounded`): the scan invariant (the open directory stream only holds entries that are still in
  todo/), and the strict decrease of `Trigger.phi` along every step the daemon takes on its own.
-/
import Nq.TriggerRelaxed
import Nq.Lemmas.Basic
import Nq.Lemmas.Acceptor

namespace Nq.Trigger

inductive Step (s : St) : Ev → St → Prop
  | iLink (n : Nat) (hg : s.pc n = .start ∧ n ∉ s.todo) :
      Step s (.iLink n) { s with pc := upd s.pc n .linked, todo := n :: s.todo }
  | iOpen (n : Nat) (ok : Bool) (hg : s.pc n = .linked ∧ ok = s.dOpen) :
      Step s (.iOpen n ok)
        (if ok then { s with pc := upd s.pc n .opened, writers := s.writers + 1 } else { s with pc := upd s.pc n .finished })
  | iWrite (n : Nat) (ok : Bool) (hg : s.pc n = .opened ∧ ok = s.dOpen) :
      Step s (.iWrite n ok) { s with pc := upd s.pc n .wrote, buf := s.buf || ok }
  | iClose (n : Nat) (hg : s.pc n = .wrote ∧ 0 < s.writers) :
      Step s (.iClose n) { s with pc := upd s.pc n .finished, writers := s.writers - 1,
                                  buf := if s.writers = 1 ∧ !s.dOpen then false else s.buf }
  | dClose (hd : s.d = .idle ∨ s.d = .reopened) (ho : s.dOpen = true) :
      Step s .dClose { s with d := .closed, dOpen := false, buf := if s.writers = 0 then false else s.buf }
  | dOpen (hd : s.d = .closed) : Step s .dOpen { s with d := .reopened, dOpen := true }
  | dOpendir (hd : s.d = .reopened) : Step s .dOpendir { s with d := .scanning s.todo }
  | dSeeNew (n : Nat) (rem : List Nat) (hd : s.d = .scanning rem) (hg : n ∈ s.todo ∧ n ∉ rem) :
      Step s (.dSeeNew n) { s with d := .scanning (n :: rem) }
  | dRead (n : Nat) (rem : List Nat) (hd : s.d = .scanning rem) (hg : n ∈ rem) :
      Step s (.dRead n) { s with d := .scanning (rem.erase n), todo := s.todo.erase n }
  | dEnd (hd : s.d = .scanning []) : Step s .dEnd { s with d := .idle }

/- `accept.fun_cases_unfolding` has one case per branch of `accept`, numbered in the order of its text: a refusing branch
   contradicts `some s'`, an accepting one is the constructor of `Step` for that branch applied to the guards in scope.
   Cases 9 and 11 are `dClose` from `idle` and from `reopened`, which `Step.dClose` merges under a disjunction. -/
theorem accept_step (s s' : St) (e : Ev) (h : accept s e = some s') : Step s e s' := by
  revert h
  apply accept.fun_cases_unfolding s (motive := fun e r => r = some s' → Step s e s')
  all_goals intros
  all_goals try contradiction
  all_goals rename_i h; injection h with h; subst h
  case case9 hd ho => exact .dClose (.inl hd) ho
  case case11 hd ho => exact .dClose (.inr hd) ho
  all_goals constructor <;> assumption

theorem acceptAll_eq : ∀ (evs : List Ev) (s : St), acceptAll s evs = evs.foldlM accept s :=
  Acceptor.eq_foldlM (fun _ => rfl) (fun s e es => by rw [acceptAll]; cases accept s e <;> rfl)

theorem acceptAllX_eq (r : Relax) : ∀ (evs : List Ev) (s : St), acceptAllX r s evs = evs.foldlM (acceptX r) s :=
  Acceptor.eq_foldlM (fun _ => rfl) (fun s e es => by rw [acceptAllX]; cases acceptX r s e <;> rfl)

/-- every step of the real acceptor is a step of every relaxed one: the replayed traces of the real programs are in its language -/
theorem acceptX_of_accept (r : Relax) (s s' : St) (e : Ev) (h : accept s e = some s') : acceptX r s e = some s' := by
  simp [acceptX, h]

theorem acceptAllX_of_acceptAll (r : Relax) (evs : List Ev) : ∀ (s s' : St), acceptAll s evs = some s' → acceptAllX r s evs = some s' := by
  intro s s' h
  rw [acceptAll_eq] at h
  rw [acceptAllX_eq]
  exact Acceptor.foldlM_mono (fun s e s' => acceptX_of_accept r s s' e) evs s s' h

theorem acceptX_none (s : St) (e : Ev) : acceptX {} s e = accept s e := by
  simp only [acceptX]
  cases h : accept s e with
  | some s' => rfl
  | none =>
    cases e <;> simp [extra]
    split <;> rfl

theorem upd_same (f : Nat → IPc) (n : Nat) (v : IPc) : upd f n v n = v := ite_upd_same f n v
theorem upd_other (f : Nat → IPc) (n k : Nat) (v : IPc) (h : k ≠ n) : upd f n v k = f k := ite_upd_other f n k v h

theorem pulled_upd {f : Nat → IPc} {n k : Nat} {v : IPc} (h : pulled (upd f n v k) = true) :
    k = n ∧ pulled v = true ∨ k ≠ n ∧ pulled (f k) = true := by
  by_cases hkn : k = n
  · subst hkn; rw [upd_same] at h; exact .inl ⟨rfl, h⟩
  · rw [upd_other _ _ _ _ hkn] at h; exact .inr ⟨hkn, h⟩

theorem nodup_step {s s' : St} {e : Ev} (h : accept s e = some s') (hnd : s.todo.Nodup) : s'.todo.Nodup := by
  cases accept_step s s' e h with
  | iLink n hg => exact List.nodup_cons.2 ⟨hg.2, hnd⟩
  | iOpen n ok => cases ok <;> exact hnd
  | dRead n => exact hnd.erase n
  | iWrite | iClose | dClose | dOpen | dOpendir | dSeeNew | dEnd => exact hnd

/-- the directory stream of a scan in progress holds distinct entries of todo/ -/
structure ScanInv (s : St) : Prop where
  nodup : s.todo.Nodup
  sub : ∀ rem, s.d = .scanning rem → ∀ x, x ∈ rem → x ∈ s.todo
  rnodup : ∀ rem, s.d = .scanning rem → rem.Nodup

theorem scanInv_of_not_scanning (s : St) (hnd : s.todo.Nodup) (h : ∀ rem, s.d ≠ .scanning rem) : ScanInv s :=
  ⟨hnd, fun rem hd => absurd hd (h rem), fun rem hd => absurd hd (h rem)⟩

theorem scanInv_init : ScanInv {} := scanInv_of_not_scanning _ (by simp) (by intro rem h; cases h)

theorem scanInv_step (s s' : St) (e : Ev) (hi : ScanInv s) (h : accept s e = some s') : ScanInv s' := by
  obtain ⟨hnd, hsub, hrn⟩ := hi
  have hnd' := nodup_step h hnd
  cases accept_step s s' e h with
  | iLink n hg => exact ⟨hnd', fun rem hd x hx => List.mem_cons_of_mem _ (hsub rem hd x hx), hrn⟩
  | iOpen n ok hg => cases ok <;> exact ⟨hnd', hsub, hrn⟩
  | iWrite | iClose => exact ⟨hnd', hsub, hrn⟩
  | dClose | dOpen | dEnd => exact scanInv_of_not_scanning _ hnd' (by intro rem hd; cases hd)
  | dOpendir => exact ⟨hnd', (by intro rem hd x hx; cases hd; exact hx), (by intro rem hd; cases hd; exact hnd)⟩
  | dSeeNew n rem hd hg =>
    refine ⟨hnd', ?_, ?_⟩
    · intro r hr x hx; cases hr
      rcases List.mem_cons.1 hx with rfl | hx'
      · exact hg.1
      · exact hsub rem hd x hx'
    · intro r hr; cases hr
      exact List.nodup_cons.2 ⟨hg.2, hrn rem hd⟩
  | dRead n rem hd hg =>
    refine ⟨hnd', ?_, ?_⟩
    · intro r hr x hx; cases hr
      have hx' := (List.Nodup.mem_erase_iff (hrn rem hd)).1 hx
      exact (List.mem_erase_of_ne hx'.1).2 (hsub rem hd x hx'.2)
    · intro r hr; cases hr
      exact (hrn rem hd).erase n

/-! ### what a daemon step leaves alone -/

theorem daemon_step_frame (boot : Bool) (s s' : St) (e : Ev) (hd : dAllowed boot s e = true)
    (h : accept s e = some s') : (∀ x, x ∈ s'.todo → x ∈ s.todo) ∧ s'.pc = s.pc := by
  cases accept_step s s' e h with
  | iLink | iOpen | iWrite | iClose => cases hd
  | dRead => exact ⟨fun _ hx => List.mem_of_mem_erase hx, rfl⟩
  | dClose | dOpen | dOpendir | dSeeNew | dEnd => exact ⟨fun _ hx => hx, rfl⟩

theorem drun_cons_some {boot : Bool} {s s' : St} {e : Ev} {es : List Ev} (h : drun boot s (e :: es) = some s') :
    dAllowed boot s e = true ∧ ∃ s1, accept s e = some s1 ∧ drun (bootAfter boot e) s1 es = some s' := by
  simp only [drun] at h
  split at h
  · rename_i hd
    cases h1 : accept s e with
    | none => simp [h1] at h
    | some s1 => exact ⟨hd, s1, rfl, by simpa [h1] using h⟩
  · cases h

theorem drun_frame (evs : List Ev) : ∀ (boot : Bool) (s s' : St), drun boot s evs = some s' →
    (∀ x, x ∈ s'.todo → x ∈ s.todo) ∧ s'.pc = s.pc := by
  induction evs with
  | nil => intro boot s s' h; cases h; exact ⟨fun _ hx => hx, rfl⟩
  | cons e es ih =>
    intro boot s s' h
    obtain ⟨hd, s1, h1, h2⟩ := drun_cons_some h
    have f1 := daemon_step_frame boot s s1 e hd h1
    have f2 := ih _ s1 s' h2
    exact ⟨fun x hx => f1.1 x (f2.1 x hx), by rw [f2.2, f1.2]⟩

/-! ### counting lemmas for the measure -/

theorem filter_length_mono (p q : Nat → Bool) (l : List Nat) (h : ∀ x, x ∈ l → p x = true → q x = true) :
    (l.filter p).length ≤ (l.filter q).length := by
  rw [← List.countP_eq_length_filter, ← List.countP_eq_length_filter]
  exact List.countP_mono_left h

theorem filter_length_lt (p q : Nat → Bool) (l : List Nat) (h : ∀ x, x ∈ l → p x = true → q x = true)
    (m : Nat) (hm : m ∈ l) (hq : q m = true) (hp : p m = false) :
    (l.filter p).length < (l.filter q).length := by
  -- the `p`-filter is the `p`-filter of the `q`-filter, which loses `m`
  have hpq : l.filter p = (l.filter q).filter p := by
    rw [List.filter_filter]
    refine List.filter_congr fun x hx => ?_
    cases hpx : p x
    · rfl
    · rw [h x hx hpx]; rfl
  rw [hpq]
  exact List.length_filter_lt_length_iff_exists.2 ⟨m, List.mem_filter.2 ⟨hm, hq⟩, by simp [hp]⟩

theorem filter_self_contains (l : List Nat) : (l.filter (fun x => !l.contains x)).length = 0 := by
  rw [List.length_eq_zero_iff, List.filter_eq_nil_iff]
  intro a ha; simp [ha]

theorem filter_nil_contains (l : List Nat) : (l.filter (fun x => !([] : List Nat).contains x)) = l := by
  simp

/-! ### the measure decreases -/

theorem phi_pos (boot : Bool) (s : St) (n : Nat) (hn : n ∈ s.todo) : 0 < phi boot s n := by
  have : 0 < s.todo.length := List.length_pos_of_mem hn
  unfold phi
  split <;> omega

theorem phi_le (boot : Bool) (s : St) (n : Nat) : phi boot s n ≤ 2 * s.todo.length + 3 := by
  cases hd : s.d with
  | idle => simp only [phi, hd]; omega
  | closed => simp only [phi, hd]; split <;> omega
  | reopened => simp only [phi, hd]; split <;> omega
  | scanning rem =>
    simp only [phi, hd]
    have := List.length_filter_le (fun x => !rem.contains x) s.todo
    split <;> omega

theorem phi_step (boot : Bool) (s s' : St) (e : Ev) (n : Nat) (hi : ScanInv s) (hn : n ∈ s.todo)
    (hd : dAllowed boot s e = true) (h : accept s e = some s') (hn' : n ∈ s'.todo) :
    phi (bootAfter boot e) s' n < phi boot s n := by
  -- needed at `dOpendir` only: `reopened` weighs 2·|todo| (after the first scan), the fresh scan |todo|
  have hT : 0 < s.todo.length := List.length_pos_of_mem hn
  cases accept_step s s' e h with
  | iLink | iOpen | iWrite | iClose => cases hd
  | dClose hdd =>
    rcases hdd with hdd | hdd
    · simp [phi, hdd, bootAfter]
    · have hb : boot = true := by simpa [dAllowed, hdd] using hd
      simp [phi, hdd, bootAfter, hb]
  | dOpen hdd =>
    simp only [phi, hdd, bootAfter]
    cases boot <;> simp
  | dOpendir hdd =>
    have hc : s.todo.contains n = true := by simpa using hn
    simp only [phi, hdd, bootAfter, hc, if_true, filter_self_contains]
    cases boot <;> simp <;> omega
  | dSeeNew m rem hdd hg =>
    have hlt : (s.todo.filter (fun x => !(m :: rem).contains x)).length <
        (s.todo.filter (fun x => !rem.contains x)).length := by
      apply filter_length_lt _ _ _ _ m hg.1
      · simpa using hg.2
      · simp
      · intro x _ hx
        simp only [List.contains_cons, Bool.not_or, Bool.and_eq_true] at hx
        exact hx.2
    simp only [phi, hdd, bootAfter]
    by_cases hc : rem.contains n = true
    · have hc' : (m :: rem).contains n = true := by
        simp only [List.contains_cons, Bool.or_eq_true]; exact Or.inr hc
      simp only [hc, hc', if_true]; omega
    · simp only [hc, Bool.false_eq_true, if_false]
      split <;> omega
  | dRead m rem hdd hg =>
    have hmt : m ∈ s.todo := hi.sub rem hdd m hg
    have hlen : (s.todo.erase m).length + 1 = s.todo.length := by
      rw [List.length_erase_of_mem hmt]; omega
    have hne : n ≠ m := by
      intro he; subst he
      exact (List.Nodup.not_mem_erase hi.nodup) hn'
    have hle : ((s.todo.erase m).filter (fun x => !(rem.erase m).contains x)).length ≤
        (s.todo.filter (fun x => !rem.contains x)).length := by
      refine Nat.le_trans (filter_length_mono _ (fun x => !rem.contains x) _ ?_) ?_
      · intro x hx hp
        have hxm : x ≠ m := by
          intro he; subst he
          exact (List.Nodup.not_mem_erase hi.nodup) hx
        simp only [Bool.not_eq_true', List.contains_eq_mem, decide_eq_false_iff_not] at hp ⊢
        intro hxr; exact hp ((List.mem_erase_of_ne hxm).2 hxr)
      · exact ((List.erase_sublist).filter _).length_le
    simp only [phi, hdd, bootAfter]
    by_cases hc : rem.contains n = true
    · have hc' : (rem.erase m).contains n = true := by
        simp only [List.contains_eq_mem, decide_eq_true_eq] at hc ⊢
        exact (List.mem_erase_of_ne hne).2 hc
      simp only [hc, hc', if_true]; omega
    · have hc' : ¬ (rem.erase m).contains n = true := by
        simp only [List.contains_eq_mem, decide_eq_true_eq] at hc ⊢
        exact fun hx => hc (List.mem_of_mem_erase hx)
      simp only [hc, hc', if_false]; omega
  | dEnd hdd =>
    -- nothing of `todo` is in the empty stream: `scanning []` weighs |todo| + |todo| + 3, `idle` 2·|todo| + 2
    simp only [phi, hdd]
    rw [filter_nil_contains]
    simp only [List.contains_nil, Bool.false_eq_true, if_false]; omega

theorem drun_short (n : Nat) (evs : List Ev) : ∀ (boot : Bool) (s s' : St), ScanInv s → n ∈ s.todo →
    drun boot s evs = some s' → n ∈ s'.todo → evs.length < phi boot s n := by
  induction evs with
  | nil => intro boot s s' _ hn _ _; exact phi_pos boot s n hn
  | cons e es ih =>
    intro boot s s' hi hn h hn'
    obtain ⟨hd, s1, h1, h2⟩ := drun_cons_some h
    have hn1 : n ∈ s1.todo := (drun_frame es _ s1 s' h2).1 n hn'
    have := phi_step boot s s1 e n hi hn hd h1 hn1
    have := ih _ s1 s' (scanInv_step s s1 e hi h1) hn1 h2 hn'
    simp only [List.length_cons]; omega

/-! ### the code's own order of steps -/

theorem dnext_allowed {s : St} {e : Ev} (h : dnext s = some e) : dAllowed false s e = true := by
  unfold dnext at h
  split at h
  · split at h <;> cases h
    rename_i hd hb; simp [dAllowed, hd, hb]
  all_goals cases h; rfl

theorem dauto_drun (k : Nat) : ∀ s, ∃ evs, drun false s evs = some (dauto k s) ∧
    (evs.length = k ∨ ∀ e, dnext (dauto k s) = some e → accept (dauto k s) e = none) := by
  induction k with
  | zero => exact fun s => ⟨[], rfl, .inl rfl⟩
  | succ k ih =>
    intro s
    cases hn : dnext s with
    | none => simp only [dauto, hn]; exact ⟨[], rfl, .inr fun e he => by cases he⟩
    | some e =>
      cases ha : accept s e with
      | none => simp only [dauto, hn, ha]; exact ⟨[], rfl, .inr fun e' he => by cases he; exact ha⟩
      | some s1 =>
        obtain ⟨evs, h1, h2⟩ := ih s1
        have hb : bootAfter false e = false := by cases e <;> rfl
        simp only [dauto, hn, ha]
        exact ⟨e :: evs, by simp only [drun, dnext_allowed hn, ha, hb, if_true]; exact h1,
          h2.imp_left fun h => by rw [List.length_cons, h]⟩

end Nq.Trigger
