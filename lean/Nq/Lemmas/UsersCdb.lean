/- The linear-probing round trip on the structured cdb tables: looking a key up in the tables that
   cdbmake builds finds the first record with that key (`findEntE_first`), so `findStruct` returns the data of the
   first pair with that key (`assocFind`). -/
import Nq.Users

namespace Nq.Lemmas.Users
open Nq Nq.Users

abbrev Tbl := List (Option Ent)

/-- pointwise: every occupied slot of `a` is unchanged in `b` -/
def Ext : Tbl → Tbl → Prop
  | [], [] => True
  | x :: a, y :: b => (x ≠ none → y = x) ∧ Ext a b
  | _, _ => False

theorem ext_refl : ∀ a : Tbl, Ext a a
  | [] => trivial
  | _ :: a => ⟨fun _ => rfl, ext_refl a⟩

theorem ext_length : ∀ {a b : Tbl}, Ext a b → a.length = b.length
  | [], [], _ => rfl
  | _ :: a, _ :: b, h => by simp [ext_length h.2]
  | [], _ :: _, h => h.elim
  | _ :: _, [], h => h.elim

theorem ext_append : ∀ {a b c d : Tbl}, Ext a b → Ext c d → Ext (a ++ c) (b ++ d)
  | [], [], _, _, _, h2 => by simpa using h2
  | x :: a, y :: b, _, _, h1, h2 => ⟨h1.1, ext_append h1.2 h2⟩
  | [], _ :: _, _, _, h, _ => h.elim
  | _ :: _, [], _, _, h, _ => h.elim

theorem ext_drop : ∀ (n : Nat) {a b : Tbl}, Ext a b → Ext (a.drop n) (b.drop n)
  | 0, _, _, h => by simpa using h
  | _ + 1, [], [], _ => by simp [Ext]
  | n + 1, _ :: a, _ :: b, h => by simpa using ext_drop n h.2
  | _ + 1, [], _ :: _, h => h.elim
  | _ + 1, _ :: _, [], h => h.elim

theorem ext_take : ∀ (n : Nat) {a b : Tbl}, Ext a b → Ext (a.take n) (b.take n)
  | 0, _, _, _ => by simp [Ext]
  | _ + 1, [], [], _ => by simp [Ext]
  | n + 1, _ :: a, _ :: b, h => by
    simp only [List.take_succ_cons]; exact ⟨h.1, ext_take n h.2⟩
  | _ + 1, [], _ :: _, h => h.elim
  | _ + 1, _ :: _, [], h => h.elim

theorem ext_fillFirst (e : Ent) : ∀ r : Tbl, Ext r (fillFirst r e)
  | [] => trivial
  | none :: r => ⟨fun h => absurd rfl h, ext_refl r⟩
  | some _ :: r => ⟨fun _ => rfl, ext_fillFirst e r⟩

theorem ext_rot (s : Nat) {a b : Tbl} (h : Ext a b) : Ext (rot a s) (rot b s) :=
  ext_append (ext_drop s h) (ext_take s h)

theorem unrot_eq_rot {α} (r : List α) (s : Nat) : unrot r s = rot r (r.length - s) := rfl

theorem ext_unrot (s : Nat) {a b : Tbl} (h : Ext a b) : Ext (unrot a s) (unrot b s) := by
  rw [unrot_eq_rot, unrot_eq_rot, ← ext_length h]
  exact ext_rot _ h

theorem length_rot {α} (t : List α) (s : Nat) : (rot t s).length = t.length := by
  simp [rot] <;> omega

theorem length_fillFirst (e : Ent) : ∀ r : Tbl, (fillFirst r e).length = r.length
  | [] => rfl
  | none :: r => by simp [fillFirst]
  | some _ :: r => by simp [fillFirst, length_fillFirst e r]

theorem rot_rot {α} (t : List α) (s : Nat) : rot (rot t s) (t.length - s) = t := by
  have hl : t.length - s = (t.drop s).length := by simp
  unfold rot
  rw [hl, List.drop_left, List.take_left, List.take_append_drop]

theorem unrot_rot {α} (t : List α) (s : Nat) : unrot (rot t s) s = t := by
  rw [unrot_eq_rot, length_rot, rot_rot]

theorem rot_unrot {α} (r : List α) (s : Nat) (h : s ≤ r.length) : rot (unrot r s) s = r := by
  have := rot_rot r (r.length - s)
  rwa [Nat.sub_sub_self h] at this

theorem mem_rot {α} {y : α} {t : List α} {s : Nat} : y ∈ rot t s ↔ y ∈ t := by
  rw [rot, List.mem_append, Or.comm, ← List.mem_append, List.take_append_drop]

theorem mem_fillFirst (e : Ent) {y : Option Ent} : ∀ {r : Tbl}, y ∈ fillFirst r e → y = some e ∨ y ∈ r
  | [], h => by simp [fillFirst] at h
  | none :: r, h => by
    simp only [fillFirst, List.mem_cons] at h
    rcases h with h | h
    · exact Or.inl h
    · exact Or.inr (by simp [h])
  | some x :: r, h => by
    simp only [fillFirst, List.mem_cons] at h
    rcases h with h | h
    · exact Or.inr (by simp [h])
    · rcases mem_fillFirst e h with h | h
      · exact Or.inl h
      · exact Or.inr (by simp [h])

/-- number of free slots -/
def free (t : Tbl) : Nat := t.countP Option.isNone

theorem free_rot (t : Tbl) (s : Nat) : free (rot t s) = free t := by
  rw [free, rot, List.countP_append, Nat.add_comm, ← List.countP_append, List.take_append_drop, free]

theorem free_fillFirst (e : Ent) : ∀ r : Tbl, free r ≤ free (fillFirst r e) + 1
  | [] => by simp [fillFirst, free]
  | none :: r => by simp [fillFirst, free]
  | some x :: r => by
    have := free_fillFirst e r
    simp [fillFirst, free] at this ⊢; omega

/-! insertion -/

theorem home_lt (h : UInt32) {len : Nat} (hl : 0 < len) : home h len < len := Nat.mod_lt _ hl

theorem insert_length (t : Tbl) (e : Ent) : (insertEnt t e).length = t.length := by
  simp [insertEnt, unrot_eq_rot, length_fillFirst, length_rot]

theorem insert_ext (t : Tbl) (e : Ent) : Ext t (insertEnt t e) := by
  have := ext_unrot (home e.h t.length) (ext_fillFirst e (rot t (home e.h t.length)))
  rwa [unrot_rot] at this

theorem insert_rot (t : Tbl) (e : Ent) (hl : 0 < t.length) :
    rot (insertEnt t e) (home e.h t.length) = fillFirst (rot t (home e.h t.length)) e := by
  unfold insertEnt
  apply rot_unrot
  rw [length_fillFirst, length_rot]
  exact Nat.le_of_lt (home_lt e.h hl)

theorem insert_mem (t : Tbl) (e : Ent) {x : Ent} (h : some x ∈ insertEnt t e) : x = e ∨ some x ∈ t := by
  rcases mem_fillFirst e (mem_rot.mp h) with h | h
  · exact Or.inl (by simpa using h)
  · exact Or.inr (mem_rot.mp h)

theorem insert_free (t : Tbl) (e : Ent) : free t ≤ free (insertEnt t e) + 1 := by
  rw [insertEnt, unrot_eq_rot, free_rot]
  have := free_fillFirst e (rot t (home e.h t.length))
  rw [free_rot] at this
  exact this

/-! scanning -/

/-- `scan` returning the record instead of its data -/
def scanE (k : Bytes) (h : UInt32) : Tbl → Option Ent
  | [] => none
  | none :: _ => none
  | some e :: r => if e.h = h ∧ e.key = k then some e else scanE k h r

theorem scan_eq_scanE (k : Bytes) (h : UInt32) : ∀ t : Tbl, scan k h t = (scanE k h t).map (·.data)
  | [] => rfl
  | none :: _ => rfl
  | some e :: r => by
    simp only [scan, scanE]
    split
    · rfl
    · exact scan_eq_scanE k h r

theorem scanE_ext (k : Bytes) (h : UInt32) (e : Ent) : ∀ {r r' : Tbl}, Ext r r' → scanE k h r = some e → scanE k h r' = some e
  | [], [], _, hs => hs
  | none :: _, _ :: _, _, hs => by simp [scanE] at hs
  | some x :: r, y :: r', he, hs => by
    have hy : y = some x := he.1 (by simp)
    subst hy
    simp only [scanE] at hs ⊢
    split
    · rename_i hc; simpa [hc] using hs
    · rename_i hc; simp only [hc, if_false] at hs; exact scanE_ext k h e he.2 hs
  | [], _ :: _, he, _ => he.elim
  | _ :: _, [], he, _ => he.elim

theorem scanE_none_of_no_key (k : Bytes) (h : UInt32) : ∀ (r : Tbl), (∀ x, some x ∈ r → x.key ≠ k) → scanE k h r = none
  | [], _ => rfl
  | none :: _, _ => rfl
  | some x :: r, hr => by
    have hx : x.key ≠ k := hr x (by simp)
    simp only [scanE, hx, and_false, if_false]
    exact scanE_none_of_no_key k h r (fun y hy => hr y (by simp [hy]))

theorem scanE_fill (k : Bytes) (h : UInt32) (e : Ent) (he : e.h = h) (hk : e.key = k) :
    ∀ (r : Tbl), (∀ x, some x ∈ r → x.key ≠ k) → none ∈ r → scanE k h (fillFirst r e) = some e
  | [], _, hn => by simp at hn
  | none :: _, _, _ => by simp [fillFirst, scanE, he, hk]
  | some x :: r, hr, hn => by
    have hx : x.key ≠ k := hr x (by simp)
    simp only [fillFirst, scanE, hx, and_false, if_false]
    refine scanE_fill k h e he hk r (fun y hy => hr y (by simp [hy])) ?_
    simpa using hn

/-! the invariant of cdbmake_throw's insertion loop, for a fixed key `k` -/

structure Inv (k : Bytes) (len : Nat) (done : List Ent) (T : Tbl) : Prop where
  hlen : T.length = len
  hmem : ∀ x, some x ∈ T → x ∈ done
  /-- every insertion uses up at most one free slot: while fewer than `len` entries are in, a free slot is left -/
  hcnt : len ≤ free T + done.length
  /-- the reader's scan from the home slot of `k` finds the first entry with key `k` inserted so far -/
  hscn : scanE k (hashKey k) (rot T (home (hashKey k) len)) = done.find? (fun e => e.key == k)

theorem inv_init (k : Bytes) (len : Nat) : Inv k len [] (List.replicate len none) where
  hlen := by simp
  hmem := by intro x hx; simp [List.mem_replicate] at hx
  hcnt := by simp [free, List.countP_replicate]
  hscn := by
    apply scanE_none_of_no_key
    intro x hx
    have := mem_rot.mp hx
    simp [List.mem_replicate] at this

theorem inv_step (k : Bytes) (len : Nat) (done : List Ent) (T : Tbl) (e : Ent)
    (hI : Inv k len done T) (hroom : done.length < len) (heh : e.h = hashKey e.key) :
    Inv k len (done ++ [e]) (insertEnt T e) := by
  have hpos : 0 < T.length := by rw [hI.hlen]; omega
  refine ⟨by rw [insert_length, hI.hlen], ?_, ?_, ?_⟩
  · intro x hx
    rcases insert_mem T e hx with rfl | hx
    · simp
    · simp [hI.hmem x hx]
  · have := insert_free T e
    have := hI.hcnt
    simp only [List.length_append, List.length_cons, List.length_nil]
    omega
  -- an earlier hit survives because insertion leaves occupied slots alone (`Ext`); the first entry with key `k` lands in
  -- the first free slot of the table rotated to `k`'s home, behind other keys only; any other entry leaves no `k` there
  · rw [List.find?_append]
    have hext : Ext (rot T (home (hashKey k) len)) (rot (insertEnt T e) (home (hashKey k) len)) :=
      ext_rot _ (insert_ext T e)
    cases hf : done.find? (fun e => e.key == k) with
    | some x =>
      have := hI.hscn
      rw [hf] at this
      simpa using scanE_ext k _ _ hext this
    | none =>
      have hdone : ∀ x ∈ done, x.key ≠ k := by
        intro x hx hk
        have := List.find?_eq_none.mp hf x hx
        simp [hk] at this
      by_cases hk : e.key = k
      · have hh : e.h = hashKey k := by rw [heh, hk]
        have hrot := insert_rot T e hpos
        rw [hI.hlen, hh] at hrot
        rw [hrot]
        have hnone : none ∈ T := by
          have := hI.hcnt
          obtain ⟨a, ha, hn⟩ := List.countP_pos_iff.mp (show 0 < free T by omega)
          rwa [Option.isNone_iff_eq_none.mp hn] at ha
        have := scanE_fill k (hashKey k) e hh hk (rot T (home (hashKey k) len))
          (fun x hx => hdone x (hI.hmem x (mem_rot.mp hx))) (mem_rot.mpr hnone)
        simp [this, hk]
      · have : scanE k (hashKey k) (rot (insertEnt T e) (home (hashKey k) len)) = none := by
          apply scanE_none_of_no_key
          intro x hx
          rcases insert_mem T e (mem_rot.mp hx) with rfl | hx
          · exact hk
          · exact hdone x (hI.hmem x hx)
        simp [this, hk]

theorem inv_foldl (k : Bytes) (len : Nat) : ∀ (l done : List Ent) (T : Tbl),
    Inv k len done T → done.length + l.length < len + 1 → (∀ e ∈ l, e.h = hashKey e.key) →
    Inv k len (done ++ l) (l.foldl insertEnt T)
  | [], done, T, hI, _, _ => by simpa using hI
  | e :: l, done, T, hI, hroom, hh => by
    have h1 := inv_step k len done T e hI (by simp at hroom; omega) (hh e (by simp))
    have := inv_foldl k len l (done ++ [e]) (insertEnt T e) h1 (by simp at hroom ⊢; omega)
      (fun x hx => hh x (by simp [hx]))
    simpa using this

theorem buildTable_inv (k : Bytes) (l : List Ent) (hh : ∀ e ∈ l, e.h = hashKey e.key) :
    Inv k (2 * l.length) l (buildTable l) := by
  have := inv_foldl k (2 * l.length) l [] _ (inv_init k (2 * l.length)) (by simp; omega) hh
  rwa [List.nil_append] at this

theorem tableOf_mem (ents : List Ent) (hh : ∀ e ∈ ents, e.h = hashKey e.key) (b : Nat) (e : Ent)
    (he : some e ∈ tableOf ents b) : e ∈ ents :=
  -- `hmem` of the insertion invariant does not depend on the key the invariant is stated for: any key will do
  (List.mem_filter.mp ((buildTable_inv [] _ fun e he => hh e (List.mem_filter.mp he).1).hmem e he)).1

/-! from the records to the source list -/

theorem mkEnts_hash : ∀ (es : List (Bytes × Bytes)) (pos : Nat), ∀ e ∈ mkEnts es pos, e.h = hashKey e.key
  | [], _, e, he => by simp [mkEnts] at he
  | (k, d) :: r, pos, e, he => by
    simp only [mkEnts, List.mem_cons] at he
    rcases he with rfl | he
    · rfl
    · exact mkEnts_hash r _ e he

theorem mkEnts_find (k : Bytes) : ∀ (es : List (Bytes × Bytes)) (pos : Nat),
    ((mkEnts es pos).find? (fun e => e.key == k)).map (·.data) = assocFind es k
  | [], _ => by simp [mkEnts, assocFind]
  | (k', d) :: r, pos => by
    simp only [mkEnts, List.find?_cons, assocFind]
    by_cases hk : k' = k
    · simp [hk]
    · have : (k' == k) = false := by simpa using hk
      simp only [this, hk, if_false]
      exact mkEnts_find k r _

theorem find?_filter_of_imp {α} (p q : α → Bool) : ∀ (l : List α), (∀ x ∈ l, q x = true → p x = true) →
    (l.filter p).find? q = l.find? q
  | [], _ => rfl
  | x :: l, h => by
    have ih := find?_filter_of_imp p q l (fun y hy => h y (by simp [hy]))
    by_cases hq : q x = true
    · simp [h x (by simp) hq, hq]
    · rw [List.filter_cons]
      split <;> simp [hq, ih]

/-- the structured lookup, returning the record -/
def findEntE (ents : List Ent) (k : Bytes) : Option Ent :=
  let h := hashKey k
  let t := tableOf ents (bucket h)
  if t.length = 0 then none else scanE k h (rot t (home h t.length))

theorem findEnts_eq_findEntE (ents : List Ent) (k : Bytes) : findEnts ents k = (findEntE ents k).map (·.data) := by
  unfold findEnts findEntE
  dsimp only
  split
  · rfl
  · exact scan_eq_scanE _ _ _

/-- hashing into 256 tables, `2*count` slots, linear probing in insertion order: the lookup finds the FIRST record
    with that key, whatever the records (duplicates, collisions, any number) -/
theorem findEntE_first (ents : List Ent) (hh : ∀ e ∈ ents, e.h = hashKey e.key) (k : Bytes) :
    findEntE ents k = ents.find? (fun e => e.key == k) := by
  unfold findEntE tableOf
  let l := ents.filter (fun e => bucket e.h == bucket (hashKey k))
  obtain ⟨hlen, _, _, hscan⟩ := buildTable_inv k l fun e he => hh e (List.mem_filter.mp he).1
  have hfind : l.find? (fun e => e.key == k) = ents.find? (fun e => e.key == k) := by
    apply find?_filter_of_imp
    intro x hx hq
    have : x.key = k := by simpa using hq
    simp [hh x hx, this]
  show (if (buildTable l).length = 0 then none
        else scanE k (hashKey k) (rot (buildTable l) (home (hashKey k) (buildTable l).length))) = _
  rw [hlen, ← hfind]
  by_cases h0 : 2 * l.length = 0
  · have : l = [] := List.length_eq_zero_iff.mp (by omega)
    rw [if_pos h0, this]; rfl
  · rw [if_neg h0, hscan]

theorem findStruct_eq_assocFind (es : List (Bytes × Bytes)) (k : Bytes) : findStruct es k = assocFind es k := by
  unfold findStruct
  rw [findEnts_eq_findEntE, findEntE_first _ (mkEnts_hash es 2048), mkEnts_find]

end Nq.Lemmas.Users
