/- The BYTE-level constant database: `cdbSeek`/`cdbGet` (cdb_seek.c: header pointer, slot walk with wrap-around,
   record header, chunked key comparison — all on 4-byte little-endian words read from the file) run on the bytes
   `cdbMake` writes (cdbmss.c / cdbmake_add.c: 2048-byte header, records from offset 2048, 256 tables of slots)
   stops at the FIRST record with the key, at its position in the file (`cdbSeek_cdbMake`), and so returns the data of
   the first pair with that key (`cdbGet_cdbMake`), for every list whose file is smaller than 2^32 bytes; that the
   structured tables find the first record is `findEntE_first` in UsersCdb. -/
import Nq.Users
import Nq.Lemmas.UsersCdb

namespace Nq.Lemmas.Users
open Nq Nq.Users

/-! ## words -/

theorem pack_length (n : Nat) : (pack n).length = 4 := rfl

theorem le32_pack (n : Nat) :
    le32 (n % 256).toUInt8 (n / 256 % 256).toUInt8 (n / 65536 % 256).toUInt8 (n / 16777216 % 256).toUInt8 = n % 4294967296 := by
  simp only [le32, Nat.toUInt8, UInt8.toNat_ofNat', Nat.mod_mod]
  -- positional notation: `x % (a * b) = x % a + a * (x / a % b)`, three times
  rw [show 4294967296 = 256 * (256 * (256 * 256)) from rfl, Nat.mod_mul, Nat.mod_mul, Nat.mod_mul,
    Nat.div_div_eq_div_mul, Nat.div_div_eq_div_mul]
  simp only [Nat.mul_add, ← Nat.mul_assoc, Nat.add_assoc, Nat.reduceMul]

/-! ## "the bytes `bs` are in the file at offset `p`" -/

def At (f : Bytes) (p : Nat) (bs : Bytes) : Prop := ∃ pre post, f = pre ++ (bs ++ post) ∧ pre.length = p

theorem At.here (bs post : Bytes) : At (bs ++ post) 0 bs := ⟨[], post, rfl, rfl⟩

theorem At.append_left {f : Bytes} {p : Nat} {bs : Bytes} (x : Bytes) (h : At f p bs) : At (x ++ f) (x.length + p) bs := by
  obtain ⟨pre, post, hf, hp⟩ := h
  exact ⟨x ++ pre, post, by rw [hf, List.append_assoc], by simp [hp]⟩

theorem At.append_right {f : Bytes} {p : Nat} {bs : Bytes} (y : Bytes) (h : At f p bs) : At (f ++ y) p bs := by
  obtain ⟨pre, post, hf, hp⟩ := h
  exact ⟨pre, post ++ y, by rw [hf]; simp [List.append_assoc], hp⟩

theorem At.sub_left {f : Bytes} {p : Nat} {a b : Bytes} (h : At f p (a ++ b)) : At f p a := by
  obtain ⟨pre, post, hf, hp⟩ := h
  exact ⟨pre, b ++ post, by rw [hf]; simp [List.append_assoc], hp⟩

theorem At.sub_right {f : Bytes} {p : Nat} {a b : Bytes} (h : At f p (a ++ b)) : At f (p + a.length) b := by
  obtain ⟨pre, post, hf, hp⟩ := h
  exact ⟨pre ++ a, post, by rw [hf]; simp [List.append_assoc], by simp [hp]⟩

theorem At.drop {f : Bytes} {p : Nat} {bs : Bytes} (h : At f p bs) : ∃ post, f.drop p = bs ++ post := by
  obtain ⟨pre, post, hf, hp⟩ := h
  exact ⟨post, by rw [hf, List.drop_left' hp]⟩

theorem At.le {f : Bytes} {p : Nat} {bs : Bytes} (h : At f p bs) : p + bs.length ≤ f.length := by
  obtain ⟨pre, post, hf, hp⟩ := h
  rw [hf]; simp; omega

theorem At.take {f : Bytes} {p : Nat} {bs : Bytes} (h : At f p bs) : (f.drop p).take bs.length = bs := by
  obtain ⟨post, hd⟩ := h.drop
  rw [hd, List.take_left' rfl]

/-- a pair of words in the file is what `lseek` + `cdb_bread(8)` + two `cdb_unpack` return -/
theorem read8_at {f : Bytes} {p a b : Nat} (h : At f p (pack a ++ pack b)) :
    read8 f p = some (a % 4294967296, b % 4294967296) := by
  obtain ⟨post, hd⟩ := h.drop
  unfold read8
  rw [hd]
  simp only [pack, List.cons_append, List.nil_append, le32_pack]

/-! ## layout of the file `cdbMake` writes -/

theorem recBytes_length (e : Ent) : (recBytes e).length = 8 + e.key.length + e.data.length := by
  simp [recBytes, pack_length]; omega

theorem mkEnts_at : ∀ (es : List (Bytes × Bytes)) (pos : Nat) (e : Ent), e ∈ mkEnts es pos →
    ∃ q, e.pos = pos + q ∧ At ((mkEnts es pos).flatMap recBytes) q (recBytes e)
  | [], _, e, he => by simp [mkEnts] at he
  | (k, d) :: r, pos, e, he => by
    simp only [mkEnts, List.mem_cons] at he
    simp only [mkEnts, List.flatMap_cons]
    rcases he with rfl | he
    · exact ⟨0, rfl, At.here _ _⟩
    · obtain ⟨q, h1, h2⟩ := mkEnts_at r _ e he
      refine ⟨(recBytes ⟨hashKey k, pos, k, d⟩).length + q, ?_, At.append_left _ h2⟩
      rw [h1, recBytes_length]
      simp only [Nat.add_assoc]

theorem slotBytes_length (s : Option Ent) : (slotBytes s).length = 8 := by
  cases s <;> rfl

theorem flatMap_slotBytes_length : ∀ t : Tbl, (t.flatMap slotBytes).length = 8 * t.length
  | [] => rfl
  | s :: t => by
    simp only [List.flatMap_cons, List.length_append, slotBytes_length, flatMap_slotBytes_length t, List.length_cons]
    omega

theorem finishFrom_succ (ents : List Ent) (n b pos : Nat) :
    finishFrom ents (n + 1) b pos =
      (pack pos ++ pack (tableOf ents b).length ++ (finishFrom ents n (b + 1) (pos + 8 * (tableOf ents b).length)).1,
       (tableOf ents b).flatMap slotBytes ++ (finishFrom ents n (b + 1) (pos + 8 * (tableOf ents b).length)).2) := rfl

theorem finishFrom_hd_length (ents : List Ent) : ∀ (n b pos : Nat), (finishFrom ents n b pos).1.length = 8 * n
  | 0, _, _ => rfl
  | n + 1, b, pos => by
    rw [finishFrom_succ]
    simp only [List.length_append, pack_length, finishFrom_hd_length ents n]
    omega

theorem finishFrom_at (ents : List Ent) : ∀ (n b pos j : Nat), j < n →
    ∃ q, At (finishFrom ents n b pos).1 (8 * j) (pack (pos + q) ++ pack (tableOf ents (b + j)).length) ∧
      At (finishFrom ents n b pos).2 q ((tableOf ents (b + j)).flatMap slotBytes)
  | 0, _, _, _, h => by omega
  | n + 1, b, pos, 0, _ => by
    rw [finishFrom_succ]
    exact ⟨0, At.here _ _, At.here _ _⟩
  | n + 1, b, pos, j + 1, h => by
    obtain ⟨q, h1, h2⟩ := finishFrom_at ents n (b + 1) (pos + 8 * (tableOf ents b).length) j (by omega)
    have h1' := At.append_left (pack pos ++ pack (tableOf ents b).length) h1
    have h2' := At.append_left ((tableOf ents b).flatMap slotBytes) h2
    rw [flatMap_slotBytes_length] at h2'
    rw [List.length_append, pack_length, pack_length, show 4 + 4 + 8 * j = 8 * (j + 1) by omega, Nat.add_assoc pos,
      Nat.add_assoc b, Nat.add_comm 1 j] at h1'
    rw [Nat.add_assoc b, Nat.add_comm 1 j] at h2'
    rw [finishFrom_succ]
    exact ⟨8 * (tableOf ents b).length + q, h1', h2'⟩

theorem cdbMake_eq (es : List (Bytes × Bytes)) :
    cdbMake es =
      (finishFrom (mkEnts es 2048) 256 0 (2048 + ((mkEnts es 2048).flatMap recBytes).length)).1 ++
      (mkEnts es 2048).flatMap recBytes ++
      (finishFrom (mkEnts es 2048) 256 0 (2048 + ((mkEnts es 2048).flatMap recBytes).length)).2 := by
  unfold cdbMake
  dsimp only

/-- the three parts of the file: a 2048-byte header whose entry 0 points behind the records, the records, the tables -/
theorem cdbMake_parts (es : List (Bytes × Bytes)) :
    ∃ hd tb, cdbMake es = hd ++ (mkEnts es 2048).flatMap recBytes ++ tb ∧ hd.length = 2048 ∧
      At hd 0 (pack (2048 + ((mkEnts es 2048).flatMap recBytes).length) ++ pack (tableOf (mkEnts es 2048) 0).length) :=
  ⟨_, _, cdbMake_eq es, finishFrom_hd_length .., by rw [finishFrom_succ]; exact At.here _ _⟩

theorem cdbMake_table_at (es : List (Bytes × Bytes)) (j : Nat) (hj : j < 256) :
    ∃ p, At (cdbMake es) (8 * j) (pack p ++ pack (tableOf (mkEnts es 2048) j).length) ∧
         At (cdbMake es) p ((tableOf (mkEnts es 2048) j).flatMap slotBytes) := by
  obtain ⟨q, h1, h2⟩ := finishFrom_at (mkEnts es 2048) 256 0
    (2048 + ((mkEnts es 2048).flatMap recBytes).length) j hj
  rw [Nat.zero_add] at h1 h2
  refine ⟨2048 + ((mkEnts es 2048).flatMap recBytes).length + q, ?_, ?_⟩
  · rw [cdbMake_eq, List.append_assoc]
    exact At.append_right _ h1
  · rw [cdbMake_eq]
    have := At.append_left ((finishFrom (mkEnts es 2048) 256 0 (2048 + ((mkEnts es 2048).flatMap recBytes).length)).1 ++
      (mkEnts es 2048).flatMap recBytes) h2
    rw [List.length_append, finishFrom_hd_length] at this
    exact this

theorem cdbMake_rec_at (es : List (Bytes × Bytes)) (e : Ent) (he : e ∈ mkEnts es 2048) :
    2048 ≤ e.pos ∧ At (cdbMake es) e.pos (recBytes e) := by
  obtain ⟨q, h1, h2⟩ := mkEnts_at es 2048 e he
  obtain ⟨hd, tb, heq, hl, _⟩ := cdbMake_parts es
  refine ⟨by omega, ?_⟩
  have := At.append_left hd h2
  rw [hl] at this
  rw [heq, h1]
  exact At.append_right _ this

/-! ## the reader on a table that is laid out in the file -/

/-- table `t` is serialised in `f` at offset `p`, every record it points to is in `f` at its position, and all
    offsets fit in 32 bits -/
structure TblAt (f : Bytes) (p : Nat) (t : Tbl) : Prop where
  slots : At f p (t.flatMap slotBytes)
  /-- records lie behind the 2048-byte header; the reader needs of this only `pos ≠ 0` (position 0 marks an empty slot) -/
  recs : ∀ e, some e ∈ t → 2048 ≤ e.pos ∧ At f e.pos (recBytes e)
  small : f.length < 4294967296

theorem TblAt.slot {f : Bytes} {p : Nat} {t : Tbl} (hT : TblAt f p t) (i : Nat) (hi : i < t.length) :
    At f ((p + 8 * i) % 4294967296) (slotBytes t[i]) := by
  have ht : t.flatMap slotBytes =
      (t.take i).flatMap slotBytes ++ (slotBytes t[i] ++ (t.drop (i + 1)).flatMap slotBytes) := by
    calc t.flatMap slotBytes = (t.take i ++ t.drop i).flatMap slotBytes := by rw [List.take_append_drop]
      _ = _ := by rw [List.drop_eq_getElem_cons hi, List.flatMap_append, List.flatMap_cons]
  have hat := hT.slots
  rw [ht] at hat
  have hat := hat.sub_right.sub_left
  rw [flatMap_slotBytes_length, List.length_take, Nat.min_eq_left (Nat.le_of_lt hi)] at hat
  have hle := hat.le
  rw [slotBytes_length] at hle
  have hs := hT.small
  rwa [Nat.mod_eq_of_lt (by omega)]

theorem slot_read_none {f : Bytes} {p : Nat} {t : Tbl} (hT : TblAt f p t) (i : Nat) (hi : i < t.length)
    (hx : t[i] = none) : read8 f ((p + 8 * i) % 4294967296) = some (0, 0) := by
  have hat := hT.slot i hi
  rw [hx] at hat
  exact read8_at hat

theorem recBytes_data_at {f : Bytes} {e : Ent} (h : At f e.pos (recBytes e)) : At f (e.pos + 8 + e.key.length) e.data := by
  have := h.sub_right
  simp only [recBytes, List.length_append, pack_length] at this
  rwa [show e.pos + (4 + 4 + e.key.length) = e.pos + 8 + e.key.length by omega] at this

theorem rec_read {f : Bytes} {p : Nat} {t : Tbl} (hT : TblAt f p t) (e : Ent) (he : some e ∈ t) :
    read8 f e.pos = some (e.key.length, e.data.length) ∧ At f (e.pos + 8) e.key ∧ e.pos ≠ 0 ∧ e.pos < 4294967296 := by
  obtain ⟨h1, h2⟩ := hT.recs e he
  have hle := h2.le
  rw [recBytes_length] at hle
  have hs := hT.small
  unfold recBytes at h2
  refine ⟨?_, ?_, by omega, by omega⟩
  · rw [read8_at h2.sub_left.sub_left, Nat.mod_eq_of_lt (by omega), Nat.mod_eq_of_lt (by omega)]
  · have := h2.sub_left.sub_right
    simpa [pack_length] using this

theorem slot_read_some {f : Bytes} {p : Nat} {t : Tbl} (hT : TblAt f p t) (i : Nat) (hi : i < t.length) (e : Ent)
    (hx : t[i] = some e) : read8 f ((p + 8 * i) % 4294967296) = some (e.h.toNat, e.pos) := by
  have hat := hT.slot i hi
  rw [hx] at hat
  have hmem : some e ∈ t := by rw [← hx]; exact List.getElem_mem hi
  obtain ⟨_, _, _, hp⟩ := rec_read hT e hmem
  have hh : e.h.toNat < 4294967296 := e.h.toNat_lt
  rw [read8_at hat, Nat.mod_eq_of_lt hh, Nat.mod_eq_of_lt hp]

theorem eq_iff_take_drop {α} (n : Nat) (a b : List α) : a = b ↔ a.take n = b.take n ∧ a.drop n = b.drop n :=
  ⟨fun h => by rw [h]; exact ⟨rfl, rfl⟩,
   fun ⟨h1, h2⟩ => by rw [← List.take_append_drop n a, h1, h2, List.take_append_drop]⟩

/-- `match()`: comparing the key with the `key.length` bytes of the file at `off`, in chunks of 32 -/
theorem matchAt_spec (f : Bytes) : ∀ (fuel off : Nat) (key key' : Bytes), At f off key' → key'.length = key.length →
    key.length < fuel → matchAt f fuel off key = if key' = key then .yes else .no
  | 0, _, _, _, _, _, h => by omega
  | fuel + 1, off, key, key', hat, hlen, hfuel => by
    rw [matchAt]
    by_cases hk : key.isEmpty = true
    · have hk' : key = [] := List.isEmpty_iff.mp hk
      subst hk'
      have : key' = [] := List.length_eq_zero_iff.mp (by simpa using hlen)
      simp [this]
    · rw [if_neg hk]
      have hpos : 0 < key.length := List.length_pos_iff.mpr fun e => hk (by rw [e]; rfl)
      -- the chunk read from the file is the next chunk of `key'`; the rest of `key'` follows it in the file
      generalize hn : min 32 key.length = n
      obtain ⟨post, hd⟩ := hat.drop
      have hc : (f.drop off).take n = key'.take n := by
        rw [hd, List.take_append_of_le_length (by omega)]
      have hcl : (key'.take n).length = n := by rw [List.length_take]; omega
      have hat2 : At f (off + n) (key'.drop n) := by
        have h2 := hat
        rw [← List.take_append_drop n key'] at h2
        have := h2.sub_right
        rwa [hcl] at this
      simp only [hc]
      rw [if_pos hcl]
      by_cases he : key'.take n = key.take n
      · rw [if_pos (by simp [he]), matchAt_spec f fuel _ (key.drop n) (key'.drop n) hat2 (by simp [hlen])
          (by simp only [List.length_drop]; omega)]
        simp [eq_iff_take_drop n key' key, he]
      · rw [if_neg (by simp [he])]
        simp [eq_iff_take_drop n key' key, he]

/-! ## probe order -/

theorem rot_next {α} (t : List α) (s : Nat) (hs : s < t.length) :
    rot t s = t[s] :: (t.drop (s + 1) ++ t.take s) ∧
    rot t (if s + 1 = t.length then 0 else s + 1) = (t.drop (s + 1) ++ t.take s) ++ [t[s]] := by
  constructor
  · unfold rot
    rw [List.drop_eq_getElem_cons hs]; rfl
  · by_cases h : s + 1 = t.length
    · rw [if_pos h]
      unfold rot
      rw [List.drop_of_length_le (Nat.le_of_eq h.symm), List.nil_append, ← List.take_succ_eq_append_getElem hs,
        List.take_of_length_le (Nat.le_of_eq h.symm)]
      simp
    · rw [if_neg h]
      unfold rot
      rw [List.take_succ_eq_append_getElem hs, List.append_assoc]

/-- cdb_seek's slot walk on the bytes = `scanE` on the structured table, in probe order -/
theorem probe_scan (f k : Bytes) (h : UInt32) (p : Nat) (t : Tbl) (hT : TblAt f p t) :
    ∀ (fuel h2 : Nat), h2 < t.length → fuel ≤ t.length →
      probe f k h.toNat p t.length fuel h2 =
        match scanE k h ((rot t h2).take fuel) with
        | some e => .found (e.pos + 8 + k.length) e.data.length
        | none => .notFound
  | 0, _, _, _ => by simp [probe, scanE]
  | fuel + 1, h2, hh2, hfuel => by
    obtain ⟨hr1, hr2⟩ := rot_next t h2 hh2
    have ih := probe_scan f k h p t hT fuel (if h2 + 1 = t.length then 0 else h2 + 1)
      (by split <;> omega) (by omega)
    rw [hr2] at ih
    have hrl : (t.drop (h2 + 1) ++ t.take h2).length = t.length - 1 := by
      simp only [List.length_append, List.length_drop, List.length_take]; omega
    rw [List.take_append_of_le_length (by omega)] at ih
    rw [hr1, List.take_succ_cons]
    rw [probe]
    cases hx : t[h2] with
    | none =>
      rw [slot_read_none hT h2 hh2 hx]
      simp [scanE]
    | some e =>
      rw [slot_read_some hT h2 hh2 e hx]
      have hmem : some e ∈ t := by rw [← hx]; exact List.getElem_mem hh2
      obtain ⟨hrd, hkey, hp0, _⟩ := rec_read hT e hmem
      simp only [hp0, if_false]
      by_cases hh : e.h = h
      · have : e.h.toNat = h.toNat := by rw [hh]
        rw [if_pos this, hrd]
        simp only []
        by_cases hkl : e.key.length = k.length
        · rw [if_pos hkl, matchAt_spec f _ _ k e.key hkey hkl (Nat.lt_succ_self _)]
          by_cases hk : e.key = k
          · simp [scanE, hh, hk]
          · simp only [hk, if_false, scanE, and_false]
            exact ih
        · rw [if_neg hkl]
          have hk : e.key ≠ k := fun e' => hkl (by rw [e'])
          simp only [scanE, hk, and_false, if_false]
          exact ih
      · have : e.h.toNat ≠ h.toNat := fun e' => hh (UInt32.toNat_inj.mp e')
        rw [if_neg this]
        simp only [scanE, hh, false_and, if_false]
        exact ih

/-! ## the whole file -/

theorem cdbMake_tblAt (es : List (Bytes × Bytes)) (hsz : (cdbMake es).length < 4294967296) (j : Nat) (hj : j < 256) :
    ∃ p, At (cdbMake es) (8 * j) (pack p ++ pack (tableOf (mkEnts es 2048) j).length) ∧
         TblAt (cdbMake es) p (tableOf (mkEnts es 2048) j) := by
  obtain ⟨p, h1, h2⟩ := cdbMake_table_at es j hj
  refine ⟨p, h1, h2, ?_, hsz⟩
  intro e he
  apply cdbMake_rec_at
  exact tableOf_mem _ (mkEnts_hash es 2048) _ e he

theorem cdbSeek_cdbMake (es : List (Bytes × Bytes)) (k : Bytes) (hsz : (cdbMake es).length < 4294967296) :
    cdbSeek (cdbMake es) k =
      match (mkEnts es 2048).find? (fun e => e.key == k) with
      | some e => .found (e.pos + 8 + k.length) e.data.length
      | none => .notFound := by
  rw [← findEntE_first _ (mkEnts_hash es 2048)]
  obtain ⟨p, hhd, hT⟩ := cdbMake_tblAt es hsz (bucket (hashKey k)) (Nat.mod_lt _ (by omega))
  have hle := hT.slots.le
  rw [flatMap_slotBytes_length] at hle
  unfold cdbSeek findEntE
  dsimp only
  have hb : (hashKey k).toNat % 256 = bucket (hashKey k) := rfl
  rw [hb, read8_at hhd, Nat.mod_eq_of_lt (by omega), Nat.mod_eq_of_lt (by omega)]
  dsimp only
  by_cases h0 : (tableOf (mkEnts es 2048) (bucket (hashKey k))).length = 0
  · rw [if_pos h0, if_pos h0]
  · rw [if_neg h0, if_neg h0]
    have hhome : (hashKey k).toNat / 256 % (tableOf (mkEnts es 2048) (bucket (hashKey k))).length =
        home (hashKey k) (tableOf (mkEnts es 2048) (bucket (hashKey k))).length := rfl
    rw [hhome, probe_scan (cdbMake es) k (hashKey k) p _ hT _ _ (home_lt _ (Nat.pos_of_ne_zero h0)) (Nat.le_refl _),
      List.take_of_length_le (Nat.le_of_eq (length_rot _ _))]

theorem first_data_at (es : List (Bytes × Bytes)) (k : Bytes) (e : Ent)
    (h : (mkEnts es 2048).find? (fun e => e.key == k) = some e) :
    At (cdbMake es) (e.pos + 8 + k.length) e.data := by
  have hk : e.key = k := by simpa using List.find?_some h
  rw [← hk]
  exact recBytes_data_at (cdbMake_rec_at es e (List.mem_of_find?_eq_some h)).2

theorem cdbGet_cdbMake (es : List (Bytes × Bytes)) (k : Bytes) (hsz : (cdbMake es).length < 4294967296) :
    cdbGet (cdbMake es) k =
      match findStruct es k with
      | some d => .found d
      | none => .notFound := by
  unfold cdbGet
  rw [cdbSeek_cdbMake es k hsz, findStruct_eq_assocFind, ← mkEnts_find k es 2048]
  cases hfe : (mkEnts es 2048).find? (fun e => e.key == k) with
  | none => rfl
  | some e =>
    dsimp only [Option.map]
    rw [(first_data_at es k e hfe).take, if_pos rfl]

end Nq.Lemmas.Users
