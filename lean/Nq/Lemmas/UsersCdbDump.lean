/- Reading records back in file order (`Nq.Spec.Users.dumpRecs`, the loop of the independent reading of the format the
   driver uses as its oracle) over the record area cdbmake lays out gives exactly the source list; the whole file is
   `C11_cdb_dump` in Props/C11. -/
import Nq.Users
import Nq.Spec.Users
import Nq.Lemmas.UsersCdbBytes

namespace Nq.Lemmas.Users
open Nq Nq.Users Nq.Spec.Users

theorem dumpRecs_mkEnts : ∀ (es : List (Bytes × Bytes)) (pos fuel : Nat) (tail : Bytes),
    ((mkEnts es pos).flatMap recBytes).length < fuel →
    ((mkEnts es pos).flatMap recBytes).length < 4294967296 →
    dumpRecs fuel ((mkEnts es pos).flatMap recBytes ++ tail) ((mkEnts es pos).flatMap recBytes).length = some es
  | [], _, 0, _, h, _ => by simp [mkEnts] at h
  | [], _, fuel + 1, _, _, _ => by simp [mkEnts, dumpRecs]
  | (k, d) :: r, pos, 0, _, h, _ => by omega
  | (k, d) :: r, pos, fuel + 1, tail, hf, hs => by
    have ih := dumpRecs_mkEnts r (pos + 8 + k.length + d.length) fuel tail
    simp only [mkEnts, List.flatMap_cons, List.length_append, recBytes_length] at hf hs ⊢
    have ih' := ih (by omega) (by omega)
    generalize hR : (mkEnts r (pos + 8 + k.length + d.length)).flatMap recBytes = R at hf hs ih' ⊢
    have hk : k.length % 4294967296 = k.length := Nat.mod_eq_of_lt (by omega)
    have hd : d.length % 4294967296 = d.length := Nat.mod_eq_of_lt (by omega)
    simp only [recBytes, pack, List.cons_append, List.nil_append, List.append_assoc, dumpRecs, le32_pack, hk, hd]
    have h0 : ¬ (8 + k.length + d.length + R.length = 0) := by omega
    have h1 : ¬ (8 + k.length + d.length + R.length < 8 + k.length + d.length) := by omega
    rw [if_neg h0, if_neg h1]
    have t1 : (k ++ (d ++ (R ++ tail))).take k.length = k := List.take_left' rfl
    have t2 : (k ++ (d ++ (R ++ tail))).drop k.length = d ++ (R ++ tail) := List.drop_left' rfl
    have t3 : (d ++ (R ++ tail)).take d.length = d := List.take_left' rfl
    have t4 : (d ++ (R ++ tail)).drop d.length = R ++ tail := List.drop_left' rfl
    have e : 8 + k.length + d.length + R.length - (8 + k.length + d.length) = R.length := by omega
    simp only [t1, t2, t3, t4, e, and_self, if_true, ih', Option.map_some]

end Nq.Lemmas.Users
