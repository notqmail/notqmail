/- cdb_seek on ARBITRARY files (corrupted, truncated, hostile):
   * a hit is always backed by a slot, a record header and the key and data bytes that are really in the file
     (`cdbGet_sound`) — the bounds alone are `C20_cdb_seek_in_file` / `C20_cdb_get_slice` in Nq/Props/C20.lean;
   * answers are stable under extension of the file: whatever the reader answers without a read error on a prefix
     it answers on the whole file (`cdbGet_mono`), hence on a truncated database the answer is the right one or an
     error, never another record and never a false "absent";
   * nughde_get on top of such a reader yields the same record or exits QLX_CDB (`nughdeCdb_prefix`). -/
import Nq.Users

namespace Nq.Lemmas.Users
open Nq Nq.Users Nq.Gen.Lspawn

/-! ## monotonicity of the primitive reads -/

theorem take_drop_mono (f y : Bytes) (off n : Nat) (h : ((f.drop off).take n).length = n) :
    ((f ++ y).drop off).take n = (f.drop off).take n := by
  cases n with
  | zero => simp
  | succ n =>
    simp only [List.length_take, List.length_drop] at h
    rw [List.drop_append_of_le_length (by omega), List.take_append_of_le_length (by simp only [List.length_drop]; omega)]

theorem read8_le (f : Bytes) (o : Nat) (r : Nat × Nat) (h : read8 f o = some r) : o + 8 ≤ f.length := by
  unfold read8 at h
  split at h
  · rename_i a b c d a' b' c' d' rest heq
    have hl := congrArg List.length heq
    simp only [List.length_drop, List.length_cons] at hl
    omega
  · cases h

theorem read8_mono (f y : Bytes) (o : Nat) (r : Nat × Nat) (h : read8 f o = some r) : read8 (f ++ y) o = some r := by
  have hl := read8_le f o r h
  unfold read8 at h ⊢
  split at h
  · rename_i heq
    rw [List.drop_append_of_le_length (by omega), heq]
    exact h
  · cases h

theorem matchAt_mono (f y : Bytes) (fuel off : Nat) (key : Bytes) (r : MatchRes) (h : matchAt f fuel off key = r)
    (hr : r ≠ .err) : matchAt (f ++ y) fuel off key = r := by
  subst h
  fun_induction matchAt f fuel off key
  case case1 => rfl
  case case2 hk => rw [matchAt, if_pos hk]
  case case3 hk n c hc he ih =>
    rw [matchAt, if_neg hk]
    dsimp only
    rw [take_drop_mono f y _ _ hc, if_pos hc, if_pos he, ih hr]
  case case4 hk n c hc he =>
    rw [matchAt, if_neg hk]
    dsimp only
    rw [take_drop_mono f y _ _ hc, if_pos hc, if_neg he]
  case case5 => exact absurd rfl hr

/- The cases of `probe.induct`, in the order of the definition: 1 no fuel, 2 slot unreadable, 3 empty slot, 4 record
   header unreadable, 5 read error in `match()`, 6 hit, then the three ways to the next slot: 7 another key of that
   length, 8 another key length, 9 another hash. -/
theorem probe_mono (f y key : Bytes) (h pos lenhash fuel h2 : Nat) (r : SeekRes)
    (hp : probe f key h pos lenhash fuel h2 = r) (hne : r ≠ .err) : probe (f ++ y) key h pos lenhash fuel h2 = r := by
  subst hp
  fun_induction probe f key h pos lenhash fuel h2
  case case1 => rfl
  case case2 | case4 | case5 => exact absurd rfl hne
  case case3 hs => simp only [probe, read8_mono f y _ _ hs, if_pos]
  case case6 hz dl hm hs hr =>
    simp only [probe, read8_mono f y _ _ hs, read8_mono f y _ _ hr, if_neg hz, if_pos, matchAt_mono f y _ _ _ _ hm nofun]
  case case7 hz _ dl hm hs hr ih =>
    simp only [probe, read8_mono f y _ _ hs, read8_mono f y _ _ hr, if_neg hz, if_pos, matchAt_mono f y _ _ _ _ hm nofun]
    exact ih hne
  case case8 hz _ _ _ hr hk hs ih =>
    simp only [probe, read8_mono f y _ _ hs, read8_mono f y _ _ hr, if_neg hz, if_pos, if_neg hk]
    exact ih hne
  case case9 hs hz _ hh ih =>
    simp only [probe, read8_mono f y _ _ hs, if_neg hz, if_neg hh]
    exact ih hne

theorem cdbSeek_mono (f y key : Bytes) (r : SeekRes) (hp : cdbSeek f key = r) (hne : r ≠ .err) :
    cdbSeek (f ++ y) key = r := by
  subst hp
  revert hne
  fun_cases cdbSeek f key <;> intro hne
  case case1 => exact absurd rfl hne
  case case2 h _ hr =>
    rw [cdbSeek, read8_mono f y _ _ hr]
    rfl
  case case3 h _ _ hr hz =>
    rw [cdbSeek, read8_mono f y _ _ hr]
    dsimp only
    rw [if_neg hz]
    exact probe_mono f y key _ _ _ _ _ _ rfl hne

theorem cdbGet_mono (f y key : Bytes) (hne : cdbGet f key ≠ .err) : cdbGet (f ++ y) key = cdbGet f key := by
  revert hne
  fun_cases cdbGet f key <;> intro hne
  case case1 dpos dlen hs d hl =>
    rw [cdbGet, cdbSeek_mono f y key _ hs nofun]
    dsimp only
    rw [take_drop_mono f y dpos dlen hl, if_pos hl]
  case case2 | case4 => exact absurd rfl hne
  case case3 hs => rw [cdbGet, cdbSeek_mono f y key _ hs nofun]

theorem cdbGet_prefix (f' y key : Bytes) : cdbGet f' key = .err ∨ cdbGet f' key = cdbGet (f' ++ y) key := by
  by_cases h : cdbGet f' key = .err
  · exact Or.inl h
  · exact Or.inr (cdbGet_mono f' y key h).symm

/-! ## a hit is a real record -/

theorem matchAt_yes (f : Bytes) (fuel off : Nat) (key : Bytes) (hf : key.length < fuel)
    (h : matchAt f fuel off key = .yes) : (f.drop off).take key.length = key := by
  fun_induction matchAt f fuel off key
  case case1 => omega
  case case2 hk => rw [List.isEmpty_iff.mp hk]; rfl
  case case3 fuel off key hk n c hc he ih =>
    have hpos : 0 < key.length := List.length_pos_iff.mpr fun e => hk (by rw [e]; rfl)
    have hn : n = min 32 key.length := rfl
    have he' : c = key.take n := by simpa using he
    have ih := ih (by simp only [List.length_drop]; omega) h
    rw [List.length_drop] at ih
    calc (f.drop off).take key.length
        = (f.drop off).take (n + (key.length - n)) := by rw [show n + (key.length - n) = key.length by omega]
      _ = c ++ ((f.drop off).drop n).take (key.length - n) := List.take_add
      _ = key.take n ++ key.drop n := by rw [he', List.drop_drop, ih]
      _ = key := List.take_append_drop _ _
  case case4 | case5 => cases h

/-- what stands behind a hit: a slot `(hash, pos)`, a record header `(klen, dlen)` at `pos`, the key at `pos+8` -/
theorem probe_sound (f key : Bytes) (h pos lenhash fuel h2 dpos dlen : Nat)
    (hr : probe f key h pos lenhash fuel h2 = .found dpos dlen) :
    ∃ o p, read8 f o = some (h, p) ∧ read8 f p = some (key.length, dlen) ∧
      (f.drop (p + 8)).take key.length = key ∧ dpos = p + 8 + key.length := by
  fun_induction probe f key h pos lenhash fuel h2
  case case1 | case2 | case3 | case4 | case5 => cases hr
  case case6 p _ dl hm hs hk =>
    cases hr
    exact ⟨_, p, hs, hk, matchAt_yes f _ _ _ (Nat.lt_succ_self _) hm, rfl⟩
  case case7 ih | case8 ih | case9 ih => exact ih hr

theorem cdbSeek_sound (f key : Bytes) (dpos dlen : Nat) (h : cdbSeek f key = .found dpos dlen) :
    ∃ o p, read8 f o = some ((hashKey key).toNat, p) ∧ read8 f p = some (key.length, dlen) ∧
      (f.drop (p + 8)).take key.length = key ∧ dpos = p + 8 + key.length := by
  revert h
  fun_cases cdbSeek f key
  case case1 | case2 => nofun
  case case3 => exact probe_sound f key _ _ _ _ _ _ _

theorem cdbGet_found {f k d : Bytes} :
    cdbGet f k = .found d ↔ ∃ dpos, cdbSeek f k = .found dpos d.length ∧ (f.drop dpos).take d.length = d := by
  unfold cdbGet
  cases cdbSeek f k with
  | err => simp
  | notFound => simp
  | found dpos dlen =>
    dsimp only
    constructor
    · intro h
      split at h
      · next hl => cases h; exact ⟨dpos, by rw [hl], by rw [hl]⟩
      · cases h
    · rintro ⟨dpos', h1, h2⟩
      cases h1
      rw [h2, if_pos rfl]

theorem cdbGet_sound (f k d : Bytes) (h : cdbGet f k = .found d) :
    ∃ o p, read8 f o = some ((hashKey k).toNat, p) ∧ read8 f p = some (k.length, d.length) ∧
      (f.drop (p + 8)).take k.length = k ∧ (f.drop (p + 8 + k.length)).take d.length = d ∧
      p + 8 + k.length + d.length ≤ f.length := by
  obtain ⟨dpos, hs, hd⟩ := cdbGet_found.mp h
  obtain ⟨o, p, h1, h2, h3, rfl⟩ := cdbSeek_sound f k _ _ hs
  refine ⟨o, p, h1, h2, h3, hd, ?_⟩
  have hp := read8_le f p _ h2
  have hk := congrArg List.length h3
  have hl := congrArg List.length hd
  simp only [List.length_take, List.length_drop] at hk hl
  omega

/-! ## nughde_get over a reader that may fail -/

/-- `lk'` answers like `lk` or reports a read error -/
def Weaker (lk' lk : Bytes → Lk) : Prop := ∀ k, lk' k = .err ∨ lk' k = lk k

theorem wildLoop_weaker (lk' lk : Bytes → Lk) (hw : Weaker lk' lk) (wild loc : Bytes) : ∀ n,
    wildLoop lk' wild loc n = .exit QLX_CDB ∨ wildLoop lk' wild loc n = wildLoop lk wild loc n
  | 0 => by
    simp only [wildLoop]
    rcases hw [BANG] with h | h
    · rw [h]; exact Or.inl rfl
    · rw [h]; exact Or.inr rfl
  | n + 1 => by
    simp only [wildLoop]
    split
    · rcases hw (BANG :: (lower loc).take (n + 1)) with h | h
      · rw [h]; exact Or.inl rfl
      · rw [h]
        cases lk (BANG :: (lower loc).take (n + 1)) with
        | err => exact Or.inr rfl
        | found d => exact Or.inr rfl
        | notFound => exact wildLoop_weaker lk' lk hw wild loc n
    · exact wildLoop_weaker lk' lk hw wild loc n

theorem nughdeLoop_weaker (lk' lk : Bytes → Lk) (hw : Weaker lk' lk) (wild loc : Bytes) :
    nughdeLoop lk' wild loc = .exit QLX_CDB ∨ nughdeLoop lk' wild loc = nughdeLoop lk wild loc := by
  unfold nughdeLoop
  rcases hw (BANG :: lower loc ++ [NUL]) with h | h
  · rw [h]; exact Or.inl rfl
  · rw [h]
    cases lk (BANG :: lower loc ++ [NUL]) with
    | err => exact Or.inr rfl
    | found d => exact Or.inr rfl
    | notFound => exact wildLoop_weaker lk' lk hw wild loc _

theorem nughdeCdb_prefix (f' y loc : Bytes) :
    nughdeCdb (some f') loc = .exit QLX_CDB ∨ nughdeCdb (some f') loc = nughdeCdb (some (f' ++ y)) loc := by
  have hw : Weaker (cdbGet f') (cdbGet (f' ++ y)) := fun k => cdbGet_prefix f' y k
  unfold nughdeCdb
  dsimp only
  rcases hw [] with h | h
  · rw [h]; exact Or.inl rfl
  · rw [h]
    cases cdbGet (f' ++ y) [] with
    | err => exact Or.inr rfl
    | notFound => exact Or.inr rfl
    | found w => exact nughdeLoop_weaker _ _ hw w loc

end Nq.Lemmas.Users
