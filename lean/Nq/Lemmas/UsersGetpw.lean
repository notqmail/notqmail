/- qmail-getpw's userext() loop against the declarative password-file rules (`specGetpw`), the exit codes of those
   rules, and the decimal uid/gid it prints (`fmtDec`) read back. -/
import Nq.Users
import Nq.Spec.Users
import Nq.Lemmas.Decimal

namespace Nq.Lemmas.Users
open Nq Nq.Users Nq.Spec.Users Nq.Gen.Lspawn

/-- may the address be split at `n`? -/
def splitOk (loc : Bytes) (n : Nat) : Bool :=
  n < GETPW_USERLEN && (n == loc.length || loc.getD n 0 == breakByte)

/-- what a classified split point means for userext() -/
def toUx (loc : Bytes) : Option (Nat × Acct) → Ux
  | some (n, .user pw) => if n = loc.length then .user pw [] [] else .user pw [45] (loc.drop (n + 1))
  | some (_, .sys) => .exit QLX_SYS
  | some (_, .nfs) => .exit QLX_NFS
  | _ => .none

theorem splitOk_iff (loc : Bytes) (n : Nat) :
    splitOk loc n = true ↔ (n < GETPW_USERLEN ∧ (n = loc.length ∨ loc.getD n 0 = breakByte)) := by
  simp [splitOk]

theorem userextAt_eq (db : PwDb) (loc : Bytes) (n : Nat) :
    userextAt db loc n =
      if splitOk loc n then toUx loc (some (n, acct db (lower (loc.take n)))) else .none := by
  unfold userextAt
  by_cases hc : (n < GETPW_USERLEN ∧ (n = loc.length ∨ loc.getD n 0 = breakByte))
  · have hs : splitOk loc n = true := (splitOk_iff loc n).mpr hc
    rw [if_pos hc, hs, if_pos rfl]
    unfold acct
    cases db.getpwnam (lower (List.take n loc)) with
    | none => rfl
    | some pw =>
      simp only []
      by_cases hb : pw.busy = true
      · simp [hb, toUx]
      · simp only [hb, if_false, Bool.false_eq_true]
        by_cases hu : pw.uid = 0
        · simp [hu, toUx]
        · simp only [hu, if_false]
          cases db.stat pw.dir with
          | ok o =>
            by_cases ho : o = pw.uid
            · simp only [ho, if_true, toUx, userextAt.breakAscii]
            · simp [ho, toUx]
          | gone => simp [toUx]
          | temp => simp [toUx]
  · have hs : splitOk loc n = false := by
      cases h : splitOk loc n with
      | false => rfl
      | true => exact absurd ((splitOk_iff loc n).mp h) hc
    rw [if_neg hc, hs]; rfl

/-- the split points of `loc` not above `n`, largest first: `Spec.splitPoints loc` is `pts loc loc.length`, and
`userext`'s downward loop started at `n` tries exactly these -/
def pts (loc : Bytes) (n : Nat) : List Nat := ((List.range (n + 1)).reverse).filter (splitOk loc)

theorem pts_succ (loc : Bytes) (n : Nat) :
    pts loc (n + 1) = if splitOk loc (n + 1) then (n + 1) :: pts loc n else pts loc n := by
  unfold pts
  rw [List.range_succ, List.reverse_append]
  simp only [List.reverse_cons, List.reverse_nil, List.nil_append, List.singleton_append, List.filter_cons]

theorem pts_zero (loc : Bytes) : pts loc 0 = if splitOk loc 0 then [0] else [] := by
  unfold pts; simp [List.range_succ, List.filter_cons]

theorem userext_eq (db : PwDb) (loc : Bytes) : ∀ n,
    userext db loc n = toUx loc (((pts loc n).map (classify db loc)).find? (fun p => !p.2.isNo)) := by
  intro n
  induction n with
  | zero =>
    rw [userext, userextAt_eq, pts_zero]
    by_cases h : splitOk loc 0 = true
    · simp only [h, if_true, List.map_cons, List.map_nil, List.find?_cons, classify]
      cases ha : acct db (lower (List.take 0 loc)) <;> simp [toUx, Acct.isNo]
    · simp [h, toUx]
  | succ n ih =>
    rw [userext, userextAt_eq, pts_succ]
    by_cases h : splitOk loc (n + 1) = true
    · simp only [h, if_true, List.map_cons, List.find?_cons, classify]
      cases ha : acct db (lower (List.take (n + 1) loc)) with
      | no =>
        simp only [Acct.isNo, Bool.not_true, toUx]
        exact ih
      | user pw =>
        simp only [Acct.isNo, Bool.not_false, toUx]
        by_cases hn : n + 1 = loc.length <;> simp [hn]
      | sys => simp [toUx, Acct.isNo]
      | nfs => simp [toUx, Acct.isNo]
    · simp only [h, Bool.false_eq_true, if_false]
      exact ih

theorem getpwMain_eq_spec (db : PwDb) (loc : Bytes) : getpwMain db loc = specGetpw db loc := by
  unfold getpwMain specGetpw
  rw [userext_eq]
  have : splitPoints loc = pts loc loc.length := rfl
  rw [this]
  cases hf : ((pts loc loc.length).map (classify db loc)).find? (fun p => !p.2.isNo) with
  | none =>
    simp only [toUx]
    cases db.getpwnam auto_usera with
    | none => rfl
    | some pw => rfl
  | some p =>
    obtain ⟨n, a⟩ := p
    have hne : a.isNo = false := by
      have := List.find?_some hf
      simpa using this
    cases a with
    | no => simp [Acct.isNo] at hne
    | user pw =>
      simp only [toUx]
      by_cases hn : n = loc.length <;> simp [hn]
    | sys => rfl
    | nfs => rfl

theorem specGetpw_exit (db : PwDb) (loc : Bytes) (c : Nat) (h : specGetpw db loc = .exit c) :
    c = QLX_SYS ∨ c = QLX_NFS ∨ c = QLX_NOALIAS := by
  -- the branches of `specGetpw` in its order: a user (no exit), QLX_SYS, QLX_NFS, then the alias user (found and
  -- idle: no exit; busy or missing: QLX_NOALIAS)
  revert h
  fun_cases specGetpw db loc <;> intro h <;> cases h
  · exact Or.inl rfl
  · exact Or.inr (Or.inl rfl)
  · exact Or.inr (Or.inr rfl)
  · exact Or.inr (Or.inr rfl)

/-! ## fmt_ulong then scan_ulong: the number qmail-getpw prints is the number qmail-lspawn reads -/

theorem fmtDec_eq (n : Nat) : fmtDec n = fmtNat n := by
  have h := fmtLoop_eq (A := fmtDecAux) (fun f n acc => by rw [fmtDecAux]) (n + 1) n [] (Nat.lt_succ_self n)
  rwa [List.append_nil] at h

theorem fmtDec_spec (n : Nat) : (∀ d ∈ fmtDec n, isDigit d = true) ∧ decVal ((fmtDec n).takeWhile isDigit) = n := by
  rw [fmtDec_eq]
  refine ⟨fmtNat_digits n, ?_⟩
  rw [← List.append_nil (fmtNat n), List.takeWhile_append_of_pos (fmtNat_digits n), List.takeWhile_nil, List.append_nil,
    decVal_fmtNat]

theorem fmtDec_nul (n : Nat) : NUL ∉ fmtDec n := by
  rw [fmtDec_eq]; exact fmtNat_not_mem n rfl

end Nq.Lemmas.Users
