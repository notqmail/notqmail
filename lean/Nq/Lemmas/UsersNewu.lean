/- qmail-newu's line compiler (`newuLine`, `newuLoop`, `getln`, `dataCut`, `byteChr`) equals the declarative
   reading of users/assign (`specLine`, `specParse`: colon-separated fields of LF-separated lines), for every file;
   the tables it accepts have NUL-free names. -/
import Nq.Lemmas.Basic
import Nq.Users
import Nq.Spec.Users

namespace Nq.Lemmas.Users
open Nq Nq.Users Nq.Spec.Users

theorem splitOn_eq (sep : Byte) : ∀ l : Bytes, splitOn sep l = splitSep sep l
  | [] => rfl
  | c :: r => by simp only [splitOn, splitSep, splitOn_eq sep r]; rfl

theorem splitOn_ne_nil (sep : Byte) (l : Bytes) : splitOn sep l ≠ [] :=
  splitOn_eq sep l ▸ splitSep_ne_nil sep l

theorem splitOn_cons_of {sep c : Byte} {r f : Bytes} {fs : List Bytes} (h : c ≠ sep) (hs : splitOn sep r = f :: fs) :
    splitOn sep (c :: r) = (c :: f) :: fs := by
  simp [splitOn, h, hs]

theorem splitOn_cons_ne (sep c : Byte) (r : Bytes) (h : c ≠ sep) :
    ∃ f fs, splitOn sep r = f :: fs ∧ splitOn sep (c :: r) = (c :: f) :: fs := by
  cases hs : splitOn sep r with
  | nil => exact absurd hs (splitOn_ne_nil sep r)
  | cons f fs => exact ⟨f, fs, rfl, splitOn_cons_of h hs⟩

theorem splitOn_cons_eq (sep : Byte) (r : Bytes) : splitOn sep (sep :: r) = [] :: splitOn sep r := by
  simp [splitOn]

theorem splitOn_nul_free : ∀ f : Bytes, NUL ∉ f → splitOn NUL f = [f] :=
  fun f h => (splitOn_eq NUL f).trans (splitSep_nosep NUL f h)

theorem splitOn_append_sep (sep : Byte) (f y : Bytes) (h : sep ∉ f) : splitOn sep (f ++ sep :: y) = f :: splitOn sep y := by
  rw [splitOn_eq, splitOn_eq, splitSep_append sep y f h]

theorem splitOn_mem (sep : Byte) (l f : Bytes) (hf : f ∈ splitOn sep l) : ∀ c ∈ f, c ∈ l :=
  (splitSep_mem sep l f (splitOn_eq sep l ▸ hf)).2

theorem specLine_some {line : Bytes} {a : Asg} (h : specLine line = some a) :
    NUL ∉ line ∧ ∃ f0 u ui gi ho da ex x xs, splitOn COLON line = f0 :: u :: ui :: gi :: ho :: da :: ex :: x :: xs ∧
      a = ⟨f0.head? == some PLUS, lower (f0.drop 1), joinNul [u, ui, gi, ho, da, ex]⟩ := by
  unfold specLine at h
  by_cases hn : line.contains NUL = true
  · rw [if_pos hn] at h; cases h
  · rw [if_neg hn] at h
    refine ⟨by simpa using hn, ?_⟩
    rcases hs : splitOn COLON line with _ | ⟨f0, _ | ⟨u, _ | ⟨ui, _ | ⟨gi, _ | ⟨ho, _ | ⟨da, _ | ⟨ex, _ | ⟨x, xs⟩⟩⟩⟩⟩⟩⟩⟩ <;>
      rw [hs] at h <;> simp only [reduceCtorEq] at h
    split at h
    · cases h
    · cases h; exact ⟨_, _, _, _, _, _, _, _, _, rfl, rfl⟩

/-! ## one line: first colon, six more colons -/

theorem splitOn_byteChr : ∀ line : Bytes,
    splitOn COLON line = line.take (byteChr line COLON) ::
      (if byteChr line COLON = line.length then [] else splitOn COLON (line.drop (byteChr line COLON + 1)))
  | [] => by simp [splitOn, byteChr]
  | c :: r => by
    by_cases hc : c = COLON
    · subst hc
      rw [splitOn_cons_eq]
      simp [byteChr]
    · obtain ⟨f, fs, h1, h2⟩ := splitOn_cons_ne COLON c r hc
      rw [h2]
      have ih := splitOn_byteChr r
      rw [h1] at ih
      simp only [List.cons.injEq] at ih
      simp only [byteChr, hc, if_false, List.take_succ_cons, List.length_cons, List.drop_succ_cons,
        Nat.add_right_cancel_iff, List.cons.injEq]
      refine ⟨?_, ih.2⟩
      simp [ih.1]

theorem joinNul_cons_cons (f g : Bytes) (fs : List Bytes) : joinNul (f :: g :: fs) = f ++ NUL :: joinNul (g :: fs) := rfl

theorem joinNul_cons_byte (c : Byte) (f : Bytes) (fs : List Bytes) : joinNul ((c :: f) :: fs) = c :: joinNul (f :: fs) := by
  cases fs <;> simp [joinNul]

theorem dataCut_spec : ∀ (s : Bytes) (k : Nat),
    dataCut s (k + 1) = if k + 2 ≤ (splitOn COLON s).length then some (joinNul ((splitOn COLON s).take (k + 1))) else none
  | [], k => by simp [dataCut, splitOn]
  | c :: r, k => by
    by_cases hc : c = COLON
    · subst hc
      rw [splitOn_cons_eq]
      cases hs : splitOn COLON r with
      | nil => exact absurd hs (splitOn_ne_nil COLON r)
      | cons f fs =>
        cases k with
        | zero => simp [dataCut, joinNul]
        | succ k =>
          have ih := dataCut_spec r k
          rw [hs] at ih
          simp only [dataCut, if_true, ih]
          simp only [Nat.add_eq_zero_iff, Nat.succ_ne_zero, and_false, if_false, List.length_cons, List.take_succ_cons]
          by_cases hl : k + 2 ≤ fs.length + 1
          · rw [if_pos hl, if_pos (by omega)]
            simp [joinNul_cons_cons]
          · rw [if_neg hl, if_neg (by omega)]; rfl
    · obtain ⟨f, fs, h1, h2⟩ := splitOn_cons_ne COLON c r hc
      have ih := dataCut_spec r k
      rw [h1] at ih
      rw [h2]
      simp only [dataCut, hc, if_false, ih, List.length_cons, List.take_succ_cons]
      by_cases hl : k + 2 ≤ fs.length + 1
      · simp [hl, joinNul_cons_byte]
      · simp [hl]

theorem newuLine_eq_specLine (line : Bytes) : newuLine line = specLine line := by
  unfold newuLine specLine
  by_cases hn : line.contains NUL = true
  · rw [if_pos hn, if_pos hn]
  · rw [if_neg hn, if_neg hn]
    simp only []
    rw [splitOn_byteChr line]
    by_cases hi : byteChr line COLON = line.length
    · rw [if_pos hi, if_pos hi]
    · rw [if_neg hi, if_neg hi, dataCut_spec]
      -- `dataCut … 6` succeeds iff six more colons follow, i.e. iff `rest` has seven or more fields, and then joins the
      -- first six: with the first field split off this is `specLine`'s pattern of eight or more fields, so the shape of
      -- `rest` (up to seven deep) decides both sides alike
      generalize splitOn COLON (line.drop (byteChr line COLON + 1)) = rest
      by_cases h0 : byteChr line COLON = 0
      · rw [if_pos h0, h0]
        rcases rest with _ | ⟨u, _ | ⟨ui, _ | ⟨gi, _ | ⟨ho, _ | ⟨da, _ | ⟨ex, _ | ⟨x, xs⟩⟩⟩⟩⟩⟩⟩ <;> first | rfl | simp
      · rw [if_neg h0]
        have hpos : 0 < byteChr line COLON := Nat.pos_of_ne_zero h0
        have hhead : (line.take (byteChr line COLON)).head? = line.head? := by
          cases line with
          | nil => simp
          | cons c r => cases hb : byteChr (c :: r) COLON with
            | zero => omega
            | succ n => simp
        have hemp : (line.take (byteChr line COLON)).isEmpty = false := by
          cases line with
          | nil => simp [byteChr] at hi
          | cons c r => cases hb : byteChr (c :: r) COLON with
            | zero => omega
            | succ n => simp
        rcases rest with _ | ⟨u, _ | ⟨ui, _ | ⟨gi, _ | ⟨ho, _ | ⟨da, _ | ⟨ex, _ | ⟨x, xs⟩⟩⟩⟩⟩⟩⟩ <;>
          first | rfl | simp [hemp, hhead]

/-! ## the file: lines up to the dot line -/

theorem getln_spec (inp acc : Bytes) : ∃ l,
    (getln inp acc).1 = acc.reverse ++ l ∧
    splitOn LF inp = (if (getln inp acc).2.1 then l :: splitOn LF (getln inp acc).2.2 else [l]) ∧
    ((getln inp acc).2.1 = true → (getln inp acc).2.2.length < inp.length) := by
  fun_induction getln inp acc with
  | case1 acc => exact ⟨[], by simp [splitOn]⟩
  | case2 r acc => exact ⟨[], by simp [splitOn]⟩
  | case3 c r acc hc ih =>
    obtain ⟨l, h1, h2, h3⟩ := ih
    refine ⟨c :: l, by simp [h1], ?_, fun hm => Nat.lt_succ_of_lt (h3 hm)⟩
    rw [splitOn, if_neg hc, h2]
    cases (getln r (c :: acc)).2.1 <;> rfl

/-- the declarative parser as a recursion over the list of lines -/
def parseLines : List Bytes → Option (List Asg)
  | [] => none
  | l :: rest =>
    if l.head? == some DOT then some [] else
    match specLine l with
    | none => none
    | some a => (parseLines rest).map (a :: ·)

theorem parseLines_forall (P : Asg → Prop) (hP : ∀ l a, specLine l = some a → P a) :
    ∀ (ls : List Bytes) (t : List Asg), parseLines ls = some t → ∀ a ∈ t, P a
  | [], _, h => by cases h
  | l :: rest, t, h => by
    simp only [parseLines] at h
    split at h
    · cases h; nofun
    · split at h
      · cases h
      · next a hs =>
        obtain ⟨t', hr, rfl⟩ := Option.map_eq_some_iff.mp h
        exact List.forall_mem_cons.mpr ⟨hP l a hs, parseLines_forall P hP rest t' hr⟩

theorem specParse_eq_parseLines_aux : ∀ lines : List Bytes,
    (if (lines.takeWhile (fun l => l.head? != some DOT)).length = lines.length then none
     else allSome ((lines.takeWhile (fun l => l.head? != some DOT)).map specLine)) = parseLines lines
  | [] => by simp [parseLines]
  | l :: rest => by
    have ih := specParse_eq_parseLines_aux rest
    by_cases hd : (l.head? == some DOT) = true
    · have : (l.head? != some DOT) = false := by simp [bne, hd]
      simp [parseLines, hd, List.takeWhile_cons, this, allSome]
    · have hd' : (l.head? == some DOT) = false := by simpa using hd
      have : (l.head? != some DOT) = true := by simp [bne, hd']
      simp only [parseLines, hd', List.takeWhile_cons, this, if_true, List.length_cons, List.map_cons,
        Nat.add_right_cancel_iff, Bool.false_eq_true, if_false]
      rw [← ih]
      cases hs : specLine l with
      | none => simp [allSome]
      | some a =>
        simp only [allSome]
        split <;> simp

theorem specParse_eq_parseLines (assign : Bytes) : specParse assign = parseLines (splitOn LF assign) := by
  unfold specParse
  exact specParse_eq_parseLines_aux _

theorem newuLoop_eq_parseLines : ∀ (fuel : Nat) (inp : Bytes) (acc : List Asg), inp.length < fuel →
    newuLoop fuel inp acc = (parseLines (splitOn LF inp)).map (acc.reverse ++ ·)
  | 0, _, _, h => by omega
  | fuel + 1, inp, acc, h => by
    obtain ⟨l, h1, h2, h3⟩ := getln_spec inp []
    simp only [List.reverse_nil, List.nil_append] at h1
    simp only [newuLoop]
    generalize hg : getln inp [] = g at h1 h2 h3
    obtain ⟨line, m, rest⟩ := g
    simp only at h1 h2 h3 ⊢
    subst h1
    rw [h2]
    by_cases hd : (line.head? == some DOT) = true
    · cases m <;> simp [parseLines, hd]
    · have hd' : (line.head? == some DOT) = false := by simpa using hd
      cases m with
      | false =>
        simp only [hd', Bool.false_eq_true, if_false, Bool.not_false, if_true, parseLines]
        cases specLine line <;> simp
      | true =>
        simp only [hd', Bool.false_eq_true, if_false, Bool.not_true, if_true, parseLines, newuLine_eq_specLine]
        cases hs : specLine line with
        | none => simp
        | some a =>
          simp only []
          rw [newuLoop_eq_parseLines fuel rest (a :: acc) (by have := h3 rfl; omega)]
          cases parseLines (splitOn LF rest) <;> simp

theorem newuParse_eq_specParse (assign : Bytes) : newuParse assign = specParse assign := by
  unfold newuParse
  rw [newuLoop_eq_parseLines _ _ _ (Nat.lt_succ_self _), specParse_eq_parseLines]
  cases parseLines (splitOn LF assign) <;> simp

/-! tables produced by qmail-newu's parser have NUL-free names -/

theorem nul_not_mem_lower (l : Bytes) (h : NUL ∉ l) : NUL ∉ lower l := by
  intro hm
  obtain ⟨c, hc, h0⟩ := List.mem_map.mp hm
  -- NUL is no letter: only NUL lower-cases to it
  rw [(caseless_of (c := NUL) (by decide) c).1 h0] at hc
  exact h hc

theorem specLine_name (line : Bytes) (a : Asg) (h : specLine line = some a) : NUL ∉ a.name := by
  obtain ⟨hnul, f0, _, _, _, _, _, _, _, _, hs, rfl⟩ := specLine_some h
  -- the name is a lower-cased piece of the first field of a line without NUL
  refine nul_not_mem_lower _ fun hm => hnul ?_
  exact splitOn_mem COLON line f0 (by rw [hs]; simp) NUL (List.mem_of_mem_drop hm)

theorem newuParse_names (assign : Bytes) (tbl : List Asg) (h : newuParse assign = some tbl) :
    ∀ a ∈ tbl, NUL ∉ a.name := by
  rw [newuParse_eq_specParse, specParse_eq_parseLines] at h
  exact parseLines_forall _ specLine_name _ _ h

end Nq.Lemmas.Users
