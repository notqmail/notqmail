/- Lemmas about the delivery child of qmail-lspawn (`spawnChild`): the trace predicates of the spec. -/
import Nq.Users
import Nq.Spec.Users

namespace Nq.Lemmas.Users
open Nq Nq.Users Nq.Spec.Users Nq.Gen.Lspawn

theorem specArgv_eq (env : Env) (id : Ident) (loc dom sender : Bytes) :
    specArgv env id loc dom sender = argvOf env id loc dom sender := rfl

/-- events none of which is a top-level execv of qmail-local -/
def Quiet (l : List Ev) : Prop := ∀ e ∈ l, isExecLocal e = false

theorem guardedAny_quiet (l : List Ev) : ∀ (pre rest : List Ev), Quiet l →
    guardedAny pre (l ++ rest) = guardedAny (l.reverse ++ pre) rest := by
  induction l with
  | nil => intro pre rest _; simp
  | cons e l ih =>
    intro pre rest h
    have he : isExecLocal e = false := h e (by simp)
    have hl : Quiet l := fun x hx => h x (by simp [hx])
    simp only [List.cons_append, guardedAny, he, Bool.false_eq_true, if_false, Bool.true_and]
    rw [ih (e :: pre) rest hl]
    simp

theorem traceOk_quiet (env : Env) (id : Ident) (loc dom sender : Bytes) (l : List Ev) :
    ∀ (pre rest : List Ev), Quiet l →
    traceOk env id loc dom sender pre (l ++ rest) = traceOk env id loc dom sender (l.reverse ++ pre) rest := by
  induction l with
  | nil => intro pre rest _; simp
  | cons e l ih =>
    intro pre rest h
    have he : isExecLocal e = false := h e (by simp)
    have hl : Quiet l := fun x hx => h x (by simp [hx])
    cases e with
    | execv p a =>
      have hp : (p == localPath) = false := by simpa [isExecLocal] using he
      rw [List.cons_append, traceOk, ih _ rest hl]; simp [hp, execOk]
    | _ => rw [List.cons_append, traceOk, ih _ rest hl]; simp [execOk]

theorem guardedAny_of_quiet (l pre : List Ev) (h : Quiet l) : guardedAny pre l = true := by
  have := guardedAny_quiet l pre [] h
  simpa [guardedAny] using this

theorem traceOk_of_quiet (env : Env) (id : Ident) (loc dom sender : Bytes) (l pre : List Ev) (h : Quiet l) :
    traceOk env id loc dom sender pre l = true := by
  have := traceOk_quiet env id loc dom sender l pre [] h
  simpa [traceOk] using this

theorem noExec_of_quiet (l : List Ev) (h : Quiet l) : noExec l = true := by
  unfold noExec
  simp only [Bool.not_eq_true', List.any_eq_false]
  intro e he; simp [h e he]

theorem quiet_nil : Quiet [] := nofun

theorem quiet_cons {e : Ev} {l : List Ev} (he : isExecLocal e = false) (h : Quiet l) : Quiet (e :: l) := by
  intro x hx
  rcases List.mem_cons.mp hx with rfl | hx
  · exact he
  · exact h x hx

theorem quiet_append {a b : List Ev} (ha : Quiet a) (hb : Quiet b) : Quiet (a ++ b) := by
  intro x hx
  rcases List.mem_append.mp hx with hx | hx
  · exact ha x hx
  · exact hb x hx

theorem quiet_fds : Quiet [Ev.fdmove 0, Ev.fdmove 1, Ev.fdcopy 2] :=
  quiet_cons rfl (quiet_cons rfl (quiet_cons rfl quiet_nil))

theorem quiet_gpw (env : Env) (loc : Bytes) : Quiet (gpwEvents env loc) :=
  quiet_cons rfl (quiet_cons rfl (quiet_cons rfl (quiet_cons rfl quiet_nil)))

theorem getpwChild_none (env : Env) (loc : Bytes) :
    getpwChild env .none loc = (gpwEvents env loc, getpwMain env.pw loc) := by
  simp [getpwChild, gpwEvents, getpwPath]

/-- a failing call leaves the qmail-getpw child as it is, or stops it there (before any execv of qmail-local) with one
    of two exit codes -/
theorem getpwChild_fault (env : Env) (flt : Fault) (loc : Bytes) :
    getpwChild env flt loc = getpwChild env .none loc ∨
    ∃ evs c, getpwChild env flt loc = (evs, .exit c) ∧ Quiet evs ∧ (c = QLX_USAGE ∨ c = QLX_EXECPW) := by
  rw [getpwChild_none]
  fun_cases getpwChild env flt loc
  case case1 => exact Or.inr ⟨_, _, rfl, quiet_cons rfl quiet_nil, Or.inl rfl⟩
  case case2 => exact Or.inr ⟨_, _, rfl, quiet_cons rfl (quiet_cons rfl quiet_nil), Or.inl rfl⟩
  case case3 => exact Or.inr ⟨_, _, rfl, quiet_cons rfl (quiet_cons rfl (quiet_cons rfl quiet_nil)), Or.inl rfl⟩
  case case4 => exact Or.inr ⟨_, _, rfl, quiet_gpw env loc, Or.inr rfl⟩
  case case5 => exact Or.inl rfl

theorem getpwChild_quiet (env : Env) (flt : Fault) (loc : Bytes) : Quiet (getpwChild env flt loc).1 := by
  rcases getpwChild_fault env flt loc with h | ⟨_, _, h, hq, _⟩ <;> rw [h]
  · rw [getpwChild_none]; exact quiet_gpw env loc
  · exact hq

theorem nughdeGet_quiet (env : Env) (flt : Fault) (loc : Bytes) : Quiet (nughdeGet env flt loc).1 := by
  have hq := getpwChild_quiet env flt loc
  fun_cases nughdeGet env flt loc
  case case1 | case2 | case3 | case4 => exact quiet_nil
  case case5 h | case6 h => rw [h] at hq; exact hq

theorem dropAndExec_shape (env : Env) (flt : Fault) (id : Ident) (loc dom sender : Bytes) :
    (Quiet (dropAndExec env flt id loc dom sender).1 ∧
      ((dropAndExec env flt id loc dom sender).2 = .exit QLX_USAGE ∨
       (id.uid = 0 ∧ (dropAndExec env flt id loc dom sender).2 = .exit QLX_ROOT))) ∨
    (id.uid ≠ 0 ∧
      (dropAndExec env flt id loc dom sender).1 =
        [.setgroups 1 id.gid true, .setgid id.gid true, .setuid id.uid true, .getuid id.uid,
         .execv localPath (argvOf env id loc dom sender)] ∧
      ((dropAndExec env flt id loc dom sender).2 = .exec ∨ (dropAndExec env flt id loc dom sender).2 = .exit QLX_EXECSOFT ∨
       ((dropAndExec env flt id loc dom sender).2 = .exit QLX_EXECHARD ∧ flt = .execHard))) := by
  fun_cases dropAndExec env flt id loc dom sender
  case case1 => exact Or.inl ⟨quiet_cons rfl quiet_nil, Or.inl rfl⟩
  case case2 => exact Or.inl ⟨quiet_cons rfl (quiet_cons rfl quiet_nil), Or.inl rfl⟩
  case case3 => exact Or.inl ⟨quiet_cons rfl (quiet_cons rfl (quiet_cons rfl quiet_nil)), Or.inl rfl⟩
  case case4 hu =>
    exact Or.inl ⟨quiet_cons rfl (quiet_cons rfl (quiet_cons rfl (quiet_cons rfl quiet_nil))), Or.inr ⟨hu, rfl⟩⟩
  case case5 => exact Or.inr ⟨‹_›, rfl, Or.inr (Or.inr ⟨rfl, ‹_›⟩)⟩
  case case6 => exact Or.inr ⟨‹_›, rfl, Or.inr (Or.inl rfl)⟩
  case case7 => exact Or.inr ⟨‹_›, rfl, Or.inl rfl⟩

theorem dropAndExec_guarded (env : Env) (flt : Fault) (id : Ident) (loc dom sender : Bytes) (pre : List Ev) :
    guardedAny pre (dropAndExec env flt id loc dom sender).1 = true := by
  rcases dropAndExec_shape env flt id loc dom sender with ⟨hq, _⟩ | ⟨hu, he, _⟩
  · exact guardedAny_of_quiet _ _ hq
  · rw [he]; simp [guardedAny, isExecLocal, hu]

theorem dropAndExec_traceOk (env : Env) (flt : Fault) (id : Ident) (loc dom sender : Bytes) (pre : List Ev) :
    traceOk env id loc dom sender pre (dropAndExec env flt id loc dom sender).1 = true := by
  rcases dropAndExec_shape env flt id loc dom sender with ⟨hq, _⟩ | ⟨hu, he, _⟩
  · exact traceOk_of_quiet _ _ _ _ _ _ _ hq
  · rw [he]; simp [traceOk, execOk, execGuarded, hu, specArgv_eq]

theorem dropAndExec_root (env : Env) (flt : Fault) (id : Ident) (loc dom sender : Bytes) (hu : id.uid = 0) :
    Quiet (dropAndExec env flt id loc dom sender).1 ∧ (dropAndExec env flt id loc dom sender).2 ≠ .exec ∧
    (flt = .none → (dropAndExec env flt id loc dom sender).2 = .exit QLX_ROOT) := by
  rcases dropAndExec_shape env flt id loc dom sender with ⟨hq, hx⟩ | ⟨hu', _⟩
  · refine ⟨hq, ?_, ?_⟩
    · rcases hx with hx | ⟨_, hx⟩ <;> rw [hx] <;> nofun
    · rintro rfl; simp [dropAndExec, hu]
  · exact absurd hu hu'

theorem dropAndExec_run (env : Env) (id : Ident) (loc dom sender : Bytes) (hu : id.uid ≠ 0) :
    dropAndExec env .none id loc dom sender =
      ([.setgroups 1 id.gid true, .setgid id.gid true, .setuid id.uid true, .getuid id.uid,
        .execv localPath (argvOf env id loc dom sender)], .exec) := by
  simp [dropAndExec, hu]

end Nq.Lemmas.Users
