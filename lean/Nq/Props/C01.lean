/-
  C01 — Queue acceptance is all-or-nothing and durable.

  Model: `Nq.QueueInject` — the acceptor of qmail-queue's system-call traces, the abstract file
  system of one queue entry and the crash relation.  Tie: every trace of the real qmail-queue
  recorded under qsim (inputs × read chunkings × lists of up to 4 failing calls, SIGALRM/SIGBUS,
  failing allocations and `chdir`s; notes/C01.md) is replayed through `accept` by `drv_c01`;
  constants `ADDR`, `DEATH`, `OSSIFIED` are regenerated from the sources.

  The theorems quantify over **every accepted trace** — i.e. every message, envelope, chunking of
  reads and writes, short write, EINTR, failing call and caught signal — and, because every prefix
  of an accepted trace is accepted (`C01_prefix_closed`), over **every instant** at which the
  process or the machine may stop; `CrashOf` lets every file that was not fsynced since its last
  change come back with arbitrary content.

  Which theorems are what (see notes/C01.md):
  * inductive consequences of the invariants `QInv` / `CodeInv` over all accepted traces:
    `C01_atomic`, `C01_success`, `C01_failure`, `C01_killed`, `C01_leftovers`, `C01_refusal`,
    `C01_refusal_only`;
  * facts about the scanner function alone: `C01_envelope_*`, `C01_addr_limit`;
  * restatements of guards of the acceptor (they say what `accept` admits; it is the replay of the
    real program's traces that ties them to the code): `C01_timer`, `C01_handler_no_cleanup`.
-/
import Nq.Lemmas.QueueInv

namespace Nq.Props.C01
open Nq Nq.QueueInject Nq.Lemmas.QI

/-- the trace is a run of qmail-queue from its start, ending in acceptor state `s`; the queue entry it produced is
    `applyAll {} evs` -/
def Run (p : Params) (evs : List Ev) (s : St) : Prop := acceptAll p {} evs = some s

theorem Run.inv {p : Params} {evs : List Ev} {s : St} (h : Run p evs s) : QInv p s (applyAll {} evs) :=
  run_inv p evs {} s {} (inv_init p) h

/-- Crash points are covered: each prefix of a run is a run. -/
theorem C01_prefix_closed (p : Params) (evs : List Ev) (s : St) (k : Nat) (h : Run p evs s) :
    ∃ s', Run p (evs.take k) s' := by
  simp only [Run, acceptAll_eq] at h ⊢
  exact Acceptor.foldlM_take h k

/-- **All-or-nothing, at every instant, under every crash.** If after a crash the entry is visible
to the daemon (`todo/<n>` exists) then the message file exists and holds exactly the Received line
followed by the bytes supplied, the envelope supplied was well-formed, and `todo/<n>` holds exactly
the uid/pid header followed by the sender and every recipient in order. -/
theorem C01_atomic (p : Params) (evs : List Ev) (s : St) (h : Run p evs s) (fs' : FS)
    (hc : CrashOf (applyAll {} evs) fs') (ht : fs'.todoName = true) :
    fs'.messName = true ∧ fs'.messF.cur = p.received ++ p.msg ∧
    (scan p.env).1 = .done ∧ fs'.intdF.cur = p.hdr ++ (scan p.env).2 := by
  have hinv := h.inv
  obtain ⟨c1, c2, c3, c4, c5, c6⟩ := hc
  have hq := inv_todo p s _ hinv (by rw [← c4]; exact ht)
  obtain ⟨⟨_, n2, _, _⟩, hm, he1, he2⟩ := hq
  have hfull := scan_take p.env s.envRead (Or.inl he1)
  refine ⟨by rw [c2]; exact n2, ?_, by rw [hfull]; exact he1, ?_⟩
  · rw [c5 (by rw [hm])]; rw [hm]
  · rw [c6 (by rw [he2]), he2, hfull]

/-- **Success is durable and visible**: when qmail-queue exits 0 the entry is visible and complete,
and stays so across any crash. -/
theorem C01_success (p : Params) (evs : List Ev) (s : St) (h : Run p evs s) (hx : s.pc = .exited 0)
    (fs' : FS) (hc : CrashOf (applyAll {} evs) fs') :
    fs'.todoName = true ∧ fs'.messName = true ∧ fs'.messF.cur = p.received ++ p.msg ∧
    (scan p.env).1 = .done ∧ fs'.intdF.cur = p.hdr ++ (scan p.env).2 := by
  have hinv := h.inv
  have hq : Queued p s (applyAll {} evs) := by simpa [QInv, hx] using hinv
  have ht : fs'.todoName = true := by rw [hc.todoName]; exact hq.1.2.2.2
  exact ⟨ht, C01_atomic p evs s h fs' hc ht⟩

/-- **Failure queues nothing**: whenever qmail-queue exits with a non-zero code other than the two
signal-handler codes - i.e. with 11, 51, 53, 54, 61-66, 91 - the entry is not visible, nor does any
crash make it visible.  (Not every non-zero exit: `sigalrm`/`sigbug` do not - and must not - clean
up, so a signal between `link(intd,todo)` and `_exit` gives exit 52/81 with the entry queued; see
`C01_killed`.  The property allows this: on failure the message is fully queued or invisible.) -/
theorem C01_failure (p : Params) (evs : List Ev) (s : St) (h : Run p evs s) (c : Nat) (hx : s.pc = .exited c)
    (hc0 : c ≠ 0) (h52 : c ≠ 52) (h81 : c ≠ 81) (fs' : FS) (hc : CrashOf (applyAll {} evs) fs') :
    fs'.todoName = false := by
  have hinv := h.inv
  have hl : Leftover (applyAll {} evs) := by simpa [QInv, hx, hc0, h52, h81] using hinv
  rw [hc.todoName]; exact hl.1

/-- **Killed by the timer (exit 52) or by a bug signal (exit 81)**: the handlers do not clean up.
After such an exit, and after any crash, the entry is visible only if `link(intd/<n>,todo/<n>)`
succeeded somewhere in the run, and then it is complete and durable exactly as after a
successful run; otherwise what stays behind is a collectable leftover (`C01_leftovers`).
The two hypotheses on the exit code are not used: the conclusion (`C01_atomic` with `todo_needs_link`)
holds of every run at every instant; they name the case `C01_failure` leaves open. -/
theorem C01_killed (p : Params) (evs : List Ev) (s : St) (h : Run p evs s) (c : Nat) (_hx : s.pc = .exited c)
    (_hc : c = 52 ∨ c = 81) (fs' : FS) (hcr : CrashOf (applyAll {} evs) fs') :
    (fs'.todoName = true →
      Ev.linkTodo true ∈ evs ∧ fs'.messName = true ∧ fs'.messF.cur = p.received ++ p.msg ∧
      (scan p.env).1 = .done ∧ fs'.intdF.cur = p.hdr ++ (scan p.env).2) ∧
    (Ev.linkTodo true ∉ evs → fs'.todoName = false) := by
  have hlink : fs'.todoName = true → Ev.linkTodo true ∈ evs := by
    intro ht
    rw [hcr.todoName] at ht
    rcases todo_needs_link evs {} ht with h0 | h1
    · simp at h0
    · exact h1
  refine ⟨fun ht => ⟨hlink ht, C01_atomic p evs s h fs' hcr ht⟩, fun hn => ?_⟩
  cases ht : fs'.todoName with
  | false => rfl
  | true => exact absurd (hlink ht) hn

/-- (guard of the acceptor, tied to the code by trace replay) **The signal handlers do nothing but
exit**: in a run, whatever follows the delivery of a caught signal is at most the `_exit` with the
handler's code - no `ftruncate`, no `unlink` ("thou shalt not clean up here": after the link,
`intd/<n>` and `todo/<n>` are one inode, so a cleanup would empty a published entry). -/
theorem C01_handler_no_cleanup (p : Params) (pre post : List Ev) (g : Sig) (s : St)
    (h : Run p (pre ++ .signal g :: post) s) : post = [] ∨ post = [.exit (sigCode g)] := by
  rw [Run, acceptAll_eq] at h
  obtain ⟨s1, _, h2⟩ := Acceptor.foldlM_append.1 h
  obtain ⟨s2, hs, h2⟩ := Acceptor.foldlM_cons.1 h2
  have hpc : s2.pc = .handler (sigCode g) := by cases accept_step p s1 s2 _ hs; rfl
  cases post with
  | nil => exact .inl rfl
  | cons e rest =>
    obtain ⟨s3, he, h3⟩ := Acceptor.foldlM_cons.1 h2
    obtain ⟨rfl, hx⟩ := step_of_handler (accept_step p s2 s3 e he) hpc
    rw [run_exited p s3 s _ hx rest h3]
    exact .inr rfl

/-- **Leftovers are collectable**: at every instant the set of files of the entry is one of
nothing, the pid file, pid+mess, mess, mess+intd (all removed by qmail-clean/qmail-send after 36
hours, C02) or the complete entry mess+intd+todo. -/
theorem C01_leftovers (p : Params) (evs : List Ev) (s : St) (h : Run p evs s) (fs' : FS)
    (hc : CrashOf (applyAll {} evs) fs') :
    (fs'.todoName = true → fs'.intdName = true ∧ fs'.messName = true ∧ fs'.pidName = false) ∧
    (fs'.intdName = true → fs'.messName = true) ∧ (fs'.pidName = true → fs'.intdName = false) := by
  have := inv_names p s _ h.inv
  obtain ⟨c1, c2, c3, c4, _, _⟩ := hc
  rw [c1, c2, c3, c4]; exact this

/-- **Malformed, over-long and truncated envelopes are refused with the documented codes and queue
nothing**: in a run in which no call fails (`Faulty`: EINTR, short writes, any chunking of reads
and writes and a failing trigger pull are all allowed) the exit code is determined by the envelope
stream supplied: 0 if it is well-formed, 91 if a record letter is wrong, 11 if an address reaches
1003 bytes, 54 if the stream ends before the terminator (`C01_envelope_*` characterise the four
verdicts).  And whenever the envelope is not well-formed the code is non-zero and the entry is not
visible, nor does any crash make it visible.  (The converse is `C01_refusal_only`.) -/
theorem C01_refusal (p : Params) (evs : List Ev) (s : St) (h : Run p evs s) (hf : ∀ e ∈ evs, Faulty e = false)
    (c : Nat) (hx : s.pc = .exited c) :
    c = docCode (scan p.env).1 ∧
    ((scan p.env).1 ≠ .done → (c = 91 ∨ c = 11 ∨ c = 54) ∧
       ∀ fs', CrashOf (applyAll {} evs) fs' → fs'.todoName = false) := by
  have hfw := run_code p False evs {} s trivial (fun e he h => by rw [hf e he] at h; cases h) h
  simp only [CodeInv, hx] at hfw
  have hc : c = docCode (scan p.env).1 := hfw.resolve_right (·.1)
  refine ⟨hc, fun hnd => ?_⟩
  have hcodes : c = 91 ∨ c = 11 ∨ c = 54 := by
    rw [hc]; cases hs : (scan p.env).1 <;> simp_all [docCode]
  exact ⟨hcodes, fun fs' hcr => C01_failure p evs s h c hx (by omega) (by omega) (by omega) fs' hcr⟩

/-- the converse, for every run whatever fails in it: exit 91 only if the envelope has a wrong record
letter, exit 11 only if an address reaches `ADDR` = 1003 bytes; neither exit path runs `cleanup`, so
by `C01_leftovers` what stays behind is mess+intd, which the daemon collects. -/
theorem C01_refusal_only (p : Params) (evs : List Ev) (s : St) (h : Run p evs s) :
    (s.pc = .exited 91 → (scan p.env).1 = .bad) ∧ (s.pc = .exited 11 → (scan p.env).1 = .long) := by
  have hc := run_code p True evs {} s trivial (fun _ _ _ => trivial) h
  constructor <;> intro hx <;> simp only [CodeInv, hx] at hc <;> rcases hc with hc | hc
  · cases hv : (scan p.env).1 <;> simp [hv, docCode] at hc ⊢
  · exact absurd rfl hc.2.1
  · cases hv : (scan p.env).1 <;> simp [hv, docCode] at hc ⊢
  · exact absurd rfl hc.2.2

/-- **Truncated = the stream ends first**: the scanner ends in none of its three verdicts iff it had
reached none of them on any prefix of the stream (so exit 54 of `C01_refusal` is exactly "the writer
stopped before the terminator, and nothing before that point was wrong"). -/
theorem C01_envelope_truncated (env : Bytes) :
    ((scan env).1 ≠ .done ∧ (scan env).1 ≠ .bad ∧ (scan env).1 ≠ .long) ↔
    ∀ k, (scan (env.take k)).1 ≠ .done ∧ (scan (env.take k)).1 ≠ .bad ∧ (scan (env.take k)).1 ≠ .long := by
  constructor
  · intro hn k
    refine ⟨fun hk => ?_, fun hk => ?_, fun hk => ?_⟩
    · exact hn.1 (by rw [scan_take env k (Or.inl hk)]; exact hk)
    · exact hn.2.1 (by rw [scan_take env k (Or.inr (Or.inl hk))]; exact hk)
    · exact hn.2.2 (by rw [scan_take env k (Or.inr (Or.inr hk))]; exact hk)
  · intro hk
    have := hk env.length
    rwa [List.take_length] at this

/-- **Envelope format, completeness**: every envelope `F sender NUL (T rcpt NUL)* NUL` whose
addresses are NUL-free and at most 1002 bytes long is accepted; what is stored is exactly the
sender and the recipients in order; bytes after the terminator are ignored. -/
theorem C01_envelope_complete (sender : Bytes) (rs : List Bytes) (rest : Bytes)
    (hs : AddrOk Gen.ADDR sender) (hr : ∀ r ∈ rs, AddrOk Gen.ADDR r) :
    scan (70 :: sender ++ 0 :: (encRcpts rs ++ 0 :: rest)) = (.done, 70 :: sender ++ 0 :: encRcpts rs) :=
  scan_complete Gen.ADDR sender rs rest hs hr

/-- **Envelope format, soundness**: only such envelopes are accepted. -/
theorem C01_envelope_sound (env out : Bytes) (h : scan env = (.done, out)) :
    ∃ sender rs rest, env = 70 :: sender ++ 0 :: (encRcpts rs ++ 0 :: rest) ∧ out = 70 :: sender ++ 0 :: encRcpts rs ∧
      AddrOk Gen.ADDR sender ∧ ∀ r ∈ rs, AddrOk Gen.ADDR r := by
  have := scan_sound_from Gen.ADDR (by decide) env .expectF out h
  simpa using this

/-- a sender address of 1003 non-NUL bytes is refused (exit 11), whatever follows -/
theorem C01_envelope_long (a rest : Bytes) (h0 : (0 : Byte) ∉ a) (hl : a.length = Gen.ADDR) :
    (scan (70 :: a ++ rest)).1 = .long := by
  simp only [scan, List.cons_append, scanFrom, sstep, if_true]
  exact scanFrom_long Gen.ADDR a rest 0 h0 (by simpa using hl) (by decide)

/-- the address limit in the source is the documented one (1002 bytes accepted, 1003 refused) -/
theorem C01_addr_limit : Gen.ADDR = ADDR_DOC := by decide

/-- (guard of the acceptor at `start`, tied to the code by trace replay; the constants are
regenerated from the three source files on every run) **The self-destruct timer**: every run
begins with `alarm(DEATH)` - or consists of nothing but an exit 61/62/51 (a `chdir` or the first
allocation failed: nothing was created) - so the timer is armed before any file exists; and
`DEATH` (24 h) is below the age (`OSSIFIED`, 36 h) at which qmail-send and qmail-clean start
collecting leftovers.  What the timer does when it fires is `C01_killed`. -/
theorem C01_timer (p : Params) (e : Ev) (evs : List Ev) (s : St) (h : Run p (e :: evs) s) :
    (e = .alarm Gen.DEATH ∨ ((e = .exit 61 ∨ e = .exit 62 ∨ e = .exit 51) ∧ evs = [])) ∧
    Gen.DEATH < Gen.OSSIFIED_send ∧ Gen.OSSIFIED_send = Gen.OSSIFIED_clean := by
  refine ⟨?_, by decide, by decide⟩
  rw [Run, acceptAll_eq] at h
  obtain ⟨s1, h1, h2⟩ := Acceptor.foldlM_cons.1 h
  rcases step_of_start (accept_step p {} s1 e h1) rfl with rfl | ⟨c, hc, rfl, hx⟩
  · exact .inl rfl
  · exact .inr ⟨by rcases hc with rfl | rfl | rfl <;> simp, run_exited p s1 s c hx evs h2⟩

/-! ### Non-vacuity -/

/-- a complete run for message "hi\n", envelope F a NUL T b NUL NUL (pid file taken at the first
attempt, writes in two pieces, one EINTR) -/
example : (acceptAll { msg := [104, 105, 10], env := [70, 97, 0, 84, 98, 0, 0], received := [82, 58, 10], hdr := [117, 49, 0, 112, 50, 0] } {}
    [.alarm Gen.DEATH, .openPid 1 false, .openPid 2 true, .fstatPid true, .linkMess true, .unlinkPid true,
     .read 0 3, .write .mess [82, 58], .writeErr .mess true, .read 0 0, .write .mess [10, 104, 105, 10], .fsync .mess true,
     .openIntd true, .read 1 7, .write .intd [117, 49, 0, 112, 50, 0, 70, 97, 0, 84, 98, 0], .fsync .intd true,
     .linkTodo true, .trigOpen true, .trigWrite, .trigClose, .exit 0]).map (·.pc) = some (.exited 0) := by
  decide

/-- a run that fails with a write error while copying the envelope and cleans up -/
example : (acceptAll { msg := [104], env := [70, 0, 0], received := [82], hdr := [117] } {}
    [.alarm Gen.DEATH, .openPid 1 true, .fstatPid true, .linkMess true, .unlinkPid true,
     .read 0 1, .read 0 0, .write .mess [82, 104], .fsync .mess true, .openIntd true, .read 1 3,
     .writeErr .intd false, .ftrunc .intd true, .unlinkF .intd true, .ftrunc .mess true, .unlinkF .mess true, .exit 53]).map (·.pc)
    = some (.exited 53) := by
  decide

/-- dropping the fsync of the envelope is not a run of this program -/
example : acceptAll { msg := [], env := [70, 0, 0], received := [82], hdr := [117] } {}
    [.alarm Gen.DEATH, .openPid 1 true, .fstatPid true, .linkMess true, .unlinkPid true,
     .read 0 0, .write .mess [82], .fsync .mess true, .openIntd true, .read 1 3, .write .intd [117, 70, 0],
     .linkTodo true] = none := by
  decide

/-- a truncated envelope (EOF inside the sender) and, inside `cleanup()`, a failing
`unlink(intd/<n>)`: the program stops cleaning there (exit 54) and what is left is mess+intd -/
example : (acceptAll { msg := [104], env := [70, 97], received := [82], hdr := [117] } {}
    [.alarm Gen.DEATH, .openPid 1 true, .fstatPid true, .linkMess true, .unlinkPid true,
     .read 0 1, .read 0 0, .write .mess [82, 104], .fsync .mess true, .openIntd true, .read 1 2, .read 1 0,
     .ftrunc .intd true, .unlinkF .intd false, .exit 54]).map (·.pc) = some (.exited 54) := by
  decide

example : let fs := applyAll {} ([.alarm Gen.DEATH, .openPid 1 true, .fstatPid true, .linkMess true, .unlinkPid true,
     .read 0 1, .read 0 0, .write .mess [82, 104], .fsync .mess true, .openIntd true, .read 1 2, .read 1 0,
     .ftrunc .intd true, .unlinkF .intd false, .exit 54] : List Ev)
    (fs.pidName, fs.messName, fs.intdName, fs.todoName) = (false, true, true, false) := by
  decide

/-- going on to truncate and remove mess/<n> after `unlink(intd/<n>)` failed is not a run of this
program (it would leave intd without mess, which nothing collects) -/
example : acceptAll { msg := [104], env := [70, 97], received := [82], hdr := [117] } {}
    [.alarm Gen.DEATH, .openPid 1 true, .fstatPid true, .linkMess true, .unlinkPid true,
     .read 0 1, .read 0 0, .write .mess [82, 104], .fsync .mess true, .openIntd true, .read 1 2, .read 1 0,
     .ftrunc .intd true, .unlinkF .intd false, .ftrunc .mess true] = none := by
  decide

/-- two failures in one run: the envelope file cannot be written, then `unlink(intd/<n>)` fails -/
example : (acceptAll { msg := [104], env := [70, 0, 0], received := [82], hdr := [117] } {}
    [.alarm Gen.DEATH, .openPid 1 true, .fstatPid true, .linkMess true, .unlinkPid true,
     .read 0 1, .read 0 0, .write .mess [82, 104], .fsync .mess true, .openIntd true, .read 1 3,
     .writeErr .intd false, .ftrunc .intd false, .unlinkF .intd false, .exit 53]).map (·.pc) = some (.exited 53) := by
  decide

/-- the hypothesis of `C01_refusal` holds of the complete run above (a refused pid file name, a
write in two pieces and an EINTR are not `Faulty`) -/
example : ([.alarm Gen.DEATH, .openPid 1 false, .openPid 2 true, .fstatPid true, .linkMess true, .unlinkPid true,
     .read 0 3, .write .mess [82, 58], .writeErr .mess true, .read 0 0, .write .mess [10, 104, 105, 10], .fsync .mess true,
     .openIntd true, .read 1 7, .write .intd [117, 49, 0, 112, 50, 0, 70, 97, 0, 84, 98, 0], .fsync .intd true,
     .linkTodo true, .trigOpen true, .trigWrite, .trigClose, .exit 0] : List Ev).all (fun e => !Faulty e) = true := by
  decide

/-- a wrong record letter (X instead of T): exit 91 without cleanup, no failing call -/
example : (acceptAll { msg := [104], env := [70, 97, 0, 88, 98, 0, 0], received := [82], hdr := [117] } {}
    [.alarm Gen.DEATH, .openPid 1 true, .fstatPid true, .linkMess true, .unlinkPid true,
     .read 0 1, .read 0 0, .write .mess [82, 104], .fsync .mess true, .openIntd true, .read 1 7, .exit 91]).map (·.pc)
    = some (.exited 91) := by
  decide

example : docCode (scan [70, 97, 0, 88, 98, 0, 0]).1 = 91 ∧ docCode (scan [70, 97]).1 = 54 ∧
    docCode (scan [70, 97, 0, 0]).1 = 0 := by decide

/-- SIGALRM between `link(intd,todo)` and `_exit`: exit 52 although the (complete) entry is queued -/
example : (acceptAll { msg := [], env := [70, 0, 0], received := [82], hdr := [117] } {}
    [.alarm Gen.DEATH, .openPid 1 true, .fstatPid true, .linkMess true, .unlinkPid true,
     .read 0 0, .write .mess [82], .fsync .mess true, .openIntd true, .read 1 3, .write .intd [117, 70, 0],
     .fsync .intd true, .linkTodo true, .signal .alrm, .exit 52]).map (·.pc) = some (.exited 52) := by
  decide

example : (applyAll {} ([.alarm Gen.DEATH, .openPid 1 true, .fstatPid true, .linkMess true, .unlinkPid true,
     .read 0 0, .write .mess [82], .fsync .mess true, .openIntd true, .read 1 3, .write .intd [117, 70, 0],
     .fsync .intd true, .linkTodo true, .signal .alrm, .exit 52] : List Ev)).todoName = true := by
  decide

/-- a handler that cleans up is not this program: `ftruncate(intd)` after SIGALRM is rejected -/
example : acceptAll { msg := [], env := [70, 0, 0], received := [82], hdr := [117] } {}
    [.alarm Gen.DEATH, .openPid 1 true, .fstatPid true, .linkMess true, .unlinkPid true,
     .read 0 0, .write .mess [82], .fsync .mess true, .openIntd true, .read 1 3, .write .intd [117, 70, 0],
     .fsync .intd true, .linkTodo true, .signal .alrm, .ftrunc .intd true] = none := by
  decide

/-- SIGALRM inside `cleanup()`, between `unlink(intd/<n>)` and the calls on `mess/<n>` -/
example : (acceptAll { msg := [104], env := [70, 97], received := [82], hdr := [117] } {}
    [.alarm Gen.DEATH, .openPid 1 true, .fstatPid true, .linkMess true, .unlinkPid true,
     .read 0 1, .read 0 0, .write .mess [82, 104], .fsync .mess true, .openIntd true, .read 1 2, .read 1 0,
     .ftrunc .intd true, .unlinkF .intd true, .signal .alrm, .exit 52]).map (·.pc) = some (.exited 52) := by
  decide

/-- `chdir` fails: exit 61, nothing else; an allocation fails in `fnnum()`: exit 51, the pid file stays -/
example : (acceptAll { msg := [], env := [], received := [], hdr := [] } {} [.exit 61]).map (·.pc) = some (.exited 61) := by
  decide

example : (acceptAll { msg := [], env := [], received := [], hdr := [] } {}
    [.alarm Gen.DEATH, .openPid 1 true, .fstatPid true, .exit 51]).map (·.pc) = some (.exited 51) ∧
    (applyAll {} ([.alarm Gen.DEATH, .openPid 1 true, .fstatPid true, .exit 51] : List Ev)).pidName = true := by
  decide

end Nq.Props.C01
