/-
  C02 — Every queue entry is always in a documented state under any interleaving.

  Model: `Nq.QueueSys` (any number of qmail-queue instances, qmail-send with its qmail-clean, further
  qmail-send instances, the clock, crashes; one event per system call).  Invariant and its
  preservation: `Nq/Lemmas/QueueSysInv.lean`.  Tie: `harness/c02_queuesys.c` runs the real
  qmail-queue (up to three instances), qmail-send (two instances) and qmail-clean as threads under
  qsim with a schedule decision before every queue-directory system call, faults, kills, clock jumps,
  crashes and restarts; `Drv/C02.lean` abstracts each trace to `QueueSys.Ev`, replays it through
  `QueueSys.accept`, and evaluates the predicates below on the concrete directory contents.

  "Reachable" = reached from the empty queue by any accepted event sequence: no bound on the number of
  messages, instances, steps, restarts or crashes.
-/
import Nq.QueueSys
import Nq.Lemmas.QueueSysInv

namespace Nq.Props.C02
open Nq Nq.QueueSys

def Reach (s : St) : Prop := ∃ es, acceptAll {} es = some s

theorem reach_inv {s : St} (h : Reach s) : Inv s := by
  obtain ⟨es, he⟩ := h
  exact inv_acceptAll {} s es inv_init he

theorem reach_step {s s' : St} {e : Ev} (h : Reach s) (ha : accept s e = some s') : Reach s' := by
  obtain ⟨es, he⟩ := h
  rw [acceptAll_eq] at he
  exact ⟨es ++ [e], by rw [acceptAll_eq]; exact Acceptor.foldlM_concat.2 ⟨s, he, ha⟩⟩

/-- **States.** At every instant - after any interleaving of any number of injectors with the daemon
and its cleaner, any clock behaviour, and any number of crashes and restarts at any instant - every
message number is in one of the states S1-S5 of INTERNALS.md. -/
theorem C02_states {s : St} (h : Reach s) (n : Nat) : (s.fl n).documented = true :=
  (reach_inv h).doc n

/-- **Name = inode.** If mess/n exists, it names inode n. -/
theorem C02_inode {s : St} (h : Reach s) (n : Nat) (hm : (s.fl n).mess = true) : s.messIno n = n :=
  (reach_inv h).ino n hm

/-- **Numbers are not shared (1).** When qmail-queue links its pid file to mess/m, message m is in
state S1: none of the seven files exists, so no other message has that number. -/
theorem C02_unique_link {s s' : St} (h : Reach s) (i m : Nat) (ha : accept s (.iLinkMess i m) = some s') :
    s.fl m = {} ∧ s'.messIno m = m := by
  cases accept_step ha with
  | iLinkMess _ _ _ _ _ _ hm => exact ⟨doc_nomess ((reach_inv h).doc m) hm, by simp⟩

/-- **Numbers are not shared (2).** Two running qmail-queue instances never work on the same number. -/
theorem C02_unique_owners {s : St} (h : Reach s) (i j n : Nat) (hij : i ≠ j)
    (hi : (s.inj i).num = some n) (hj : (s.inj j).num = some n)
    (ai : s.alive (s.inj i).t0 = true) (aj : s.alive (s.inj j).t0 = true) : False :=
  (reach_inv h).distinct i j n hij hi hj ai aj

/-- a running qmail-queue's number carries exactly the files its control point says (S1, S2 or S3) -/
theorem C02_owner_state {s : St} (h : Reach s) (i n : Nat) (hi : (s.inj i).num = some n)
    (ai : s.alive (s.inj i).t0 = true) : s.fl n = (s.inj i).flags :=
  ((reach_inv h).own i n hi ai).1

/-! ### documented moves only -/

/-- which file of which message an event creates (`true`) or removes (`false`) -/
def touch : Ev → Option (Nat × File × Bool)
  | .iLinkMess _ m => some (m, .mess, true)
  | .iCreatIntd _ m => some (m, .intd, true)
  | .iLinkTodo _ m => some (m, .todo, true)
  | .iUnIntd _ m => some (m, .intd, false)
  | .iUnMess _ m => some (m, .mess, false)
  | .dUnlink n f => some (n, f, false)
  | .dCreat n f => some (n, f, true)
  | .cUnlink n f _ => some (n, f, false)
  | _ => none

/-- what INTERNALS.md requires of a message before one of its files is created (`true`) or removed (`false`):
    todo/ is linked from S3 only, and removed only once info/ exists; info/ is written only while todo/ exists -/
def touchPre : File → Bool → Flags → Bool
  | .todo, true, f => f.isS3
  | .todo, false, f => f.info
  | .info, true, f => f.todo
  | _, _, _ => true

theorem step_touch {s s' : St} {e : Ev} (hi : Inv s) (hs : Step s e s') :
    match touch e with
    | none => s'.fl = s.fl
    | some (n, f, b) => s'.fl = upd s.fl n ((s.fl n).set f b) ∧ touchPre f b (s.fl n) = true := by
  have hmi := hi.mode
  cases hs with
  | iLinkTodo i n t0 hpc hal =>
    -- the instance is at the control point `s3`, so its number carries exactly mess/ and intd/
    exact ⟨rfl, by rw [touchPre, (hi.own i n (by rw [hpc]; rfl) (by rw [hpc]; exact hal)).1, hpc]; rfl⟩
  | cTodoTodo n hm => rw [ModeInv, hm] at hmi; exact ⟨rfl, hmi.2.2.2.2.1⟩
  | dCreatInfo n _ hm => rw [ModeInv, hm] at hmi; exact ⟨rfl, hmi.2.2.1⟩
  | dUnlinkTodo _ _ _ _ hf => rcases hf with rfl | rfl | rfl <;> exact ⟨rfl, rfl⟩
  | dUnlinkChan _ _ _ _ hf | dCreatChan _ _ _ _ hf => rcases hf with rfl | rfl <;> exact ⟨rfl, rfl⟩
  | iLinkMess | iCreatIntd | iUnIntd | iUnMess | dUnlinkBounce | dUnlinkInfo | dCreatBounce | cTodoIntd | cFoopIntd
  | cFoopMess => exact ⟨rfl, rfl⟩
  | _ => rfl

theorem forall_file (p : File → Prop) :
    (∀ x, p x) ↔ p .mess ∧ p .intd ∧ p .todo ∧ p .info ∧ p .loc ∧ p .rem ∧ p .bounce :=
  ⟨fun h => ⟨h _, h _, h _, h _, h _, h _, h _⟩, fun ⟨h1, h2, h3, h4, h5, h6, h7⟩ x => by cases x <;> assumption⟩

/- `move_ok` is the finite core of `C02_moves`: 2^7 flag patterns × 7 files × 2 directions, checked by evaluation.  For
   `decide` to enumerate them the flags are given as seven `Bool`s and `∀ x : File` is made decidable. -/
instance (p : File → Prop) [DecidablePred p] : Decidable (∀ x, p x) := decidable_of_iff _ (forall_file p).symm

theorem move_ok : ∀ (a b c d e g k : Bool) (x : File) (v : Bool),
    (Flags.mk a b c d e g k).documented = true → ((Flags.mk a b c d e g k).set x v).documented = true →
    touchPre x v (Flags.mk a b c d e g k) = true →
    allowedMove (Flags.mk a b c d e g k).cls ((Flags.mk a b c d e g k).set x v).cls = true := by
  decide +kernel

/-- **Documented moves only.** Every step of every actor leaves every message where it was or moves
it along an arrow of INTERNALS.md sections 3-6 (S1→S2→S3→S4→S5→S2→S1, S3→S2); in particular files
of a message disappear only in the documented order. -/
theorem C02_moves {s s' : St} {e : Ev} (h : Reach s) (ha : accept s e = some s') (n : Nat) :
    allowedMove (s.fl n).cls (s'.fl n).cls = true := by
  have hi := reach_inv h
  have hi' := reach_inv (reach_step h ha)
  have hd := hi.doc n
  have hd' := hi'.doc n
  have hst := step_touch hi (accept_step ha)
  have hstay : ∀ f : Flags, f.documented = true → allowedMove f.cls f.cls = true := by
    intro ⟨a, b, c, d, e, g, k⟩; revert a b c d e g k; decide +kernel
  cases ht : touch e with
  | none => rw [ht] at hst; rw [hst]; exact hstay _ hd
  | some t =>
    obtain ⟨m, x, v⟩ := t
    rw [ht] at hst
    obtain ⟨hfl, hpre⟩ := hst
    by_cases hn : n = m
    · subst hn
      rw [hfl, upd_same] at hd' ⊢
      rcases hf : s.fl n with ⟨a, b, c, d, e', g, k⟩
      rw [hf] at hd hd' hpre
      exact move_ok a b c d e' g k x v hd hd' hpre
    · rw [hfl, upd_other _ _ _ _ hn]; exact hstay _ hd

/-- **Order of removal (bounce record).** qmail-send removes bounce/n only when local/n and remote/n
are gone. -/
theorem C02_order_bounce {s s' : St} (h : Reach s) (n : Nat) (ha : accept s (.dUnlink n .bounce) = some s') :
    (s.fl n).loc = false ∧ (s.fl n).rem = false ∧ (s.fl n).todo = false ∧ (s.fl n).info = true := by
  have hi := reach_inv h
  cases accept_step ha with
  | dUnlinkTodo _ _ _ _ hf => rcases hf with hf | hf | hf <;> cases hf
  | dUnlinkChan _ _ _ _ hf => rcases hf with hf | hf <;> cases hf
  | dUnlinkBounce _ _ _ hk =>
    obtain ⟨rfl, hl, hr, ht, hip⟩ := hk
    obtain ⟨_, h4, h3, _⟩ := hi.kn.seen_s5 rfl (hi.doc _) ht hip
    exact ⟨hi.kn.locAbs hl, hi.kn.remAbs hr, h3, h4⟩

/-- **Order of removal (info).** Outside re-preprocessing (todo/n absent) qmail-send removes info/n only
when local/n, remote/n and bounce/n are gone. -/
theorem C02_order_info {s s' : St} (h : Reach s) (n : Nat) (ha : accept s (.dUnlink n .info) = some s')
    (hnt : (s.fl n).todo = false) :
    (s.fl n).loc = false ∧ (s.fl n).rem = false ∧ (s.fl n).bounce = false := by
  have hi := reach_inv h
  cases accept_step ha with
  | dUnlinkTodo _ _ _ hm =>
    -- todo_do removes info/n only while todo/n exists
    have hmi := hi.mode; rw [ModeInv, hm] at hmi
    obtain ⟨_, _, htodo, _⟩ := hmi
    rw [htodo] at hnt; cases hnt
  | dUnlinkChan _ _ _ _ hf => rcases hf with hf | hf <;> cases hf
  | dUnlinkInfo _ _ _ hk =>
    obtain ⟨rfl, hl, hr, _, _, hb⟩ := hk
    exact ⟨hi.kn.locAbs hl, hi.kn.remAbs hr, hi.kn.bounceAbs hb⟩

/-- **Order of removal (message body last).** After a step that removes mess/n no file of n exists; a step changes one
file (`step_touch`), so mess/n was the last.  This is `C02_states` at the successor state - without mess/ only the
empty pattern is documented - and does not use `hm`. -/
theorem C02_order_mess {s s' : St} {e : Ev} (h : Reach s) (ha : accept s e = some s') (n : Nat)
    (hm : (s.fl n).mess = true) (hm' : (s'.fl n).mess = false) : s'.fl n = {} :=
  doc_nomess ((reach_inv (reach_step h ha)).doc n) hm'

/-- **Stale leftovers.** qmail-send asks qmail-clean to remove intd/n and mess/n ("foop/n") only
(a) right after it removed info/n itself (elimination of a finished message), or (b) when inode n is
more than OSSIFIED = 36 hours old and it saw that neither info/n nor todo/n exists - and these facts
still hold at that moment; in both cases no running qmail-queue is working on n. -/
theorem C02_stale {s s' : St} (h : Reach s) (n : Nat) (ha : accept s (.dReq false n) = some s') :
    (s.fl n).info = false ∧ (s.fl n).todo = false ∧ noLiveOwner s n ∧
    (s.k.unlinkedInfo = true ∨ s.atime n + 36 * 3600 < s.now) := by
  cases accept_step ha with | dReqFoop _ _ hcur hk => ?_
  obtain ⟨_, htodo, hinfo, hown⟩ := foop_facts (reach_inv h) hcur hk
  refine ⟨hinfo, htodo, hown, hk.imp_right fun ⟨_, _, _, hst⟩ => ?_⟩
  have : OSSIFIED = 36 * 3600 := by decide
  simpa [St.stale, this] using hst

/-- while qmail-clean works on "foop/n" no running qmail-queue owns n, and n has neither info nor todo -/
theorem C02_stale_window {s : St} (h : Reach s) (n : Nat) (hm : s.mode = .foopC1 n ∨ s.mode = .foopC2 n) :
    noLiveOwner s n ∧ (s.fl n).info = false ∧ (s.fl n).todo = false := by
  have hmi := (reach_inv h).mode
  rcases hm with hm | hm <;> rw [ModeInv, hm] at hmi
  · obtain ⟨_, _, htodo, hinfo, hown⟩ := hmi
    exact ⟨hown, hinfo, htodo⟩
  · obtain ⟨_, hfl, hown⟩ := hmi
    rw [hfl]; exact ⟨hown, rfl, rfl⟩

/-- the injector's suicide timer fires well before anything of it can be considered stale -/
theorem C02_timer : DEATH < OSSIFIED ∧ OSSIFIED = 36 * 3600 ∧ Nq.Gen.OSSIFIED_clean = Nq.Gen.OSSIFIED_send :=
  ⟨death_lt_oss, by decide, by decide⟩

/-- **One daemon.** A qmail-send instance gets the lock only if no other holds it; one that finds it
taken changes nothing at all. -/
theorem C02_mutex (s s' : St) :
    (accept s .dStart = some s' → s.up = false) ∧ (accept s .dRefused = some s' → s.up = true ∧ s' = s) := by
  constructor <;> intro ha
  · cases accept_step ha with | dStart hu => exact hu
  · cases accept_step ha with | dRefused hu => exact ⟨hu, rfl⟩

/-- every queue-changing event of the daemon and its cleaner needs the lock to be held -/
theorem C02_mutex_needed (s s' : St) (h : Reach s) (e : Ev) (ha : accept s e = some s')
    (hd : match e with
          | .dUnlink _ _ | .dCreat _ _ | .cUnlink _ _ _ | .dReq _ _ | .dOpenTodo _ => True
          | _ => False) : s.up = true := by
  have hmi := (reach_inv h).mode
  cases accept_step ha with
  | dOpenTodo _ hup | dUnlinkBounce _ hup | dUnlinkInfo _ hup | dCreatInfo _ hup | dCreatBounce _ hup | dReqTodo _ hup
  | dReqFoop _ hup | dUnlinkTodo _ _ hup | dUnlinkChan _ _ hup | dCreatChan _ _ hup => exact hup
  | cTodoIntd _ hm | cTodoTodo _ hm | cFoopIntd _ hm | cFoopMess _ hm => exact mode_up hmi (by rw [hm]; nofun)
  | _ => exact hd.elim

/-- **Crash.** A crash (every process dies at an arbitrary instant) changes no file name; the state it
leaves is reachable, so everything above holds after it and after any restart. -/
theorem C02_crash {s : St} (h : Reach s) :
    ∃ s', accept s .crash = some s' ∧ s'.fl = s.fl ∧ Reach s' ∧ s'.up = false ∧
      ∀ i, (s'.inj i).num = none := by
  obtain ⟨s', hacc, h1, h2, h3⟩ : ∃ s', accept s .crash = some s' ∧ s'.fl = s.fl ∧ s'.up = false ∧
      ∀ i, s'.inj i = crashPc (s.inj i) := ⟨_, rfl, rfl, rfl, fun _ => rfl⟩
  refine ⟨s', hacc, h1, reach_step h hacc, h2, ?_⟩
  intro i; rw [h3]; cases s.inj i <;> simp [crashPc, IPc.num]

/-! ### non-vacuity: a complete life of message 7 (and a refused second daemon, a stale leftover 9) is accepted -/

/-- `86400` is `DEATH`, the only alarm value `.iStart` accepts; `200000 > OSSIFIED` makes leftover 9 stale. -/
def life : List Ev :=
  [ .dStart, .dRefused, .iStart 0 86400, .iOpenPid 0 7, .iLinkMess 0 7, .iUnlinkPid 0, .iCreatIntd 0 7, .iLinkTodo 0 7,
    .iStart 1 86400, .iOpenPid 1 9, .iLinkMess 1 9, .iUnlinkPid 1, .iCreatIntd 1 9, .iDie 1,
    .dOpenTodo 7, .dObs 7 .loc false, .dObs 7 .rem false, .dObs 7 .info false, .dCreat 7 .info, .dCreat 7 .loc,
    .dReq true 7, .cUnlink 7 .intd true, .cUnlink 7 .todo true, .cDone true,
    .dCreat 7 .bounce, .dUnlink 7 .loc,
    .dObs 7 .loc false, .dObs 7 .rem false, .dObs 7 .todo false, .dObs 7 .info true,
    .dUnlink 7 .bounce, .dUnlink 7 .info, .dReq false 7, .cUnlink 7 .intd false, .cUnlink 7 .mess true, .cDone true,
    .tick 200000, .dObs 9 .mess true, .dObs 9 .info false, .dObs 9 .todo false,
    .dReq false 9, .cUnlink 9 .intd true, .cUnlink 9 .mess true, .cDone true, .crash, .dStart ]

example : (acceptAll {} life).isSome = true := by decide +kernel
example : ((acceptAll {} life).map fun s => ((s.fl 7).isS1, (s.fl 9).isS1, s.up)) = some (true, true, true) := by decide +kernel
/-- the cleanup of leftover 9 is refused before it is 36 hours old (`life.take 36`: up to and including the `.cDone`
    that ends the removal of message 7, i.e. everything before `.tick 200000`) -/
example : (acceptAll {} ((life.take 36) ++ [.tick 100000, .dObs 9 .mess true, .dObs 9 .info false, .dObs 9 .todo false,
    .dReq false 9])).isSome = false := by decide +kernel
/-- removing info/7 while local/7 still exists is refused (`life.take 25`: up to and including `.dCreat 7 .bounce`,
    before local/7 is unlinked) -/
example : (acceptAll {} ((life.take 25) ++ [.dObs 7 .rem false, .dObs 7 .todo false, .dObs 7 .info true, .dUnlink 7 .info])).isSome = false := by decide +kernel

end Nq.Props.C02
