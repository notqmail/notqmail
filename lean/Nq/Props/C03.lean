/-
  C03 — No accepted recipient is ever dropped: delivered or bounced.

  Model: `Nq.Daemon` — the monitor of qmail-send + qmail-clean's observable protocol (every
  filesystem-mutating call, every delivery command, every byte of every spawner report, bounce
  injections, crashes, restarts).  Tie: every trace of the real programs under qsim
  (`harness/qsend.c`: scripted spawners, K/Z/D/mangled/out-of-range/oversized reports in any order,
  TERM/ALRM/HUP, failing calls, process and machine crashes with restart) is abstracted to `Ev` and
  accepted by `Daemon.accept` (`drv_c03`).

  The theorems hold for **every event sequence the monitor accepts** — any number of messages and
  recipients, any report bytes, any interleaving of arrivals, any number of crashes and restarts.
-/
import Nq.Lemmas.DaemonMain
import Nq.Lemmas.DaemonSlots

namespace Nq.Props.C03
open Nq Nq.Daemon Nq.Lemmas.DI Nq.Lemmas.DS

/-- reachable from the empty queue -/
def Reach (cfg : Cfg) (s : St) : Prop := ∃ evs, acceptAll cfg {} evs = some s

theorem reach_inv (cfg : Cfg) (s : St) (h : Reach cfg s) : Inv cfg s := by
  obtain ⟨evs, h⟩ := h
  rw [acceptAll_eq] at h
  exact Acceptor.foldlM_induct (Inv cfg) (fun s e s' => step_inv cfg s s' e) evs {} s (inv_init cfg) h

/-- what has become of record `i` of channel `c` of message `m`.  The two documented exemptions are *per record*: they apply
only to a recipient whose bounce paragraph was appended (`noted`) and was in `bounce/<m>` when that file was discarded
(`droppedRecs`, only for a message from `#@[]`: `C03_dropped_only_doublebounce`) or damaged by a crash (`lostRecs`; only by a
`crashBounce` accepted in the crash window right after a crash: `C03_lost_step`, `C03_lost_after_crash`). -/
def Fate (ms : MsgSt) (c : Ch) (i : Nat) : Prop :=
  -- still queued: an unmarked record of an existing channel file; the message still has its info file and its message file
  (∃ rs, ms.chan c = some rs ∧ i < rs.length ∧ (rs.getD i ⟨false, []⟩).done = false ∧ addrs rs = MsgSt.placed ms c ∧
     ms.info.isSome = true ∧ ms.mess = true)
  -- reported delivered (K) by the delivery agent
  ∨ (c, i) ∈ ms.delivered
  -- its paragraph is in bounce/<m>, which still exists together with info/<m> and mess/<m>: the bounce is still to be sent
  ∨ ((c, i) ∈ ms.noted ∧ (c, i) ∈ ms.inFile ∧ (c, i) ∉ ms.lostRecs ∧ ms.bounce.isSome = true ∧ ms.info.isSome = true ∧ ms.mess = true)
  -- its paragraph was in a bounce file whose injection succeeded (to the envelope sender: `C03_bounce_to_sender`)
  ∨ ((c, i) ∈ ms.noted ∧ (c, i) ∈ ms.bounced ∧ (c, i) ∉ ms.lostRecs)
  -- exemption 1: its paragraph was in the bounce file of a `#@[]` message (a failing double bounce) when that was discarded
  ∨ ((c, i) ∈ ms.noted ∧ (c, i) ∈ ms.droppedRecs)
  -- exemption 2: its paragraph was in bounce/<m> (never fsynced) when a crash damaged that file
  ∨ ((c, i) ∈ ms.noted ∧ (c, i) ∈ ms.lostRecs)

theorem fate_of_fin (cfg : Cfg) (ms : MsgSt) (h : MInv cfg ms) (ht : ms.todo = none) (c : Ch) (i : Nat) (hf : (c, i) ∈ ms.fin) :
    Fate ms c i := by
  rcases h.ghost.k3 _ hf with hd | hn
  · exact Or.inr (Or.inl hd)
  · by_cases hl : (c, i) ∈ ms.lostRecs
    · exact Or.inr (Or.inr (Or.inr (Or.inr (Or.inr ⟨hn, hl⟩))))
    · rcases h.ghost.k4 _ hn with h1 | h1 | h1 | h1
      · have hbs : ms.bounce.isSome = true := by
          cases hbb : ms.bounce with
          | none => rw [h.ghost.k5 hbb] at h1; cases h1
          | some _ => rfl
        have hi := (h.files ht).k6 (Or.inr (Or.inr hbs))
        exact Or.inr (Or.inr (Or.inl ⟨hn, h1, hl, hbs, hi, h.ghost.m1 (Or.inr hi)⟩))
      · exact Or.inr (Or.inr (Or.inr (Or.inl ⟨hn, h1, hl⟩)))
      · exact Or.inr (Or.inr (Or.inr (Or.inr (Or.inl ⟨hn, h1⟩))))
      · exact absurd h1 hl

/-- **Every accepted recipient is accounted for, in every reachable state** (any history of
reports, signals, failing calls, crashes and restarts): while `todo/<m>` exists it holds exactly the
accepted envelope; afterwards the accepted recipients are exactly the records placed in the channel
files (routed by `rewrite()`, in order), and every one of them is still queued, or was reported
delivered, or is named in a bounce that is pending or was queued — or *its own* bounce paragraph falls
under one of the two documented exemptions.  (Inductive consequence of the invariant `MInv`.) -/
theorem C03_accounted (cfg : Cfg) (s : St) (hr : Reach cfg s) (m : Nat) (sender : Bytes) (rcpts : List Bytes)
    (ha : (s.msg m).accepted = some (sender, rcpts)) :
    ((s.msg m).todo = some (sender, rcpts) ∧ (s.msg m).mess = true) ∨
    ((s.msg m).todo = none ∧ routedOk cfg rcpts (s.msg m).placedLoc (s.msg m).placedRem = true ∧
      ∀ c i, i < (MsgSt.placed (s.msg m) c).length → Fate (s.msg m) c i) := by
  have hm := (reach_inv cfg s hr).msgs m
  cases ht : (s.msg m).todo with
  | some env =>
    left
    have := hm.ghost.a1 env ht
    rw [ha] at this; cases this
    exact ⟨rfl, hm.ghost.m1 (Or.inl (by rw [ht]; rfl))⟩
  | none =>
    right
    have hf := hm.files ht
    refine ⟨rfl, hf.a2 sender rcpts ha, fun c i hi => ?_⟩
    have hch := hf.ch c
    cases hc : (s.msg m).chan c with
    | none => rw [hc] at hch; exact fate_of_fin cfg _ hm ht c i (hch i hi)
    | some rs =>
      rw [hc] at hch
      have hi' : i < rs.length := by rw [← hch.1] at hi; simpa [addrs] using hi
      cases hd : (rs.getD i ⟨false, []⟩).done with
      | true => exact fate_of_fin cfg _ hm ht c i (hch.2 i hi' hd)
      | false =>
        have hinfo := hf.info_of_chan hc
        exact Or.inl ⟨rs, hc, hi', hd, hch.1, hinfo, hm.ghost.m1 (Or.inr hinfo)⟩

/-- **The discard exemption exists only for double bounces**: a paragraph is ever discarded only when the *accepted*
envelope sender of the message is `#@[]`.  (Inductive: invariants `d1`, `i1`.) -/
theorem C03_dropped_only_doublebounce (cfg : Cfg) (s : St) (hr : Reach cfg s) (m : Nat) (sender : Bytes) (rcpts : List Bytes)
    (ha : (s.msg m).accepted = some (sender, rcpts)) (x : Ch × Nat) (hx : x ∈ (s.msg m).droppedRecs) :
    sender = [35, 64, 91, 93] :=
  ((reach_inv cfg s hr).msgs m).ghost.d1 sender rcpts ha (fun h => by rw [h] at hx; simp at hx)

/-- **A message leaves the queue only when everyone is accounted for**: once `info/<m>` is gone
(after which qmail-clean removes the message file) every recipient was reported delivered, or its
paragraph was in a successfully queued bounce, or its paragraph was discarded with the bounce file of a
`#@[]` message or was in the bounce file when a crash damaged it.  (Inductive.) -/
theorem C03_finished (cfg : Cfg) (s : St) (hr : Reach cfg s) (m : Nat) (sender : Bytes) (rcpts : List Bytes)
    (ha : (s.msg m).accepted = some (sender, rcpts)) (ht : (s.msg m).todo = none) (hi : (s.msg m).info = none) :
    ∀ c i, i < (MsgSt.placed (s.msg m) c).length →
      (c, i) ∈ (s.msg m).delivered ∨
      ((c, i) ∈ (s.msg m).noted ∧
        (((c, i) ∈ (s.msg m).bounced ∧ (c, i) ∉ (s.msg m).lostRecs) ∨
         ((c, i) ∈ (s.msg m).droppedRecs ∧ sender = [35, 64, 91, 93]) ∨ (c, i) ∈ (s.msg m).lostRecs)) := by
  intro c i hlt
  rcases C03_accounted cfg s hr m sender rcpts ha with h | ⟨_, _, h⟩
  · rw [ht] at h; cases h.1
  · rcases h c i hlt with ⟨_, _, _, _, _, h1, _⟩ | h1 | ⟨_, _, _, _, h1, _⟩ | ⟨hn, h1, h2⟩ | ⟨hn, h1⟩ | ⟨hn, h1⟩
    · rw [hi] at h1; simp at h1
    · exact Or.inl h1
    · rw [hi] at h1; simp at h1
    · exact Or.inr ⟨hn, Or.inl ⟨h1, h2⟩⟩
    · exact Or.inr ⟨hn, Or.inr (Or.inl ⟨h1, C03_dropped_only_doublebounce cfg s hr m sender rcpts ha _ h1⟩)⟩
    · exact Or.inr ⟨hn, Or.inr (Or.inr h1)⟩

/-! ### The crash exemption needs a crash

`lostRecs` (the last disjunct of `Fate`, the last alternative of `C03_finished` / `C03_info_last`) is fed by one event only,
`crashBounce`, and the monitor accepts the crash-damage events (`crashMarks`, `crashBounce`, `crashTodoFiles`) only in the
crash window: after a crash (`.restart`) and before anything else happens but further damage reports and arrivals of messages
(`St.crashed`, set by `.restart`, cleared — together with `cut` — by every other event). -/

/-- **Crash damage is reported only right after a crash**: in every accepted history a crash-damage event is preceded by a
crash (`.restart`), with nothing in between but other crash-damage events, further crashes and arrivals of messages. -/
theorem C03_crash_window (cfg : Cfg) (evs : List Ev) (e : Ev) (s : St) (h : acceptAll cfg {} (evs ++ [e]) = some s)
    (hd : e.isDamage = true) :
    ∃ pre post, evs = pre ++ Ev.restart :: post ∧ post.all Ev.inCrashWindow = true := by
  rw [acceptAll_eq] at h
  obtain ⟨s1, h1, h2⟩ := Acceptor.foldlM_concat.1 h
  have hc := damage_needs_crashed cfg s1 s e h2 hd
  rcases window_trace cfg evs {} s1 h1 hc with ⟨h0, _⟩ | h3
  · cases h0
  · exact h3

/-- **A record becomes crash-exempt only by a crash-damage event** (one step): `x` enters `lostRecs` of message `m` only by a
`crashBounce m content` accepted in the crash window, while its paragraph was in `bounce/<m>`, with a new content that does not
start with the old one.  (Frame lemma over all event kinds.) -/
theorem C03_lost_step (cfg : Cfg) (s s' : St) (e : Ev) (h : accept cfg s e = some s') (m : Nat) (x : Ch × Nat)
    (hx : x ∈ (s'.msg m).lostRecs) :
    x ∈ (s.msg m).lostRecs ∨
    ∃ content, e = .crashBounce m content ∧ s.crashed = true ∧ x ∈ (s.msg m).inFile ∧
      ((s.msg m).bounce.getD []).isPrefixOf content = false := by
  -- in the state the event is judged in; `crashBounce` is judged in `s` itself
  suffices hcore : ∀ t : St, Step cfg t e s' → x ∈ (t.msg m).lostRecs ∨
      ∃ content, e = .crashBounce m content ∧ t.crashed = true ∧ x ∈ (t.msg m).inFile ∧
        ((t.msg m).bounce.getD []).isPrefixOf content = false by
    rcases hcore (s.before e) (accept_step h) with h1 | ⟨content, he, hc, hi, hp⟩
    · left; rw [St.before_msg] at h1; exact h1
    · right
      subst he
      exact ⟨content, rfl, hc, hi, hp⟩
  intro s h
  -- message `m'` is replaced by `v`, whose exempt records were exempt in `m'` before
  have upd : ∀ (t : St), x ∈ (t.msg m).lostRecs → ∀ (m' : Nat) (v : MsgSt), t.tab = tabSet s.tab m' v →
      (∀ y ∈ v.lostRecs, y ∈ (s.msg m').lostRecs) → x ∈ (s.msg m).lostRecs := fun t hx m' v ht hv =>
    msg_rel_of_tab (R := fun a b => x ∈ a.lostRecs → x ∈ b.lostRecs) (fun _ h => h) s t m' v ht m (fun _ => hv x) hx
  cases h with
  | rbytes c bs => obtain ⟨xs, h1, _⟩ := (feedReports_fed cfg c bs _).msg m; rw [h1] at hx; exact Or.inl hx
  | crashBounce m' content hcr =>
    by_cases hm : m = m'
    · subst hm
      rw [St.msg_upd_self] at hx
      rcases List.mem_append.1 hx with h1 | h1
      · cases hp : ((s.msg m).bounce.getD []).isPrefixOf content with
        | true => simp [hp] at h1
        | false => exact Or.inr ⟨content, rfl, hcr, by simpa [hp] using h1, hp⟩
      · exact Or.inl h1
    · rw [St.msg_upd, if_neg hm] at hx; exact Or.inl hx
  | newmsg m' => exact Or.inl (upd _ hx m' _ rfl (fun _ hy => by cases hy))
  | cleanReqTodo | cleanReqFoop | cleanResp | cmd | utimes | tick | restart => exact Or.inl hx
  | unlinkChan m' | creatChan m' | writeChan m' | fsyncChan m' | markD m' | crashMarks m' =>
    exact Or.inl (upd _ hx m' _ rfl (fun _ hy => by simpa using hy))
  | unlinkInfo m' | creatInfo m' | writeInfo m' | fsyncInfo m' | cUnlinkIntd m' | cUnlinkTodo m' | cUnlinkMess m'
  | appendBounce m' | bounceInject m' | unlinkBounceDiscard m' | unlinkBounceOk m' | crashTodoFiles m' =>
    exact Or.inl (upd _ hx m' _ rfl (fun _ hy => hy))

/-- **The crash exemption needs a crash** (whole histories): if a record is crash-exempt (`lostRecs`) in a reachable state, the
history contains a crash (`.restart`), then only window events (damage reports, further crashes, arrivals), then the
`crashBounce` of its message.  So the last alternative of `Fate` / `C03_finished` / `C03_info_last` reads: "… and a crash
happened, and the damage to `bounce/<m>` was found in the queue as that crash left it". -/
theorem C03_lost_after_crash (cfg : Cfg) (evs : List Ev) (s : St) (h : acceptAll cfg {} evs = some s) (m : Nat) (x : Ch × Nat)
    (hx : x ∈ (s.msg m).lostRecs) :
    ∃ pre win content post, evs = pre ++ Ev.restart :: win ++ Ev.crashBounce m content :: post ∧
      win.all Ev.inCrashWindow = true := by
  rw [acceptAll_eq] at h
  -- the last event that put `x` on the list is a `crashBounce` of its message, accepted with the mode flag set
  rcases Acceptor.foldlM_origin (fun t => x ∈ (t.msg m).lostRecs) (fun t e => ∃ content, e = .crashBounce m content ∧ t.crashed = true)
      (fun _ => true)
      (fun t e t' ha hx' => (C03_lost_step cfg t t' e ha m x hx').elim (fun h1 => Or.inr ⟨rfl, h1⟩)
        fun ⟨content, he, hc, _⟩ => Or.inl ⟨content, he, hc⟩)
      evs {} s h hx with ⟨h0, _⟩ | ⟨pre, _, post, s1, he, hp, ⟨content, rfl, hc⟩, _⟩
  · rw [St.msg_empty] at h0; simp at h0
  · rcases window_trace cfg pre {} s1 hp hc with ⟨h0, _⟩ | ⟨pre', win, hpre, hw⟩
    · cases h0
    · exact ⟨pre', win, content, post, by rw [he, hpre], hw⟩

/-- **A completion mark is written only for a finished recipient**: whenever qmail-send writes the
`D` byte of a record, that delivery was reported `K`, or reported `D` (or `Z` past the queue lifetime)
*and its bounce paragraph has been appended*. -/
theorem C03_flip (cfg : Cfg) (s s' : St) (hr : Reach cfg s) (m : Nat) (c : Ch) (pos : Nat)
    (h : accept cfg s (.markD m c pos) = some s') :
    ∃ rs idx, (s.msg m).chan c = some rs ∧ recIndex rs pos = some idx ∧
      ((c, idx) ∈ (s.msg m).delivered ∨ (c, idx) ∈ (s.msg m).noted) := by
  -- `markD` is judged outside the crash window: in `s.calm`, which differs from `s` in the mode flag and `cut` only
  have hinv := reach_inv cfg s hr
  cases accept_step h with
  | markD _ _ _ rs idx _ hch hidx hmm => exact ⟨rs, idx, hch, hidx, (hinv.msgs m).ghost.k3 _ (hinv.may m c idx hmm)⟩

/-- the outstanding delivery a report `rep` read on channel `c` refers to (its first byte is the delivery number) -/
def slotOf (s : St) (c : Ch) (rep : Bytes) : Option Slot :=
  s.slots.find? (fun x => x.c == c && x.delnum == (rep.headD 0).toNat)

/-- **Only a `K` finishes a recipient at report time**: a report with any other letter — `Z`,
mangled, or for an out-of-range or unused delivery number — changes no message state and grants no
permission to mark; and unless it is a `D`, or a `Z` for a message past its queue lifetime, it schedules
no bounce paragraph either (`notes` is the list of paragraphs that may be appended: `C03_paragraph_needs_report`).
(About the report reader `handleReport` itself, for every state — not a guard.) -/
theorem C03_report_other (cfg : Cfg) (s : St) (c : Ch) (rep : Bytes) (h : rep.getD 1 0 ≠ 75) :
    (handleReport cfg s c rep).tab = s.tab ∧ (handleReport cfg s c rep).mayMark = s.mayMark ∧
    ((rep.getD 1 0 ≠ 68 ∧
      (rep.getD 1 0 = 90 → ∀ sl, slotOf s c rep = some sl → ¬ s.clock > (s.msg sl.m).birth + cfg.lifetime)) →
     (handleReport cfg s c rep).notes = s.notes) := by
  rcases handleReport_eq cfg s c rep with ⟨h1, _⟩ | ⟨sl, hsl, _, ⟨hK, _⟩ | ⟨_, h1⟩⟩
  · rw [h1]; exact ⟨rfl, rfl, fun _ => rfl⟩
  · exact absurd hK h
  · rw [h1]
    refine ⟨rfl, rfl, fun hh => ?_⟩
    show s.notes ++ noteOf cfg s c sl (rep.getD 1 0) = s.notes
    rw [noteOf, if_neg (not_or.2 ⟨hh.1, fun hz => hh.2 hz.1 sl hsl hz.2⟩), List.append_nil]

/-- **Where a pending bounce paragraph comes from**: a report adds an entry to `notes` only for the outstanding delivery it
names, and only if its letter is `D`, or `Z` while the message is past its queue lifetime — a temporary failure of a live
message, a mangled report, a report for an unused or out-of-range delivery number never does. -/
theorem C03_note_origin (cfg : Cfg) (s : St) (c : Ch) (rep : Bytes) (n : Note) (hn : n ∈ (handleReport cfg s c rep).notes) :
    n ∈ s.notes ∨ ∃ sl, slotOf s c rep = some sl ∧ n = ⟨sl.m, c, sl.idx, sl.recip, decide (rep.getD 1 0 = 68)⟩ ∧ (rep.headD 0).toNat < cfg.conc c ∧
      (rep.getD 1 0 = 68 ∨ (rep.getD 1 0 = 90 ∧ s.clock > (s.msg sl.m).birth + cfg.lifetime)) := by
  rcases handleReport_eq cfg s c rep with ⟨h1, _⟩ | ⟨sl, hsl, hlt, ⟨_, h1⟩ | ⟨_, h1⟩⟩ <;> rw [h1] at hn
  · exact Or.inl hn
  · exact Or.inl hn
  · refine (List.mem_append.1 hn).imp_right fun h3 => ?_
    unfold noteOf at h3
    split at h3
    · rename_i hl; exact ⟨sl, hsl, List.mem_singleton.1 h3, hlt, hl⟩
    · cases h3

/-- **A bounce paragraph is appended only for a reported permanent failure**: `appendBounce` consumes an entry of `notes`
(see `C03_note_origin`) for that message, and records exactly that record as `noted`.  (Readback of the monitor's guard;
tied to the code by trace replay.) -/
theorem C03_paragraph_needs_report (cfg : Cfg) (s s' : St) (m : Nat) (bs : Bytes) (h : accept cfg s (.appendBounce m bs) = some s') :
    ∃ n ∈ s.notes, n.m = m ∧ (s'.msg m).noted = (n.c, n.idx) :: (s.msg m).noted ∧ s'.notes = s.notes.erase n ∧
      bs.take ([60] ++ sanitizeLF n.recip ++ [62, 58, 10]).length = [60] ++ sanitizeLF n.recip ++ [62, 58, 10] := by
  cases accept_step h with
  | appendBounce _ _ n _ hn hg =>
    refine ⟨n, List.mem_of_find?_eq_some hn, by simpa using List.find?_some hn, ?_, rfl, by simpa using hg.2.2.1⟩
    simp only [St.msg, St.upd, tabGet_set, if_pos]; rfl

/-- **A channel file is unlinked only when everything in it is finished** (outside preprocessing):
each of its records was reported delivered or has its bounce paragraph. -/
theorem C03_unlink (cfg : Cfg) (s s' : St) (hr : Reach cfg s) (m : Nat) (c : Ch)
    (h : accept cfg s (.unlinkChan m c) = some s') (ht : (s.msg m).todo = none) :
    ∃ rs, (s.msg m).chan c = some rs ∧ ∀ i, i < rs.length →
      ((c, i) ∈ (s.msg m).delivered ∨ (c, i) ∈ (s.msg m).noted) := by
  have hinv := reach_inv cfg s hr
  cases accept_step h with
  | unlinkChan _ _ rs _ hch hg =>
    simp only [St.before_msg] at hg
    rcases hg with hts | ⟨_, _, hfin⟩
    · rw [ht] at hts; cases hts
    · exact ⟨rs, hch, fun i hi => (hinv.msgs m).ghost.k3 _ (((hinv.msgs m).files ht).fin_of_allFinished hch hfin i hi)⟩

/-- **`info/<m>` is removed last, and only when everyone is accounted for** (outside preprocessing): both channel files
and the bounce record are gone (guard of the monitor), and therefore — by the invariant — every recipient was reported
delivered, or its paragraph was in a successfully queued bounce, or falls under one of the two per-record exemptions. -/
theorem C03_info_last (cfg : Cfg) (s s' : St) (hr : Reach cfg s) (m : Nat) (sender : Bytes) (rcpts : List Bytes)
    (ha : (s.msg m).accepted = some (sender, rcpts))
    (h : accept cfg s (.unlinkInfo m) = some s') (ht : (s.msg m).todo = none) :
    (s.msg m).loc = none ∧ (s.msg m).rem = none ∧ (s.msg m).bounce = none ∧
    ∀ c i, i < (MsgSt.placed (s.msg m) c).length →
      (c, i) ∈ (s.msg m).delivered ∨
      ((c, i) ∈ (s.msg m).noted ∧
        (((c, i) ∈ (s.msg m).bounced ∧ (c, i) ∉ (s.msg m).lostRecs) ∨ (c, i) ∈ (s.msg m).droppedRecs ∨ (c, i) ∈ (s.msg m).lostRecs)) := by
  -- the guard, read in the state the event is judged in (`s.calm`: the same files)
  obtain ⟨hl, hrm, hb⟩ : (s.msg m).loc = none ∧ (s.msg m).rem = none ∧ (s.msg m).bounce = none := by
    cases accept_step h with
    | unlinkInfo _ _ _ hg =>
      simp only [St.before_msg] at hg
      rcases hg with hts | ⟨_, hl, hr, hb⟩
      · rw [ht] at hts; cases hts
      · exact ⟨by simpa using hl, by simpa using hr, by simpa using hb⟩
  refine ⟨hl, hrm, hb, ?_⟩
  intro c i hlt
  rcases C03_accounted cfg s hr m sender rcpts ha with h0 | ⟨_, _, h0⟩
  · rw [ht] at h0; cases h0.1
  · rcases h0 c i hlt with ⟨rs, hc, _⟩ | h1 | ⟨_, _, _, h1, _⟩ | ⟨hn, h1, h2⟩ | ⟨hn, h1⟩ | ⟨hn, h1⟩
    · cases c
      · have : (s.msg m).loc = some rs := hc
        rw [hl] at this; cases this
      · have : (s.msg m).rem = some rs := hc
        rw [hrm] at this; cases this
    · exact Or.inl h1
    · rw [hb] at h1; simp at h1
    · exact Or.inr ⟨hn, Or.inl ⟨h1, h2⟩⟩
    · exact Or.inr ⟨hn, Or.inr (Or.inl h1)⟩
    · exact Or.inr ⟨hn, Or.inr (Or.inr h1)⟩

/-- **A bounce is queued to the accepted envelope sender**: whenever an injection succeeds, its envelope is
`bounceEnvelope` of the sender *qmail-queue accepted the message with* (sender address, or the double-bounce address for a
null / `-@[]` sender; never for `#@[]`), its text contains the whole current content of `bounce/<m>`, and both channel files
are gone.  (Inductive in the link `info/<m>` = accepted sender — invariant `i1`; the rest reads back the monitor's guard.) -/
theorem C03_bounce_to_sender (cfg : Cfg) (s s' : St) (hr : Reach cfg s) (m : Nat) (sender : Bytes) (rcpts : List Bytes)
    (ha : (s.msg m).accepted = some (sender, rcpts)) (env body : Bytes)
    (h : accept cfg s (.bounceInject m true env body) = some s') :
    sender ≠ [35, 64, 91, 93] ∧ env = bounceEnvelope cfg sender ∧
    (∃ file, (s.msg m).bounce = some file ∧ isInfix file body = true) ∧
    (s.msg m).loc = none ∧ (s.msg m).rem = none := by
  have hm := (reach_inv cfg s hr).msgs m
  cases accept_step h with
  | bounceInject _ _ _ _ info file _ hinfo hfile hg =>
    simp only [St.before_msg] at hinfo hfile hg
    rw [hm.sender (by simpa using hg.1) ha hinfo] at hg
    have h5 := hg.2.2.2.2 trivial
    exact ⟨hg.2.2.2.1, h5.2, ⟨file, hfile, h5.1⟩, by simpa using hg.2.1, by simpa using hg.2.2.1⟩

/-- **The bounce record is removed only after its bounce was queued** — the last thing that happened to `bounce/<m>` was a
successful injection (`lastInject`: reset by every append and by a crash that touched the file), sender not `#@[]` — or, for a
message whose *accepted* sender is `#@[]`, discarded (the documented end of the chain); in both cases after both channel
files are gone.  (Guard readback, with the sender tied to the accepted envelope by the invariant; *what* was injected last is
C14's daemon-level theorem.) -/
theorem C03_bounce_removed (cfg : Cfg) (s s' : St) (hr : Reach cfg s) (m : Nat) (sender : Bytes) (rcpts : List Bytes)
    (ha : (s.msg m).accepted = some (sender, rcpts)) (h : accept cfg s (.unlinkBounce m) = some s') :
    (((s.msg m).lastInject = true ∧ sender ≠ [35, 64, 91, 93]) ∨ sender = [35, 64, 91, 93]) ∧
    (s.msg m).loc = none ∧ (s.msg m).rem = none := by
  have hm := (reach_inv cfg s hr).msgs m
  cases accept_step h with
  | unlinkBounceDiscard _ info file _ hinfo _ hg hs =>
    simp only [St.before_msg] at hinfo hg
    rw [hm.sender (by simpa using hg.1) ha hinfo] at hs
    exact ⟨Or.inr hs, by simpa using hg.2.1, by simpa using hg.2.2⟩
  | unlinkBounceOk _ info file _ hinfo _ hg hs hl =>
    simp only [St.before_msg] at hinfo hg hl
    rw [hm.sender (by simpa using hg.1) ha hinfo] at hs
    exact ⟨Or.inl ⟨hl, hs⟩, by simpa using hg.2.1, by simpa using hg.2.2⟩

/-! ### Non-vacuity: a concrete accepted history (one message, one local recipient `a`, reported
`D`, bounce paragraph appended, record marked, file unlinked, bounce queued, message removed) -/

def cfg0 : Cfg := { conc := fun _ => 2, lifetime := 1000, route := fun a => (.loc, a), doublebounceto := [112] }

example : (acceptAll cfg0 {}
    [.newmsg 7 [115] [[97]], .creatInfo 7, .writeInfo 7 [70, 115, 0], .creatChan 7 .loc, .writeChan 7 .loc [84, 97, 0],
     .fsyncInfo 7, .fsyncChan 7 .loc, .cleanReq [116, 111, 100, 111, 47, 55, 0], .cUnlinkIntd 7, .cUnlinkTodo 7, .cleanResp 43,
     .cmd .loc 0 7 0 [97], .rbytes .loc [0, 68, 120, 10, 0], .appendBounce 7 [60, 97, 62, 58, 10, 120, 10, 10], .markD 7 .loc 0,
     .unlinkChan 7 .loc, .bounceInject 7 true [70, 0, 84, 115, 0] [60, 97, 62, 58, 10, 120, 10, 10], .unlinkBounce 7,
     .unlinkInfo 7, .cleanReq [102, 111, 111, 112, 47, 55, 0], .cUnlinkIntd 7, .cUnlinkMess 7, .cleanResp 43]).isSome = true := by
  decide +kernel

/-- marking without the bounce paragraph is not accepted -/
example : acceptAll cfg0 {}
    [.newmsg 7 [115] [[97]], .creatInfo 7, .writeInfo 7 [70, 115, 0], .creatChan 7 .loc, .writeChan 7 .loc [84, 97, 0],
     .fsyncInfo 7, .fsyncChan 7 .loc, .cleanReq [116, 111, 100, 111, 47, 55, 0], .cUnlinkIntd 7, .cUnlinkTodo 7, .cleanResp 43,
     .cmd .loc 0 7 0 [97], .rbytes .loc [0, 68, 120, 10, 0], .markD 7 .loc 0] = none := by
  decide

/-- the exemptions are per record: message 7 with recipients `a`, `b`; `a` is reported `D` and its paragraph appended, then a
machine crash empties `bounce/7`.  Record 0 is exempt (`lostRecs`), record 1 — never attempted — is not: it is accounted for
only as "still queued".  And a crash cannot invent a bounce file for a message that has none and no interrupted `addbounce`. -/
example :
    let pre : List Ev :=
      [.newmsg 7 [115] [[97], [98]], .creatInfo 7, .writeInfo 7 [70, 115, 0], .creatChan 7 .loc, .writeChan 7 .loc [84, 97, 0, 84, 98, 0],
       .fsyncInfo 7, .fsyncChan 7 .loc, .cleanReq [116, 111, 100, 111, 47, 55, 0], .cUnlinkIntd 7, .cUnlinkTodo 7, .cleanResp 43]
    ((acceptAll cfg0 {} (pre ++ [.cmd .loc 0 7 0 [97], .rbytes .loc [0, 68, 120, 10, 0], .appendBounce 7 [60, 97, 62, 58, 10, 120, 10, 10],
        .restart, .crashBounce 7 []])).map fun s => ((s.msg 7).lostRecs, (s.msg 7).droppedRecs, (s.msg 7).noted)) =
      some ([(.loc, 0)], [], [(.loc, 0)]) ∧
    acceptAll cfg0 {} (pre ++ [.restart, .crashBounce 7 []]) = none ∧
    -- interrupted `addbounce` (daemon died between the `D` report and the end of the append): the file may exist, nobody is exempt
    ((acceptAll cfg0 {} (pre ++ [.cmd .loc 0 7 0 [97], .rbytes .loc [0, 68, 120, 10, 0], .restart, .crashBounce 7 [60, 97]])).map
        fun s => ((s.msg 7).lostRecs, (s.msg 7).bounce)) = some ([], some [60, 97]) := by
  decide +kernel

/-- crash-damage events with no crash are refused.
(A) no crash anywhere: both recipients reported `D`, paragraphs appended, marks written, channel file unlinked — accepted so
far —, then `crashBounce 7 []` in the middle of normal operation: refused (accepted, it would make both recipients
`lostRecs`); with a crash right before it the same event is accepted and both records are exempt.
(B) stale `cut`: a crash with a pending `D` report for message 7, then normal operation, then `crashBounce 7 …` inventing a bounce
file: refused (`cut` is cleared with the mode flag); right after the crash it is accepted; an arrival does not close the window.
`crashMarks` / `crashTodoFiles` with no crash: refused. -/
example :
    let pre : List Ev :=
      [.newmsg 7 [115] [[97], [98]], .creatInfo 7, .writeInfo 7 [70, 115, 0], .creatChan 7 .loc, .writeChan 7 .loc [84, 97, 0, 84, 98, 0],
       .fsyncInfo 7, .fsyncChan 7 .loc, .cleanReq [116, 111, 100, 111, 47, 55, 0], .cUnlinkIntd 7, .cUnlinkTodo 7, .cleanResp 43]
    let bothBounced : List Ev := pre ++
      [.cmd .loc 0 7 0 [97], .rbytes .loc [0, 68, 120, 10, 0], .appendBounce 7 [60, 97, 62, 58, 10, 120, 10, 10], .markD 7 .loc 0,
       .cmd .loc 0 7 3 [98], .rbytes .loc [0, 68, 120, 10, 0], .appendBounce 7 [60, 98, 62, 58, 10, 120, 10, 10], .markD 7 .loc 3,
       .unlinkChan 7 .loc]
    -- (A)
    (acceptAll cfg0 {} bothBounced).isSome = true ∧
    acceptAll cfg0 {} (bothBounced ++ [.crashBounce 7 []]) = none ∧
    ((acceptAll cfg0 {} (bothBounced ++ [.restart, .crashBounce 7 []])).map fun s => (s.msg 7).lostRecs) = some [(.loc, 1), (.loc, 0)] ∧
    -- one event of the restarted daemon closes the window
    acceptAll cfg0 {} (bothBounced ++ [.restart, .tick 0, .crashBounce 7 []]) = none ∧
    -- (B)
    acceptAll cfg0 {} (pre ++ [.cmd .loc 0 7 0 [97], .rbytes .loc [0, 68, 120, 10, 0], .restart,
      .cmd .loc 0 7 0 [97], .rbytes .loc [0, 90, 0], .cmd .loc 0 7 3 [98], .rbytes .loc [0, 90, 0], .tick 5, .crashBounce 7 [1, 2, 3]]) = none ∧
    ((acceptAll cfg0 {} (pre ++ [.cmd .loc 0 7 0 [97], .rbytes .loc [0, 68, 120, 10, 0], .restart, .newmsg 8 [] [[99]],
      .crashBounce 7 [1, 2, 3]])).map fun s => ((s.msg 7).bounce, s.cut, s.crashed)) = some (some [1, 2, 3], [7], true) ∧
    ((acceptAll cfg0 {} (pre ++ [.cmd .loc 0 7 0 [97], .rbytes .loc [0, 68, 120, 10, 0], .restart, .crashBounce 7 [1, 2, 3],
      .cmd .loc 0 7 0 [97]])).map fun s => (s.cut, s.crashed)) = some ([], false) ∧
    -- the other two damage events
    acceptAll cfg0 {} (pre ++ [.cmd .loc 0 7 0 [97], .rbytes .loc [0, 75, 0], .markD 7 .loc 0, .crashMarks 7 .loc [false, false]]) = none ∧
    (acceptAll cfg0 {} (pre ++ [.cmd .loc 0 7 0 [97], .rbytes .loc [0, 75, 0], .markD 7 .loc 0, .restart, .crashMarks 7 .loc [false, false]])).isSome = true ∧
    acceptAll cfg0 {} [.newmsg 7 [115] [[97]], .creatInfo 7, .crashTodoFiles 7] = none ∧
    (acceptAll cfg0 {} [.newmsg 7 [115] [[97]], .creatInfo 7, .restart, .crashTodoFiles 7]).isSome = true := by
  decide +kernel

end Nq.Props.C03
