/-
  C04 — Finished recipients are never retried; at most one attempt in flight.

  Model and tie as for C03 (`Nq.Daemon`, `harness/qsend.c`, `drv_c03`).  The slot table of the
  monitor is the set of delivery commands handed to a spawner and not yet answered.

  The last sections are about the layer `Nq.DaemonOwed` (`accept2`, the monitor the driver actually
  runs): the list of records whose final report (`K`, `D`, or `Z` of an expired message with its bounce
  paragraph) was handled and whose mark has not been seen.  A delivery command for such a record is
  refused — in the same run and after a clean stop and restart; only a crash, a failing system call of
  `markdone` for that very record, or the removal of the file take a record off the list without its
  mark.  `C04_never_again` puts the pieces together over whole traces.

  Which theorems are what: `C04_bound`, `C04_single` are inductive invariants of the slot table;
  `C04_mark_stays`, `C04_fin_step`, `C04_never_again*`, `C04_K_once`, `C04_K_frees`, `C04_exactly_once` are proved over all accepted events /
  traces (frame lemmas over the 26 event kinds, by the 28 cases of `DI.Step`); `C04_no_retry`, `C04_marked_refused`, `C04_mark_sets`,
  `C04_restart_keeps`, `C04_reported_refused`, `C04_cleanRestart_keeps`, `C04_layer_refines` read back guards
  / definitions of the monitor (they are the building blocks and are tied to the code by trace replay);
  `C04_K_owed`, `C04_D_owed`, `C04_D_owed_report`, `C04_D_noted`, `C04_owed_persists` say which events put a record on the
  list of due marks and which take it off.
-/
import Nq.Lemmas.DaemonSlots
import Nq.Lemmas.DaemonInv
import Nq.Lemmas.DaemonOwed

namespace Nq.Props.C04
open Nq Nq.Daemon Nq.Lemmas.DS

def Reach (cfg : Cfg) (s : St) : Prop := ∃ evs, acceptAll cfg {} evs = some s

structure SlotInv (cfg : Cfg) (s : St) : Prop where
  bound : ∀ c, usedCount s c ≤ cfg.conc c
  slotUnique : (s.slots.map fun x => (x.c, x.delnum)).Nodup
  recUnique : (s.slots.map fun x => (x.m, x.c, x.idx)).Nodup

theorem usedCount_sublist (s s' : St) (c : Ch) (h : s'.slots.Sublist s.slots) : usedCount s' c ≤ usedCount s c := by
  unfold usedCount
  exact (h.filter _).length_le

theorem slotInv_sublist (cfg : Cfg) (s s' : St) (h : s'.slots.Sublist s.slots) (hi : SlotInv cfg s) : SlotInv cfg s' :=
  ⟨fun c => Nat.le_trans (usedCount_sublist s s' c h) (hi.bound c),
   (h.map _).nodup hi.slotUnique, (h.map _).nodup hi.recUnique⟩

theorem slot_step (cfg : Cfg) (s s' : St) (e : Ev) (hi : SlotInv cfg s) (h : accept cfg s e = some s') : SlotInv cfg s' := by
  rcases slots_cases h with ⟨c, d, m, _, r, _, idx, _, _, _, hfree, hfl, hcount, hs⟩ | hsub
  · refine ⟨?_, ?_, ?_⟩
    · intro c'
      unfold usedCount
      rw [hs, List.filter_cons]
      split
      · rename_i hc
        obtain rfl : c = c' := by simpa using hc
        exact hcount
      · exact hi.bound c'
    · rw [hs, List.map_cons, List.nodup_cons]
      refine ⟨?_, hi.slotUnique⟩
      intro hmem
      obtain ⟨x, hx, hxe⟩ := List.mem_map.1 hmem
      simp only [Prod.mk.injEq] at hxe
      have : (s.slots.any fun y => y.c == c && y.delnum == d) = true :=
        List.any_eq_true.2 ⟨x, hx, by simp [hxe.1, hxe.2]⟩
      simp [slotFree, this] at hfree
    · rw [hs, List.map_cons, List.nodup_cons]
      refine ⟨?_, hi.recUnique⟩
      intro hmem
      obtain ⟨x, hx, hxe⟩ := List.mem_map.1 hmem
      simp only [Prod.mk.injEq] at hxe
      have : (s.slots.any fun y => y.m == m && y.c == c && y.idx == idx) = true :=
        List.any_eq_true.2 ⟨x, hx, by simp [hxe.1, hxe.2.1, hxe.2.2]⟩
      simp [inFlight, this] at hfl
  · exact slotInv_sublist cfg s s' hsub hi

theorem reach_slots (cfg : Cfg) (s : St) (h : Reach cfg s) : SlotInv cfg s := by
  obtain ⟨evs, h⟩ := h
  rw [Nq.Lemmas.DI.acceptAll_eq] at h
  exact Acceptor.foldlM_induct (SlotInv cfg) (fun s e s' hi => slot_step cfg s s' e hi) evs {} s
    ⟨fun c => by simp [usedCount], by simp, by simp⟩ h

/-- **Bounded concurrency**: in every reachable state the number of outstanding attempts on a
channel is at most min(configured concurrency, limit announced by the spawner) (`cfg.conc`). -/
theorem C04_bound (cfg : Cfg) (s : St) (h : Reach cfg s) (c : Ch) : usedCount s c ≤ cfg.conc c :=
  (reach_slots cfg s h).bound c

/-- **At most one attempt per recipient in flight**, and a delivery number never names two
outstanding attempts. -/
theorem C04_single (cfg : Cfg) (s : St) (h : Reach cfg s) :
    (s.slots.map fun x => (x.m, x.c, x.idx)).Nodup ∧ (s.slots.map fun x => (x.c, x.delnum)).Nodup :=
  ⟨(reach_slots cfg s h).recUnique, (reach_slots cfg s h).slotUnique⟩

/-- **A finished recipient is never started** (one step; over continuations: `C04_never_again`): a delivery
command is possible only for a record whose completion mark is not on disk, of a fully preprocessed message,
with no attempt for it outstanding. -/
theorem C04_no_retry (cfg : Cfg) (s s' : St) (c : Ch) (d m pos : Nat) (r : Bytes)
    (h : accept cfg s (.cmd c d m pos r) = some s') :
    ∃ rs idx, (s.msg m).chan c = some rs ∧ recIndex rs pos = some idx ∧ (rs.getD idx ⟨true, []⟩).done = false ∧
      (rs.getD idx ⟨true, []⟩).addr = r ∧ (s.msg m).todo = none ∧ inFlight s m c idx = false := by
  cases Nq.Lemmas.DI.accept_step h with
  | cmd _ _ _ _ _ rs idx _ hch hidx hg =>
    simp only [St.before_msg, inFlight, St.before_slots] at hg ⊢
    exact ⟨rs, idx, hch, hidx, by simpa using hg.2.2.1, hg.2.2.2.1, by simpa using hg.1,
      by simpa using hg.2.2.2.2.2.1⟩

/-- …and conversely: once the `D` byte of a record is on disk, no delivery command for it is
accepted (in the same run, after a clean restart, or after a crash that kept the byte). -/
theorem C04_marked_refused (cfg : Cfg) (s : St) (c : Ch) (d m pos : Nat) (r : Bytes) (rs : List Rec) (idx : Nat)
    (hc : (s.msg m).chan c = some rs) (hi : recIndex rs pos = some idx) (hd : (rs.getD idx ⟨true, []⟩).done = true) :
    accept cfg s (.cmd c d m pos r) = none := by
  cases h : accept cfg s (.cmd c d m pos r) with
  | none => rfl
  | some s' =>
    -- an accepted command finds the record's mark not on disk
    obtain ⟨rs', idx', hc', hi', hd', _⟩ := C04_no_retry cfg s s' c d m pos r h
    cases hc.symm.trans hc'
    cases hi.symm.trans hi'
    rw [hd] at hd'; cases hd'

/-- writing the mark makes the record done -/
theorem C04_mark_sets (cfg : Cfg) (s s' : St) (c : Ch) (m pos : Nat) (h : accept cfg s (.markD m c pos) = some s') :
    ∃ rs idx, (s.msg m).chan c = some rs ∧ recIndex rs pos = some idx ∧ (s'.msg m).chan c = some (setDone rs idx) := by
  cases Nq.Lemmas.DI.accept_step h with
  | markD _ _ _ rs idx _ hch hidx =>
    exact ⟨rs, idx, hch, hidx, by rw [St.msg_upd_self, Nq.Lemmas.DI.chan_setChan, if_pos rfl]⟩

/-- a restart of the daemon (`.restart`: after a crash, or - inside `cleanRestart` of the layer - after a clean
stop) forgets the slots but no file content and no history (`tab`).  Which events can take a mark away is
`C04_mark_stays`. -/
theorem C04_restart_keeps (cfg : Cfg) (s s' : St) (h : accept cfg s .restart = some s') : s'.tab = s.tab ∧ s'.slots = [] := by
  simp only [accept_restart] at h
  cases h; exact ⟨rfl, rfl⟩


/-! ### Reported recipients, also across clean restarts (layer `Nq.DaemonOwed`) -/

open Nq.Lemmas.DO

/-- **A reported recipient is never started again — in the same run or after a clean restart**:
while a record is on the list of due marks no delivery command for it is accepted. -/
theorem C04_reported_refused (cfg : Cfg) (s : St2) (c : Ch) (d m pos idx : Nat) (r : Bytes)
    (hi : recAt s.base m c pos = some idx) (ho : (m, c, idx) ∈ s.owed) :
    accept2 cfg s (.ev (.cmd c d m pos r)) = none := by
  simp [accept2, blocked, hi, ho]

/-- every record that a read from a spawner adds to `delivered` (a `K` report) is put on the list -/
theorem C04_K_owed (cfg : Cfg) (s s' : St2) (c : Ch) (bs : Bytes) (h : accept2 cfg s (.ev (.rbytes c bs)) = some s') :
    ∀ m c' i, (c', i) ∈ (s'.base.msg m).delivered → (c', i) ∈ (s.base.msg m).delivered ∨ (m, c', i) ∈ s'.owed := by
  cases accept2_step cfg s s' _ h with
  | ev _ b _ hb =>
    cases Nq.Lemmas.DI.accept_step hb with
    | rbytes =>
      intro m c' i hd
      have hd : (c', i) ∈ ((feedReports cfg { s.base.calm with mayMark := [], notes := [] } c bs).msg m).delivered := hd
      obtain ⟨xs, hx, hm⟩ := (Nq.Lemmas.DI.feedReports_fed cfg c bs { s.base.calm with mayMark := [], notes := [] }).msg m
      rw [hx] at hd
      exact (List.mem_append.1 hd).elim (fun h1 => Or.inr (List.mem_append_left _ (List.mem_append_left _ (hm _ h1).1))) Or.inl

/-- the record of a `D` report (or of a `Z` past the queue lifetime) is put on the list when its bounce
paragraph is appended -/
theorem C04_D_owed (cfg : Cfg) (s s' : St2) (m : Nat) (bs : Bytes) (h : accept2 cfg s (.ev (.appendBounce m bs)) = some s') :
    ∀ c' i, (c', i) ∈ (s'.base.msg m).noted → (c', i) ∈ (s.base.msg m).noted ∨ (m, c', i) ∈ s'.owed := by
  cases accept2_step cfg s s' _ h with
  | ev _ b _ hb =>
    cases Nq.Lemmas.DI.accept_step hb with
    | appendBounce _ _ n _ hn =>
      intro c' i hd
      have hd : (c', i) ∈ (((s.base.before (.appendBounce m bs)).upd m (Nq.Lemmas.DI.bounceUpd n bs)).msg m).noted := hd
      rw [St.msg_upd_self] at hd
      rcases List.mem_cons.1 hd with he | hin
      · cases he
        exact Or.inr (by simp [owedStep, show s.base.notes.find? (fun n => n.m == m) = some n from hn])
      · exact Or.inl hin

/-- the record of a `D` report is put on the list when the report is read (before its bounce paragraph is written) -/
theorem C04_D_owed_report (cfg : Cfg) (s s' : St2) (c : Ch) (bs : Bytes) (h : accept2 cfg s (.ev (.rbytes c bs)) = some s') :
    ∀ n ∈ s'.base.notes, n.final = true → (n.m, n.c, n.idx) ∈ s'.owed := by
  cases accept2_step cfg s s' _ h with
  | ev _ b =>
    intro n hn hf
    exact List.mem_append_left _ (List.mem_append_right _ (List.mem_map.2 ⟨n, List.mem_filter.2 ⟨hn, hf⟩, rfl⟩))

/-- a `D` report for an outstanding delivery leaves such a note (`final`) — see also `C03_note_origin` -/
theorem C04_D_noted (cfg : Cfg) (s : St) (c : Ch) (rep : Bytes) (sl : Slot)
    (hs : s.slots.find? (fun x => x.c == c && x.delnum == (rep.headD 0).toNat) = some sl)
    (hl : (rep.headD 0).toNat < cfg.conc c) (hD : rep.getD 1 0 = 68) :
    (⟨sl.m, c, sl.idx, sl.recip, true⟩ : Note) ∈ (handleReport cfg s c rep).notes := by
  rcases Nq.Lemmas.DI.handleReport_eq cfg s c rep with ⟨_, h1⟩ | ⟨sl', hsl, _, ⟨hK, _⟩ | ⟨_, h1⟩⟩
  · exact absurd hl (Nat.not_lt.2 (h1 sl hs))
  · rw [hD] at hK; cases hK
  · cases hs.symm.trans hsl
    rw [h1]
    exact List.mem_append_right _ (by
      rw [Nq.Lemmas.DI.noteOf, if_pos (Or.inl hD), decide_eq_true hD]; exact List.mem_singleton_self _)

/-- **A record leaves the list only with its mark, or for one of the documented reasons**: the mark
was written (`markD` at its position — from then on `C04_marked_refused` applies), a system call of
`markdone` *for this record* failed (`markFail`: "message will be delivered twice"), a crash (`restart`), or its file
is gone (`unlinkChan`; `cUnlinkTodo`/`newmsg`: the message number starts a new life).  In
particular a clean restart keeps it, and a failing `markdone` for another record of the same file keeps it. -/
theorem C04_owed_persists (cfg : Cfg) (s s' : St2) (e : Ev2) (h : accept2 cfg s e = some s')
    (x : Nat × Ch × Nat) (hx : x ∈ s.owed) :
    x ∈ s'.owed ∨
    (∃ pos, e = .ev (.markD x.1 x.2.1 pos) ∧ recAt s.base x.1 x.2.1 pos = some x.2.2) ∨
    (∃ pos, e = .markFail x.1 x.2.1 pos ∧ recAt s.base x.1 x.2.1 pos = some x.2.2) ∨
    e = .ev .restart ∨
    e = .ev (.unlinkChan x.1 x.2.1) ∨
    e = .ev (.cUnlinkTodo x.1) ∨
    (∃ sender rcpts, e = .ev (.newmsg x.1 sender rcpts)) := by
  cases accept2_step cfg s s' e h with
  | cleanRestart => exact Or.inl hx
  | markFail m c pos idx hidx =>
    by_cases hxe : x = (m, c, idx)
    · exact Or.inr (Or.inr (Or.inl ⟨pos, by rw [hxe], by rw [hxe]; exact hidx⟩))
    · exact Or.inl (mem_dropRec hx hxe)
  | ev e0 b =>
    cases e0 with
    | rbytes c bs => left; exact List.mem_append_right _ hx
    | appendBounce m bs =>
      left
      simp only [owedStep]
      split
      · exact List.mem_cons_of_mem _ hx
      · exact hx
    | markD m c pos =>
      simp only [owedStep]
      split
      · rename_i idx hidx
        by_cases hxe : x = (m, c, idx)
        · exact Or.inr (Or.inl ⟨pos, by rw [hxe], by rw [hxe]; exact hidx⟩)
        · exact Or.inl (mem_dropRec hx hxe)
      · exact Or.inl hx
    | unlinkChan m c =>
      by_cases hm : x.1 = m ∧ x.2.1 = c
      · right; right; right; right; left; rw [hm.1, hm.2]
      · exact Or.inl (mem_dropChan hx hm)
    | newmsg m sender rcpts =>
      by_cases hm : x.1 = m
      · right; right; right; right; right; right; exact ⟨sender, rcpts, by rw [hm]⟩
      · exact Or.inl (mem_dropMsg hx hm)
    | cUnlinkTodo m =>
      by_cases hm : x.1 = m
      · right; right; right; right; right; left; rw [hm]
      · exact Or.inl (mem_dropMsg hx hm)
    | restart => right; right; right; left; rfl
    | _ => exact Or.inl hx

/-- a clean stop happens only when no delivery is in flight (TERM: stop starting, wait for the outstanding reports), and the
restart forgets neither a file nor a due mark -/
theorem C04_cleanRestart_keeps (cfg : Cfg) (s s' : St2) (h : accept2 cfg s .cleanRestart = some s') :
    s.base.slots = [] ∧ s'.owed = s.owed ∧ s'.base.tab = s.base.tab ∧ s'.base.slots = [] := by
  cases accept2_step cfg s s' _ h with
  | cleanRestart b he hb => cases hb; exact ⟨he, rfl, rfl, rfl⟩

/-- the layer only refuses: whatever `accept2` accepts, the base monitor accepts (so every theorem
about `accept` — C03 and the ones above — applies to the histories the driver validates) -/
theorem C04_layer_refines (cfg : Cfg) (s s' : St2) (e : Ev) (h : accept2 cfg s (.ev e) = some s') :
    accept cfg s.base e = some s'.base := by
  cases accept2_step cfg s s' _ h with
  | ev _ b _ hb => exact hb

/-- the base events an event of the layer stands for: a failing `markdone` is no event of the base monitor; a clean stop and
restart is a `.restart` after which no crash damage is reported — the first thing the new daemon does (here: it reads the
clock, which changes nothing) closes the crash window -/
def baseEvents (s : St2) : Ev2 → List Ev
  | .ev e => [e]
  | .markFail _ _ _ => []
  | .cleanRestart => [.restart, .tick s.base.clock]

/-- … for every event of the layer (not only `.ev e`): the base states of a history `accept2` accepts are a history of the base
monitor, so the theorems about `accept` / `acceptAll` (C03, `C04_bound`, `C04_single`) apply to them -/
theorem C04_layer_refines_all (cfg : Cfg) (s s' : St2) (e : Ev2) (h : accept2 cfg s e = some s') :
    acceptAll cfg s.base (baseEvents s e) = some s'.base := by
  cases accept2_step cfg s s' e h with
  | ev e0 b _ hb => simp only [baseEvents, acceptAll, hb]
  | markFail => rfl
  | cleanRestart b _ hb =>
    cases hb
    simp only [baseEvents, acceptAll, accept_restart]
    simp [accept, St.before, Ev.inCrashWindow, acceptCore, St.calm]

/-! ### Never again: whole traces -/

/-- **A completion mark on disk stays `D`** under every event the monitor accepts except a machine crash that reverts
THIS un-fsynced mark (`crashMarks` of its file with the record's own byte back to `T` — a `crashMarks` that keeps the byte keeps
the mark), the removal of the file (`unlinkChan`) and a machine crash during preprocessing (`crashTodoFiles`): in particular
across restarts, clean or not.  (Frame lemma over all event kinds.) -/
theorem C04_mark_stays (cfg : Cfg) (s s' : St) (e : Ev) (h : accept cfg s e = some s') (x : Nat × Ch × Nat)
    (hm : markedDone s x = true) :
    markedDone s' x = true ∨ (∃ marks, e = .crashMarks x.1 x.2.1 marks ∧ marks.getD x.2.2 false = false) ∨
      e = .unlinkChan x.1 x.2.1 ∨ e = .crashTodoFiles x.1 := by
  -- the event is judged in `s.before e`, which has the same files
  replace hm : markedDone (s.before e) x = true := by
    rw [markedDone_of_chan s (s.before e) x (by rw [St.before_msg])]; exact hm
  replace h := Nq.Lemmas.DI.accept_step h
  generalize s.before e = s at h hm
  by_cases ht : touchesChan x.1 x.2.1 e = false
  · left; rw [markedDone_of_chan s s' x (chan_frame_core h x.1 x.2.1 ht)]; exact hm
  · have ht : touchesChan x.1 x.2.1 e = true := by simpa using ht
    obtain ⟨m, c, i⟩ := x
    obtain ⟨rs, hrs, hi, hd⟩ : ∃ rs, (s.msg m).chan c = some rs ∧ i < rs.length ∧ (rs.getD i ⟨false, []⟩).done = true := by
      simp only [markedDone] at hm
      cases hrs : (s.msg m).chan c with
      | none => simp [hrs] at hm
      | some rs => simpa [hrs] using hm
    simp only at ht ⊢
    cases h with
    | unlinkChan m' c' => simp [touchesChan] at ht; right; right; left; rw [ht.1, ht.2]
    | crashTodoFiles m' => simp [touchesChan] at ht; right; right; right; rw [ht]
    | crashMarks m' c' marks rs' hch _ _ _ hl =>
      simp [touchesChan] at ht; obtain ⟨h1, h2⟩ := ht; subst h1; subst h2
      cases hch.symm.trans hrs
      cases hk : marks.getD i false with
      | false => right; left; exact ⟨marks, rfl, hk⟩
      | true =>
        -- the record's own byte was kept
        exact Or.inl (markedDone_upd s m' _ c' i _ (by rw [Nq.Lemmas.DI.chan_setChan, if_pos rfl]) (by simp [Nq.Lemmas.DI.zipMarks, hl, hi])
          (by rw [← hk]; exact Nq.Lemmas.DI.getD_zipMarks rs marks i hl hi))
    | newmsg m' sd rc _ hg =>
      simp [touchesChan] at ht; subst ht
      cases c
      · have := hg.2.2.2.2.1; rw [show (s.msg m').loc = some rs from hrs] at this; cases this
      · have := hg.2.2.2.2.2.1; rw [show (s.msg m').rem = some rs from hrs] at this; cases this
    | creatChan m' c' _ _ hch =>
      simp [touchesChan] at ht; obtain ⟨h1, h2⟩ := ht; subst h1; subst h2
      rw [hrs] at hch; cases hch
    | writeChan m' c' bs cur rs' hcur =>
      simp [touchesChan] at ht; obtain ⟨h1, h2⟩ := ht; subst h1; subst h2
      cases hcur.symm.trans hrs
      exact Or.inl (markedDone_upd s m' _ c' i _ (by rw [Nq.Lemmas.DI.chan_setChanSynced, Nq.Lemmas.DI.chan_setChan, if_pos rfl])
        (by rw [List.length_append]; omega) (by rw [getD_append_left' _ _ _ _ hi]; exact hd))
    | markD m' c' pos rs' idx _ hch =>
      simp [touchesChan] at ht; obtain ⟨h1, h2⟩ := ht; subst h1; subst h2
      cases hch.symm.trans hrs
      exact Or.inl (markedDone_upd s m' _ c' i _ (by rw [Nq.Lemmas.DI.chan_setChan, if_pos rfl]) (by rw [Nq.Lemmas.DI.length_setDone]; exact hi)
        (getD_setDone_mono rs idx i hd))
    | _ => cases ht

/-- writing the mark makes the record finished -/
theorem C04_markD_fin (cfg : Cfg) (s s' : St) (c : Ch) (m pos : Nat) (h : accept cfg s (.markD m c pos) = some s') :
    ∃ idx, recAt s m c pos = some idx ∧ markedDone s' (m, c, idx) = true := by
  obtain ⟨rs, idx, hc, hi, hc'⟩ := C04_mark_sets cfg s s' c m pos h
  refine ⟨idx, by simp [recAt, hc, hi], ?_⟩
  have hlt := recIndex_lt rs pos idx hi
  simp only [markedDone, hc', Bool.and_eq_true, decide_eq_true_eq, Nq.Lemmas.DI.length_setDone]
  exact ⟨hlt, getD_setDone_self rs idx hlt⟩

/-- **One step**: a finished record (mark on disk, or final report handled and mark due) stays finished under every event
`accept2` accepts, unless the event is one of the excuses (`excuse`: crash / failing `markdone` of this record while the mark
is not on disk; `crashMarks` of its file that reverts THIS record's byte; `unlinkChan` of its file; `crashTodoFiles`,
`cUnlinkTodo`, `newmsg` of its message). -/
theorem C04_fin_step (cfg : Cfg) (s s' : St2) (e : Ev2) (h : accept2 cfg s e = some s') (x : Nat × Ch × Nat) (hf : Fin2 s x) :
    Fin2 s' x ∨ excuse s x e = true := by
  by_cases hmk : markedDone s.base x = true
  · cases e with
    | ev e0 =>
      have hb := C04_layer_refines cfg s s' e0 h
      rcases C04_mark_stays cfg s.base s'.base e0 hb x hmk with h1 | ⟨marks, rfl, hk⟩ | rfl | rfl
      · exact Or.inl (Or.inr h1)
      · right; simp only [excuse, hk]; simp
      · right; simp [excuse]
      · right; simp [excuse]
    | markFail m c pos =>
      cases accept2_step cfg s s' _ h with
      | markFail => exact Or.inl (Or.inr hmk)
    | cleanRestart =>
      cases accept2_step cfg s s' _ h with
      | cleanRestart b _ hb => cases hb; exact Or.inl (Or.inr hmk)
  · have hx : x ∈ s.owed := hf.resolve_right hmk
    have hmk' : markedDone s.base x = false := by simpa using hmk
    rcases C04_owed_persists cfg s s' e h x hx with h1 | ⟨pos, rfl, hr⟩ | ⟨pos, rfl, hr⟩ | rfl | rfl | rfl | ⟨sd, rc, rfl⟩
    · exact Or.inl (Or.inl h1)
    · left; right
      have hb := C04_layer_refines cfg s s' _ h
      obtain ⟨idx, hi, hd⟩ := C04_markD_fin cfg s.base s'.base x.2.1 x.1 pos hb
      rw [hr] at hi; cases hi; exact hd
    · right; simp [excuse, hr, hmk']
    · right; simp [excuse, hmk']
    · right; simp [excuse]
    · right; simp [excuse]
    · right; simp [excuse]

/-- **No delivery command for a finished record**: refused by the layer (mark due) or by the base monitor (mark on disk) -/
theorem C04_fin_refuses (cfg : Cfg) (s : St2) (x : Nat × Ch × Nat) (hf : Fin2 s x) (e : Ev2) (hc : cmdFor s x e = true) :
    accept2 cfg s e = none := by
  cases e with
  | ev e0 =>
    cases e0 with
    | cmd c d m pos r =>
      simp only [cmdFor, Bool.and_eq_true, beq_iff_eq] at hc
      obtain ⟨⟨hm, hcc⟩, hr⟩ := hc
      subst hm; subst hcc
      rcases hf with ho | hmk
      · exact C04_reported_refused cfg s _ d _ pos x.2.2 r hr ho
      · simp only [accept2]
        split
        · rfl
        · simp only [recAt] at hr
          simp only [markedDone] at hmk
          cases hch : (s.base.msg x.1).chan x.2.1 with
          | none => simp [hch] at hmk
          | some rs =>
            simp only [hch] at hr hmk
            simp only [Bool.and_eq_true, decide_eq_true_eq] at hmk
            have := C04_marked_refused cfg s.base x.2.1 d x.1 pos r rs x.2.2 hch hr
              (by rw [getD_default_irrel rs x.2.2 _ ⟨false, []⟩ hmk.1]; exact hmk.2)
            rw [this]
    | _ => simp [cmdFor] at hc
  | _ => simp [cmdFor] at hc

/-- **Never attempted again** — the temporal clause of C04 over whole traces: from a state in which record `x` is finished
(its `D` byte is on disk, or its `K`/`D` report was handled and the mark is due), along *any* event sequence that `accept2`
accepts — arbitrarily many reports, arrivals, clean stops and restarts, crashes that kept the byte, failing calls that
concern other records — in which no excusing event for `x` occurs (`excuse`, judged in the state where it happens), no
delivery command for `x` is ever issued, and `x` is still finished at the end. -/
theorem C04_never_again (cfg : Cfg) (x : Nat × Ch × Nat) : ∀ (evs : List Ev2) (s s' : St2), Fin2 s x →
    acceptAll2 cfg s evs = some s' → anyAlong cfg (fun t e => excuse t x e) s evs = false →
    anyAlong cfg (fun t e => cmdFor t x e) s evs = false ∧ Fin2 s' x :=
  fun evs s s' hf ha hne =>
    (acceptAll2_induct cfg (Fin2 · x)
      -- no excuse: `x` stays finished; a command for `x` would have been refused
      (fun t e t' hf h1 hex => ⟨(C04_fin_step cfg t t' e h1 x hf).resolve_right (by rw [hex]; exact Bool.false_ne_true),
        Bool.eq_false_iff.2 fun hcf => nomatch (C04_fin_refuses cfg t x hf e hcf).symm.trans h1⟩)
      evs s s' hf ha hne).symm

/-- … after a `K` report: every record a read from a spawner adds to `delivered` is never commanded again in any accepted
continuation without an excusing event -/
theorem C04_never_again_after_K (cfg : Cfg) (s s1 s2 : St2) (c : Ch) (bs : Bytes) (m : Nat) (c' : Ch) (i : Nat) (evs : List Ev2)
    (h : accept2 cfg s (.ev (.rbytes c bs)) = some s1)
    (hd : (c', i) ∈ (s1.base.msg m).delivered) (hnd : (c', i) ∉ (s.base.msg m).delivered)
    (ha : acceptAll2 cfg s1 evs = some s2) (hne : anyAlong cfg (fun t e => excuse t (m, c', i) e) s1 evs = false) :
    anyAlong cfg (fun t e => cmdFor t (m, c', i) e) s1 evs = false :=
  (C04_never_again cfg (m, c', i) evs s1 s2
    (Or.inl ((C04_K_owed cfg s s1 c bs h m c' i hd).resolve_left hnd)) ha hne).1

/-- … after a `D` report (before and after its bounce paragraph is written) -/
theorem C04_never_again_after_D (cfg : Cfg) (s s1 s2 : St2) (c : Ch) (bs : Bytes) (n : Note) (evs : List Ev2)
    (h : accept2 cfg s (.ev (.rbytes c bs)) = some s1) (hn : n ∈ s1.base.notes) (hf : n.final = true)
    (ha : acceptAll2 cfg s1 evs = some s2) (hne : anyAlong cfg (fun t e => excuse t (n.m, n.c, n.idx) e) s1 evs = false) :
    anyAlong cfg (fun t e => cmdFor t (n.m, n.c, n.idx) e) s1 evs = false :=
  (C04_never_again cfg (n.m, n.c, n.idx) evs s1 s2 (Or.inl (C04_D_owed_report cfg s s1 c bs h n hn hf)) ha hne).1

/-- … after the mark was written -/
theorem C04_never_again_after_mark (cfg : Cfg) (s s1 s2 : St2) (m : Nat) (c : Ch) (pos idx : Nat) (evs : List Ev2)
    (h : accept2 cfg s (.ev (.markD m c pos)) = some s1) (hi : recAt s.base m c pos = some idx)
    (ha : acceptAll2 cfg s1 evs = some s2) (hne : anyAlong cfg (fun t e => excuse t (m, c, idx) e) s1 evs = false) :
    anyAlong cfg (fun t e => cmdFor t (m, c, idx) e) s1 evs = false := by
  obtain ⟨idx', hi', hd⟩ := C04_markD_fin cfg s.base s1.base c m pos (C04_layer_refines cfg s s1 _ h)
  rw [hi] at hi'; cases hi'
  exact (C04_never_again cfg (m, c, idx) evs s1 s2 (Or.inr hd) ha hne).1

/-- **At most once**: from a state in which record `x` is finished and has no attempt outstanding — e.g. right after its `K`
report was read (`C04_single`: the report freed the only slot of `x`) — along any accepted event sequence without an excusing
event for `x`: no delivery command for `x` is issued, no further `K` report for `x` is ever read (`delivered` keeps its count),
and `x` stays finished.  Together with `C04_cleanRestart_keeps` (a clean stop happens only with no delivery in flight): without
crashes and failing calls a recipient that succeeds is delivered exactly once. -/
theorem C04_K_once (cfg : Cfg) (x : Nat × Ch × Nat) : ∀ (evs : List Ev2) (s s' : St2), Fin2 s x → inFl s.base x = false →
    acceptAll2 cfg s evs = some s' → anyAlong cfg (fun t e => excuse t x e) s evs = false →
    dcount s'.base x = dcount s.base x ∧ inFl s'.base x = false ∧ Fin2 s' x :=
  fun evs s s' hf hi ha hne =>
    (acceptAll2_induct cfg (fun t => dcount t.base x = dcount s.base x ∧ inFl t.base x = false ∧ Fin2 t x)
      (fun t e t' ⟨hd, hi, hf⟩ h1 hex => by
        have hnc : cmdFor t x e = false :=
          Bool.eq_false_iff.2 fun hcf => nomatch (C04_fin_refuses cfg t x hf e hcf).symm.trans h1
        have hst := once_step cfg t t' e h1 x hi hnc hex
        exact ⟨⟨hst.2.trans hd, hst.1, (C04_fin_step cfg t t' e h1 x hf).resolve_right (by rw [hex]; exact Bool.false_ne_true)⟩, hnc⟩)
      evs s s' ⟨rfl, hi, hf⟩ ha hne).1

/-- **After its `K` report a record has no attempt outstanding** (the report freed the slot, and by `C04_single` there was no
other): the hypothesis of `C04_K_once` holds right after the read -/
theorem C04_K_frees (cfg : Cfg) (s s1 : St2) (hr : Reach cfg s.base) (c : Ch) (bs : Bytes) (m : Nat) (c' : Ch) (i : Nat)
    (h : accept2 cfg s (.ev (.rbytes c bs)) = some s1)
    (hd : (c', i) ∈ (s1.base.msg m).delivered) (hnd : (c', i) ∉ (s.base.msg m).delivered) :
    inFl s1.base (m, c', i) = false := by
  obtain ⟨sb, so⟩ := s1
  have hb : accept cfg s.base (.rbytes c bs) = some sb := C04_layer_refines cfg s _ _ h
  show inFl sb (m, c', i) = false
  cases Nq.Lemmas.DI.accept_step hb with
  | rbytes =>
    refine feedReports_newK cfg c (m, c', i) bs { s.base.calm with mayMark := [], notes := [] }
      (reach_slots cfg s.base hr).recUnique ?_
    have h0 : dcount { s.base.calm with mayMark := [], notes := [] } (m, c', i) = 0 := List.count_eq_zero.2 hnd
    rw [h0]; exact List.count_pos_iff.2 hd

/-- **Exactly once without crashes**: a record whose first `K` report (`hnd`) is read in a reachable state is, along ANY accepted
continuation without an excusing event for it (no crash, no failing `markdone` of it, …; clean stops and restarts allowed), never
commanded again and never reported `K` again.  ("At most once" from the first `K` on; that a recipient is attempted at all is
not stated.) -/
theorem C04_exactly_once (cfg : Cfg) (s s1 s2 : St2) (hr : Reach cfg s.base) (c : Ch) (bs : Bytes) (m : Nat) (c' : Ch) (i : Nat)
    (evs : List Ev2) (h : accept2 cfg s (.ev (.rbytes c bs)) = some s1)
    (hd : (c', i) ∈ (s1.base.msg m).delivered) (hnd : (c', i) ∉ (s.base.msg m).delivered)
    (ha : acceptAll2 cfg s1 evs = some s2) (hne : anyAlong cfg (fun t e => excuse t (m, c', i) e) s1 evs = false) :
    anyAlong cfg (fun t e => cmdFor t (m, c', i) e) s1 evs = false ∧
    dcount s2.base (m, c', i) = dcount s1.base (m, c', i) := by
  exact ⟨C04_never_again_after_K cfg s s1 s2 c bs m c' i evs h hd hnd ha hne,
    (C04_K_once cfg (m, c', i) evs s1 s2 (Or.inl ((C04_K_owed cfg s s1 c bs h m c' i hd).resolve_left hnd))
      (C04_K_frees cfg s s1 hr c bs m c' i h hd hnd) ha hne).1⟩

/-! ### Non-vacuity -/

def cfg0 : Cfg := { conc := fun _ => 1, lifetime := 1000, route := fun a => (.loc, a), doublebounceto := [112] }

/-- with concurrency 1 a second delivery command is refused while the first is in flight -/
example : acceptAll cfg0 {}
    [.newmsg 7 [115] [[97], [98]], .creatInfo 7, .writeInfo 7 [70, 115, 0], .creatChan 7 .loc, .writeChan 7 .loc [84, 97, 0, 84, 98, 0],
     .fsyncInfo 7, .fsyncChan 7 .loc, .cleanReq [116, 111, 100, 111, 47, 55, 0], .cUnlinkIntd 7, .cUnlinkTodo 7, .cleanResp 43,
     .cmd .loc 0 7 0 [97], .cmd .loc 1 7 3 [98]] = none := by
  decide

/-- K report, mark, then a command for the same record is refused, the other record is started -/
example : (acceptAll cfg0 {}
    [.newmsg 7 [115] [[97], [98]], .creatInfo 7, .writeInfo 7 [70, 115, 0], .creatChan 7 .loc, .writeChan 7 .loc [84, 97, 0, 84, 98, 0],
     .fsyncInfo 7, .fsyncChan 7 .loc, .cleanReq [116, 111, 100, 111, 47, 55, 0], .cUnlinkIntd 7, .cUnlinkTodo 7, .cleanResp 43,
     .cmd .loc 0 7 0 [97], .rbytes .loc [0, 75, 0], .markD 7 .loc 0, .restart, .cmd .loc 0 7 3 [98]]).isSome = true ∧
    acceptAll cfg0 {}
    [.newmsg 7 [115] [[97], [98]], .creatInfo 7, .writeInfo 7 [70, 115, 0], .creatChan 7 .loc, .writeChan 7 .loc [84, 97, 0, 84, 98, 0],
     .fsyncInfo 7, .fsyncChan 7 .loc, .cleanReq [116, 111, 100, 111, 47, 55, 0], .cUnlinkIntd 7, .cUnlinkTodo 7, .cleanResp 43,
     .cmd .loc 0 7 0 [97], .rbytes .loc [0, 75, 0], .markD 7 .loc 0, .restart, .cmd .loc 0 7 0 [97]] = none := by
  decide +kernel


/-- K report for record 0, TERM, exit 0, start again (no mark was written): the command for record 0
is refused by the layer although the base monitor — which only looks at the bytes on disk — accepts it;
the command for record 1 is accepted; after a crash instead of the clean stop the retry is accepted -/
example :
    let pre : List Ev2 :=
      [.ev (.newmsg 7 [115] [[97], [98]]), .ev (.creatInfo 7), .ev (.writeInfo 7 [70, 115, 0]), .ev (.creatChan 7 .loc),
       .ev (.writeChan 7 .loc [84, 97, 0, 84, 98, 0]), .ev (.fsyncInfo 7), .ev (.fsyncChan 7 .loc),
       .ev (.cleanReq [116, 111, 100, 111, 47, 55, 0]), .ev (.cUnlinkIntd 7), .ev (.cUnlinkTodo 7), .ev (.cleanResp 43),
       .ev (.cmd .loc 0 7 0 [97]), .ev (.rbytes .loc [0, 75, 0])]
    acceptAll2 cfg0 {} (pre ++ [.cleanRestart, .ev (.cmd .loc 0 7 0 [97])]) = none ∧
    (acceptAll2 cfg0 {} (pre ++ [.cleanRestart, .ev (.cmd .loc 0 7 3 [98])])).isSome = true ∧
    (acceptAll2 cfg0 {} (pre ++ [.ev .restart, .ev (.cmd .loc 0 7 0 [97])])).isSome = true ∧
    (acceptAll2 cfg0 {} (pre ++ [.markFail 7 .loc 0, .cleanRestart, .ev (.cmd .loc 0 7 0 [97])])).isSome = true := by
  decide +kernel

/-- two probes: first, a `D` report was read, its paragraph not yet written — a second command for the same
record is refused in the same run and after a clean restart; second, two `K` reports, `markdone` fails for record 0 only: record 0
may be attempted again, record 1 may not -/
example :
    let pre : List Ev2 :=
      [.ev (.newmsg 7 [115] [[97], [98]]), .ev (.creatInfo 7), .ev (.writeInfo 7 [70, 115, 0]), .ev (.creatChan 7 .loc),
       .ev (.writeChan 7 .loc [84, 97, 0, 84, 98, 0]), .ev (.fsyncInfo 7), .ev (.fsyncChan 7 .loc),
       .ev (.cleanReq [116, 111, 100, 111, 47, 55, 0]), .ev (.cUnlinkIntd 7), .ev (.cUnlinkTodo 7), .ev (.cleanResp 43)]
    let cfg2 : Cfg := { conc := fun _ => 2, lifetime := 1000, route := fun a => (.loc, a), doublebounceto := [112] }
    acceptAll2 cfg2 {} (pre ++ [.ev (.cmd .loc 0 7 0 [97]), .ev (.rbytes .loc [0, 68, 120, 10, 0]), .ev (.cmd .loc 0 7 0 [97])]) = none ∧
    acceptAll2 cfg2 {} (pre ++ [.ev (.cmd .loc 0 7 0 [97]), .ev (.rbytes .loc [0, 68, 120, 10, 0]), .cleanRestart, .ev (.cmd .loc 0 7 0 [97])]) = none ∧
    (acceptAll2 cfg2 {} (pre ++ [.ev (.cmd .loc 0 7 0 [97]), .ev (.cmd .loc 1 7 3 [98]), .ev (.rbytes .loc [0, 75, 0, 1, 75, 0]),
       .markFail 7 .loc 0, .ev (.cmd .loc 0 7 0 [97])])).isSome = true ∧
    acceptAll2 cfg2 {} (pre ++ [.ev (.cmd .loc 0 7 0 [97]), .ev (.cmd .loc 1 7 3 [98]), .ev (.rbytes .loc [0, 75, 0, 1, 75, 0]),
       .markFail 7 .loc 0, .ev (.cmd .loc 1 7 3 [98])]) = none := by
  decide +kernel

/-- a `crashMarks` with no crash (it would revert a written mark and "excuse" a second delivery — at any idle instant) is
refused, and so is the retry; after a crash it is accepted, and then the retry is
legitimate.  A `markFail` for a record whose mark is not due (nothing was reported, or the mark was already written) is refused;
for a record whose mark is due it is accepted and only that record may be retried. -/
example :
    let pre : List Ev2 :=
      [.ev (.newmsg 7 [115] [[97], [98]]), .ev (.creatInfo 7), .ev (.writeInfo 7 [70, 115, 0]), .ev (.creatChan 7 .loc),
       .ev (.writeChan 7 .loc [84, 97, 0, 84, 98, 0]), .ev (.fsyncInfo 7), .ev (.fsyncChan 7 .loc),
       .ev (.cleanReq [116, 111, 100, 111, 47, 55, 0]), .ev (.cUnlinkIntd 7), .ev (.cUnlinkTodo 7), .ev (.cleanResp 43)]
    let cfg2 : Cfg := { conc := fun _ => 2, lifetime := 1000, route := fun a => (.loc, a), doublebounceto := [112] }
    let marked : List Ev2 := pre ++ [.ev (.cmd .loc 0 7 0 [97]), .ev (.rbytes .loc [0, 75, 0]), .ev (.markD 7 .loc 0)]
    (acceptAll2 cfg2 {} marked).isSome = true ∧
    acceptAll2 cfg2 {} (marked ++ [.ev (.crashMarks 7 .loc [false, false])]) = none ∧
    acceptAll2 cfg2 {} (marked ++ [.ev (.cmd .loc 0 7 0 [97])]) = none ∧
    (acceptAll2 cfg2 {} (marked ++ [.ev .restart, .ev (.crashMarks 7 .loc [false, false]), .ev (.cmd .loc 0 7 0 [97])])).isSome = true ∧
    -- a crash-damage event after a CLEAN stop is refused too
    acceptAll2 cfg2 {} (marked ++ [.cleanRestart, .ev (.crashMarks 7 .loc [false, false])]) = none ∧
    -- `markFail` needs a due mark
    acceptAll2 cfg2 {} (marked ++ [.markFail 7 .loc 0]) = none ∧
    acceptAll2 cfg2 {} (marked ++ [.markFail 7 .loc 3]) = none ∧
    (acceptAll2 cfg2 {} (marked ++ [.ev (.cmd .loc 0 7 3 [98]), .ev (.rbytes .loc [0, 75, 0]), .markFail 7 .loc 3,
        .ev (.cmd .loc 0 7 3 [98])])).isSome = true ∧
    acceptAll2 cfg2 {} (marked ++ [.ev (.cmd .loc 0 7 3 [98]), .ev (.rbytes .loc [0, 75, 0]), .markFail 7 .loc 3, .markFail 7 .loc 3]) = none := by
  decide +kernel

/-- a `crashMarks` that KEEPS the record's byte is no excuse: record 0 marked, crash,
`crashMarks 7 loc [true, false]` — no excusing event for record 0 in this continuation, and (`C04_never_again`) no command for
it; the one that reverts the byte is an excuse -/
example :
    let pre : List Ev2 :=
      [.ev (.newmsg 7 [115] [[97], [98]]), .ev (.creatInfo 7), .ev (.writeInfo 7 [70, 115, 0]), .ev (.creatChan 7 .loc),
       .ev (.writeChan 7 .loc [84, 97, 0, 84, 98, 0]), .ev (.fsyncInfo 7), .ev (.fsyncChan 7 .loc),
       .ev (.cleanReq [116, 111, 100, 111, 47, 55, 0]), .ev (.cUnlinkIntd 7), .ev (.cUnlinkTodo 7), .ev (.cleanResp 43),
       .ev (.cmd .loc 0 7 0 [97]), .ev (.rbytes .loc [0, 75, 0]), .ev (.markD 7 .loc 0)]
    ((acceptAll2 cfg0 {} pre).map fun s =>
       (anyAlong cfg0 (fun t e => excuse t (7, .loc, 0) e) s [.ev .restart, .ev (.crashMarks 7 .loc [true, false]), .ev (.cmd .loc 0 7 3 [98])],
        (acceptAll2 cfg0 s [.ev .restart, .ev (.crashMarks 7 .loc [true, false]), .ev (.cmd .loc 0 7 3 [98])]).isSome,
        (acceptAll2 cfg0 s [.ev .restart, .ev (.crashMarks 7 .loc [true, false]), .ev (.cmd .loc 0 7 0 [97])]).isNone,
        anyAlong cfg0 (fun t e => excuse t (7, .loc, 0) e) s [.ev .restart, .ev (.crashMarks 7 .loc [false, false])]))
      = some (false, true, true, true) := by
  decide +kernel

end Nq.Props.C04
