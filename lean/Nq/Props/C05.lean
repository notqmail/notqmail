/-
  C05 — Inbound SMTP DATA is decoded transparently and framed only by CR LF . CR LF.

  Model: `Nq.SmtpIn.dblast` (the five-state automaton of qmail-smtpd.c `blast()`), tied to the
  source by the exhaustive differential harness `harness/c05_blast.c` AND by translation: the body of `blast()` is
  extracted from the current qmail-smtpd.c into `Nq.Gen.SmtpdBlast` (a `Nq.CMini.Stmt`) on every run, and the
  `C05_source_*` theorems at the end show that its meaning is this automaton.
  Also here: the hop scanner of `blast()` (`hstep`) against the line-based `HopCount.hopSpec`, and `blast()` as it runs
  over substdio (`Nq.SmtpIO.sblast`), for every read script.
-/
import Nq.Lemmas.SmtpFraming
import Nq.Lemmas.SmtpWire
import Nq.Lemmas.HopCount
import Nq.Lemmas.SmtpIO
import Nq.Lemmas.SmtpdSrc.Main

namespace Nq.Props.C05
open Nq Nq.SmtpIn Nq.SmtpRef Nq.SmtpOut Nq.Wire Nq.Lemmas

/-- The automaton **is** the line-based RFC 5321 decoder, for every byte stream: same verdict,
same stored bytes, same unread remainder (which the caller then parses as the next command). -/
theorem C05_spec (inp : Bytes) : dblast inp = rfcDecode inp := dblast_eq_rfcDecode inp

/-- **Framing.** The message is accepted exactly when the stream is a sequence of CR LF-terminated
lines, none of them containing a LF or consisting of a single dot, followed by `.` CR LF; the
stored body is those lines with one leading dot removed and LF as terminator, and `rest` is
everything after the terminator. -/
theorem C05_framing (inp body rest : Bytes) :
    dblast inp = .accepted body rest ↔
    ∃ ls : List Bytes, inp = joinWith [CR, LF] ls ++ [DOT, CR, LF] ++ rest ∧ (∀ l ∈ ls, LF ∉ l ∧ l ≠ [DOT]) ∧
      body = joinWith [LF] (ls.map unstuff) := by
  rw [C05_spec]
  constructor
  · exact rfcDecode_framing_mp inp body rest
  · rintro ⟨ls, rfl, h2, rfl⟩
    exact rfcDecode_framing_mpr ls rest h2

/-- **A bare LF is never accepted**: whenever a message is accepted, the bytes consumed contain no
LF that is not preceded by CR. -/
theorem C05_barelf (inp body rest : Bytes) (h : dblast inp = .accepted body rest) :
    ∃ used, inp = used ++ rest ∧ noBareLF used = true := by
  obtain ⟨ls, e1, e2, _⟩ := (C05_framing inp body rest).1 h
  exact ⟨joinWith [CR, LF] ls ++ [DOT, CR, LF], by simp [e1], noBareLF_framed ls fun l hl => (e2 l hl).1⟩

/-- …and conversely a LF not preceded by CR, anywhere before the terminator, gives the verdict `stray`:
`straynewline()`, that is 451 and `_exit(1)`.  (That nothing is then queued is `C07_stopped_no_envelope`, not claimed here.) -/
theorem C05_barelf_refused (ls : List Bytes) (l post : Bytes) (hls : ∀ x ∈ ls, LF ∉ x ∧ x ≠ [DOT])
    (h1 : LF ∉ l) (h2 : l.getLast? ≠ some CR) :
    dblast (joinWith [CR, LF] ls ++ (l ++ LF :: post)) = .stray := by
  rw [C05_spec, rfcDecode_lines ls _ hls, rfcDecode_bare l post h1 h2]
  simp [emit]

/-- **Round trip with any conforming sender**: a message of complete lines, encoded as RFC 5321
prescribes, decodes to exactly the original — including messages that contain CR bytes — and the
bytes that follow are left for the command parser. -/
theorem C05_roundtrip (m rest : Bytes) (h : completeLines m) :
    dblast (rfcEncode m ++ rest) = .accepted m rest := by
  obtain ⟨ls, a, b, c⟩ := rfcEncode_wire m h
  rw [b, dblast_wire ls rest a, ← c]

/-- **Round trip with this package's own client** (qmail-remote): the server stores `canon m`. -/
theorem C05_roundtrip_remote (m e rest : Bytes) (h : rblast m = some e) :
    dblast (e ++ rest) = .accepted (canon m) rest :=
  dblast_rblast m e rest h

/-- **Round trip with this package's own client, byte-identical case**: `canon m` above is the
message with its CR-conventions normalised (`CR LF ↦ LF`, a bare `CR ↦ LF`); for a message **without CR bytes**
it is the message itself (`canon_eq_self`, the fact `C06_identity` states), so the server stores exactly `m`. -/
theorem C05_roundtrip_remote_id (m e rest : Bytes) (h : rblast m = some e) (hcr : CR ∉ m) :
    dblast (e ++ rest) = .accepted m rest := by
  rw [C05_roundtrip_remote m e rest h, canon_eq_self m hcr]

/-! ### The hop counter that runs over the same bytes -/

/-- The `pos / flagmaybex / flagmaybey / flagmaybez / flaginheader` scanner inside `blast()`
(`hstep`, folded over the bytes `blast()` reads: `hopsOf`) computes, **for every byte stream**, the line-based
hop count `HopCount.hopSpec`: the number of lines (pieces between LFs, the unterminated last piece included)
before the first empty line (CR alone) whose first 8 bytes are `received` or whose first 9 bytes are
`delivered`, ignoring ASCII case. -/
theorem C05_hops (consumed : Bytes) : hopsOf consumed = Nq.HopCount.hopSpec consumed :=
  Nq.Lemmas.HopCount.hopsOf_eq_hopSpec consumed

/-- For an accepted message the bytes `blast()` consumed are `inp.take (inp.length - rest.length)` (everything up to and
including the terminating `.` CR LF), and `hopsOf` of them is their line-based count.  That the scanner sees exactly these
bytes, so that the next command does not influence the count, is not in the statement: the scanner is a fold over the
bytes read (`Nq.SmtpdSrc.mrun_snd`; for the extracted source `C05_source_hops`). -/
theorem C05_hops_accepted (inp body rest : Bytes) (h : dblast inp = .accepted body rest) :
    ∃ used, inp = used ++ rest ∧ inp.take (inp.length - rest.length) = used ∧
      hopsOf (inp.take (inp.length - rest.length)) = Nq.HopCount.hopSpec used := by
  obtain ⟨used, e, _⟩ := C05_barelf inp body rest h
  refine ⟨used, e, ?_, ?_⟩
  · rw [e]; simp
  · rw [C05_hops, e]; simp

/-- once the header is over (first empty line) nothing is counted any more, whatever follows -/
theorem C05_hops_body (hdr body : Bytes) :
    Nq.HopCount.hopSpec (hdr ++ [LF, CR, LF] ++ body) = Nq.HopCount.hopSpec (hdr ++ [LF, CR, LF]) := by
  rw [← C05_hops, ← C05_hops]
  have e : hdr ++ [LF, CR, LF] ++ body = (hdr ++ [LF, CR, LF]) ++ body := rfl
  rw [e]
  show (Nq.Lemmas.HopCount.hrun {} ((hdr ++ [LF, CR, LF]) ++ body)).hops = (Nq.Lemmas.HopCount.hrun {} (hdr ++ [LF, CR, LF])).hops
  rw [Nq.Lemmas.HopCount.hrun_append]
  have hout : (Nq.Lemmas.HopCount.hrun {} (hdr ++ [LF, CR, LF])).inHeader = false := by
    rw [show hdr ++ [LF, CR, LF] = (hdr ++ [LF]) ++ [CR, LF] by simp]
    exact Nq.Lemmas.HopCount.empty_line_ends _ _
  rw [Nq.Lemmas.HopCount.hrun_out _ _ hout]

/-! ### Non-vacuity (13 = CR, 10 = LF, 46 = '.', 120 = 'x') -/

/-- "x CR LF . CR Y CR LF . CR LF Q": the `.`CR line loses its dot -/
example : dblast [120, 13, 10, 46, 13, 89, 13, 10, 46, 13, 10, 81] = .accepted [120, 10, 13, 89, 10] [81] := by
  decide +kernel
example : dblast [120, 10, 46, 13, 10] = .stray := by decide +kernel
example : completeLines [46, 97, 10] ∧ rfcEncode [46, 97, 10] = [46, 46, 97, 13, 10, 46, 13, 10] := by
  constructor
  · right; decide
  · decide
/-- hypotheses of `C05_roundtrip_remote_id` met by a CR-free message with a dot line (". LF a LF"), and a message with a
CR ("a CR LF") for which only `C05_roundtrip_remote` applies: it is stored as `canon m` = "a LF" -/
example : rblast [46, 10, 97, 10] = some [46, 46, 13, 10, 97, 13, 10, 46, 13, 10] ∧ CR ∉ [(46 : UInt8), 10, 97, 10] := by decide +kernel
example : rblast [97, 13, 10] = some [97, 13, 10, 46, 13, 10] ∧ canon [97, 13, 10] = [97, 10] := by decide +kernel

-- "Received:" CR LF "DELIVERED-" CR LF "receive:" CR LF CR LF "Received:" CR LF: two hops (near miss and body line not counted)
set_option maxRecDepth 100000 in
example : hopsOf [82, 101, 99, 101, 105, 118, 101, 100, 58, 13, 10, 68, 69, 76, 73, 86, 69, 82, 69, 68, 45, 13, 10,
    114, 101, 99, 101, 105, 118, 101, 58, 13, 10, 13, 10, 82, 101, 99, 101, 105, 118, 101, 100, 58, 13, 10] = 2 := by decide +kernel

/-! ### Chunking independence: `blast()` as it runs over substdio (`Nq.SmtpIO.sblast`)

`sblast s` is the `for (;;) { substdio_get(&ssin,&ch,1); … }` loop of qmail-smtpd.c over a buffered
descriptor `s : Substdio.ISt` — any buffer size, any bytes already buffered (`s.data`, e.g. what
`commands()` left after the DATA line), any bytes still to come (`s.src`), and a read script `s.rs`
saying how many bytes each `read()` returns (short reads, the 1024-byte refill, end of file only at the
real end; a `0` entry is a failing `read()`).  `IWF` is substdio's own invariant `n + p = size`. -/
section chunking
open Nq.Substdio Nq.SmtpIO Nq.Lemmas.SmtpIO

/-- However the network stream is split into reads, `blast()` computes `dblast` of the
concatenated stream: same verdict, same stored bytes, and the bytes left in `ssin` (buffered + unread)
are exactly the pure decoder's `rest` — so by `C05_spec`/`C05_framing` the result is the RFC 5321 decoding
of the stream and does not depend on TCP segmentation.  (`.incomplete` ↔ `saferead` reached end of file:
`die_read()`.) -/
theorem C05_chunking (s : ISt) (h : IWF s) (hne : 0 ∉ s.rs) :
    (sblast s).view = dblast (s.data ++ s.src) :=
  (sblast_view s h).resolve_left fun e => hne e.2

/-- …and for **every** read script, failing reads included: either `saferead` made the process exit
(`die_read`/`die_alarm`) or the result is again `dblast` of the stream. -/
theorem C05_chunking_anyscript (s : ISt) (h : IWF s) :
    sblast s = .died ∨ (sblast s).view = dblast (s.data ++ s.src) :=
  (sblast_view s h).imp_left fun e => e.1

/-- When `blast()` returns (under any script), `ssin` is left well-formed with the same buffer, and
what `commands()` will read next (`s'.data ++ s'.src`) is exactly what follows the terminator. -/
theorem C05_chunking_ssin (s s' : ISt) (body : Bytes) (h : IWF s) (hacc : sblast s = .accepted body s') :
    IWF s' ∧ s'.size = s.size ∧ dblast (s.data ++ s.src) = .accepted body (s'.data ++ s'.src) := by
  have hs := sblast_sim s h
  rw [hacc] at hs
  exact ⟨hs.2.1, hs.2.2.1, hs.1⟩

/-- **Independence of the split**, stated directly: two sessions receiving the same byte stream — with
different buffer sizes, different amounts already buffered, different read sizes — end with the same
verdict, the same stored message and the same unread remainder. -/
theorem C05_chunking_indep (s₁ s₂ : ISt) (h₁ : IWF s₁) (h₂ : IWF s₂) (n₁ : 0 ∉ s₁.rs) (n₂ : 0 ∉ s₂.rs)
    (hs : s₁.data ++ s₁.src = s₂.data ++ s₂.src) : (sblast s₁).view = (sblast s₂).view := by
  rw [C05_chunking s₁ h₁ n₁, C05_chunking s₂ h₂ n₂, hs]

/-- The round trip with any conforming sender, over chunked input: whatever the segmentation, a message
of complete lines encoded as RFC 5321 prescribes is stored exactly, and the bytes after it stay in `ssin`. -/
theorem C05_chunking_roundtrip (s : ISt) (m rest : Bytes) (h : IWF s) (hne : 0 ∉ s.rs) (hm : completeLines m)
    (hs : s.data ++ s.src = rfcEncode m ++ rest) : (sblast s).view = .accepted m rest := by
  rw [C05_chunking s h hne, hs, C05_roundtrip m rest hm]

/-- Non-vacuity: a 4-byte buffer (so the refill and the shift happen several times), one byte already
buffered, reads of 1, 3, 2, 1, then full: "x CR LF . CR Y CR LF . CR LF Q" is decoded as by `dblast`. -/
example : (sblast { size := 4, n := 3, p := 1, data := [120], src := [13, 10, 46, 13, 89, 13, 10, 46, 13, 10, 81],
                    rs := [1, 3, 2, 1] }).view = .accepted [120, 10, 13, 89, 10] [81] := by decide +kernel
example : IWF { size := 4, n := 3, p := 1, data := [120], src := [13, 10, 46], rs := [1, 3, 2, 1] } ∧
    (0 : Nat) ∉ [1, 3, 2, 1] := by decide +kernel
/-- a failing read: the process exits -/
example : sblast (istart 4 [120, 13, 10, 46, 13, 10] [2, 0]) = .died := by decide +kernel

end chunking

/-! ### The text of `blast()` as extracted from qmail-smtpd.c

`Nq.Gen.SmtpdBlast.stmts` is regenerated from the clang AST of the source on every run (tools/extractors/c05.py);
`Nq.CMini.run` gives it its meaning.  `Nq.SmtpdSrc.body` is the loop body after `substdio_get(&ssin,&ch,1)`. -/
section source
open Nq.CMini Nq.SmtpdSrc

/-- Shape of the extracted function: the six `int` locals in declaration order with their constant values before the
loop, and three top-level statements in the loop body after the read (the header block, the switch, `put(&ch)`). -/
theorem C05_source_shape :
    Nq.Gen.SmtpdBlast.varNames = ["state", "flaginheader", "pos", "flagmaybex", "flagmaybey", "flagmaybez"] ∧
    Nq.Gen.SmtpdBlast.initEnv = enc .s1 {} ∧ Nq.Gen.SmtpdBlast.stmts.length = 3 :=
  ⟨shape_vars, initEnv_eq, shape_stmts⟩

/-- **One iteration of the extracted loop body is one step of the automaton**: on the locals that hold the automaton
state `s` and the scanner state `h` (any hop count, `pos ≤ 9` - an invariant of `hstep`), for every byte, the new
locals are those of `(dstep s c).1` and `hstep h c`, the bytes handed to `put` are `dstep`'s output, `++*hops` is
executed as often as `hstep` counts, and control leaves by `return` / `straynewline()` / the next iteration exactly
when `dstep` says done / stray / data.  The hypothesis `hp` is not used: `Nq.SmtpdSrc.iter_step` is this statement
without it. -/
theorem C05_source_step (s : DSt) (h : HSt) (c : Byte) (hp : h.pos ≤ 9) :
    (let r := iter body (enc s h) c.toNat; (r.env, r.evs, cls r.ctl)) = expect s h c :=
  iter_eq s h c hp

/-- `pos ≤ 9` is an invariant of the scanner: `pos` starts at 0 and `hstep` never takes it past 9 -/
theorem C05_source_pos_inv (h : HSt) (c : Byte) (hp : h.pos ≤ 9) : (hstep h c).pos ≤ 9 := hstep_pos_le h c hp

/-- **The whole loop of the extracted source decodes every stream as the RFC 5321 reference decoder does**: started
from the constants the source assigns before the loop, over any input, it returns / calls `straynewline()` / runs out
of input exactly when `rfcDecode` accepts / finds a bare LF / finds no terminator, having handed to `put` exactly the
decoded message and leaving exactly the bytes after the terminator unread. -/
theorem C05_source_spec (inp : Bytes) :
    (outView (loop body Nq.Gen.SmtpdBlast.initEnv (inp.map (fun b => b.toNat)))).1 = rfcDecode inp := by
  rw [initEnv_eq, loop_eq inp .s1 {} (by decide)]
  simp only [mrun_fst]
  exact C05_spec inp

/-- ... and counts hops as the documented rule does: when the terminator is found, the number of `++*hops` executed is
the number of Received/Delivered header lines among the bytes consumed. -/
theorem C05_source_hops (inp body' rest : Bytes) (h : dblast inp = .accepted body' rest) :
    ∃ consumed, inp = consumed ++ rest ∧
      (outView (loop body Nq.Gen.SmtpdBlast.initEnv (inp.map (fun b => b.toNat)))).2 = Nq.HopCount.hopSpec consumed := by
  obtain ⟨consumed, h1, h2⟩ := mrun_snd inp .s1 {} body' rest h
  refine ⟨consumed, h1, ?_⟩
  rw [initEnv_eq, loop_eq inp .s1 {} (by decide), h2]
  have := C05_hops consumed
  simp only [hopsOf] at this
  simpa using this

/-- Non-vacuity: the extracted source run on "a CR LF . . CR LF . CR LF Q": stores "a LF . LF", leaves "Q". -/
example : outView (loop body Nq.Gen.SmtpdBlast.initEnv [97, 13, 10, 46, 46, 13, 10, 46, 13, 10, 81]) =
    (.accepted [97, 10, 46, 10] [81], 0) := by decide +kernel
/-- a bare LF: the extracted source calls `straynewline()` -/
example : outView (loop body Nq.Gen.SmtpdBlast.initEnv [97, 10]) = (.stray, 0) := by decide +kernel
/-- "Received: x CR LF CR LF . CR LF": one hop counted by the extracted source -/
example : (outView (loop body Nq.Gen.SmtpdBlast.initEnv
    [82, 101, 99, 101, 105, 118, 101, 100, 58, 13, 10, 13, 10, 46, 13, 10])).2 = 1 := by decide +kernel

end source

end Nq.Props.C05
