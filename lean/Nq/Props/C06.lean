/-
  C06 — Outbound SMTP DATA cannot be terminated or hijacked by message content.

  Model: `Nq.SmtpOut.rblast` (qmail-remote.c `blast()`), tied to the source by the exhaustive
  differential harness `harness/c06_blast.c` AND by translation: the whole body of `blast()` is extracted from the
  current qmail-remote.c into `Nq.Gen.RemoteBlast.prog` (a `Nq.CFlow.Stmt`) on every run; the `C06_source_*` theorems at
  the end show that its meaning is this automaton.
  Also here: `blast()` as it runs over substdio (`Nq.SmtpIO.oblast`) for every read and write script, the exact refusal
  criterion, and the `MAIL FROM` / `RCPT TO` lines written around it (`Nq.SmtpEnv`).
-/
import Nq.Lemmas.SmtpWire
import Nq.Lemmas.RemoteSrc.Main
import Nq.Lemmas.SmtpIO
import Nq.Lemmas.SmtpPrefix
import Nq.Lemmas.SmtpRefuse
import Nq.Lemmas.SmtpEnv
import Nq.Lemmas.SmtpEnvCRLF

namespace Nq.Props.C06
open Nq Nq.SmtpOut Nq.SmtpIn Nq.Wire Nq.Lemmas

/-- **Terminator exactly once, at the very end.** Whatever the message, the transmitted payload
consists of CR LF-terminated lines of which the last is a lone dot and no earlier one is. -/
theorem C06_terminator (m e : Bytes) (h : rblast m = some e) : termOnce e = true := by
  obtain ⟨ls, a, rfl, -⟩ := rblast_wire m e h
  exact termOnce_wire ls a

/-- **No bare LF** is transmitted. -/
theorem C06_nolf (m e : Bytes) (h : rblast m = some e) : noBareLF e = true := by
  obtain ⟨ls, a, rfl, -⟩ := rblast_wire m e h
  exact noBareLF_wire ls a

/-- **Every line that begins with a dot is dot-stuffed** (and no line contains a LF). -/
theorem C06_stuffed (m e : Bytes) (h : rblast m = some e) : linesStuffed e = true := by
  obtain ⟨ls, a, rfl, -⟩ := rblast_wire m e h
  exact linesStuffed_wire ls a

/-- **A conforming receiver reconstructs the message**: this package's own server automaton and
the line-based RFC 5321 reference decoder both return exactly `canon m`, and whatever follows the
payload on the connection (`rest`) is left unread, to be taken as the next command. -/
theorem C06_decode (m e rest : Bytes) (h : rblast m = some e) :
    dblast (e ++ rest) = .accepted (canon m) rest ∧ rfcDecode (e ++ rest) = .accepted (canon m) rest := by
  have h1 := dblast_rblast m e rest h
  exact ⟨h1, by rw [← dblast_eq_rfcDecode]; exact h1⟩

/-- For messages without CR bytes the reconstruction is **byte-identical**. -/
theorem C06_identity (m : Bytes) (h : CR ∉ m) : canon m = m :=
  canon_eq_self m h

/-- The encoder refuses a message (permanent error, nothing after DATA is completed) exactly when
it ends inside a line (encoder state `mid`). -/
theorem C06_partial (m : Bytes) : rblast m = none ↔ rstate .top m = .mid :=
  rrun_eq_none .top m

/-- …which for CR-free messages means: non-empty and not ending in LF. -/
theorem C06_partial_crfree (m : Bytes) (h : CR ∉ m) :
    rblast m = none ↔ (m ≠ [] ∧ m.getLast? ≠ some LF) := by
  rw [rblast_none_iff, canon_eq_self m h, SmtpRef.completeLines, not_or]

/-! ### What is on the wire when `blast()` does **not** complete (refused message, dropped connection,
failing read): `rfull .top m` = everything handed to `substdio_put`, whatever the outcome -/

/-- on an accepted message `rfull` is the transmission; on a refused one it is what was emitted before
`perm_partialline()`, which is the transmission of `m ++ [LF]` minus its last five bytes -/
theorem C06_rfull (m : Bytes) :
    (∀ e, rblast m = some e → rfull .top m = e) ∧
    (rblast m = none → rfull .top m = rpart .top m ∧
        rblast (m ++ [LF]) = some (rpart .top m ++ [CR, LF, DOT, CR, LF])) :=
  ⟨fun e h => rfull_of_some .top m e h, fun h => ⟨(rfull_of_none .top m h).1, rrun_complete .top m h⟩⟩

/-- Let `p` be any prefix of what `blast()` emits on message `m` — in
particular the bytes already flushed to the socket when the message is refused for ending inside a line,
when a read of the queue file fails, or when the connection drops.  Then `p` contains no bare LF, and `p`
shows the peer a lone-dot line (end of DATA) **only if** the message was accepted and `p` is its complete
transmission.  So message content cannot end the DATA phase in the failure cases either. -/
theorem C06_prefix_no_terminator (m p t : Bytes) (h : rfull .top m = p ++ t) :
    noBareLF p = true ∧ ([DOT] ∈ (splitCRLF p).1 → rblast m = some p) := by
  have key : ∀ (m' e p' t' : Bytes), rblast m' = some e → e = p' ++ t' →
      noBareLF p' = true ∧ ([DOT] ∈ (splitCRLF p').1 → t' = []) := by
    intro m' e p' t' he hp
    obtain ⟨ls, a, rfl, -⟩ := rblast_wire m' e he
    exact ⟨noBareLFGo_prefix 0 p' t' (hp ▸ noBareLF_wire ls a),
      lone_dot_only_at_end _ p' t' _ (splitCRLF_wire ls a) (dot_not_mem_stuff ls) hp⟩
  cases hr : rblast m with
  | some e =>
    rw [rfull_of_some .top m e hr] at h
    obtain ⟨k1, k2⟩ := key m e p t hr h
    refine ⟨k1, fun hd => ?_⟩
    have := k2 hd
    subst this
    simp at h
    rw [h]
  | none =>
    rw [(rfull_of_none .top m hr).1] at h
    have hc := rrun_complete .top m hr
    rw [h] at hc
    obtain ⟨k1, k2⟩ := key (m ++ [LF]) _ p (t ++ [CR, LF, DOT, CR, LF]) hc (by simp)
    refine ⟨k1, fun hd => ?_⟩
    have := k2 hd
    simp at this

/-! ### `canon` characterised without the state machine; the CR CR quirk -/

/-- `canon` is the greedy two-byte tokenisation `canonSpec`: CR LF ↦ LF; CR x ↦ LF x with `x` **not
examined again**; a final CR ↦ LF; any other byte itself. -/
theorem C06_canon_spec (m : Bytes) : canon m = canonSpec m := canon_eq_canonSpec m

/-- On messages without two adjacent CRs this is exactly the documented rule `canonDoc`
("CR LF kept, every other CR becomes a line break, the next byte starts the new line"). -/
theorem C06_canon_documented (m : Bytes) (h : noCRCR m = true) : canon m = canonDoc m := by
  rw [canon_eq_canonSpec, canonSpec_eq_canonDoc m h]

/-- The quirk: the byte after a bare CR is literal data even when it is itself a CR (it is written with
`substdio_put(&smtpto,&ch,1)` without passing through the `ch == '\r'` test again). -/
theorem C06_canon_crcr (m : Bytes) : canon (CR :: CR :: m) = LF :: CR :: canon m := by
  rw [canon_eq_canonSpec, canon_eq_canonSpec]
  simp [canonSpec, CR, LF]

/-! ### Non-vacuity: concrete messages meeting the hypotheses (bytes written out:
13 = CR, 10 = LF, 46 = '.', 97 = 'a', 81 85 73 84 = "QUIT") -/

/-- "a CR . LF QUIT LF" is sent with the dot stuffed -/
example : rblast [97, 13, 46, 10, 81, 85, 73, 84, 10]
    = some [97, 13, 10, 46, 46, 13, 10, 81, 85, 73, 84, 13, 10, 46, 13, 10] := by decide +kernel
example : canon [97, 13, 46, 10, 81, 85, 73, 84, 10] = [97, 10, 46, 10, 81, 85, 73, 84, 10] := by decide +kernel
/-- ". LF .. LF a CR LF" -/
example : rblast [46, 10, 46, 46, 10, 97, 13, 10]
    = some [46, 46, 13, 10, 46, 46, 46, 13, 10, 97, 13, 10, 46, 13, 10] := by decide +kernel
example : rblast [97, 97] = none := by decide +kernel

/-- CR CR LF: the documented rule gives two line ends, the code gives a line end, a literal CR, a line end -/
example : canon [13, 13, 10] = [10, 13, 10] ∧ canonDoc [13, 13, 10] = [10, 10] ∧
    rblast [13, 13, 10] = some [13, 10, 13, 13, 10, 46, 13, 10] := by decide +kernel
/-- CR CR . LF is sent as CR LF CR . CR LF . CR LF: a conforming receiver stores LF CR . LF (`C06_decode`); a
receiver that also breaks lines at a bare CR would see a lone dot.  Observation, see notes/C06.md. -/
example : rblast [13, 13, 46, 10] = some [13, 10, 13, 46, 13, 10, 46, 13, 10] ∧ canon [13, 13, 46, 10] = [10, 13, 46, 10] ∧
    noCRCR [13, 13, 46, 10] = false := by decide +kernel
/-- a refused message ("a LF b"): "a CR LF b" was handed to substdio_put; no lone dot, no bare LF in it -/
example : rblast [97, 10, 98] = none ∧ rfull .top [97, 10, 98] = [97, 13, 10, 98] := by decide +kernel
example : noCRCR [97, 13, 46, 10, 13, 10] = true := by decide +kernel

/-! ### Chunking independence: `blast()` as it runs over substdio (`Nq.SmtpIO.oblast`)

`oblast i o` is qmail-remote.c `blast()` reading the message one byte at a time with
`substdio_get(&ssin,&ch,1)` from `i : Substdio.ISt` (any buffer size, read script `i.rs` = how many bytes
each `read()` of the queue file returns; `0` = a failing read) and writing with the individual
`substdio_put(&smtpto,…)` calls of the source, then `substdio_flush`, to `o : Substdio.OSt` (any buffer size,
write script `o.ws` = how many bytes each `write()` to the socket takes; `0` = a failing write).
`o'.out` is the concatenation of everything the socket took.  The CR look-ahead is an ordinary
`substdio_get`, so it refills the buffer when the CR was the last byte of a read. -/
section chunking
open Nq.Substdio Nq.SmtpIO Nq.Lemmas.SmtpIO

/-- For every read script and every write script, failing calls included: if `blast()` returns, the bytes put on
the wire after what was there before are exactly `rblast m` of the whole message, the output buffer is empty
(flushed) and the substdio invariants (`0 ≤ p ≤ n`, every copy inside the buffer) are kept; `perm_partialline()`
happens only when the pure encoder refuses the message, and everything emitted before (`rpart`) has then been
written or is still in the buffer; `temp_read()` only after a failing read; `dropped()` only after a failing write. -/
theorem C06_chunking_anyscript (i : ISt) (o : OSt) (hi : IWF i) (ho : OWF o) (hc : cpIn o) :
    match oblast i o with
    | .sent o' => ∃ e, rblast (i.data ++ i.src) = some e ∧ o'.out = o.out ++ o.buf ++ e ∧ o'.buf = [] ∧
                    OWF o' ∧ cpIn o' ∧ o'.n = o.n
    | .partialLine o' => rblast (i.data ++ i.src) = none ∧ o'.out ++ o'.buf = o.out ++ o.buf ++ rpart .top (i.data ++ i.src)
    | .tempRead _ => 0 ∈ i.rs
    | .dropped _ => 0 ∈ o.ws := by
  obtain ⟨p, h⟩ := oblast_spec i o hi ho
  generalize hR : oblast i o = R at p h
  cases R with
  | sent o' =>
    obtain ⟨e, he, h2, h3, q⟩ := oblast_sent hi ho hR
    exact ⟨e, he, h2, h3, q.wf, q.cp hc, q.n⟩
  | partialLine o' => exact ⟨h, by rw [← (rfull_of_none _ _ h).1]; exact p.eq rfl⟩
  | tempRead _ => exact h
  | dropped _ => exact h

/-- Whatever the outcome and whatever the scripts, what has been written to the
socket followed by what is still in `smtptobuf` is a prefix of (what was pending before, then) `rfull .top m`:
nothing is ever written that the pure encoder would not emit, in that order. -/
theorem C06_chunking_prefix (i : ISt) (o : OSt) (hi : IWF i) (ho : OWF o) (hc : cpIn o) :
    ∃ t, (oblast i o).ost.out ++ (oblast i o).ost.buf ++ t = o.out ++ o.buf ++ rfull .top (i.data ++ i.src) :=
  (oblast_spec i o hi ho).1.pre.imp fun _ => And.left

/-- On a connection with nothing pending, for **every** outcome of `blast()`
(returned, message refused, read failed, connection dropped) and every split of reads and writes: the bytes
the socket has taken contain no bare LF, and they show a lone-dot line only if `blast()`'s complete
transmission of an accepted message is on the wire. -/
theorem C06_chunking_no_early_end (i : ISt) (o : OSt) (hi : IWF i) (ho : OWF o) (hc : cpIn o)
    (hfresh : o.out = [] ∧ o.buf = []) :
    noBareLF (oblast i o).ost.out = true ∧
    ([DOT] ∈ (splitCRLF (oblast i o).ost.out).1 → rblast (i.data ++ i.src) = some (oblast i o).ost.out) := by
  obtain ⟨t, ht⟩ := C06_chunking_prefix i o hi ho hc
  rw [hfresh.1, hfresh.2] at ht
  simp only [List.nil_append, List.append_assoc] at ht
  exact C06_prefix_no_terminator _ _ _ ht.symm

/-- With reads and writes that do not fail — but are split in any way whatsoever —
`blast()` returns and the wire carries exactly `rblast m`, or the message ends inside a line and is refused:
the transmission does not depend on how the file is read or how the socket accepts the bytes. -/
theorem C06_chunking (i : ISt) (o : OSt) (hi : IWF i) (ho : OWF o) (hc : cpIn o) (hr : 0 ∉ i.rs) (hw : 0 ∉ o.ws) :
    (∀ e, rblast (i.data ++ i.src) = some e →
        ∃ o', oblast i o = .sent o' ∧ o'.out = o.out ++ o.buf ++ e ∧ o'.buf = []) ∧
    (rblast (i.data ++ i.src) = none → ∃ o', oblast i o = .partialLine o') := by
  have := C06_chunking_anyscript i o hi ho hc
  generalize oblast i o = R at this
  cases R with
  | sent o' =>
    obtain ⟨e, h1, h2, h3, _⟩ := this
    refine ⟨fun e' he' => ⟨o', rfl, ?_, h3⟩, fun hn => ?_⟩
    · rw [h1] at he'; cases he'; exact h2
    · rw [h1] at hn; cases hn
  | partialLine o' =>
    simp only at this
    exact ⟨fun e he => (by rw [this.1] at he; cases he), fun _ => ⟨o', rfl⟩⟩
  | tempRead o' => exact absurd this hr
  | dropped o' => exact absurd this hw

/-- **Independence of the split**, stated directly: two runs on the same message with different buffer
sizes, read sizes and write sizes, starting with nothing pending, put the same bytes on the wire. -/
theorem C06_chunking_indep (i₁ i₂ : ISt) (o₁ o₂ o₁' o₂' : OSt) (hi₁ : IWF i₁) (hi₂ : IWF i₂)
    (ho₁ : OWF o₁) (ho₂ : OWF o₂) (hc₁ : cpIn o₁) (hc₂ : cpIn o₂)
    (hm : i₁.data ++ i₁.src = i₂.data ++ i₂.src) (hp : o₁.out ++ o₁.buf = o₂.out ++ o₂.buf)
    (h₁ : oblast i₁ o₁ = .sent o₁') (h₂ : oblast i₂ o₂ = .sent o₂') : o₁'.out = o₂'.out := by
  obtain ⟨e₁, a1, a2, _⟩ := oblast_sent hi₁ ho₁ h₁
  obtain ⟨e₂, b1, b2, _⟩ := oblast_sent hi₂ ho₂ h₂
  rw [hm, b1] at a1; cases a1
  rw [a2, b2, hp]

/-- The wire clauses of the property for the bytes **actually written to the socket**: whenever `blast()`
returns on a connection whose output buffer was empty (it is: `DATA` was sent with `substdio_putsflush`),
the concatenation of the `write()`s satisfies terminator-once, no-bare-LF and dot-stuffing. -/
theorem C06_chunking_wire (i : ISt) (o o' : OSt) (hi : IWF i) (ho : OWF o) (hc : cpIn o)
    (hfresh : o.out = [] ∧ o.buf = []) (h : oblast i o = .sent o') :
    termOnce o'.out = true ∧ noBareLF o'.out = true ∧ linesStuffed o'.out = true := by
  have a := oblast_sent_fresh hi ho hfresh h
  exact ⟨C06_terminator _ _ a, C06_nolf _ _ a, C06_stuffed _ _ a⟩

/-- **End to end over chunked I/O on both sides**: qmail-remote reads message `m` in any chunks and writes
it in any chunks; qmail-smtpd at the other end receives those bytes (followed by anything, `rest`) in any
segmentation `s`, with any buffer state.  It stores exactly `canon m` and leaves `rest` for the command parser. -/
theorem C06_chunked_roundtrip (i : ISt) (o o' : OSt) (s : ISt) (rest : Bytes) (hi : IWF i) (ho : OWF o) (hc : cpIn o)
    (hfresh : o.out = [] ∧ o.buf = []) (hsent : oblast i o = .sent o')
    (hs : IWF s) (hsr : 0 ∉ s.rs) (hwire : s.data ++ s.src = o'.out ++ rest) :
    (sblast s).view = .accepted (canon (i.data ++ i.src)) rest := by
  rw [(sblast_view s hs).resolve_left fun e0 => hsr e0.2, hwire]
  exact (C06_decode _ _ rest (oblast_sent_fresh hi ho hfresh hsent)).1

/-- Non-vacuity: "a CR . LF Q LF" read through a 2-byte buffer in reads of 2 (so the CR is the last byte
of a read and the look-ahead needs a refill), written through a 3-byte buffer to a socket taking
1, 2, 1, … bytes: the dot after the bare CR is stuffed and the wire is `rblast` of the message. -/
example : (match oblast (istart 2 [97, 13, 46, 10, 81, 10] [2, 2, 2, 1]) (ostart 3 [1, 2, 1, 1, 5]) with
    | .sent o' => o'.out | _ => []) = [97, 13, 10, 46, 46, 13, 10, 81, 13, 10, 46, 13, 10] := by decide +kernel
example : rblast [97, 13, 46, 10, 81, 10] = some [97, 13, 10, 46, 46, 13, 10, 81, 13, 10, 46, 13, 10] := by decide +kernel
example : IWF (istart 2 [97, 13, 46, 10, 81, 10] [2, 2, 2, 1]) ∧ OWF (ostart 3 [1, 2, 1, 1, 5]) ∧
    cpIn (ostart 3 [1, 2, 1, 1, 5]) := by decide +kernel
/-- a failing write: `dropped()`; a message ending inside a line: `perm_partialline()` -/
example : (match oblast (istart 2 [97, 10, 98, 10] []) (ostart 3 [1, 0]) with | .dropped _ => true | _ => false) = true := by
  decide +kernel
example : (match oblast (istart 2 [97, 10, 98] [1]) (ostart 3 []) with | .partialLine _ => true | _ => false) = true := by
  decide +kernel

end chunking

/-! ### The exact refusal criterion

`perm_partialline()` is reached exactly when the message, *read the way the encoder reads it*, does not end in a
line end.  Stated (a) through `canon m` - what a conforming receiver would have stored -, (b) on the raw bytes:
the message is a part `p` that does not end in CR followed by a run of `k` CRs (`C06_refused_bytes_cover`: every message is);
with `k = 0` the last byte decides, with `k > 0` the **parity** of the run does, because the look-ahead after a CR
takes the next CR as data (`C06_canon_crcr`): `a CR` is sent, `a CR CR` is refused, `a CR CR CR` is sent. -/

/-- **Refused ⇔ `canon m` is non-empty and does not end in LF.** -/
theorem C06_refused_canon (m : Bytes) :
    rblast m = none ↔ (canon m ≠ [] ∧ (canon m).getLast? ≠ some LF) := by
  rw [rblast_none_iff, SmtpRef.completeLines, not_or]

/-- Complement: **transmitted ⇔ `canon m` is empty or ends in LF**.  (Not in the statement: the transmission is then
everything emitted for the bytes of `m` followed by the terminator, `CR LF` first if the last line was ended by a final
CR; that is `rrun_eq`.) -/
theorem C06_accepted_canon (m : Bytes) :
    (∃ e, rblast m = some e) ↔ (canon m = [] ∨ (canon m).getLast? = some LF) :=
  ⟨fun ⟨e, h⟩ => ((rblast_some_iff m e).1 h).1, fun h => ⟨_, (rblast_some_iff m _).2 ⟨h, rfl⟩⟩⟩

/-- **Refused, on the raw bytes**: `m = p ++ CR^k` with `p` not ending in CR.  `k = 0`: refused iff `p` is
non-empty and does not end in LF; `k > 0`: refused iff `k` is even. -/
theorem C06_refused_bytes (p : Bytes) (k : Nat) (hp : p.getLast? ≠ some CR) :
    rblast (p ++ List.replicate k CR) = none ↔
      if k = 0 then (p ≠ [] ∧ p.getLast? ≠ some LF) else k % 2 = 0 := by
  rw [C06_partial, rstate_append, rstate_nocr_end p hp]
  by_cases hk : k = 0
  · subst hk
    by_cases h1 : p = []
    · simp [h1, rstate]
    · by_cases h2 : p.getLast? = some LF <;> simp [h1, h2, rstate]
  · have hne : (if p = [] then RSt.top else if p.getLast? = some LF then .top else .mid) ≠ .cr := by
      by_cases h1 : p = [] <;> by_cases h2 : p.getLast? = some LF <;> simp [h1, h2]
    obtain ⟨j, rfl⟩ := Nat.exists_eq_succ_of_ne_zero hk
    rw [rstate_crs j _ hne, if_neg hk]
    by_cases hpar : (j + 1) % 2 = 1
    · simp [hpar]
    · simp only [hpar, if_false, true_iff]; omega

/-- the hypothesis of `C06_refused_bytes` excludes nothing: every message has that shape -/
theorem C06_refused_bytes_cover (m : Bytes) :
    ∃ p k, m = p ++ List.replicate k CR ∧ p.getLast? ≠ some CR := by
  -- `p` is `m` without its trailing CRs (cut off on the reversed list), `k` their number
  refine ⟨(m.reverse.dropWhile (· == CR)).reverse, (m.reverse.takeWhile (· == CR)).length, ?_, ?_⟩
  · have hw : (m.reverse.takeWhile (· == CR)).reverse = List.replicate (m.reverse.takeWhile (· == CR)).length CR :=
      List.eq_replicate_iff.2 ⟨List.length_reverse, fun b hb =>
        beq_iff_eq.1 (List.all_eq_true.1 List.all_takeWhile b (List.mem_reverse.1 hb))⟩
    rw [← hw, ← List.reverse_append, List.takeWhile_append_dropWhile, List.reverse_reverse]
  · rw [List.getLast?_reverse]
    have h := List.head?_dropWhile_not (· == CR) m.reverse
    intro e
    rw [e] at h
    cases h

/-- Non-vacuity: `a CR` is sent, `a CR CR` refused (canon = `a LF CR`), `a CR CR CR` sent, `a LF` sent, `a` refused. -/
example : rblast [97, 13] ≠ none ∧ rblast [97, 13, 13] = none ∧ rblast [97, 13, 13, 13] ≠ none ∧
    rblast [97, 10] ≠ none ∧ rblast [97] = none ∧ canon [97, 13, 13] = [97, 10, 13] := by decide +kernel
example : ([97] : Bytes).getLast? ≠ some CR ∧ ([97] : Bytes) ++ List.replicate 2 CR = [97, 13, 13] := by decide +kernel

/-! ### The envelope commands around `blast()`

`MAIL FROM:<…>` / `RCPT TO:<…>` are written from `addrmangle(argv[i])` (`Nq.SmtpEnv.mangle`).  `addrmangle` never
refuses and never removes a byte: an address without '@' and the part after the last '@' are copied as they are,
the part before it goes through `quote()`, which only *adds* `"` … `"` and backslashes.  So the command line is one
line exactly when the address brings no CR and no LF - the code itself keeps nothing out (observation in
notes/C06.md; C06's text is about message *content*, the envelope is the caller's). -/

open Nq.SmtpEnv in
/-- every byte other than `"` and `\` (in particular CR and LF) is on the command line iff it is in the address -/
theorem C06_envelope_bytes (x : Byte) (h1 : x ≠ BSL) (h2 : x ≠ DQ) (a : Bytes) : x ∈ mangle a ↔ x ∈ a :=
  mem_mangle x h1 h2 a

open Nq.SmtpEnv in
/-- **Each envelope command is exactly one line iff the address is free of CR and LF** (`pre` = "MAIL FROM:<" or
"RCPT TO:<", or any CR/LF-free bytes).  Both directions: clean addresses (however strange otherwise: quotes,
backslashes, '<', '>', several '@', bytes ≥ 128) cannot break the line; an address with a CR or LF always does -
neither `addrmangle` nor `quote` removes it. -/
theorem C06_envelope_one_line (pre a : Bytes) (hp : CR ∉ pre ∧ LF ∉ pre) :
    isOneLine (cmdLine pre a) = true ↔ cleanAddr a = true := by
  have e : cmdLine pre a = (pre ++ mangle a ++ [GT]) ++ [CR, LF] := by simp [cmdLine]
  rw [e, isOneLine_iff]
  have hc := mem_mangle CR (by decide) (by decide) a
  have hl := mem_mangle LF (by decide) (by decide) a
  simp only [List.mem_append, List.mem_singleton, hc, hl, cleanAddr, Bool.and_eq_true, Bool.not_eq_true',
    List.contains_eq_mem, decide_eq_false_iff_not]
  have g1 : CR ≠ GT := by decide
  have g2 : LF ≠ GT := by decide
  constructor
  · rintro ⟨h1, h2⟩
    exact ⟨fun h => h1 (Or.inl (Or.inr h)), fun h => h2 (Or.inl (Or.inr h))⟩
  · rintro ⟨h1, h2⟩
    refine ⟨?_, ?_⟩
    · rintro ((h | h) | h)
      · exact hp.1 h
      · exact h1 h
      · exact g1 h
    · rintro ((h | h) | h)
      · exact hp.2 h
      · exact h2 h
      · exact g2 h

open Nq.SmtpEnv in
/-- The excluded inputs, concretely: whatever follows a CR LF **after the last '@'** (or anywhere in an address
without '@') is copied to the connection as it is - the peer reads `x ++ ">"` as the next command line. -/
theorem C06_envelope_verbatim_tail (pre b h x : Bytes) (hh : SmtpEnv.AT ∉ h) (hx : SmtpEnv.AT ∉ x) :
    cmdLine pre (b ++ SmtpEnv.AT :: (h ++ [CR, LF] ++ x)) = pre ++ quote b ++ SmtpEnv.AT :: h ++ [CR, LF] ++ x ++ [GT, CR, LF] := by
  have hn : SmtpEnv.AT ∉ h ++ [CR, LF] ++ x := by
    simp only [List.mem_append, List.mem_cons, List.not_mem_nil, or_false, not_or]
    exact ⟨⟨hh, by decide, by decide⟩, hx⟩
  rw [cmdLine, mangle, lastAt_eq, splitLastB_append AT _ hn b]
  simp

open Nq.SmtpEnv in
/-- …and an address without '@' is not touched at all. -/
theorem C06_envelope_noat (pre a : Bytes) (h : SmtpEnv.AT ∉ a) : cmdLine pre a = pre ++ a ++ [GT, CR, LF] := by
  simp [cmdLine, mangle, lastAt_eq, splitLastB_none AT a h]

open Nq.SmtpEnv in
/-- Non-vacuity: `a"b\@h` is one line (`MAIL FROM:<"a\"b\\"@h>`); `a@h CR LF Q` is two. -/
example : isOneLine (cmdLine mailPre [97, 34, 98, 92, 64, 104]) = true ∧
    cmdLine mailPre [97, 34, 98, 92, 64, 104] = mailPre ++ [34, 97, 92, 34, 98, 92, 92, 34, 64, 104, 62, 13, 10] ∧
    isOneLine (cmdLine mailPre [97, 64, 104, 13, 10, 81]) = false ∧
    cmdLine mailPre [97, 64, 104, 13, 10, 81] = mailPre ++ [97, 64, 104, 13, 10, 81, 62, 13, 10] ∧
    (CR ∉ mailPre ∧ LF ∉ mailPre) ∧ (CR ∉ rcptPre ∧ LF ∉ rcptPre) := by decide +kernel

open Nq.SmtpEnv in
/-- **Where a peer that ends lines at CR LF only (RFC 5321) sees an extra line end**: an adjacent CR LF is in the mangled
address iff it is in the part copied as it is - the whole address when there is no '@', otherwise the part after the
last '@'.  In the part before the last '@' `quote()` puts a backslash before every CR and every LF, so no CR LF pair
survives there (the bare LF / bare CR do: `C06_envelope_one_line`). -/
theorem C06_envelope_crlf (a : Bytes) : hasCRLF (mangle a) = crlfSpec a := by
  unfold mangle crlfSpec
  cases e : lastAt a with
  | none => rfl
  | some p =>
    obtain ⟨b, h⟩ := p
    simp only
    rw [hasCRLF_quote_append b (AT :: h) (by simp [AT, LF])]
    cases h with
    | nil => rfl
    | cons d h => simp [hasCRLF, AT, CR]

open Nq.SmtpEnv in
/-- Non-vacuity: `a CR LF b @ h` → `"a \\ CR \\ LF b"@h`, no CR LF pair; `a @ h CR LF b` keeps it. -/
example : hasCRLF (mangle [97, 13, 10, 98, 64, 104]) = false ∧ mangle [97, 13, 10, 98, 64, 104] = [34, 97, 92, 13, 92, 10, 98, 34, 64, 104] ∧
    hasCRLF (mangle [97, 64, 104, 13, 10, 98]) = true := by decide +kernel


/-! ### The text of `blast()` as extracted from qmail-remote.c

`Nq.Gen.RemoteBlast.prog` is regenerated from the clang AST of the source on every run (tools/extractors/c06.py, tools/cflow.py);
`Nq.CFlow.advance` gives it its meaning (small-step with an explicit continuation, run from read point to read point).  The
continuations at the three `substdio_get` calls are the control points `kTop`, `kMid`, `kCr`. -/
section source
open Nq.CFlow Nq.RemoteSrc

/-- **The table.** The extracted function runs from its start to the first read without writing anything; resumed at the control
point of automaton state `s` with a byte it runs to the control point of `(rstep s c).1` having put exactly `(rstep s c).2`; with
the end of the input it returns (top: `flagcritical = 1`, ". CR LF", flush), refuses the message (mid: `perm_partialline()`), or
completes the line and reads again at the top (cr); with a read error it calls `temp_read()`.  Whatever stale byte is in `ch`. -/
theorem C06_source_table (s : RSt) (c : Byte) :
    start = .atGet kTop [] ∧
    resume FUEL (kOf s) c.toNat 1 = .atGet (kOf (rstep s c).1) (putEvs (rstep s c).2) ∧
    resume FUEL (kOf s) c.toNat 0 = eofExpect s ∧ resume FUEL (kOf s) c.toNat 2 = .exited 0 [] :=
  ⟨start_eq, tab_byte s c, tab_eof s _, tab_err s _⟩

/-- **The whole extracted function over any message is the encoder**: fed the bytes of `m` and then the end of the input, it
returns iff `rblast m` is defined, having put exactly `rblast m`; otherwise it calls `perm_partialline()` having put exactly
`rpart .top m` (what C06_prefix_no_terminator speaks about).  No other outcome exists. -/
theorem C06_source_spec (m : Bytes) :
    view (feed kTop (m.map (fun b => b.toNat))) =
      some (rblast m, match rblast m with | some e => e | none => rpart .top m) := by
  have h := feed_eq m .top
  simp only [kOf] at h
  rw [h, mrun_view m .top]
  rfl

/-- **Where the "possible duplicate" flag is raised** (C09's clause, read off the source text): when the extracted function returns,
`flagcritical = 1` was executed exactly once, after every byte of the message was put, immediately before ". CR LF", and the
function's only flush comes right after those three bytes. -/
theorem C06_source_critical (m : Bytes) (evs : List Ev) (h : feed kTop (m.map (fun b => b.toNat)) = .finished evs) :
    ∃ pre, evs = pre ++ [.crit, .put 46, .put 13, .put 10, .flush] ∧ Ev.crit ∉ pre ∧ Ev.flush ∉ pre := by
  have h2 := feed_eq m .top
  simp only [kOf] at h2
  rw [h2] at h
  exact mrun_crit m .top evs h

/-- Non-vacuity: the extracted source on "a CR . LF" (a bare CR followed by a dot) and on a partial line. -/
example : view (feed kTop [97, 13, 46, 10]) = some (some [97, 13, 10, 46, 46, 13, 10, 46, 13, 10], [97, 13, 10, 46, 46, 13, 10, 46, 13, 10]) := by
  decide +kernel
example : view (feed kTop [97, 10, 98]) = some (none, [97, 13, 10, 98]) := by decide +kernel

end source

end Nq.Props.C06
