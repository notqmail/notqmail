/-
  Property C07 — network daemons acknowledge a message if and only if exactly it was queued.

  Models: Nq/QmailC.lean (qmail.c), Nq/Received.lean (received.c, date822fmt.c), Nq/Datetime.lean (datetime.c and the
  calendar it is proved against), Nq/Netstring.lean (qmail-qmtpd.c, qmail-qmqpd.c, smtp_data() of qmail-smtpd.c),
  Nq/HopCount.lean (the hop count of a header, line by line), Nq/SmtpC07.lean (the whole SMTP connection: the command
  loop of Nq/SmtpSession.lean with every DATA handed to `Smtp.data`); specification vocabulary: Nq/Spec/C07.lean.
  The tables these theorems mention (`Gen.QQClose`, `Gen.Safe`, `Gen.C07`) are regenerated from /repo on every run, so the
  statements are checked against the source as it stands.  The tie between the hand-written models and the C code is
  the correspondence run of ./check C07.
-/
import Nq.Basic
import Nq.QmailC
import Nq.Received
import Nq.Netstring
import Nq.Spec.C07
import Nq.Lemmas.C07Received
import Nq.Lemmas.C07Sub
import Nq.Lemmas.C07Qq
import Nq.Lemmas.C07Readers
import Nq.Lemmas.C07Daemons
import Nq.Lemmas.C07Date
import Nq.Lemmas.HopCount
import Nq.Lemmas.C07Flags
import Nq.Lemmas.C07Strict
import Nq.Lemmas.C07Qmqp2
import Nq.Lemmas.C07Session
import Nq.Lemmas.C07Smtp
import Nq.Lemmas.C07SmtpBytes

namespace Nq.Props.C07
open Nq Nq.QmailC Nq.Received Nq.Netstring
open Nq.Gen.QQClose

/-! ## qmail.c: the failure flag -/

/-- `flagerr` of `struct qmail` is sticky: whatever the daemon calls afterwards, it stays set. -/
theorem C07_flagerr_sticky (q : QQ) (ops : List QOp) (h : q.flagerr = true) : (q.run ops).flagerr = true :=
  QQ.run_mono ops q h

/-- Once `flagerr` is set nothing further reaches qmail-queue: `put/puts/to/fail/close` leave both pipes as they are
    (in particular `qmail_close` does not send the envelope terminator).  `qmail_from` is excluded: it flushes the
    message buffer whatever `flagerr` says. -/
theorem C07_flagerr_silences (q : QQ) (op : QOp) (h : q.flagerr = true) (hop : ∀ s, op ≠ .from_ s) :
    (q.apply op).envPipe = q.envPipe ∧ (q.apply op).msgPipe = q.msgPipe := by
  cases op with
  | put bs => show (q.put bs).envPipe = _ ∧ (q.put bs).msgPipe = _; rw [QQ.put_flagerr q bs h]; exact ⟨rfl, rfl⟩
  | fail => exact ⟨rfl, rfl⟩
  | from_ s => exact absurd rfl (hop s)
  | to r =>
    show (q.to r).envPipe = _ ∧ (q.to r).msgPipe = _
    have : q.to r = q := by
      unfold QQ.to; rw [QQ.put_flagerr q _ h, QQ.put_flagerr q _ h, QQ.put_flagerr q _ h]
    rw [this]; exact ⟨rfl, rfl⟩
  | close =>
    show q.close.envPipe = _ ∧ q.close.msgPipe = _
    unfold QQ.close
    rw [QQ.put_flagerr q [0] h]
    simp [h, QQ.envPipe, QQ.msgPipe]

/-- Whatever happened while the message was copied (`q` arbitrary, any write-fault schedule), after `qmail_from` and
    any sequence of `qmail_to` / `qmail_fail` / one-shot recipient blocks (`EnvOp`): if `qmail_close` ends with
    `flagerr` set, the bytes qmail-queue reads on descriptor 1 do not contain a complete envelope — qmail-queue's
    scanner (`envParse`, qmail-queue.c main) hits end of file (`die_read`, exit 54) and queues nothing. -/
theorem C07_fail_no_terminator (q : QQ) (sender : Bytes) (eops : List QOp) (h : ∀ op ∈ eops, EnvOp op)
    (hf : (((q.from_ sender).run eops).close).flagerr = true) :
    envComplete (((q.from_ sender).run eops).close).envPipe = false :=
  QQ.refused_of_flagerr q sender eops h hf

/-- **C07_cut (queue side).**  If the daemon exits after `qmail_from` but before `qmail_close` (client disconnect,
    `badproto`, `resources`, `die_read`, stray newline), the envelope pipe holds no complete envelope — with or
    without failures, whatever was buffered or flushed. -/
theorem C07_cut_no_envelope (q : QQ) (sender : Bytes) (eops : List QOp) (h : ∀ op ∈ eops, EnvOp op) :
    envComplete ((q.from_ sender).run eops).envPipe = false :=
  envPipe_good _ (QQ.env_good q sender eops h)

/-- … and before `qmail_from` the envelope pipe is empty.  (By definition of `QQ.envPipe`, `if inEnv then … else []`:
    a named step of the cut argument, not a property clause of its own.) -/
theorem C07_cut_before_from (q : QQ) (h : q.inEnv = false) : q.envPipe = [] ∧ envComplete q.envPipe = false := by
  simp [QQ.envPipe, h, envComplete, envParse]

example : EnvOp (.to [97, 64, 98]) ∧ EnvOp .fail ∧ EnvOp (.put (entries [[97], [98, 0, 99]])) :=
  ⟨.to _, .fail, .rcptto _⟩

/-! ## qmail_close: the verdict -/

/-- every string of the switch is non-empty, starts with D or Z, and starts with D exactly for 11..40 and 115;
    82 has no `case` of its own -/
def tableOK : Bool :=
  table.all (fun p => !p.2.isEmpty && (p.2.head? == some 68 || p.2.head? == some 90) &&
    ((p.2.head? == some 68) == ((11 ≤ p.1 && p.1 ≤ 40) || p.1 == 115)) && p.1 != 82 && p.1 < 256)

theorem tableOK_true : tableOK = true := by decide

theorem table_entry (e : Nat) (s : Bytes) (h : table.lookup e = some s) :
    s ≠ [] ∧ (s.head? = some 68 ∨ s.head? = some 90) ∧ (s.head? = some 68 ↔ ((11 ≤ e ∧ e ≤ 40) ∨ e = 115)) ∧ e ≠ 82 := by
  have hm := lookup_mem e table s h
  have := tableOK_true
  unfold tableOK at this
  rw [List.all_eq_true] at this
  have h1 := this (e, s) hm
  simp only [Bool.and_eq_true, Bool.not_eq_true', bne_iff_ne, ne_eq, decide_eq_true_eq, beq_iff_eq,
    Bool.or_eq_true] at h1
  obtain ⟨⟨⟨⟨h1, h2⟩, h3⟩, h4⟩, _⟩ := h1
  refine ⟨by intro hs; simp [hs] at h1, h2, ?_, h4⟩
  constructor
  · intro hd; simp [hd] at h3; simpa using h3
  · intro he
    have : ((decide (11 ≤ e) && decide (e ≤ 40)) || e == 115) = true := by simpa using he
    rw [this] at h3; simpa using h3

/-- the custom text honours the interface of qmail-queue.8: it starts with `D` or `Z` -/
def TextOK (t : Bytes) : Prop := t.head? = some 68 ∨ t.head? = some 90

theorem errstr_head (t : Bytes) (h : TextOK t) : (errstr t).head? = t.head? ∧ errstr t ≠ [] := by
  unfold errstr
  cases t with
  | nil => simp [TextOK] at h
  | cons c r =>
    have hc : c ≠ 0 := by
      rcases h with h | h <;> simp at h <;> subst h <;> decide
    have : List.take errMax (c :: r) = c :: List.take 254 r := by simp [errMax]
    rw [this]; unfold cstr; simp [hc]

/-- the switch of `qmail_close` taken apart once; `C07_verdict` and `C07_verdict_class` are the two halves -/
theorem closeVerdict_cases (exit : Nat) (crashed flagerr : Bool) (text : Bytes) (ht : TextOK text ∨ text.length ≤ 2) :
    ((exit = 0 ∧ crashed = false ∧ flagerr = false) ∧ closeVerdict exit crashed flagerr text = []) ∨
    (¬ (exit = 0 ∧ crashed = false ∧ flagerr = false) ∧ closeVerdict exit crashed flagerr text ≠ [] ∧
      ((closeVerdict exit crashed flagerr text).head? = some 68 ∨ (closeVerdict exit crashed flagerr text).head? = some 90) ∧
      ((closeVerdict exit crashed flagerr text).head? = some 68 ↔ Nq.Spec.C07.qqClass exit crashed text = .perm)) := by
  have hz : zeroGuarded = true := by decide
  unfold closeVerdict
  unfold Nq.Spec.C07.qqClass
  cases crashed
  · simp only [Bool.false_eq_true, ↓reduceIte, hz, Bool.not_true, Bool.false_or, true_and]
    by_cases h0 : exit = 0 ∧ (!flagerr) = true
    · exact .inl ⟨⟨h0.1, by simpa using h0.2⟩, by simp [h0]⟩
    · refine .inr ⟨fun h => h0 ⟨h.1, by simp [h.2]⟩, ?_⟩
      simp only [h0, ↓reduceIte]
      -- The switch is the generated `table`.  For a status with a `case` of its own all that is needed of its string was
      -- decided once over the table (`table_entry`): D or Z, D exactly for 11..40 and 115, and the status is not 82, so
      -- the specification's branch for 82 is out.  Without one (`default:`; 0 and 115 have one): 82 with a text of more
      -- than two bytes gives that text, else the range 11..40 decides.
      cases hl : table.lookup exit with
      | some s =>
        have te := table_entry exit s hl
        simp only
        refine ⟨te.1, te.2.1, ?_⟩
        rw [te.2.2.1]
        by_cases he0 : exit = 0
        · subst he0; simp
        · simp only [he0, ↓reduceIte, te.2.2.2, false_and]
          constructor
          · intro h; simp [h]
          · intro h; split at h <;> simp_all
      | none =>
        have h115 : exit ≠ 115 := by intro h; subst h; revert hl; decide
        have he0 : exit ≠ 0 := by intro h; subst h; revert hl; decide
        simp only [he0, ↓reduceIte]
        by_cases hc : exit = customCode ∧ min text.length errMax > customMinLen
        · have hlen : text.length > 2 := by
            have := hc.2; simp [customMinLen, errMax] at this; omega
          have h82 : exit = 82 := hc.1
          subst h82
          rcases ht with ht | ht
          · have eh := errstr_head text ht
            have hcc : (82 = customCode ∧ min text.length errMax > customMinLen) := hc
            simp only [hcc, and_self, ↓reduceIte, eh.1, hlen]
            refine ⟨eh.2, ht, ?_⟩
            rcases ht with ht | ht <;> simp [ht]
          · omega
        · simp only [hc, ↓reduceIte]
          have hnc : ¬ (exit = 82 ∧ text.length > 2) := by
            intro ⟨a, b⟩; apply hc; refine ⟨a, ?_⟩; simp [customMinLen, errMax]; omega
          simp only [hnc, ↓reduceIte, h115, or_false]
          by_cases hp : permLo ≤ exit ∧ exit ≤ permHi
          · have hp' : 11 ≤ exit ∧ exit ≤ 40 := hp
            simp only [hp, and_self, ↓reduceIte, hp']
            exact ⟨by decide, Or.inl (by decide), by decide⟩
          · have hp' : ¬ (11 ≤ exit ∧ exit ≤ 40) := hp
            simp only [hp, ↓reduceIte, hp']
            exact ⟨by decide, Or.inr (by decide), by decide⟩
  · simp only [↓reduceIte]
    exact .inr ⟨fun h => (nomatch h.2.1), by decide, Or.inr (by decide), by decide⟩

/-- **C07_verdict (success).**  `qmail_close` returns "" exactly when the queue program exited 0, did not crash and no
    failure was flagged — for every exit status and every text on descriptor 6 that honours the interface (`TextOK`) or
    has at most two bytes (which `qmail_close` ignores). -/
theorem C07_verdict (exit : Nat) (crashed flagerr : Bool) (text : Bytes) (ht : TextOK text ∨ text.length ≤ 2) :
    closeVerdict exit crashed flagerr text = [] ↔ (exit = 0 ∧ crashed = false ∧ flagerr = false) := by
  rcases closeVerdict_cases exit crashed flagerr text ht with ⟨h, hv⟩ | ⟨h, hv, _⟩
  · exact ⟨fun _ => h, fun _ => hv⟩
  · exact ⟨fun hv' => absurd hv' hv, fun h' => absurd h' h⟩

/-- **C07_verdict (the interface gap: what the code does outside the hypothesis of `C07_verdict`).**  A queue program
    that exits 82 and writes a text of more than two bytes beginning with NUL (here NUL `x` `y`) makes `qmail_close`
    return "" — which every daemon takes for success — with or without `flagerr`. -/
theorem C07_verdict_gap (flagerr : Bool) : closeVerdict 82 false flagerr [0, 120, 121] = [] := by
  cases flagerr <;> decide

/-- **C07_verdict (classes).**  Whenever the verdict is not success it starts with `D` or `Z`, and with `D` exactly in
    the cases qmail-queue.8 calls permanent: 11..40, 115 (alias of 11), 82 with a text starting with `D`.
    A crash, exit 0 with `flagerr`, and every other status (51.., 81, 91, 120, ≥ 256 …) give `Z`. -/
theorem C07_verdict_class (exit : Nat) (crashed flagerr : Bool) (text : Bytes) (ht : TextOK text ∨ text.length ≤ 2)
    (hne : closeVerdict exit crashed flagerr text ≠ []) :
    ((closeVerdict exit crashed flagerr text).head? = some 68 ∨ (closeVerdict exit crashed flagerr text).head? = some 90) ∧
    ((closeVerdict exit crashed flagerr text).head? = some 68 ↔
      Nq.Spec.C07.qqClass exit crashed text = .perm) := by
  rcases closeVerdict_cases exit crashed flagerr text ht with ⟨_, hv⟩ | ⟨_, _, h⟩
  · exact absurd hv hne
  · exact h

example : TextOK [68, 110, 111] := Or.inl rfl
example : closeVerdict 31 false false [] ≠ [] := by decide

/-! ## received.c -/

/-- what `safeput` may emit: a byte `issafe` accepts, or the replacement `?` — in every case a printable ASCII
    byte that is not a space, a parenthesis, CR or LF -/
def Harmless (b : Byte) : Prop :=
  (issafe b = true ∨ b = QMARK) ∧ 32 < b ∧ b < 127 ∧ b ≠ 40 ∧ b ≠ 41

instance (b : Byte) : Decidable (Harmless b) := by unfold Harmless; exact inferInstance

/-- The set `C07_received_safe` speaks of: `issafe()` — the table regenerated from received.c on every run — accepts
    exactly the documented set, letters, digits and `. @ % + / = : - [ ]` (`Spec.C07.safeSpec`, written down
    independently of the code): no backslash, quote, parenthesis, angle bracket, comma, semicolon, space, control or
    8-bit byte.  A source that lets any other byte through fails this theorem. -/
theorem C07_issafe_documented : ∀ c : Byte, issafe c = Nq.Spec.C07.safeSpec c :=
  issafe_spec

theorem sanitize_safe : ∀ c : Byte, Harmless (sanitize c) := by
  intro c
  rcases sanitize_cases c with ⟨hs, he⟩ | he
  · rw [he]
    have r := issafe_range c hs
    exact ⟨Or.inl hs, r.1, r.2.1, r.2.2.1, r.2.2.2.1⟩
  · rw [he]; decide

/-- **C07_received_safe (first clause).**  Every byte `safeput` emits is one `issafe` accepts or the replacement
    character `?` (which `issafe` itself rejects, see the `example` below: "every emitted byte satisfies `issafe`" would
    be false), hence printable, not a space, not a parenthesis, not CR/LF — whatever HELO / TCPREMOTE* / TCPLOCAL* contain. -/
theorem C07_received_safe (s : Bytes) : ∀ b ∈ safeput s, Harmless b :=
  List.forall_mem_map.mpr fun c _ => sanitize_safe c

example : sanitize 10 = QMARK ∧ issafe QMARK = false := by decide

theorem fmtU_digits (n : Nat) : ∀ b ∈ fmtU n, isDigit b = true := by
  rw [Nq.Lemmas.C07Date.fmtU_eq]; exact fmtNat_digits n

section plain
open Nq.Spec.C07 (wfPlain count_lf_of_plain)

theorem sanitize_plain : ∀ c : Byte, wfPlain (sanitize c) = true := by
  intro c
  rcases sanitize_cases c with ⟨hs, he⟩ | he
  · rw [he, Nq.Spec.C07.wfPlain_iff]
    have r := issafe_range c hs
    exact ⟨UInt8.le_of_lt r.1, r.2.1, r.2.2.2.2.1, r.2.2.2.2.2, r.2.2.1, r.2.2.2.1⟩
  · rw [he]; decide

theorem safeput_plain (s : Bytes) : ∀ c ∈ safeput s, wfPlain c = true :=
  List.forall_mem_map.mpr fun c _ => sanitize_plain c

theorem digit_plain : ∀ c : Byte, isDigit c = true → wfPlain c = true := by
  intro c h
  simp only [isDigit, Bool.and_eq_true, decide_eq_true_eq, UInt8.le_iff_toNat_le] at h
  simp only [Nq.Spec.C07.wfPlain_iff, UInt8.le_iff_toNat_le, UInt8.lt_iff_toNat_lt, ne_eq, ← UInt8.toNat_inj]
  simp only [UInt8.toNat_ofNat] at h ⊢
  omega

theorem fmtU_plain (n : Nat) : ∀ c ∈ fmtU n, wfPlain c = true := fun c h => digit_plain c (fmtU_digits n c h)

theorem fmtU0_plain (u k : Nat) : ∀ c ∈ fmtU0 u k, wfPlain c = true := by
  intro c h
  unfold fmtU0 at h
  rcases List.mem_append.mp h with h | h
  · rw [List.mem_replicate] at h; rw [h.2]; decide
  · exact fmtU_plain u c h

theorem months_plain (m : Nat) : ∀ c ∈ months.getD m [], wfPlain c = true :=
  months_forall (P := fun l => ∀ c ∈ l, wfPlain c = true) (by decide) (by simp) m

theorem safeput_count_lf (s : Bytes) : (safeput s).count LF = 0 := count_lf_of_plain (safeput_plain s)

theorem fmtU_count_lf (n : Nat) : (fmtU n).count LF = 0 := count_lf_of_plain (fmtU_plain n)

theorem fmtU0_count_lf (u k : Nat) : (fmtU0 u k).count LF = 0 := count_lf_of_plain (fmtU0_plain u k)

theorem months_count_lf (m : Nat) : (months.getD m []).count LF = 0 := count_lf_of_plain (months_plain m)

end plain

theorem date822_count_lf (dt : DT) : (date822 dt).count LF = 1 := by
  unfold date822
  simp only [List.count_append, fmtU_count_lf, fmtU0_count_lf, months_count_lf]
  decide

/-- **C07_received_safe (second clause).**  The Received field is exactly two lines — it contains exactly two LF, the
    second one being its last byte — whatever HELO / TCPREMOTE* / TCPLOCAL* contain and whatever the clock says
    (`hp`: the protocol name has no LF; the daemons pass the literals `SMTP`, `QMTP`, `QMQP`). -/
theorem C07_received_two_lines (proto : Bytes) (p : Peer) (helo : Option Bytes) (t : Nat) (hp : proto.count LF = 0) :
    (received proto p helo t).count LF = 2 ∧ (received proto p helo t).getLast? = some LF := by
  constructor
  · unfold received
    cases helo <;> cases hi : p.info <;>
      simp only [List.count_append, safeput_count_lf, date822_count_lf, hp, List.count_nil] <;> decide
  · unfold received date822
    simp only [← List.append_assoc]
    rw [List.getLast?_append]
    simp [lZone, LF]

example : (received pSMTP ⟨some [10, 32, 10], none, some [40, 10], none, none⟩ (some [13, 10]) 0).count LF = 2 := by decide +kernel

/-! ### the field is the specified one (`Spec.C07`) and is well formed -/

/-- `safeput` is the specification's `clean`: C string, every byte outside the documented set replaced by `?` -/
theorem C07_safeput_clean (s : Bytes) : safeput s = Nq.Spec.C07.clean s := by
  unfold safeput Nq.Spec.C07.clean
  apply List.map_congr_left
  intro c _
  unfold sanitize
  rw [C07_issafe_documented c]
  rfl

/-- What `received()` hands to the queue is, byte for byte, the specified field (`Spec.C07.receivedHead`: fixed words,
    every peer-supplied part cleaned) followed by the date (the model's `date822`, for which see `C07_date822_format`) —
    for every HELO / TCPREMOTE* / TCPLOCAL* string and every clock value. -/
theorem C07_received_spec (proto : Bytes) (p : Peer) (helo : Option Bytes) (t : Nat) :
    received proto p helo t =
      Nq.Spec.C07.receivedHead proto p.remotehost p.remoteip p.loc p.info helo ++ date822 (datetimeTai t) := by
  -- the fixed words of the model and of the specification are the same literals
  unfold received
  rw [funext C07_safeput_clean]
  rfl

section wellformed
open Nq.Spec.C07 (wfAux wfPlain wf822)

theorem wfAux_plain (d : Nat) (c : Byte) (r : Bytes) (h : wfPlain c = true) : wfAux d (c :: r) = wfAux d r := by
  have h10 : c ≠ 10 := by intro e; subst e; revert h; decide
  have h40 : c ≠ 40 := by intro e; subst e; revert h; decide
  have h41 : c ≠ 41 := by intro e; subst e; revert h; decide
  cases r with
  | nil => simp [wfAux, h10]
  | cons n r => simp [wfAux, h10, h40, h41, h]

theorem wfAux_open (d : Nat) (r : Bytes) : wfAux d (40 :: r) = wfAux (d + 1) r := by
  cases r <;> simp [wfAux]

theorem wfAux_close (d : Nat) (r : Bytes) : wfAux (d + 1) (41 :: r) = wfAux d r := by
  cases r <;> simp [wfAux]

theorem wfAux_fold (d : Nat) (r : Bytes) : wfAux d (10 :: 32 :: r) = wfAux d (32 :: r) := by
  simp [wfAux]

theorem wfAux_plain_append (d : Nat) : ∀ (xs r : Bytes), (∀ c ∈ xs, wfPlain c = true) → wfAux d (xs ++ r) = wfAux d r
  | [], _, _ => rfl
  | c :: xs, r, h => by
    rw [List.cons_append, wfAux_plain d c _ (h c (by simp))]
    exact wfAux_plain_append d xs r (fun b hb => h b (by simp [hb]))

/-- the date ends the field: all of it is plain text up to the final LF -/
theorem wfAux_date (dt : DT) : wfAux 0 (date822 dt) = true := by
  unfold date822
  simp only [List.append_assoc]
  rw [wfAux_plain_append 0 _ _ (fmtU_plain _), List.singleton_append, wfAux_plain 0 SP _ (by decide),
    wfAux_plain_append 0 _ _ (months_plain _), List.singleton_append, wfAux_plain 0 SP _ (by decide),
    wfAux_plain_append 0 _ _ (fmtU_plain _), List.singleton_append, wfAux_plain 0 SP _ (by decide),
    wfAux_plain_append 0 _ _ (fmtU0_plain _ _), List.singleton_append, wfAux_plain 0 58 _ (by decide),
    wfAux_plain_append 0 _ _ (fmtU0_plain _ _), List.singleton_append, wfAux_plain 0 58 _ (by decide),
    wfAux_plain_append 0 _ _ (fmtU0_plain _ _)]
  decide

/-- The Received field is a well-formed RFC 822 header field whatever the peer supplied (`Spec.C07.wf822`: printable
    ASCII, line breaks only as folds, the last byte the LF ending the field, comments balanced, no backslash — so no
    quoted-pair can hide a parenthesis — and no double quote), for every HELO / TCPREMOTE* / TCPLOCAL* string and every
    clock value (`hp`: the protocol name is plain text, as `SMTP`, `QMTP`, `QMQP` are). -/
theorem C07_received_wellformed (proto : Bytes) (p : Peer) (helo : Option Bytes) (t : Nat)
    (hp : ∀ c ∈ proto, wfPlain c = true) : wf822 (received proto p helo t) = true := by
  have hFrom : ∀ r, wfAux 0 (lFrom ++ r) = wfAux 0 r := fun r => wfAux_plain_append 0 _ r (by decide)
  have hHelo : ∀ r, wfAux 0 (lHelo ++ r) = wfAux 1 r := fun r => by
    show wfAux 0 (32 :: 40 :: 72 :: 69 :: 76 :: 79 :: 32 :: r) = _
    rw [wfAux_plain 0 32 _ (by decide), wfAux_open]
    exact wfAux_plain_append 1 [72, 69, 76, 79, 32] r (by decide)
  have hClose : ∀ r, wfAux 1 (lClose ++ r) = wfAux 0 r := fun r => wfAux_close 0 r
  have hParen : ∀ r, wfAux 0 (lParen ++ r) = wfAux 1 r := fun r => by
    show wfAux 0 (32 :: 40 :: r) = _
    rw [wfAux_plain 0 32 _ (by decide), wfAux_open]
  have hAt : ∀ r, wfAux 1 (lAt ++ r) = wfAux 1 r := fun r => wfAux_plain_append 1 _ r (by decide)
  have hBy : ∀ r, wfAux 1 (lBy ++ r) = wfAux 0 r := fun r => by
    show wfAux 1 (41 :: 10 :: 32 :: 32 :: 98 :: 121 :: 32 :: r) = _
    rw [wfAux_close, wfAux_fold]
    exact wfAux_plain_append 0 [32, 32, 98, 121, 32] r (by decide)
  have hWith : ∀ r, wfAux 0 (lWith ++ r) = wfAux 0 r := fun r => wfAux_plain_append 0 _ r (by decide)
  have hSemi : ∀ r, wfAux 0 (lSemi ++ r) = wfAux 0 r := fun r => wfAux_plain_append 0 _ r (by decide)
  unfold wf822 received
  cases helo <;> cases p.info <;>
    simp only [List.append_assoc, List.nil_append, hFrom, hHelo, hClose, hParen, hAt, hBy, hWith, hSemi,
      wfAux_plain_append _ _ _ (safeput_plain _), wfAux_plain_append _ _ _ hp, wfAux_date]

example : wf822 (received pSMTP ⟨some [92, 41], none, some [40, 10], none, none⟩ (some [13, 92]) 0) = true := by decide +kernel
example : (∀ c ∈ pSMTP, wfPlain c = true) ∧ (∀ c ∈ pQMTP, wfPlain c = true) ∧ (∀ c ∈ pQMQP, wfPlain c = true) := by decide
/-- the oracle's predicate rejects what a backslash from the peer would produce: the comment `(HELO \)` never closes;
    with `?` in its place it does -/
example : wf822 [40, 72, 69, 76, 79, 32, 92, 41, 10] = false ∧ wf822 [40, 72, 69, 76, 79, 32, 63, 41, 10] = true := by decide

end wellformed

/-! ## the replies -/

/-- a verdict as `qmail_close` produces it for a queue program that honours its interface: success, or `D…`, or `Z…` -/
def VerdictOK (v : Bytes) : Prop := v = [] ∨ v.head? = some 68 ∨ v.head? = some 90

theorem VerdictOK.head_ne_K {v : Bytes} (hv : VerdictOK v) (he : v ≠ []) : v.head? ≠ some 75 := by
  rcases hv with hv | hv | hv
  · exact absurd hv he
  · rw [hv]; simp
  · rw [hv]; simp

theorem verdict_ok (exit : Nat) (crashed flagerr : Bool) (text : Bytes) (ht : TextOK text ∨ text.length ≤ 2) :
    VerdictOK (closeVerdict exit crashed flagerr text) := by
  by_cases h : closeVerdict exit crashed flagerr text = []
  · exact Or.inl h
  · exact Or.inr (C07_verdict_class exit crashed flagerr text ht h).1

/-- The status qmail-qmtpd sends for the recipients it handed to the queue is `K…` exactly when `qmail_close` reported
    success, the sender was acceptable and the size limit did not trip; otherwise it is the fixed `D…` for the size limit,
    else the fixed `D…` for an unacceptable sender, else the queue's own `D…`/`Z…` verdict.  (The reply SELECTION, for
    arbitrary flag values; what the flags are for the record computed from the input: `C07_qmtp_size`, `C07_qmtp_strict`.) -/
theorem C07_qmtp_ack (m : Qmtp.Msg) (v : Bytes) (now pid : Nat) (hv : VerdictOK v) :
    ((Qmtp.result m v now pid).head? = some 75 ↔ (v = [] ∧ m.senderok = true ∧ m.overflow = false)) ∧
    (m.overflow = true → Qmtp.result m v now pid = Qmtp.sTooBig) ∧
    (m.overflow = false → m.senderok = false → Qmtp.result m v now pid = Qmtp.sUnacceptable) ∧
    (m.overflow = false → m.senderok = true → v ≠ [] → Qmtp.result m v now pid = v) := by
  unfold Qmtp.result
  cases ho : m.overflow <;> cases hs : m.senderok
  · simp [Qmtp.sUnacceptable]
  · simp only [↓reduceIte, Bool.false_eq_true]
    by_cases he : v = []
    · subst he; simp [Qmtp.sKok]
    · have hne : v.isEmpty = false := by cases v <;> simp_all
      simp only [hne, Bool.false_eq_true, ↓reduceIte, he, iff_false, and_true, ne_eq,
        not_false_eq_true, implies_true, and_self]
      exact ⟨hv.head_ne_K he, by simp, by simp⟩
  · simp [Qmtp.sTooBig]
  · simp [Qmtp.sTooBig]

/-- per recipient: the message's status (`C07_qmtp_ack`) only for a recipient that was handed to the queue (failure
    byte 0); every other recipient (NUL, ≥ 1000 bytes, not in rcpthosts) gets a permanent `D`.  (The first conjunct
    restates the DEFINITION of `replies`; the content is in the two `D` facts, and in `C07_qmtp_strict`, which ties the
    failure bytes to the recipient netstrings of the input.) -/
theorem C07_qmtp_rcpt_reply (m : Qmtp.Msg) (res : Bytes) :
    Qmtp.replies m res = m.failure.map (fun f => if f = 0 then Qmtp.netstring res else if f = Qmtp.fD then Qmtp.sRcpthosts else Qmtp.sCantHandle) ∧
    (Qmtp.sRcpthosts.drop 3).head? = some 68 ∧ (Qmtp.sCantHandle.drop 3).head? = some 68 :=
  ⟨rfl, by decide, by decide⟩

/-- which recipients are refused: over-long (with RELAYCLIENT appended), containing NUL, or — when RELAYCLIENT is not
    set — not in rcpthosts.  (An UNFOLDING of `rcptFail`; `rcpthostsOk` itself is tied to the C code by the correspondence
    run only.  That a refused recipient is not in the envelope is `C07_qmtp_strict`.) -/
theorem C07_qmtp_rcpt_policy (cfg : Qmtp.Cfg) (a : Bytes) :
    Qmtp.rcptFail cfg a = 0 ↔
      (a.length + (cfg.relay.getD []).length < Nq.Gen.C07.qmtpAddrMax ∧ a.contains 0 = false ∧
       (cfg.relay.isSome = true ∨ rcpthostsOk cfg.rcpthosts a = true)) := by
  unfold Qmtp.rcptFail Qmtp.fL Qmtp.fN Qmtp.fD
  by_cases hl : a.length + (cfg.relay.getD []).length ≥ Nq.Gen.C07.qmtpAddrMax
  · simp only [hl, ↓reduceIte]
    constructor
    · intro h; exact absurd h (by decide)
    · intro ⟨h, _⟩; omega
  · simp only [hl, ↓reduceIte]
    have hl' : a.length + (cfg.relay.getD []).length < Nq.Gen.C07.qmtpAddrMax := by omega
    cases hr : cfg.relay with
    | some r =>
      cases hn : a.contains 0
      · simp [hr] at hl' ⊢; exact hl'
      · simp
    | none =>
      cases hh : rcpthostsOk cfg.rcpthosts a <;> cases hn : a.contains 0 <;> simp [hr] at hl' ⊢ <;> try exact hl'

/-- qmail-qmqpd answers `K…` exactly when `qmail_close` reported success and no address was over-long or contained NUL
    (`flagok`); a bad address gives a permanent `D`; otherwise the queue's verdict is passed on.  (The reply SELECTION,
    for an arbitrary `flagok`; what it is for the record computed from the input: `C07_qmqp_strict`.) -/
theorem C07_qmqp_ack (flagok : Bool) (v : Bytes) (now pid : Nat) (hv : VerdictOK v) :
    ((Qmqp.result flagok v now pid).head? = some 75 ↔ (v = [] ∧ flagok = true)) ∧
    (flagok = false → Qmqp.result flagok v now pid = Qmqp.sCantAccept) ∧
    (flagok = true → v ≠ [] → Qmqp.result flagok v now pid = v) := by
  unfold Qmqp.result
  cases flagok
  · simp [Qmqp.sCantAccept]
  · simp only [Bool.not_true, Bool.false_eq_true, ↓reduceIte, and_true]
    by_cases he : v = []
    · subst he; simp [Qmtp.sKok]
    · have hne : v.isEmpty = false := by cases v <;> simp_all
      simp only [hne, Bool.false_eq_true, ↓reduceIte, he, iff_false]
      exact ⟨hv.head_ne_K he, by simp, by simp⟩

/-- After DATA the reply of qmail-smtpd begins `250 ` (it is `250 ok <time> qp <pid>`) exactly when `qmail_close`
    reported success; otherwise 554 for too many hops, else 552 for the size limit, else `554`/`451` followed by the
    queue's text according to its `D`/`Z` class.  (The reply SELECTION, for arbitrary flag values; what `hopsBad` /
    `overflow` are for the record computed from the input: `C07_smtp_hops`, `C07_smtp_size`.  That the command loop
    writes no other line beginning `250 ok `: `C07_smtp_session_bytes`, and the driver's `stray-ack` oracle on the
    running daemon.) -/
theorem C07_smtp_ack (d : Smtp.Data) (qqx : Bytes) (now pid : Nat) :
    ((Smtp.reply d qqx now pid).take 4 = [50, 53, 48, 32] ↔ qqx = []) ∧
    (qqx ≠ [] → d.hopsBad = true → Smtp.reply d qqx now pid = Smtp.sHops) ∧
    (qqx ≠ [] → d.hopsBad = false → d.overflow = true → Smtp.reply d qqx now pid = Smtp.sSize) ∧
    (qqx ≠ [] → d.hopsBad = false → d.overflow = false →
       Smtp.reply d qqx now pid = (if qqx.head? = some Smtp.D then Smtp.s554 else Smtp.s451) ++ qqx.drop 1 ++ Smtp.crlf) := by
  cases qqx with
  | nil => exact ⟨⟨fun _ => rfl, fun _ => rfl⟩, fun h => absurd rfl h, fun h => absurd rfl h, fun h => absurd rfl h⟩
  | cons c r =>
    have hr : Smtp.reply d (c :: r) now pid = if d.hopsBad then Smtp.sHops else if d.overflow then Smtp.sSize else
        (if (c :: r).head? = some Smtp.D then Smtp.s554 else Smtp.s451) ++ (c :: r).drop 1 ++ Smtp.crlf := rfl
    rw [hr]
    refine ⟨⟨fun h => ?_, fun h => nomatch h⟩, fun _ hh => by rw [hh]; rfl, fun _ hh ho => by rw [hh, ho]; rfl,
      fun _ hh ho => by rw [hh, ho]; rfl⟩
    -- a refusal starts with "554 ", "552 " or "451 "
    exfalso
    revert h
    cases d.hopsBad
    · cases d.overflow
      · simp only [Bool.false_eq_true, if_false]
        split <;> simp [Smtp.s554, Smtp.s451]
      · show List.take 4 Smtp.sSize = _ → False
        decide
    · show List.take 4 Smtp.sHops = _ → False
      decide

/-- the size limit trips exactly at `databytes + 1` stored bytes: `put()`'s countdown, started at databytes+1, reaches 0
    after exactly that many.  (Pure arithmetic; the connection with `overflow` and `stored` of `Smtp.data` is
    `C07_smtp_size`.) -/
theorem C07_smtp_size_trip (db n : Nat) (hdb : db ≠ 0) : Smtp.decN (db + 1) n = 0 ↔ n ≥ db + 1 := by
  rw [Smtp.decN_eq]; omega

/-! ## content: on an acknowledgement the queue program has received exactly that message -/

theorem verdict_flagerr (q : QQ) (e : QEnd) (ht : TextOK e.text ∨ e.text.length ≤ 2) (hv : q.verdict e = []) :
    q.flagerr = false ∧ e.exit = 0 ∧ e.crashed = false := by
  have := (C07_verdict e.exit e.crashed q.flagerr e.text ht).mp hv
  exact ⟨this.2.2, this.1, this.2.1⟩

/-- **acknowledged iff exactly that message was queued**, once for the three daemons: each shows that its calls for a
    transaction read to the end form a `Closed` (`Smtp.data_closed`, `Qmtp.msg_closed`, `Qmqp.parse_closed`), with
    `refused` its own refusal flags; `Closed.outcome` and `C07_verdict` do the rest. -/
theorem closed_ack {ops : List QOp} {content sender : Bytes} {rcpts : List Bytes} {refused : Prop}
    (t : Closed ops content sender rcpts refused) (w : Option Nat) (e : QEnd) (ht : TextOK e.text ∨ e.text.length ≤ 2) :
    (((QQ.opened w).run ops).verdict e = [] → ¬ refused ∧ ((QQ.opened w).run ops).msgPipe = content ∧
      ((QQ.opened w).run ops).envPipe = envelope sender (rcpts.map cstr) ∧ e.exit = 0 ∧ e.crashed = false) ∧
    (envComplete ((QQ.opened w).run ops).envPipe = true ∧ e.exit = 0 ∧ e.crashed = false →
      ((QQ.opened w).run ops).verdict e = []) ∧
    (refused → ((QQ.opened w).run ops).flagerr = true ∧ ((QQ.opened w).run ops).verdict e ≠ [] ∧
      envComplete ((QQ.opened w).run ops).envPipe = false) := by
  obtain ⟨hok, hbad, hre⟩ := t.outcome w
  have hnr : ((QQ.opened w).run ops).verdict e = [] → ¬ refused := fun hv hr =>
    absurd ((hre hr).symm.trans (verdict_flagerr _ e ht hv).1) (by decide)
  refine ⟨fun hv => ?_, fun hc => ?_, fun hr => ⟨hre hr, fun hv => hnr hv hr, hbad (hre hr)⟩⟩
  · obtain ⟨hf, hx⟩ := verdict_flagerr _ e ht hv
    exact ⟨hnr hv, (hok hf).1, (hok hf).2, hx⟩
  · refine (C07_verdict e.exit e.crashed _ e.text ht).mpr ⟨hc.2.1, hc.2.2, eq_false_of_ne_true fun hf => ?_⟩
    rw [hbad hf] at hc; exact absurd hc.1 (by decide)

/-- **C07_content (QMTP).**  When qmail-qmtpd has read a message completely and `qmail_close` reports success (the only
    case in which a `K` status is sent, `C07_qmtp_ack`) then — for every input and write-fault schedule — the queue
    program has received on descriptor 0 exactly the Received field followed by the stored (decoded) body, on descriptor 1
    exactly `F sender NUL (T recipient NUL)* NUL` with the accepted recipients (the ones answered `K`) in order, and has
    exited 0 without crashing. -/
theorem C07_content_qmtp (cfg : Qmtp.Cfg) (inp : Bytes) (w : Option Nat) (e : QEnd)
    (ht : TextOK e.text ∨ e.text.length ≤ 2)
    (hstop : (Qmtp.msg cfg inp).stop = none)
    (hv : ((QQ.opened w).run (Qmtp.msg cfg inp).ops).verdict e = []) :
    ((QQ.opened w).run (Qmtp.msg cfg inp).ops).msgPipe = received pQMTP cfg.peer none cfg.now ++ (Qmtp.msg cfg inp).stored ∧
    ((QQ.opened w).run (Qmtp.msg cfg inp).ops).envPipe =
      envelope (Qmtp.msg cfg inp).sender ((Qmtp.msg cfg inp).rcpts.map cstr) ∧
    e.exit = 0 ∧ e.crashed = false := by
  exact ((closed_ack (Qmtp.msg_closed cfg inp hstop) w e ht).1 hv).2

/-- **C07_content (QMTP, the decoded body).**  The `stored` bytes of `C07_content_qmtp` are the framed bytes after the mode
    byte: verbatim for LF framing, with every CR LF turned into LF (`Spec.C07.undos`) for CR framing. -/
theorem C07_content_qmtp_decoded (cfg : Qmtp.Cfg) (inp : Bytes) (h : (Qmtp.msg cfg inp).stop = none) :
    ∃ len c r1, Netstring.getlen Nq.Gen.C07.qmtpLenMax 0 inp = .ok len (c :: r1) ∧ len ≠ 0 ∧ (c = LF ∨ c = CR) ∧
      (Qmtp.msg cfg inp).stored = (if c = CR then Nq.Spec.C07.undos (r1.take (len - 1)) else r1.take (len - 1)) := by
  obtain ⟨p, R⟩ := Qmtp.msg_full cfg inp h
  exact ⟨p.len, p.c, p.r1, R.len, R.len_ne, R.mode,
    by rw [R.msg_eq]; exact (Qmtp.bodyOf_reads cfg p.len p.c p.r1 p.r2 R.body).stored_eq⟩

/-- **C07_content (QMQP).**  The same for a request qmail-qmqpd has read completely (`stored`, sender and recipients in
    terms of the request: `C07_qmqp_strict`). -/
theorem C07_content_qmqp (cfg : Qmqp.Cfg) (inp : Bytes) (w : Option Nat) (e : QEnd)
    (ht : TextOK e.text ∨ e.text.length ≤ 2)
    (hstop : (Qmqp.parse cfg inp).stop = none)
    (hv : ((QQ.opened w).run (Qmqp.parse cfg inp).ops).verdict e = []) :
    ((QQ.opened w).run (Qmqp.parse cfg inp).ops).msgPipe = received pQMQP cfg.peer none cfg.now ++ (Qmqp.parse cfg inp).stored ∧
    ((QQ.opened w).run (Qmqp.parse cfg inp).ops).envPipe =
      envelope (cstr (Qmqp.parse cfg inp).sender) ((Qmqp.parse cfg inp).rcpts.map cstr) ∧
    e.exit = 0 ∧ e.crashed = false := by
  exact ((closed_ack (Qmqp.parse_closed cfg inp hstop) w e ht).1 hv).2

/-- **C07_content (SMTP).**  After a terminated DATA with verdict success: descriptor 0 = Received field ++ the body as
    the decoder of C05 (`dblast`) yields it; descriptor 1 = `F mailfrom NUL` ++ the `rcptto` block (`T recipient NUL`
    each) ++ NUL; the queue program exited 0 without crashing. -/
theorem C07_content_smtp (cfg : Smtp.Cfg) (helo : Option Bytes) (mailfrom : Bytes) (rs : List Bytes) (inp : Bytes)
    (w : Option Nat) (e : QEnd) (ht : TextOK e.text ∨ e.text.length ≤ 2)
    (hstop : (Smtp.data cfg helo mailfrom (entries rs) inp).stop = none)
    (hv : ((QQ.opened w).run (Smtp.data cfg helo mailfrom (entries rs) inp).ops).verdict e = []) :
    ((QQ.opened w).run (Smtp.data cfg helo mailfrom (entries rs) inp).ops).msgPipe =
      received pSMTP cfg.peer (Smtp.fakehelo cfg.peer helo) cfg.now ++ (Smtp.data cfg helo mailfrom (entries rs) inp).stored ∧
    Nq.SmtpIn.dblast inp = .accepted (Smtp.data cfg helo mailfrom (entries rs) inp).stored (Smtp.data cfg helo mailfrom (entries rs) inp).rest ∧
    ((QQ.opened w).run (Smtp.data cfg helo mailfrom (entries rs) inp).ops).envPipe = envelope (cstr mailfrom) (rs.map cstr) ∧
    e.exit = 0 ∧ e.crashed = false := by
  obtain ⟨_, h1, h2, h3⟩ := (closed_ack (Smtp.data_closed cfg helo mailfrom rs inp hstop) w e ht).1 hv
  exact ⟨h1, Smtp.data_dblast cfg helo mailfrom _ inp hstop, h2, h3⟩

/-! ## cut: the client disconnects at any byte before the message is complete -/

/-- **C07_cut (QMTP).**  Let a message be complete after `k = |inp| - |rest|` bytes.  If the client sends only the first
    `j < k` bytes and disconnects, qmail-qmtpd exits inside the message (`stop ≠ none`): it sends nothing (no
    acknowledgement), it never calls `qmail_close`, and what the queue program finds on descriptor 1 is not a complete
    envelope — for every write-fault schedule and every scripted end of the queue program.  (`h` only fixes this reading
    of `k`; the proof does not use it: for any `inp`, no prefix shorter than `|inp| - |rest|` is a complete message,
    `Qmtp.msg_prefix`.) -/
theorem C07_cut_qmtp (cfg : Qmtp.Cfg) (inp : Bytes) (w : Option Nat) (ends : List QEnd) (pids : List Nat)
    (h : (Qmtp.msg cfg inp).stop = none) (j : Nat) (hj : j < inp.length - (Qmtp.msg cfg inp).rest.length) :
    (Qmtp.msg cfg (inp.take j)).stop ≠ none ∧
    (Qmtp.run cfg w ends pids (inp.take j)).out = [] ∧
    envComplete ((QQ.opened w).run (Qmtp.msg cfg (inp.take j)).ops).envPipe = false := by
  have hs := Qmtp.msg_prefix cfg inp j hj
  refine ⟨hs, ?_, (Qmtp.msg_stopped cfg _ hs).no_envelope w⟩
  unfold Qmtp.run Qmtp.session
  cases hst : (Qmtp.msg cfg (inp.take j)).stop with
  | none => exact absurd hst hs
  | some ex => simp [hst, Sub.flush]

/-- **C07_cut (QMQP).**  The same for a request of qmail-qmqpd (`h` again not used, `Qmqp.parse_prefix`). -/
theorem C07_cut_qmqp (cfg : Qmqp.Cfg) (inp : Bytes) (w : Option Nat) (e : QEnd) (pid : Nat)
    (h : (Qmqp.parse cfg inp).stop = none) (j : Nat) (hj : j < inp.length - (Qmqp.parse cfg inp).rest.length) :
    (Qmqp.parse cfg (inp.take j)).stop ≠ none ∧
    (Qmqp.run cfg w e pid (inp.take j)).out = [] ∧
    envComplete ((QQ.opened w).run (Qmqp.parse cfg (inp.take j)).ops).envPipe = false := by
  have hs := Qmqp.parse_prefix cfg inp j hj
  refine ⟨hs, ?_, (Qmqp.parse_stopped cfg _ hs).no_envelope w⟩
  unfold Qmqp.run
  cases hst : (Qmqp.parse cfg (inp.take j)).stop with
  | none => exact absurd hst hs
  | some ex => simp [hst]

/-- **C07_cut (SMTP, inside DATA).**  If DATA is terminated after `k` bytes of the stream and the client sends only
    `j < k` of them, smtp_data() never reaches `qmail_from`/`qmail_close` (it dies in `die_read`/`straynewline`, so the
    reply after DATA — the only place an acknowledgement is produced, `C07_smtp_ack` — is never computed) and the queue
    program's descriptor 1 holds no complete envelope.  (`h` is not used: for any stream, DATA is not terminated on a
    prefix shorter than `|inp| - |rest|`, `Smtp.data_prefix`.) -/
theorem C07_cut_smtp (cfg : Smtp.Cfg) (helo : Option Bytes) (mailfrom rcptto inp : Bytes) (w : Option Nat)
    (h : (Smtp.data cfg helo mailfrom rcptto inp).stop = none) (j : Nat)
    (hj : j < inp.length - (Smtp.data cfg helo mailfrom rcptto inp).rest.length) :
    (Smtp.data cfg helo mailfrom rcptto (inp.take j)).stop ≠ none ∧
    envComplete ((QQ.opened w).run (Smtp.data cfg helo mailfrom rcptto (inp.take j)).ops).envPipe = false := by
  have hs := Smtp.data_prefix cfg helo mailfrom rcptto inp j hj
  exact ⟨hs, (Smtp.data_stopped cfg helo mailfrom rcptto _ hs).no_envelope w⟩

/-- … and more generally, whenever a daemon model exits inside a message (EOF, badproto, resources, die_read, stray LF)
    nothing complete has reached the queue program's descriptor 1 -/
theorem C07_stopped_no_envelope (w : Option Nat) :
    (∀ (cfg : Qmtp.Cfg) (inp : Bytes), (Qmtp.msg cfg inp).stop ≠ none →
        envComplete ((QQ.opened w).run (Qmtp.msg cfg inp).ops).envPipe = false) ∧
    (∀ (cfg : Qmqp.Cfg) (inp : Bytes), (Qmqp.parse cfg inp).stop ≠ none →
        envComplete ((QQ.opened w).run (Qmqp.parse cfg inp).ops).envPipe = false) ∧
    (∀ (cfg : Smtp.Cfg) (helo : Option Bytes) (mf rt inp : Bytes), (Smtp.data cfg helo mf rt inp).stop ≠ none →
        envComplete ((QQ.opened w).run (Smtp.data cfg helo mf rt inp).ops).envPipe = false) :=
  ⟨fun cfg inp h => (Qmtp.msg_stopped cfg inp h).no_envelope w,
   fun cfg inp h => (Qmqp.parse_stopped cfg inp h).no_envelope w,
   fun cfg helo mf rt inp h => (Smtp.data_stopped cfg helo mf rt inp h).no_envelope w⟩

/-- non-vacuity: complete messages exist for the three models ("3:\\nx\\n,1:s,4:1:r,,", the QMQP request of the same
    message, "a\\r\\n.\\r\\nQUIT\\r\\n" with the six bytes of `QUIT` left unread) -/
example : (Qmtp.msg { peer := ⟨none, none, none, none, none⟩ } [51, 58, 10, 120, 10, 44, 49, 58, 115, 44, 52, 58, 49, 58, 114, 44, 44]).stop = none := by decide
example : (Qmqp.parse { peer := ⟨none, none, none, none, none⟩ } [49, 51, 58, 50, 58, 120, 10, 44, 49, 58, 115, 44, 49, 58, 114, 44, 44]).stop = none := by decide
example : (Smtp.data { peer := ⟨none, none, none, none, none⟩ } none [115] (entries [[114]]) [97, 13, 10, 46, 13, 10, 81, 85, 73, 84, 13, 10]).stop = none ∧
    (Smtp.data { peer := ⟨none, none, none, none, none⟩ } none [115] (entries [[114]]) [97, 13, 10, 46, 13, 10, 81, 85, 73, 84, 13, 10]).rest.length = 6 := by decide +kernel

/-! ## the digit check in qmail-qmtpd's recipient lengths -/

/-- Without the digit check (`qmtpRcptDigitCheck = 0`; the translator reads the constant off qmail-qmtpd.c) the recipient
    length loop takes any byte for a digit: "1/" counts as 9, "<" as 12.  For the source as it stands the constant is 1
    (`C07_qmtp_strict` rests on that), so the hypothesis here is not met: the statement says what the model does for a
    source without the check. -/
theorem C07_qmtp_rcptlen_gap (h : Nq.Gen.C07.qmtpRcptDigitCheck = 0) :
    (match Qmtp.rcptLen Nq.Gen.C07.qmtpLenMax 3 0 [49, 47, 58] with | .ok (n, _) _ => n = 9 | _ => False) ∧
    (match Qmtp.rcptLen Nq.Gen.C07.qmtpLenMax 2 0 [60, 58] with | .ok (n, _) _ => n = 12 | _ => False) := by
  constructor <;> simp [Qmtp.rcptLen, h, Qmtp.wrapLen, COLON, Nq.Gen.C07.qmtpLenMax]

/-- With the digit check a non-digit byte in a recipient length ends the connection with `badproto`. -/
theorem C07_qmtp_rcptlen_strict (h : Nq.Gen.C07.qmtpRcptDigitCheck = 1) (big acc : Nat) (c : Byte) (rest : Bytes)
    (hc : c ≠ COLON) (hd : c < 48 ∨ c > 57) (hacc : acc ≤ Nq.Gen.C07.qmtpLenMax) :
    (match Qmtp.rcptLen Nq.Gen.C07.qmtpLenMax (big + 1) acc (c :: rest) with | .stop .badproto _ => True | _ => False) := by
  have : ¬ acc > Nq.Gen.C07.qmtpLenMax := by omega
  simp [Qmtp.rcptLen, h, hc, hd, this]

/-! ## the hop limit: 100 or more Received / Delivered-To fields ⇒ `554`, nothing queued -/

theorem data_hopsBad_iff (cfg : Smtp.Cfg) (helo : Option Bytes) (mailfrom rcptto inp : Bytes)
    (h : (Smtp.data cfg helo mailfrom rcptto inp).stop = none) :
    (Smtp.data cfg helo mailfrom rcptto inp).hopsBad = true ↔
      Nq.HopCount.hopSpec (inp.take (inp.length - (Smtp.data cfg helo mailfrom rcptto inp).rest.length)) ≥ Nq.Gen.MAXHOPS := by
  obtain ⟨rest, hfin⟩ := (Smtp.data_fin cfg helo mailfrom rcptto inp).1.mp h
  unfold Smtp.data
  simp [hfin, Nq.Lemmas.HopCount.hopsOf_eq_hopSpec]

/-- For a terminated DATA, `hopsBad` says that the text consumed (up to and including the terminating `.` line) has 100
    or more header lines starting with `received` / `delivered` in any case (`HopCount.hopSpec`, the line-based
    specification; `MAXHOPS` read off qmail-smtpd.c).  If so then — for every queue outcome and write-fault schedule —
    the reply is exactly `554 too many hops, this message is looping (#5.4.6)`, `qmail_close` reports a failure, and
    qmail-queue finds no complete envelope on descriptor 1 (so it queues nothing). -/
theorem C07_smtp_hops (cfg : Smtp.Cfg) (helo : Option Bytes) (mailfrom : Bytes) (rs : List Bytes) (inp : Bytes)
    (w : Option Nat) (e : QEnd) (now pid : Nat) (ht : TextOK e.text ∨ e.text.length ≤ 2)
    (hstop : (Smtp.data cfg helo mailfrom (entries rs) inp).stop = none) :
    ((Smtp.data cfg helo mailfrom (entries rs) inp).hopsBad = true ↔
      Nq.HopCount.hopSpec (inp.take (inp.length - (Smtp.data cfg helo mailfrom (entries rs) inp).rest.length)) ≥ Nq.Gen.MAXHOPS) ∧
    (Nq.HopCount.hopSpec (inp.take (inp.length - (Smtp.data cfg helo mailfrom (entries rs) inp).rest.length)) ≥ Nq.Gen.MAXHOPS →
      ((QQ.opened w).run (Smtp.data cfg helo mailfrom (entries rs) inp).ops).verdict e ≠ [] ∧
      Smtp.reply (Smtp.data cfg helo mailfrom (entries rs) inp)
        (((QQ.opened w).run (Smtp.data cfg helo mailfrom (entries rs) inp).ops).verdict e) now pid = Smtp.sHops ∧
      envComplete ((QQ.opened w).run (Smtp.data cfg helo mailfrom (entries rs) inp).ops).envPipe = false) := by
  have hiff := data_hopsBad_iff cfg helo mailfrom (entries rs) inp hstop
  refine ⟨hiff, fun hge => ?_⟩
  obtain ⟨_, hv, hne⟩ := (closed_ack (Smtp.data_closed cfg helo mailfrom rs inp hstop) w e ht).2.2 (.inr (hiff.mpr hge))
  exact ⟨hv, (C07_smtp_ack _ _ now pid).2.1 hv (hiff.mpr hge), hne⟩

/-- 100 `Received:` lines, an empty line, a body and the terminator: the count is 100, so `C07_smtp_hops` refuses it -/
example : Nq.HopCount.hopSpec ((List.replicate 100 [82, 101, 99, 101, 105, 118, 101, 100, 58, 13, 10]).flatten ++ [13, 10, 120, 13, 10, 46, 13, 10]) = 100 := by
  decide +kernel
/-- `DELIVERED-` counts; the near misses "receive:", "Xreceived" and a `Received:` after the empty line do not -/
example : Nq.HopCount.hopSpec [68, 69, 76, 73, 86, 69, 82, 69, 68, 45, 13, 10, 114, 101, 99, 101, 105, 118, 101, 58, 13, 10,
    88, 114, 101, 99, 101, 105, 118, 101, 100, 13, 10, 13, 10, 82, 101, 99, 101, 105, 118, 101, 100, 58, 13, 10] = 1 := by decide

/-! ## the refusal flags tied to the input, the composed refusals, and the converse "committed ⇒ acknowledged"

`C07_qmtp_ack`, `C07_qmqp_ack`, `C07_smtp_ack` select the reply for arbitrary values of the flags `overflow` / `senderok` /
`flagok`.  Here: what those flags are for the record computed from the input (`Qmtp.msg`, `Qmqp.parse`, `Smtp.data`); a flag
saying "refuse" puts a `qmail_fail` among the calls on qmail.c — hence `flagerr`, a non-success verdict whatever the queue
program answers, no complete envelope on descriptor 1, and the documented permanent reply; conversely, a complete envelope
together with exit status 0 forces the acknowledgement. -/

/-- "committed": the queue program was handed a complete envelope, exited 0 and did not crash (qmail-queue commits only
    then: C01, and the real-queue leg of the correspondence run) -/
def Committed (q : QQ) (e : QEnd) : Prop := envComplete q.envPipe = true ∧ e.exit = 0 ∧ e.crashed = false

/-- For a terminated DATA: `overflow` ⇔ `databytes` is in force (not 0) and the decoded message (the `stored` bytes,
    which `C07_content_smtp` identifies with the output of C05's decoder `dblast`) is longer than it. -/
theorem C07_smtp_size (cfg : Smtp.Cfg) (helo : Option Bytes) (mailfrom rcptto inp : Bytes)
    (hstop : (Smtp.data cfg helo mailfrom rcptto inp).stop = none) :
    (Smtp.data cfg helo mailfrom rcptto inp).overflow = true ↔
      (cfg.databytes ≠ 0 ∧ (Smtp.data cfg helo mailfrom rcptto inp).stored.length > cfg.databytes) := by
  obtain ⟨b, _, hst, _, hov⟩ := Smtp.data_full cfg helo mailfrom rcptto inp hstop
  rw [hst]; exact hov

/-- A message over the size limit (by `C07_smtp_size`: more than `databytes` decoded bytes): for every queue outcome and
    write-fault schedule, `qmail_close` reports a failure, the queue program finds no complete envelope on descriptor 1,
    and — unless the hop limit takes precedence — the reply is exactly
    `552 sorry, that message size exceeds my databytes limit (#5.3.4)`. -/
theorem C07_smtp_oversize (cfg : Smtp.Cfg) (helo : Option Bytes) (mailfrom : Bytes) (rs : List Bytes) (inp : Bytes)
    (w : Option Nat) (e : QEnd) (now pid : Nat) (ht : TextOK e.text ∨ e.text.length ≤ 2)
    (hstop : (Smtp.data cfg helo mailfrom (entries rs) inp).stop = none)
    (hbig : cfg.databytes ≠ 0 ∧ (Smtp.data cfg helo mailfrom (entries rs) inp).stored.length > cfg.databytes) :
    ((QQ.opened w).run (Smtp.data cfg helo mailfrom (entries rs) inp).ops).verdict e ≠ [] ∧
    envComplete ((QQ.opened w).run (Smtp.data cfg helo mailfrom (entries rs) inp).ops).envPipe = false ∧
    ((Smtp.data cfg helo mailfrom (entries rs) inp).hopsBad = false →
      Smtp.reply (Smtp.data cfg helo mailfrom (entries rs) inp)
        (((QQ.opened w).run (Smtp.data cfg helo mailfrom (entries rs) inp).ops).verdict e) now pid = Smtp.sSize) := by
  have ho := (C07_smtp_size cfg helo mailfrom (entries rs) inp hstop).mpr hbig
  obtain ⟨_, hv, hne⟩ := (closed_ack (Smtp.data_closed cfg helo mailfrom rs inp hstop) w e ht).2.2 (.inl ho)
  exact ⟨hv, hne, fun hh => (C07_smtp_ack _ _ now pid).2.2.1 hv hh ho⟩

/-- The converse direction of "acknowledged iff queued".  If after a terminated DATA the queue program was handed a complete
    envelope and exited 0 without crashing (`Committed`), then nothing was refused — the message is within the size limit
    and below the hop limit — `qmail_close` reports success and the reply begins `250 `. -/
theorem C07_smtp_committed_ack (cfg : Smtp.Cfg) (helo : Option Bytes) (mailfrom : Bytes) (rs : List Bytes) (inp : Bytes)
    (w : Option Nat) (e : QEnd) (now pid : Nat) (ht : TextOK e.text ∨ e.text.length ≤ 2)
    (hstop : (Smtp.data cfg helo mailfrom (entries rs) inp).stop = none)
    (hc : Committed ((QQ.opened w).run (Smtp.data cfg helo mailfrom (entries rs) inp).ops) e) :
    ((QQ.opened w).run (Smtp.data cfg helo mailfrom (entries rs) inp).ops).verdict e = [] ∧
    (Smtp.reply (Smtp.data cfg helo mailfrom (entries rs) inp)
      (((QQ.opened w).run (Smtp.data cfg helo mailfrom (entries rs) inp).ops).verdict e) now pid).take 4 = [50, 53, 48, 32] ∧
    (Smtp.data cfg helo mailfrom (entries rs) inp).overflow = false ∧
    (Smtp.data cfg helo mailfrom (entries rs) inp).hopsBad = false := by
  have t := closed_ack (Smtp.data_closed cfg helo mailfrom rs inp hstop) w e ht
  have hv := t.2.1 hc
  exact ⟨hv, (C07_smtp_ack _ _ now pid).1.mpr hv, eq_false_of_ne_true fun h => (t.1 hv).1 (.inl h),
    eq_false_of_ne_true fun h => (t.1 hv).1 (.inr h)⟩

/-- For a completely read message, in both framings: `overflow` ⇔ `databytes` is in force (not 0) and the decoded message
    (`stored`, characterised by `C07_content_qmtp_decoded`) is longer than it. -/
theorem C07_qmtp_size (cfg : Qmtp.Cfg) (inp : Bytes) (hstop : (Qmtp.msg cfg inp).stop = none) :
    (Qmtp.msg cfg inp).overflow = true ↔ (cfg.databytes ≠ 0 ∧ (Qmtp.msg cfg inp).stored.length > cfg.databytes) := by
  obtain ⟨p, R⟩ := Qmtp.msg_full cfg inp hstop
  rw [R.msg_eq]
  simp only [Qmtp.fullMsg, decide_eq_true_eq]
  exact ⟨fun ho => ⟨ho.1, (Qmtp.bodyOf_overflow cfg p.len p.c p.r1 p.r2 R.body R.mode ho.1).1.mp ho.2⟩,
    fun ho => ⟨ho.1, (Qmtp.bodyOf_overflow cfg p.len p.c p.r1 p.r2 R.body R.mode ho.1).1.mpr ho.2⟩⟩

/-- Accepted ⇒ strictly well framed, and the envelope in terms of the INPUT.  A message qmail-qmtpd reads to the end — the
    only case in which it calls `qmail_close` and sends statuses — is, byte for byte, a message of the independent strict
    grammar `Spec.C07.qmtpNext` (three netstrings with digits-only lengths and every comma in place; the first a mode byte
    LF or CR and the body, the third a sequence of netstrings), followed by what the daemon left unread (`rest`).  The
    grammar's decoded body is `stored`; `sraw` / `as` are the payloads of the sender netstring and of ALL recipient
    netstrings.  `senderok` ⇔ the sender is shorter than 1000 bytes and has no NUL; the envelope sender is `sraw` as a C
    string, empty when `sraw` is over-long; there is one failure byte per recipient (`rcptFail` of its payload,
    `C07_qmtp_rcpt_policy`), and the envelope recipients (`rcpts`, what `C07_content_qmtp` finds on descriptor 1) are
    exactly the payloads whose failure byte is 0 — the ones answered with the message's status rather than a `D` of their
    own (`C07_qmtp_rcpt_reply`) — in order, RELAYCLIENT appended.
    The `by decide` reads the generated constant `qmtpRcptDigitCheck = 1`: the recipient-length loop of qmail-qmtpd.c
    checks for digits (e90aa72 in /repo).  For a source without that check the theorem is false
    (`C07_qmtp_rcptlen_gap`) and this proof does not check.  The converse is not claimed: the daemon also stops inside
    well-framed messages (a length over 200 000 000 is `resources`). -/
theorem C07_qmtp_strict (cfg : Qmtp.Cfg) (inp : Bytes) (hstop : (Qmtp.msg cfg inp).stop = none) :
    ∃ sraw as, Nq.Spec.C07.qmtpNext inp = some (⟨(Qmtp.msg cfg inp).stored, sraw, as⟩, (Qmtp.msg cfg inp).rest) ∧
      (Qmtp.msg cfg inp).senderok = (decide (sraw.length < Nq.Gen.C07.qmtpAddrMax) && !sraw.contains 0) ∧
      (Qmtp.msg cfg inp).sender = cstr (if sraw.length ≥ Nq.Gen.C07.qmtpAddrMax then [] else sraw) ∧
      (Qmtp.msg cfg inp).failure = as.map (Qmtp.rcptFail cfg) ∧
      (Qmtp.msg cfg inp).rcpts = (as.filter (fun a => Qmtp.rcptFail cfg a = 0)).map (· ++ cfg.relay.getD []) :=
  Qmtp.msg_strict cfg inp (by decide) hstop

/-- Size limit, unacceptable sender, or no recipient accepted (each a function of the input by `C07_qmtp_size` /
    `C07_qmtp_strict`): for every queue outcome and write-fault schedule, `flagerr` is set, `qmail_close` reports a
    failure, the queue program finds no complete envelope on descriptor 1; the status sent for the recipients handed to the
    queue is the permanent `Dsorry, that message size exceeds …` resp. `Dunacceptable sender …`, and when no recipient was
    accepted every reply is one of the two permanent per-recipient refusals. -/
theorem C07_qmtp_refused (cfg : Qmtp.Cfg) (inp : Bytes) (w : Option Nat) (e : QEnd) (now pid : Nat)
    (ht : TextOK e.text ∨ e.text.length ≤ 2) (hstop : (Qmtp.msg cfg inp).stop = none)
    (hbad : (Qmtp.msg cfg inp).overflow = true ∨ (Qmtp.msg cfg inp).senderok = false ∨
      (Qmtp.msg cfg inp).failure.contains 0 = false) :
    ((QQ.opened w).run (Qmtp.msg cfg inp).ops).flagerr = true ∧
    ((QQ.opened w).run (Qmtp.msg cfg inp).ops).verdict e ≠ [] ∧
    envComplete ((QQ.opened w).run (Qmtp.msg cfg inp).ops).envPipe = false ∧
    ((Qmtp.msg cfg inp).overflow = true →
      Qmtp.result (Qmtp.msg cfg inp) (((QQ.opened w).run (Qmtp.msg cfg inp).ops).verdict e) now pid = Qmtp.sTooBig) ∧
    ((Qmtp.msg cfg inp).overflow = false → (Qmtp.msg cfg inp).senderok = false →
      Qmtp.result (Qmtp.msg cfg inp) (((QQ.opened w).run (Qmtp.msg cfg inp).ops).verdict e) now pid = Qmtp.sUnacceptable) ∧
    ((Qmtp.msg cfg inp).failure.contains 0 = false → ∀ res, ∀ r ∈ Qmtp.replies (Qmtp.msg cfg inp) res,
      r = Qmtp.sRcpthosts ∨ r = Qmtp.sCantHandle) := by
  obtain ⟨hf, hv, hne⟩ := (closed_ack (Qmtp.msg_closed cfg inp hstop) w e ht).2.2 hbad
  have hvok : VerdictOK (((QQ.opened w).run (Qmtp.msg cfg inp).ops).verdict e) := verdict_ok _ _ _ _ ht
  refine ⟨hf, hv, hne, (C07_qmtp_ack _ _ now pid hvok).2.1, (C07_qmtp_ack _ _ now pid hvok).2.2.1, ?_⟩
  intro hf res r hr'
  exact (Qmtp.mem_replies hr').resolve_left fun h0 => absurd (hf.symm.trans h0.2) (by decide)

/-- The converse direction of "acknowledged iff queued".  If for a completely read message the queue program was handed a
    complete envelope and exited 0 without crashing (`Committed`), then the message was within the size limit, the sender
    acceptable, at least one recipient was accepted, `qmail_close` reports success and the status sent for the accepted
    recipients begins with `K`. -/
theorem C07_qmtp_committed_ack (cfg : Qmtp.Cfg) (inp : Bytes) (w : Option Nat) (e : QEnd) (now pid : Nat)
    (ht : TextOK e.text ∨ e.text.length ≤ 2) (hstop : (Qmtp.msg cfg inp).stop = none)
    (hc : Committed ((QQ.opened w).run (Qmtp.msg cfg inp).ops) e) :
    ((QQ.opened w).run (Qmtp.msg cfg inp).ops).verdict e = [] ∧
    (Qmtp.result (Qmtp.msg cfg inp) (((QQ.opened w).run (Qmtp.msg cfg inp).ops).verdict e) now pid).head? = some 75 ∧
    (Qmtp.msg cfg inp).overflow = false ∧ (Qmtp.msg cfg inp).senderok = true ∧
    (Qmtp.msg cfg inp).failure.contains 0 = true := by
  have t := closed_ack (Qmtp.msg_closed cfg inp hstop) w e ht
  have hv := t.2.1 hc
  have hn := (t.1 hv).1
  have ho : (Qmtp.msg cfg inp).overflow = false := eq_false_of_ne_true fun h => hn (.inl h)
  have hs : (Qmtp.msg cfg inp).senderok = true := eq_true_of_ne_false fun h => hn (.inr (.inl h))
  refine ⟨hv, ?_, ho, hs, eq_true_of_ne_false fun h => hn (.inr (.inr h))⟩
  rw [hv]
  exact (C07_qmtp_ack _ [] now pid (Or.inl rfl)).1.mpr ⟨rfl, hs, ho⟩

open Nq.Lemmas.C07Qmqp2 in
/-- Accepted ⇒ strictly well framed, and flag and envelope in terms of the INPUT.  A request qmail-qmqpd reads to the end is
    a request of the independent strict grammar (`Spec.C07.qmqpReq`: one netstring holding the body netstring, the sender
    netstring and the recipient netstrings); `stored` is the payload of the body netstring, verbatim; `flagok` is false
    exactly when the sender or some recipient has 1000 or more bytes or contains NUL (`badA`); the envelope addresses are
    the acceptable ones in order — when every address is acceptable: exactly the request's sender and recipients.  The
    converse is not claimed, as for `C07_qmtp_strict`. -/
theorem C07_qmqp_strict (cfg : Qmqp.Cfg) (inp : Bytes) (hstop : (Qmqp.parse cfg inp).stop = none) :
    ∃ sraw rs, Nq.Spec.C07.qmqpReq inp = some ⟨(Qmqp.parse cfg inp).stored, sraw, rs⟩ ∧
      (Qmqp.parse cfg inp).flagok = (!badA sraw && rs.all (fun a => !badA a)) ∧
      (Qmqp.parse cfg inp).sender = (if badA sraw then [] else sraw) ∧
      (Qmqp.parse cfg inp).rcpts = rs.filter (fun a => !badA a) :=
  parse_strict cfg inp hstop

open Nq.Lemmas.C07Qmqp2 in
/-- An over-long or NUL-containing sender or recipient anywhere in a request read to the end: `flagok` is false,
    `qmail_close` reports a failure whatever the queue program answers, the queue program finds no complete envelope, and
    the daemon's output is exactly the netstring of `Dsorry, I can't accept addresses like that (#5.1.3)`. -/
theorem C07_qmqp_refused (cfg : Qmqp.Cfg) (inp : Bytes) (w : Option Nat) (e : QEnd) (now pid : Nat)
    (ht : TextOK e.text ∨ e.text.length ≤ 2) (req : Nq.Spec.C07.Req)
    (hstop : (Qmqp.parse cfg inp).stop = none) (hreq : Nq.Spec.C07.qmqpReq inp = some req)
    (hbad : ∃ a ∈ req.sender :: req.rcpts, badA a = true) :
    (Qmqp.parse cfg inp).flagok = false ∧
    ((QQ.opened w).run (Qmqp.parse cfg inp).ops).verdict e ≠ [] ∧
    envComplete ((QQ.opened w).run (Qmqp.parse cfg inp).ops).envPipe = false ∧
    (Qmqp.run cfg w e pid inp).out = Qmtp.netstring Qmqp.sCantAccept := by
  have hfo : (Qmqp.parse cfg inp).flagok = false := by
    obtain ⟨body, sraw, rs, hq, hiff⟩ := parse_flagok_iff cfg inp hstop
    rw [hreq] at hq
    simp only [Option.some.injEq] at hq
    subst hq
    exact hiff.mpr hbad
  obtain ⟨_, hv, hne⟩ := (closed_ack (Qmqp.parse_closed cfg inp hstop) w e ht).2.2 hfo
  refine ⟨hfo, hv, hne, ?_⟩
  unfold Qmqp.run
  simp only [hstop]
  rw [hfo]; rfl

open Nq.Lemmas.C07Qmqp2 in
/-- The converse direction for qmail-qmqpd.  Complete envelope, exit 0, no crash (`Committed`) ⇒ no address was refused,
    `qmail_close` reports success and the reply begins with `K`. -/
theorem C07_qmqp_committed_ack (cfg : Qmqp.Cfg) (inp : Bytes) (w : Option Nat) (e : QEnd) (now pid : Nat)
    (ht : TextOK e.text ∨ e.text.length ≤ 2) (hstop : (Qmqp.parse cfg inp).stop = none)
    (hc : Committed ((QQ.opened w).run (Qmqp.parse cfg inp).ops) e) :
    ((QQ.opened w).run (Qmqp.parse cfg inp).ops).verdict e = [] ∧ (Qmqp.parse cfg inp).flagok = true ∧
    (Qmqp.result (Qmqp.parse cfg inp).flagok (((QQ.opened w).run (Qmqp.parse cfg inp).ops).verdict e) now pid).head? = some 75 := by
  have t := closed_ack (Qmqp.parse_closed cfg inp hstop) w e ht
  have hv := t.2.1 hc
  have hok : (Qmqp.parse cfg inp).flagok = true := eq_true_of_ne_false (t.1 hv).1
  refine ⟨hv, hok, ?_⟩
  rw [hv, hok]
  exact (C07_qmqp_ack true [] now pid (Or.inl rfl)).1.mpr ⟨rfl, rfl⟩

/-- non-vacuity: an oversize CR-framed QMTP message ("5:\\ra\\r\\nb,1:s,4:1:r,," with databytes 2) -/
example : (Qmtp.msg { databytes := 2, peer := ⟨none, none, none, none, none⟩ }
    [53, 58, 13, 97, 13, 10, 98, 44, 49, 58, 115, 44, 52, 58, 49, 58, 114, 44, 44]).overflow = true := by decide

/-! ## the QMTP connection: several messages, one reply buffer -/

section session
open Nq.Lemmas.C07Session

/-- a completely read record carries the status string computed from ITS OWN verdict, for one of the scripted ends of the
    queue program.  `P` is any property of the scripted ends; `h0` because with an empty script every queue run ends as
    the default `{}` (`ends.headD {}`). -/
theorem chain_record {cfg : Qmtp.Cfg} (P : QEnd → Prop) (h0 : P {}) :
    ∀ {inp : Bytes} {w : Option Nat} {ends : List QEnd} {pids : List Nat} {l : List Qmtp.Done},
      Chain cfg inp w ends pids l → (∀ e ∈ ends, P e) →
      ∀ d ∈ l, ∃ inp' w', d.m = Qmtp.msg cfg inp' ∧ d.q = (QQ.opened w').run d.m.ops ∧
        (d.m.stop = none → ∃ e pid, P e ∧ d.res = Qmtp.result d.m (d.q.verdict e) cfg.now pid) := by
  intro inp w ends pids l hc
  induction hc with
  | nil inp w ends pids => intro _ d hd; simp at hd
  | last inp w ends pids h =>
    intro _ d hd
    simp only [List.mem_singleton] at hd
    subst hd
    exact ⟨inp, w, rfl, rfl, fun hs => absurd hs h⟩
  | cons inp w ends pids rest h t ih =>
    intro hP d hd
    rcases List.mem_cons.mp hd with hd | hd
    · subst hd
      exact ⟨inp, w, rfl, rfl, fun _ => ⟨ends.headD {}, pids.headD 0, SmtpC07.P_headD h0 hP, rfl⟩⟩
    · exact ih (SmtpC07.P_nextEnds hP) d hd

/-- The whole QMTP connection (any number of messages, any read chunking, any write-fault schedule, the queue runs ending as
    scripted by `ends` — each honouring the interface):
    (1) what the client has received when the daemon exits is a PREFIX of the replies of the completely read messages, in
    order (`acked`: a message inside which the daemon exits contributes nothing; replies still in the 256-byte buffer can
    be lost, none is invented or reordered);
    (2) every completely read record `d` is `Qmtp.msg` of some input (in `Chain`: what the previous message left unread)
    run on a fresh qmail.c state; each of its replies is `netstring d.res` or one of the two permanent per-recipient
    refusals (which for whom: `C07_qmtp_rcpt_reply`), where `d.res` is computed from d's OWN verdict;
    (3) if that status is `K…` then `C07_qmtp_ack` and `C07_content_qmtp` apply to d: its queue program exited 0 without
    crashing, having received exactly the Received field ++ d's decoded body and the envelope of d's sender and accepted
    recipients.
    So every `K` the client sees belongs to a message that was handed over completely and reported queued. -/
theorem C07_qmtp_session (cfg : Qmtp.Cfg) (w : Option Nat) (ends : List QEnd) (pids : List Nat) (inp : Bytes)
    (hends : ∀ e ∈ ends, TextOK e.text ∨ e.text.length ≤ 2) :
    (Qmtp.run cfg w ends pids inp).out <+: acked (Qmtp.run cfg w ends pids inp).msgs ∧
    ∀ d ∈ (Qmtp.run cfg w ends pids inp).msgs, d.m.stop = none →
      (∀ r ∈ Qmtp.replies d.m d.res, r = Qmtp.netstring d.res ∨ r = Qmtp.sRcpthosts ∨ r = Qmtp.sCantHandle) ∧
      ∃ inp' w' e pid, d.m = Qmtp.msg cfg inp' ∧ d.q = (QQ.opened w').run d.m.ops ∧
        d.res = Qmtp.result d.m (d.q.verdict e) cfg.now pid ∧
        (d.res.head? = some 75 →
          d.q.verdict e = [] ∧ d.m.senderok = true ∧ d.m.overflow = false ∧ e.exit = 0 ∧ e.crashed = false ∧
          d.q.msgPipe = received pQMTP cfg.peer none cfg.now ++ d.m.stored ∧
          d.q.envPipe = envelope d.m.sender (d.m.rcpts.map cstr)) := by
  refine ⟨run_out_acked cfg w ends pids inp, fun d hd hstop => ⟨?_, ?_⟩⟩
  · exact fun r hr => (Qmtp.mem_replies hr).imp_left And.left
  · obtain ⟨inp', w', hm, hq, hres⟩ := chain_record (cfg := cfg) (fun e => TextOK e.text ∨ e.text.length ≤ 2)
      (Or.inr (by decide)) (run_chain cfg w ends pids inp) hends d hd
    obtain ⟨e, pid, ht, hr⟩ := hres hstop
    refine ⟨inp', w', e, pid, hm, hq, hr, fun hK => ?_⟩
    have hvok : VerdictOK (d.q.verdict e) := verdict_ok _ _ _ _ ht
    rw [hr] at hK
    obtain ⟨hv, hs, ho⟩ := (C07_qmtp_ack d.m (d.q.verdict e) cfg.now pid hvok).1.mp hK
    have hstop' : (Qmtp.msg cfg inp').stop = none := by rw [← hm]; exact hstop
    have hq' : d.q = (QQ.opened w').run (Qmtp.msg cfg inp').ops := by rw [hq, hm]
    have hc := C07_content_qmtp cfg inp' w' e ht hstop' (by rw [← hq']; exact hv)
    rw [← hq', ← hm] at hc
    exact ⟨hv, hs, ho, hc.2.2.1, hc.2.2.2, hc.1, hc.2.1⟩

/-- **C07_cut (QMTP, inside message k+1).**  Let the connection consist of `k` complete messages `p` (`Complete cfg k p`:
    each with nothing left over when parsed alone) followed by the first `j` bytes of a further message that would be
    complete only after more than `j` bytes.  Then the connection's records are the `k` records of `p` (up to the
    unread-remainder field) followed by ONE record `d` for the truncated message: the daemon exits inside it (`d.m.stop` is
    the connection's exit, no status was computed), its queue program — on a fresh qmail.c state with some write-fault
    counter `w'` (in the proof: the one the earlier messages left) — finds no complete envelope on descriptor 1, and what
    the client has received is a prefix of the replies of the first `k` messages: the truncated message is neither
    acknowledged nor queued, whatever came before it.  (As in `C07_cut_qmtp`, `h` is not used.) -/
theorem C07_cut_qmtp_later (cfg : Qmtp.Cfg) (w : Option Nat) (ends : List QEnd) (pids : List Nat) {k : Nat} {p : Bytes}
    (hp : Complete cfg k p) (inp' : Bytes) (h : (Qmtp.msg cfg inp').stop = none) (j : Nat)
    (hj : j < inp'.length - (Qmtp.msg cfg inp').rest.length) :
    ((Qmtp.run cfg w ends pids p).msgs.take k).length = k ∧
    (∀ x ∈ (Qmtp.run cfg w ends pids p).msgs.take k, x.m.stop = none) ∧
    ∃ (w' : Option Nat) (d : Qmtp.Done),
      (Qmtp.run cfg w ends pids (p ++ inp'.take j)).msgs =
        ((Qmtp.run cfg w ends pids p).msgs.take k).map (addRest (inp'.take j)) ++ [d] ∧
      d.m = Qmtp.msg cfg (inp'.take j) ∧ d.m.stop ≠ none ∧ d.res = [] ∧
      d.q = (QQ.opened w').run d.m.ops ∧ envComplete d.q.envPipe = false ∧
      d.m.stop = some (Qmtp.run cfg w ends pids (p ++ inp'.take j)).exit ∧
      (Qmtp.run cfg w ends pids (p ++ inp'.take j)).out <+:
        (((Qmtp.run cfg w ends pids p).msgs.take k).map (fun d => (Qmtp.replies d.m d.res).flatten)).flatten :=
  run_cut_later cfg w ends pids hp inp' j hj

/-- whatever the connection, the record the daemon exits in was not queued -/
theorem C07_qmtp_session_last (cfg : Qmtp.Cfg) (w : Option Nat) (ends : List QEnd) (pids : List Nat) (inp : Bytes) :
    ∃ init d, (Qmtp.run cfg w ends pids inp).msgs = init ++ [d] ∧ (∀ x ∈ init, x.m.stop = none) ∧
      d.m.stop ≠ none ∧ envComplete d.q.envPipe = false := by
  obtain ⟨init, d, E⟩ := run_chain_nonempty cfg w ends pids inp
  obtain ⟨inp', w', h5, h6, -⟩ := chain_record (cfg := cfg) (fun _ => True) trivial (run_chain cfg w ends pids inp)
    (fun _ _ => trivial) d (by rw [E.split]; simp)
  refine ⟨init, d, E.split, E.complete, E.stopped, ?_⟩
  rw [h6, h5]
  exact (Qmtp.msg_stopped cfg _ (h5 ▸ E.stopped)).no_envelope w'

/-- non-vacuity: two complete messages on one connection -/
example : Complete { peer := ⟨none, none, none, none, none⟩ } 2
    ([51, 58, 10, 120, 10, 44, 49, 58, 115, 44, 52, 58, 49, 58, 114, 44, 44] ++
     ([51, 58, 10, 121, 10, 44, 49, 58, 116, 44, 52, 58, 49, 58, 114, 44, 44] ++ [])) :=
  .succ (by decide +kernel) (by decide +kernel) (.succ (by decide +kernel) (by decide +kernel) .zero)

end session

/-! ## the date of the Received field: datetime_tai is the Gregorian calendar, date822fmt its RFC 822 rendering -/

open Nq.Datetime in
/-- `datetime_tai(t)` is the proleptic Gregorian UTC date and time of the instant `t` seconds after 1970-01-01 00:00:00,
    for every `t ∈ ℤ` (model on unbounded integers; the `int` range is `C07_datetime_range`): `(year, mon, mday)` is a
    valid civil date (month lengths, leap-year rule `isLeap`) whose day number — computed by the independent
    `daysFromCivil` — is ⌊t/86400⌋; `hour:min:sec` is `t mod 86400` in base 60; the weekday is (⌊t/86400⌋ + 4) mod 7
    (1970-01-01 was a Thursday).  This is the predicate `civilOk` the driver evaluates on the output of the real
    `datetime_tai`. -/
theorem C07_datetime_civil (t : Int) :
    validDate (tai t).year (tai t).mon (tai t).mday ∧
    daysFromCivil (tai t).year (tai t).mon (tai t).mday = t / 86400 ∧
    (0 ≤ (tai t).hour ∧ (tai t).hour < 24 ∧ 0 ≤ (tai t).min ∧ (tai t).min < 60 ∧ 0 ≤ (tai t).sec ∧ (tai t).sec < 60) ∧
    (tai t).hour * 3600 + (tai t).min * 60 + (tai t).sec = t % 86400 ∧
    (tai t).wday = (t / 86400 + 4) % 7 ∧
    civilOk t (tai t) = true :=
  let h := Nq.Lemmas.Datetime.tai_civil t
  ⟨h.1, h.2.1, h.2.2.1, h.2.2.2.1, h.2.2.2.2, Nq.Lemmas.Datetime.civilOk_tai t⟩

open Nq.Datetime in
/-- … and that determines the result (`daysFromCivil` is injective on valid dates): any valid date `(y, m, d)` with day
    number ⌊t/86400⌋ is what `datetime_tai` returns. -/
theorem C07_datetime_unique (t y m d : Int) (hv : validDate y m d) (hd : daysFromCivil y m d = t / 86400) :
    (tai t).year = y ∧ (tai t).mon = m ∧ (tai t).mday = d :=
  Nq.Lemmas.Datetime.tai_unique t y m d hv hd

open Nq.Datetime in
/-- the specification's day count is the calendar: 0 on 1970-01-01, every year adds its length (365, or 366 in leap
    years), the twelve months add up to the year; a valid date's number lies inside its year -/
theorem C07_calendar_sound (y : Int) :
    daysBeforeYear 1970 = 0 ∧ daysBeforeYear (y + 1) = daysBeforeYear y + yearLen y ∧
    daysBeforeMonth y 12 = yearLen y ∧
    (∀ m d, validDate y m d → daysBeforeYear y ≤ daysFromCivil y m d ∧ daysFromCivil y m d < daysBeforeYear (y + 1)) := by
  refine ⟨Nq.Lemmas.Datetime.daysBeforeYear_1970, Nq.Lemmas.Datetime.daysBeforeYear_succ y, ?_,
    fun m d h => Nq.Lemmas.Datetime.dfc_bounds y m d h⟩
  rw [(Nq.Lemmas.Datetime.dbm_all y).2.2.2.2.2.2.2.2.2.2.2.2, Nq.Lemmas.Datetime.yearLen_eq]

open Nq.Datetime in
/-- The range the C code supports (`supported`): for `tLo ≤ t ≤ tHi` (day number in `[INT_MIN + 11017, INT_MAX - 4]`,
    years −5 877 611 … 5 881 580) every value `datetime_tai` computes in an `int` (`Vars.ints`) fits in 32 bits — no
    signed overflow, no narrowing, so the C arithmetic is the integer arithmetic of the model; outside that range some
    `int` computation leaves the range (`day -= 11017` below, `day + 4` above: undefined behaviour). -/
theorem C07_datetime_range (t : Int) :
    (supported t = true → ∀ x ∈ (vars t).ints, INT_MIN ≤ x ∧ x ≤ INT_MAX) ∧
    (supported t = false → ∃ x ∈ (vars t).ints, x < INT_MIN ∨ INT_MAX < x) :=
  ⟨Nq.Lemmas.Datetime.tai_no_overflow t, Nq.Lemmas.Datetime.tai_overflow_outside t⟩

open Nq.Datetime in
/-- `yday` (read nowhere in the package) is the day of the year **except** from March on in century years that are not
    leap years (1900, 2100, 2200, …), where it is one too large (`ydayCode` = `ydaySpec` + that 1) -/
theorem C07_datetime_yday (t : Int) : (tai t).yday = ydayCode (tai t).year (tai t).mon (tai t).mday :=
  Nq.Lemmas.Datetime.tai_yday t

open Nq.Datetime in
/-- The date at the end of the Received field (date822fmt.c), for every clock value `t ≥ 0`: it is
    `D Mon YYYY HH:MM:SS -0000 LF` where `(YYYY, Mon, D)` is the Gregorian date of `t` (valid, day number ⌊t/86400⌋,
    year ≥ 1970), `D` and `YYYY` are decimal numerals without leading zeros, `Mon` the three-letter English month name,
    and `HH`, `MM`, `SS` the two-digit base-60 digits of `t mod 86400`. -/
theorem C07_date822_format (t : Nat) :
    ∃ D Y : Bytes, isDecimal (datetimeTai t).mday D ∧ isDecimal (datetimeTai t).year Y ∧
      date822 (datetimeTai t) = D ++ [SP] ++ months.getD (datetimeTai t).mon [] ++ [SP] ++ Y ++ [SP] ++
        two (datetimeTai t).hour ++ [58] ++ two (datetimeTai t).min ++ [58] ++ two (datetimeTai t).sec ++
        [SP, 45, 48, 48, 48, 48, LF] ∧
      (months.getD (datetimeTai t).mon []).length = 3 ∧
      validDate (datetimeTai t).year (datetimeTai t).mon (datetimeTai t).mday ∧
      daysFromCivil (datetimeTai t).year (datetimeTai t).mon (datetimeTai t).mday = ((t / 86400 : Nat) : Int) ∧
      (datetimeTai t).hour * 3600 + (datetimeTai t).min * 60 + (datetimeTai t).sec = t % 86400 ∧
      1970 ≤ (datetimeTai t).year := by
  obtain ⟨c1, c2, c3, c4, c5, c6, c7, c8⟩ := Nq.Lemmas.C07Date.datetimeTai_civil t
  obtain ⟨D, Y, hD, hY, he⟩ := Nq.Lemmas.C07Date.date822_format (datetimeTai t) c3 c4 c5
  exact ⟨D, Y, hD, hY, he, Nq.Lemmas.C07Date.months_len _ c8, c1, c2, c6, c7⟩

/-! non-vacuity: 1970-01-01 (Thursday), 2000-02-29, 2100-02-28 23:59:59 (no Feb 29), 1900-03-01 (before the epoch; `yday`
    is 60, one too many), the last second of 1969, both ends of the supported range -/
example : Nq.Datetime.tai 0 = ⟨0, 0, 0, 4, 1, 0, 0, 1970⟩ := by decide
example : Nq.Datetime.tai 951782400 = ⟨0, 0, 0, 2, 29, 59, 1, 2000⟩ := by decide
example : Nq.Datetime.tai 4107542399 = ⟨23, 59, 59, 0, 28, 58, 1, 2100⟩ := by decide
example : Nq.Datetime.tai (-2203891200) = ⟨0, 0, 0, 4, 1, 60, 2, 1900⟩ ∧ Nq.Datetime.ydaySpec 1900 2 1 = 59 := by decide
example : Nq.Datetime.tai (-1) = ⟨23, 59, 59, 3, 31, 364, 11, 1969⟩ := by decide
example : Nq.Datetime.supported Nq.Datetime.tLo = true ∧ Nq.Datetime.supported (Nq.Datetime.tLo - 1) = false ∧
    Nq.Datetime.supported Nq.Datetime.tHi = true ∧ Nq.Datetime.supported (Nq.Datetime.tHi + 1) = false ∧
    (Nq.Datetime.tai Nq.Datetime.tLo).year = -5877611 ∧ (Nq.Datetime.tai Nq.Datetime.tHi).year = 5881580 := by decide
example : Nq.Datetime.validDate 2024 1 29 ∧ Nq.Datetime.daysFromCivil 2024 1 29 = 19782 ∧ ¬ Nq.Datetime.validDate 2023 1 29 := by decide
/-- "26 Sep 2025 00:00:00 -0000\n" -/
example : date822 (datetimeTai 1758844800) =
    [50, 54, 32, 83, 101, 112, 32, 50, 48, 50, 53, 32, 48, 48, 58, 48, 48, 58, 48, 48, 32, 45, 48, 48, 48, 48, 10] := by decide +kernel
example : Nq.Datetime.isDecimal 2025 [50, 48, 50, 53] := by
  refine ⟨by decide, by decide, by decide, by decide⟩

/-! ## the whole SMTP connection -/

section smtp_session
open Nq.SmtpC07 Nq.SmtpSession Nq.SmtpPolicy

/-- The whole SMTP connection, on the pattern of `C07_qmtp_session`.  `SmtpC07.run` is C08's command loop
    (`SmtpSession.readLine` / `parseLine` / `sstep`: commands(), smtp_helo/ehlo/rset/mail/rcpt/quit, addrparse, badmailfrom, rcpthosts /
    RELAYCLIENT) with every DATA that passes its two gates handed to `Smtp.data` running on the model of qmail.c, the k-th run of the queue
    program ending as `ends` scripts (each honouring the interface), the write-fault counter threaded from run to run.  For EVERY byte
    stream from the client (pipelined garbage included; the stream ending anywhere = the client disconnecting there), every write-fault
    schedule and every scripted behaviour of the queue program:
    (1) the commands with their outcomes are a `SmtpSession.trace`, so C08's theorems about traces apply to the composed connection;
    (2) a command line that starts no queue run hands nothing to the queue and is never answered with the acknowledgement
        (`Reply.accepted`, the only reply rendered as `250 ok <time> qp <pid>`);
    (3) for a queue run `t` started by a DATA: the events before it end in an OPEN TRANSACTION (`SmtpPolicy.OpenTxn`: a MAIL answered 250
        whose parsed address is `t.mailfrom`, then nothing that discards it — HELO / EHLO / RSET / another accepted MAIL / a DATA past its
        gates), and `t.rcpts` are the stored forms (`acceptedRcpt`) of exactly the RCPTs answered 250 in that stretch, in order, at least
        one (when a RCPT is answered 250: `C07_smtp_session_rcpt`);
    (4) if t's DATA is terminated: the event submits `t.mailfrom`, `t.rcpts` with t's OWN `qmail_close` answer, and the bytes written are
        `354 go ahead` followed by `Smtp.reply` computed from that answer; the reply begins `250 ` iff the answer is "" iff the event
        carries `Reply.accepted`; and then it is exactly `250 ok <now> qp <t.pid>` and `C07_content_smtp` applies to t: exit 0, no crash,
        descriptor 0 = the Received field (with the HELO argument in force) ++ the body as `dblast` yields it from the bytes behind THIS
        DATA line, descriptor 1 = the envelope of `t.mailfrom` and `t.rcpts`; conversely a complete envelope with exit 0 forces the
        acknowledgement;
    (5) if t's DATA is not terminated (the client is gone, or a bare LF): it is the last step of the connection, nothing is submitted or
        acknowledged, the bytes written are `354 go ahead` (plus the 451 of straynewline()), and t's queue program finds no complete
        envelope on descriptor 1.
    Not stated: that a proper prefix of a connection runs the same steps up to the cut (the statement holds for every stream, hence for
    every prefix, but the two runs are not related); `qmail_open` failing (pipe/fork errors: not modelled).  That no OTHER reply text
    looks like an acknowledgement needs a hypothesis on control/smtpgreeting: `C07_smtp_session_bytes`. -/
theorem C07_smtp_session (cfg : SmtpC07.Cfg) (w : Option Nat) (ends : List QEnd) (pids : List Nat) (inp : Bytes)
    (hends : ∀ e ∈ ends, TextOK e.text ∨ e.text.length ≤ 2) :
    (SmtpC07.run cfg w ends pids inp).map (·.ev) =
      trace cfg.pol {} ((SmtpC07.run cfg w ends pids inp).map (·.ev.1)) ∧
    ∀ (pre : List Step) (st : Step) (post : List Step), SmtpC07.run cfg w ends pids inp = pre ++ st :: post →
      match st.txn with
      | none => st.ev.2.submit = none ∧ Reply.accepted ∉ st.ev.2.replies
      | some t =>
        (∃ mid, OpenTxn cfg.pol (pre.map (·.ev)) t.mailfrom mid ∧ t.rcpts = mid.filterMap (acceptedRcpt cfg.pol) ∧ t.rcpts ≠ []) ∧
        ((t.d cfg).stop = none →
          st.ev.2.replies = [.go, closeReply (t.qqx cfg)] ∧
          st.ev.2.submit = some ⟨t.mailfrom, t.rcpts, t.qqx cfg⟩ ∧
          st.bytes cfg = Nq.Gen.txt_data_go ++ t.reply cfg ∧
          ((t.reply cfg).take 4 = [50, 53, 48, 32] ↔ t.qqx cfg = []) ∧
          (Reply.accepted ∈ st.ev.2.replies ↔ t.qqx cfg = []) ∧
          (t.qqx cfg = [] →
            t.reply cfg = ackLine cfg.pol.now t.pid ∧
            (t.q cfg).msgPipe = received pSMTP cfg.peer (Smtp.fakehelo cfg.peer t.helo) cfg.pol.now ++ (t.d cfg).stored ∧
            Nq.SmtpIn.dblast t.stream = .accepted (t.d cfg).stored (t.d cfg).rest ∧
            (t.q cfg).envPipe = envelope (cstr t.mailfrom) (t.rcpts.map cstr) ∧
            t.e.exit = 0 ∧ t.e.crashed = false) ∧
          (Committed (t.q cfg) t.e → t.qqx cfg = [])) ∧
        ((t.d cfg).stop ≠ none →
          post = [] ∧ st.ev.2.submit = none ∧ Reply.accepted ∉ st.ev.2.replies ∧
          envComplete (t.q cfg).envPipe = false ∧
          (st.bytes cfg = Nq.Gen.txt_data_go ∨ st.bytes cfg = Nq.Gen.txt_data_go ++ Nq.Gen.txt_straynewline)) := by
  refine ⟨runFuel_is_trace cfg _ _ _ _ _ _ _, fun pre st post hr => ?_⟩
  -- one induction over the step list: in the state `s'` before `st` C08's invariant holds for the events of `pre`, `st` is
  -- `sstep` there with a scripted end honouring the interface, and a halting step is the last; the rest is per transaction
  obtain ⟨⟨s', hinv, hat⟩, _, hlast⟩ := run_split cfg (fun e => TextOK e.text ∨ e.text.length ≤ 2) (Or.inr (by decide)) hends hr
  cases htx : st.txn with
  | none =>
    simp only
    obtain ⟨v, arg, hg, hev⟩ := hat.plain htx
    obtain ⟨h0, r, hr, hra, _⟩ := plain_step cfg.pol s' v arg hg
    rw [hev, hr]
    exact ⟨h0, fun hm => hra (List.mem_singleton.mp hm).symm⟩
  | some t =>
    simp only
    obtain ⟨hte, hg, hmf, hrc, hev⟩ := hat.txn htx
    obtain ⟨mid, ho, hr1, hr2⟩ := inv_open cfg.pol _ s' hinv hg
    refine ⟨⟨mid, by rw [hmf]; exact ho, by rw [hrc]; exact hr1, by rw [hrc]; exact hr2⟩, ?_, ?_⟩
    · intro hstop
      have hstep := txn_step_done cfg s' t hg hstop
      have hb : st.bytes cfg = Nq.Gen.txt_data_go ++ t.reply cfg := by
        simp [Step.bytes, htx, Txn.bytes, hstop]
      have hack := (C07_smtp_ack (t.d cfg) (t.qqx cfg) cfg.pol.now t.pid).1
      refine ⟨by rw [hev, hstep], by rw [hev, hstep, hmf, hrc], hb, hack, ?_, ?_, ?_⟩
      · rw [hev, hstep]
        unfold closeReply
        by_cases hq : t.qqx cfg = [] <;> simp [hq]
      · intro hq
        have hc := C07_content_smtp (dcfg cfg) t.helo t.mailfrom t.rcpts t.stream t.w t.e hte hstop hq
        refine ⟨?_, hc.1, hc.2.1, hc.2.2.1, hc.2.2.2⟩
        show Smtp.reply (t.d cfg) (t.qqx cfg) cfg.pol.now t.pid = _
        rw [hq]; simp [Smtp.reply, ackLine]
      · intro hcm
        exact (C07_smtp_committed_ack (dcfg cfg) t.helo t.mailfrom t.rcpts t.stream t.w t.e cfg.pol.now t.pid hte hstop hcm).1
    · intro hstop
      obtain ⟨h1, h2, h3⟩ := txn_step_stopped cfg s' t hg hstop
      refine ⟨?_, by rw [hev]; exact h1, by rw [hev]; exact h3, ?_, ?_⟩
      · exact hlast (by rw [hev]; exact h2)
      · exact (C07_stopped_no_envelope t.w).2.2 (dcfg cfg) t.helo t.mailfrom (entries t.rcpts) t.stream hstop
      · cases hst : (t.d cfg).stop with
        | none => exact absurd hst hstop
        | some ex =>
          by_cases hy : (t.d cfg).stray = true
          · right; simp [Step.bytes, htx, Txn.bytes, hst, hy]
          · left; simp [Step.bytes, htx, Txn.bytes, hst, hy]

/-- Which recipients get into `rcptto`.  Anywhere in a connection, a RCPT is answered `250 ok` — and thereby becomes one of the
    recipients `C07_smtp_session` speaks of — exactly when C08's policy predicate `SmtpPolicy.GateOK` holds for the events before
    it: a transaction is open (a MAIL answered 250, not discarded since), its sender is not barred by badmailfrom, the argument
    parses to an address within the length limit, and RELAYCLIENT is set or the address matches control/rcpthosts /
    morercpthosts (`MoreLower`: the cdb keys are lower-case, as qmail-newmrh writes them). -/
theorem C07_smtp_session_rcpt (cfg : SmtpC07.Cfg) (hl : MoreLower cfg.pol) (w : Option Nat) (ends : List QEnd) (pids : List Nat)
    (inp : Bytes) (pre : List Step) (st : Step) (post : List Step) (arg : Bytes)
    (hr : SmtpC07.run cfg w ends pids inp = pre ++ st :: post) (hc : st.ev.1 = .rcpt arg) :
    st.ev.2.replies = [.rcptok] ↔ GateOK cfg.pol (pre.map (·.ev)) arg := by
  obtain ⟨⟨s', hinv, hat⟩, _⟩ := run_split cfg (fun _ => True) trivial (fun _ _ => trivial) hr
  cases htx : st.txn with
  | none =>
    obtain ⟨v, arg', _, hev⟩ := hat.plain htx
    rw [hev] at hc ⊢
    cases v <;> simp [plainCmd] at hc
    subst hc
    exact Nq.Lemmas.Smtp.gate_inv cfg.pol hl _ s' arg' hinv
  | some t =>
    rw [(hat.txn htx).2.2.2.2] at hc
    simp [Txn.cmd] at hc

/-- non-vacuity: two transactions on one connection (`MAIL FROM:<a>` `RCPT TO:<b>` `DATA` `.` twice, bare-LF command lines):
    two queue runs, each with the sender and recipient of ITS transaction, both DATA terminated -/
def exCfg : SmtpC07.Cfg := { pol := {}, peer := ⟨none, none, none, none, none⟩ }
def exInp : Bytes :=
  [77, 65, 73, 76, 32, 70, 82, 79, 77, 58, 60, 97, 62, 10, 82, 67, 80, 84, 32, 84, 79, 58, 60, 98, 62, 10, 68, 65, 84, 65, 10, 46, 13, 10,
   77, 65, 73, 76, 32, 70, 82, 79, 77, 58, 60, 99, 62, 10, 82, 67, 80, 84, 32, 84, 79, 58, 60, 100, 62, 10, 68, 65, 84, 65, 10, 46, 13, 10]
example : ((SmtpC07.txns (SmtpC07.run exCfg none [{}, { exit := 31 }] [7, 8] exInp)).map (fun t => (t.mailfrom, t.rcpts, (t.d exCfg).stop.isNone))) =
    [([97], [[98]], true), ([99], [[100]], true)] := by decide +kernel
example : ∀ e ∈ [({} : QEnd), { exit := 31 }], TextOK e.text ∨ e.text.length ≤ 2 := by
  intro e he
  simp only [List.mem_cons, List.not_mem_nil, or_false] at he
  rcases he with rfl | rfl <;> exact Or.inr (by decide)

/-- **C07_cut (SMTP, the whole connection)**: cut, or the message broken, anywhere before the terminator.  A queue run `t` of the
    composed connection works on bytes the client really sent: `t.stream` — everything behind that DATA line — is a suffix of the
    client's stream.  Its DATA counts as terminated exactly when C05's decoder `dblast` accepts those bytes (CR LF `.` CR LF reached, no
    bare LF before it).  If it does not — the client went away at ANY byte before the end of the terminator, or sent a bare LF — then
    this step is the last one of the connection, its event carries no acknowledgement and submits nothing, and the queue program of `t`
    finds no complete envelope on descriptor 1.  (A cut in the command phase starts no queue run for the open transaction at all:
    clause 2 of `C07_smtp_session`.) -/
theorem C07_smtp_session_cut (cfg : SmtpC07.Cfg) (w : Option Nat) (ends : List QEnd) (pids : List Nat) (inp : Bytes)
    (hends : ∀ e ∈ ends, TextOK e.text ∨ e.text.length ≤ 2)
    (pre : List Step) (st : Step) (post : List Step) (t : Txn)
    (hr : SmtpC07.run cfg w ends pids inp = pre ++ st :: post) (ht : st.txn = some t) :
    t.stream <:+ inp ∧
    ((t.d cfg).stop = none ↔ ∃ b r, Nq.SmtpIn.dblast t.stream = .accepted b r) ∧
    ((¬ ∃ b r, Nq.SmtpIn.dblast t.stream = .accepted b r) →
      post = [] ∧ st.ev.2.submit = none ∧ Reply.accepted ∉ st.ev.2.replies ∧ envComplete (t.q cfg).envPipe = false) := by
  have hiff := Smtp.data_stop_iff (dcfg cfg) t.helo t.mailfrom (entries t.rcpts) t.stream
  refine ⟨?_, hiff, fun hn => ?_⟩
  · exact (run_split cfg (fun _ => True) trivial (fun _ _ => trivial) hr).2.1 t ht
  · have hstop : (t.d cfg).stop ≠ none := fun h => hn (hiff.mp h)
    have := (C07_smtp_session cfg w ends pids inp hends).2 pre st post hr
    rw [ht] at this
    obtain ⟨h1, h2, h3, h4, _⟩ := this.2.2 hstop
    exact ⟨h1, h2, h3, h4⟩

/-- non-vacuity: the second transaction of `exInp` cut after `DATA LF .` (the terminator's CR LF never arrives) -/
example : ((SmtpC07.txns (SmtpC07.run exCfg none [] [7, 8] (exInp.take 66))).map (fun t => (t.mailfrom, (t.d exCfg).stop.isNone))) =
    [([97], true), ([99], false)] := by decide +kernel

/-- No acknowledgement-shaped line without a queue run that reported success, on the bytes.  Let the greeting
    (control/smtpgreeting, default control/me) be one line not beginning with `ok ` (`GreetOK`).  Then in the composed connection
    the bytes written for a command line that starts no queue run, and for a DATA that is never terminated (`354 go ahead`, plus
    the 451 of straynewline()), contain no line beginning with `250 ok `; and the reply to a terminated DATA whose `qmail_close`
    answer is not "" does not begin with `250 `.  So a line `250 ok <time> qp <pid>` can only answer a terminated DATA whose own
    queue run reported success (`C07_smtp_session` (4)) — unless the queue program itself relays such a line after an LF in its
    error text (outside qmail-queue.8; smtp_data() copies the text verbatim). -/
theorem C07_smtp_session_bytes (cfg : SmtpC07.Cfg) (w : Option Nat) (ends : List QEnd) (pids : List Nat) (inp : Bytes)
    (hends : ∀ e ∈ ends, TextOK e.text ∨ e.text.length ≤ 2) (hg : GreetOK cfg.pol.greeting)
    (pre : List Step) (st : Step) (post : List Step) (hr : SmtpC07.run cfg w ends pids inp = pre ++ st :: post) :
    match st.txn with
    | none => hasAckLine (st.bytes cfg) = false
    | some t =>
      ((t.d cfg).stop ≠ none → hasAckLine (st.bytes cfg) = false) ∧
      ((t.d cfg).stop = none → t.qqx cfg ≠ [] → (t.reply cfg).take 4 ≠ [50, 53, 48, 32]) := by
  cases htx : st.txn with
  | none =>
    simp only
    obtain ⟨⟨s', _, hat⟩, _⟩ := run_split cfg (fun _ => True) trivial (fun _ _ => trivial) hr
    obtain ⟨v, arg, hgate, hev⟩ := hat.plain htx
    obtain ⟨_, r, hr1, hr2, hr3⟩ := plain_step cfg.pol s' v arg hgate
    have : st.bytes cfg = render cfg.pol r := by
      simp [Step.bytes, htx, hev, hr1]
    rw [this]
    exact render_no_ack cfg.pol hg r hr2 hr3
  | some t =>
    simp only
    have hmain := (C07_smtp_session cfg w ends pids inp hends).2 pre st post hr
    rw [htx] at hmain
    refine ⟨fun hstop => ?_, fun hstop hq => ?_⟩
    · obtain ⟨_, _, _, _, hb⟩ := hmain.2.2 hstop
      rcases hb with hb | hb <;> rw [hb] <;> decide
    · intro h4
      exact hq ((hmain.2.1 hstop).2.2.2.1.mp h4)

/-- the complement: with control/smtpgreeting = `ok 1 qp 2` the reply to HELO is itself acknowledgement-shaped -/
example : hasAckLine (render { greeting := [111, 107, 32, 49, 32, 113, 112, 32, 50] } .helo) = true := by decide
example : GreetOK [109, 101, 46, 101, 120, 97, 109, 112, 108, 101] := ⟨by decide, by decide⟩

end smtp_session
end Nq.Props.C07
