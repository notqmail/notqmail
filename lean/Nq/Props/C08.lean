/-
  C08 — SMTP transactions are well-sequenced and relaying is gated by policy.

  Model: `Nq.SmtpSession` (commands() line reader, addrparse, bmfcheck, rcpthosts, the smtp_* handlers as
  `sstep`, the byte-level session `run`), tied to qmail-smtpd.c / commands.c / rcpthosts.c / control.c /
  constmap.c / cdb_seek.c / ip.c / qmail-newmrh.c by `harness/c08_session.c` and, for the command table,
  reply texts and the length limit, by the translator (`Nq.Gen.SmtpCmds`).

  A session is observed as its trace: the list of (command, outcome) pairs, an outcome being the replies
  and, possibly, the envelope handed to the queue.  All statements quantify over every configuration
  `cfg` and every command list / byte stream, with no bound on length.  The predicates `SubmitOK`, `GateOK`,
  `MatchSpec`, `BadSender`, `discards` are in `Nq/Spec/SmtpPolicy.lean`; their Boolean forms are what the
  compiled driver evaluates on the *implementation's* trace.

  The second half: commands() and the session over substdio (`Nq.SmtpCmdIO`) against the independent line splitter of
  `Nq/Spec/CmdLine.lean`; the documented badmailfrom / rcpthosts / RELAYCLIENT rules (`Nq/Spec/SmtpPolicyDoc.lean`); address
  unquoting against the path grammar of `Nq/Spec/SmtpAddr.lean`; the flush discipline of commands() (`Nq.SmtpFlush`).
-/
import Nq.Lemmas.SmtpSession
import Nq.Lemmas.SmtpAddr
import Nq.Lemmas.SmtpLip
import Nq.Lemmas.SmtpCmdSpec
import Nq.Lemmas.SmtpCmdSession
import Nq.Lemmas.SmtpCmdIO
import Nq.Lemmas.SmtpPolicyDoc
import Nq.Lemmas.SmtpAddrParse
import Nq.Lemmas.SmtpFlush

namespace Nq.Props.C08
open Nq Nq.SmtpIn Nq.SmtpSession Nq.SmtpPolicy Nq.Lemmas.Smtp
open Nq.Substdio Nq.SmtpIO Nq.SmtpCmdIO Nq.CmdLineSpec Nq.SmtpPolicyDoc Nq.Lemmas.SmtpCmd Nq.Lemmas.SmtpDoc

/-- **Sequencing.** Whenever an envelope is handed to the queue, the trace before that point ends in
`MAIL` answered 250 (whose parsed address is the envelope sender), followed by events none of which is
HELO / EHLO / RSET / another MAIL answered 250 / a DATA that got past its checks; the envelope recipients
are exactly the stored forms of the RCPTs answered 250 in that stretch, in order; and there is at least one. -/
theorem C08_submit (cfg : Cfg) (cs : List Cmd) (pre post : List Ev) (c : Cmd) (o : Out) (sub : Submit)
    (ht : trace cfg {} cs = pre ++ (c, o) :: post) (hs : o.submit = some sub) : SubmitOK cfg pre sub := by
  obtain ⟨s', hi, hx⟩ := trace_split cfg pre {} [] cs (c, o) post (inv_init cfg) ht
  obtain rfl : o = (sstep cfg s' c).2 := hx
  exact submit_step cfg pre s' c sub hi hs

/-- …and only a DATA command that was answered 354 hands anything to the queue. -/
theorem C08_submit_only_data (cfg : Cfg) (s : Sess) (c : Cmd) (sub : Submit) (hs : (sstep cfg s c).2.submit = some sub) :
    (∃ env, c = .data env) ∧ (sstep cfg s c).2.replies.head? = some .go ∧ s.seenmail = true ∧ s.rcptto ≠ [] ∧
      sub.sender = s.mailfrom ∧ sub.rcpts = s.rcptto := by
  obtain ⟨env, rfl, hg, ho, _, rfl⟩ := (submit_iff cfg s c sub).1 hs
  obtain ⟨h1, h2⟩ := (dataGate_true s).1 hg
  exact ⟨⟨env, rfl⟩, (data_open_out hg ho).1, h1, h2, rfl, rfl⟩

/-- **Discarding**, state-level form: HELO, EHLO, RSET and a DATA that got past its checks leave no transaction open;
a MAIL answered 250 starts a new one with its parsed address as sender and no recipients.  (That nothing is then
submitted and no RCPT accepted until another MAIL is answered 250 is `C08_closed`, `C08_submit_only_data`, `C08_gate_step`.) -/
theorem C08_discard (cfg : Cfg) (s : Sess) (c : Cmd) (hd : discards (c, (sstep cfg s c).2) = true) :
    (∃ a, c = .mail a ∧ (sstep cfg s c).1.seenmail = true ∧ (sstep cfg s c).1.rcptto = [] ∧
       addrparse cfg a = some (sstep cfg s c).1.mailfrom) ∨
    (sstep cfg s c).1.seenmail = false := by
  cases c with
  | mail arg =>
    cases ha : addrparse cfg arg with
    | none => simp [discards, sstep, ha] at hd
    | some a => exact Or.inl ⟨arg, rfl, by simp [sstep, ha]⟩
  | data env =>
    cases hg : dataGate s with
    | true => rw [sstep_data_open hg]; exact .inr rfl
    | false => rw [sstep_data_shut hg] at hd; cases hsm : s.seenmail <;> simp [hsm, discards] at hd
  | helo | ehlo | rset => exact .inr rfl
  | _ => cases hd

/-- while no transaction is open, DATA is refused and RCPT is refused -/
theorem C08_closed (cfg : Cfg) (s : Sess) (h : s.seenmail = false) (env : DataEnv) (arg : Bytes) :
    sstep cfg s (.data env) = (s, { replies := [.wantmail] }) ∧ sstep cfg s (.rcpt arg) = (s, { replies := [.wantmail] }) := by
  simp [sstep, h]

/-- **Gating, one step.** In any state, RCPT is answered 250 exactly when a transaction is open, the
sender was not flagged, the argument parses (length limit included) and either RELAYCLIENT is set or
rcpthosts() accepts the parsed address; the address stored is the parsed one followed by $RELAYCLIENT. -/
theorem C08_gate_step (cfg : Cfg) (s : Sess) (arg : Bytes) :
    ((sstep cfg s (.rcpt arg)).2.replies = [.rcptok] ↔
      s.seenmail = true ∧ s.flagbarf = false ∧
        ∃ a, addrparse cfg arg = some a ∧ (cfg.relay.isSome = true ∨ rcpthostsMatch cfg a = true)) ∧
    ((sstep cfg s (.rcpt arg)).2.replies = [.rcptok] →
      ∃ a, addrparse cfg arg = some a ∧
        (sstep cfg s (.rcpt arg)).1 = { s with rcptto := s.rcptto ++ [a ++ relaySuffix cfg] }) :=
  ⟨(gate_step cfg s arg).trans
      ⟨fun ⟨a, h1, h2, h3, h4⟩ => ⟨h1, h2, a, h3, h4⟩, fun ⟨h1, h2, a, h3, h4⟩ => ⟨a, h1, h2, h3, h4⟩⟩,
    fun h => ((gate_step cfg s arg).1 h).imp fun _ hg => ⟨hg.parsed, by rw [sstep_rcpt_ok hg]⟩⟩

/-- **Gating, whole sessions.** A RCPT anywhere in a session is answered 250 *iff* the trace before it
ends in an open transaction whose sender is not on the bad-sender list, its argument parses to an address
within the length limit (local IP literals already replaced), and RELAYCLIENT is set or the address matches
the recipient-host lists. -/
theorem C08_gate (cfg : Cfg) (hl : MoreLower cfg) (cs : List Cmd) (pre post : List Ev) (arg : Bytes) (o : Out)
    (ht : trace cfg {} cs = pre ++ (.rcpt arg, o) :: post) : o.replies = [.rcptok] ↔ GateOK cfg pre arg := by
  obtain ⟨s', hi, hx⟩ := trace_split cfg pre {} [] cs (.rcpt arg, o) post (inv_init cfg) ht
  obtain rfl : o = (sstep cfg s' (.rcpt arg)).2 := hx
  exact gate_inv cfg hl pre s' arg hi

/-- the lower-case hypothesis holds for every configuration read from files: qmail-newmrh lower-cases -/
theorem C08_moreLower (me : Bytes) (rh more bmf lip relay : Option Bytes) (ipme : List Ip) (now qp : Nat) :
    MoreLower (Cfg.ofFiles me rh more bmf lip relay ipme now qp) := by
  intro ks h
  cases more with
  | none => simp [Cfg.ofFiles] at h
  | some m =>
    simp [Cfg.ofFiles] at h
    subst h
    exact newmrhKeys_lower m

/-- **Recipient-host matching.** rcpthosts() accepts an address iff there is no rcpthosts file, or the
address has no `@`, or some entry of rcpthosts / morercpthosts.cdb equals the domain ignoring case or
starts with a dot and is a suffix of the domain ignoring case. An empty domain is never covered. -/
theorem C08_match_spec (cfg : Cfg) (hl : MoreLower cfg) (a : Bytes) : rcpthostsMatch cfg a = true ↔ MatchSpec cfg a :=
  match_iff cfg hl a

/-- **Bad senders.** bmfcheck() flags a sender iff an entry equals the address or `@domain`, ignoring case. -/
theorem C08_bmf_spec (cfg : Cfg) (a : Bytes) : bmfcheck cfg a = true ↔ BadSender cfg a := bmf_iff cfg a

/-- **Length limit.** What addrparse accepts has at most 899 bytes (900 with its NUL)… -/
theorem C08_len (cfg : Cfg) (arg a : Bytes) (h : addrparse cfg arg = some a) : a.length < 900 := by
  have := addrparse_limit cfg arg a h
  have : addrLimit = 900 := rfl
  omega

/-- …and anything longer is a syntax error for MAIL and for RCPT alike, leaving the state untouched. -/
theorem C08_len_refused (cfg : Cfg) (s : Sess) (arg : Bytes) (h : 900 ≤ (addrCore cfg arg).length) (hm : s.seenmail = true) :
    addrparse cfg arg = none ∧ sstep cfg s (.mail arg) = (s, { replies := [.syntax] }) ∧
      sstep cfg s (.rcpt arg) = (s, { replies := [.syntax] }) := by
  have : addrparse cfg arg = none := by
    unfold addrparse
    have : Gen.ADDRMAX = 900 := rfl
    simp; omega
  simp [sstep, this, hm]

/-- **Local IP literals**: `box@[d.d.d.d]` with `d.d.d.d` (octets taken modulo 256) one of this host's addresses becomes
`box@localiphost`.  (`lipSubst` is a step of addrparse, first clause of `C08_liphost_spec`: the replacement is made
before bmfcheck / rcpthosts see the address.) -/
theorem C08_liphost (cfg : Cfg) (h box d1 d2 d3 d4 : Bytes) (hh : cfg.liphost = some h)
    (h1 : allDigits d1 = true) (h2 : allDigits d2 = true) (h3 : allDigits d3 = true) (h4 : allDigits d4 = true)
    (hip : cfg.ipme.contains (numVal d1, numVal d2, numVal d3, numVal d4) = true) :
    lipSubst cfg (box ++ AT :: ipLit d1 d2 d3 d4) = box ++ AT :: h := by
  unfold lipSubst
  rw [hh]
  simp only [splitLastAt_append _ (ipLit_noAt d1 d2 d3 d4 h1 h2 h3 h4) box, scanBracket_lit d1 d2 d3 d4 h1 h2 h3 h4, hip,
    if_true]
  simp

/-- …for *every* address: the scanner of ip.c (`scanBracket`: `scan_ulong` wrap-around, truncation to a byte)
and the independent split-at-dots reading of `[d.d.d.d]` used by the oracle (`lipSpec`/`ipLiteral`) agree, so the
address left by addrparse is the quoted-and-routed-stripped argument with a local literal domain replaced. -/
theorem C08_liphost_spec (cfg : Cfg) (arg : Bytes) :
    addrCore cfg arg = lipSpec cfg (addrRaw arg) ∧ ∀ a, lipSubst cfg a = lipSpec cfg a :=
  ⟨lipSubst_eq_spec cfg (addrRaw arg), lipSubst_eq_spec cfg⟩

/-- …and this is the only thing `lipSubst` ever does: otherwise it is the identity. -/
theorem C08_liphost_only (cfg : Cfg) (a : Bytes) :
    lipSubst cfg a = a ∨ ∃ h p d ip, cfg.liphost = some h ∧ splitLastAt a = some (p, d) ∧ scanBracket d = some (ip, []) ∧
      cfg.ipme.contains ip = true ∧ lipSubst cfg a = p ++ h := by
  fun_cases lipSubst cfg a
  case case3 h hh p d hs ip hb hc => exact .inr ⟨h, p, d, ip, hh, hs, hb, hc, rfl⟩
  all_goals exact .inl rfl

/-- **Every byte stream is a command sequence**: the byte-level session (line reader, verb table, DATA
swallowing its message through `dblast` of C05) is `trace` of some command list, so the theorems above
hold for every input stream, pipelined or not, with CRLF or bare-LF line ends. -/
theorem C08_run_is_trace (cfg : Cfg) (qq : QQ) (inp : Bytes) :
    run cfg qq inp = trace cfg {} ((run cfg qq inp).map Prod.fst) :=
  runFuel_is_trace cfg qq _ {} inp

/-- **The oracle is the theorem.** The Boolean checkers evaluated by the driver are equivalent to the
declarative predicates… -/
theorem C08_oracle_iff (cfg : Cfg) (pre : List Ev) (sub : Submit) (arg : Bytes) :
    (submitOKB cfg pre sub = true ↔ SubmitOK cfg pre sub) ∧ (gateOKB cfg pre arg = true ↔ GateOK cfg pre arg) ∧
    (matchSpecB cfg arg = true ↔ MatchSpec cfg arg) ∧ (badSenderB cfg arg = true ↔ BadSender cfg arg) :=
  ⟨submitOKB_iff cfg pre sub, gateOKB_iff cfg pre arg, matchSpecB_iff cfg arg, badSenderB_iff cfg arg⟩

/-- …and they accept every trace of the model. -/
theorem C08_oracle_accepts_model (cfg : Cfg) (hl : MoreLower cfg) (qq : QQ) (inp : Bytes) :
    traceBad cfg [] (run cfg qq inp) 0 = none := by
  rw [C08_run_is_trace]
  exact traceBad_none cfg hl _ {} [] 0 (inv_init cfg)

/-- the command table as the model sees it (the table itself is regenerated from qmail-smtpd.c) -/
theorem C08_verbs :
    verbOf [77, 65, 73, 76] = .mail ∧ verbOf [114, 99, 112, 116] = .rcpt ∧ verbOf [68, 97, 84, 97] = .data ∧
    verbOf [82, 83, 69, 84] = .rset ∧ verbOf [72, 69, 76, 79] = .helo ∧ verbOf [69, 72, 76, 79] = .ehlo ∧
    verbOf [81, 85, 73, 84] = .quit ∧ verbOf [] = .unimpl ∧ verbOf [77, 65, 73, 76, 70] = .unimpl := by
  decide +kernel

/-! ### Framing: from the byte stream, through substdio, to the calls `commands()` makes

`SmtpCmdIO.commandsIO` is commands.c over a buffered descriptor (`Nq.Substdio.ISt`: any buffer size, any read
script = any chunking the kernel may choose, failing reads included) with an arbitrary command table;
`CmdLineSpec` is the independently written meaning of a command stream. -/

/-- **The independent splitter is well defined**: the executable functions the oracle runs satisfy the declarative
relations (`IsLines`: the stream is the lines, each followed by LF, then an LF-free rest; `IsSplit`: one CR before
the LF dropped, cut at the first NUL, verb = up to the first space, argument = after the run of spaces), and the
relations determine their result. -/
theorem C08_frame_spec_wd (inp : Bytes) :
    IsLines inp (specLines inp) (specTail inp) ∧
    (∀ ls tail, IsLines inp ls tail → ls = specLines inp ∧ tail = specTail inp) ∧
    (∀ l, IsSplit l (specSplit l).1 (specSplit l).2) ∧
    (∀ l v a, IsSplit l v a → specSplit l = (v, a)) :=
  ⟨isLines_spec inp, fun ls tail h => isLines_unique ls inp tail h, isSplit_spec, isSplit_unique⟩

/-- **Framing, every table, every buffer state, every read script.** The calls made are exactly the spec's calls
on a prefix `pre` of the pending bytes — all of them, and return value 0, when no read fails; -1 is returned only after
a failing read.  (`pre` is what was delivered before the first failing read, `Lemmas.SmtpIO.Delivers`; the statement
says only that it is a prefix.) -/
theorem C08_frame_io (table : List Bytes) (s : ISt) (h : IWF s) :
    ∃ pre, pre <+: pending s ∧ (commandsIO table s).1 = specCalls table pre ∧
      ((commandsIO table s).2 = .err → 0 ∈ s.rs) ∧
      (0 ∉ s.rs → pre = pending s ∧ (commandsIO table s).2 = .eof) := by
  obtain ⟨pre, h1, h2, h3⟩ := commandsIO_spec table s h
  refine ⟨pre, h1.1, by rw [h2, cmds_spec], h3, fun hn => ⟨h1.2 hn, ?_⟩⟩
  cases hr : (commandsIO table s).2 with
  | eof => rfl
  | err => exact absurd (h3 hr) hn

/-- **Framing, declaratively, for every chunking.** However the stream `inp` is cut into reads (buffer size `size`,
read script `rs` without a failing read) and whatever lines `ls` it consists of: `commands()` makes one call per
line, in order, each with the table entry selected by the line's verb (first text equal ignoring case, else the
catch-all) and the line's argument, verb and argument being related to the line by `IsSplit`; then returns 0. -/
theorem C08_frame (table : List Bytes) (size : Nat) (inp : Bytes) (rs : List Nat) (hrs : 0 ∉ rs)
    (ls : List Bytes) (tail : Bytes) (hl : IsLines inp ls tail) :
    commandsIO table (istart size inp rs) = (ls.map (fun l => (specIdx table (specSplit l).1, (specSplit l).2)), .eof) ∧
    ∀ l ∈ ls, IsSplit l (specSplit l).1 (specSplit l).2 := by
  obtain ⟨pre, _, h2, _, h4⟩ := C08_frame_io table (istart size inp rs) (istart_IWF size inp rs)
  obtain ⟨e1, e2⟩ := h4 hrs
  rw [istart_pending] at e1
  subst e1
  obtain ⟨r1, _⟩ := isLines_unique ls pre tail hl
  refine ⟨?_, fun l _ => isSplit_spec l⟩
  rw [Prod.ext_iff]
  exact ⟨by rw [h2, r1]; rfl, e2⟩

/-- the session model's line reader, line parser and verb table are the spec's -/
theorem C08_parse_spec (inp l v : Bytes) :
    readLine inp = specFirstLine inp ∧ parseLine l = specParse l ∧ verbOf v = specVerb v ∧
    (∀ s t, ciEqB s t = true ↔ lower s = lower t) :=
  ⟨(specFirstLine_eq inp).symm, (specParse_eq l).symm, (specVerb_eq v).symm, ciEqB_iff⟩

/-- **Sessions over substdio.** qmail-smtpd's loop — `commands()` reading `ssin` byte by byte, `smtp_data` running
`blast()` on the same `ssin` — over any buffer state and any read script without a failing read is the byte-level
session `run` on the bytes still to come: no chunking changes what is dispatched, answered or queued. -/
theorem C08_io_run (cfg : Cfg) (qq : QQ) (i : ISt) (h : IWF i) (hrs : 0 ∉ i.rs) : runIO cfg qq i = run cfg qq (pending i) := by
  obtain ⟨pre, p1, p2⟩ := runIO_any cfg qq i h
  rw [p2, p1.2 hrs]; rfl

/-- …and with failing reads (which `saferead` turns into `die_read()`, like end of file): the session is the session on
a prefix of those bytes (what the descriptor delivered before the failure; the statement says only that it is a prefix).
Every buffer state, every read script. -/
theorem C08_io_run_any (cfg : Cfg) (qq : QQ) (i : ISt) (h : IWF i) : ∃ pre, pre <+: pending i ∧ runIO cfg qq i = run cfg qq pre :=
  (runIO_any cfg qq i h).imp fun _ hp => ⟨hp.1.1, hp.2⟩

/-- **Sessions are laid out over the stream as the spec says** (`CmdLineSpec.Framed`): every event is the next
LF-terminated line, its verb the table entry the spec selects and its MAIL/RCPT argument the spec's argument; a DATA
answered 354 is followed by its message, ending where the RFC 5321 reference decoder says, and the next command line
starts right there (message lines are never taken for commands, commands never for message lines); nothing is read
after an event that ends the session; the rest after the last LF is not a command. For every byte stream — and, by
`C08_io_run`, for every chunking of it into reads. -/
theorem C08_frame_session (cfg : Cfg) (qq : QQ) (inp : Bytes) : Framed inp (run cfg qq inp) :=
  runFuel_framed cfg qq _ {} inp (by omega)

/-- **Sequencing, lifted to raw byte streams and every chunking.** -/
theorem C08_submit_bytes (cfg : Cfg) (qq : QQ) (size : Nat) (inp : Bytes) (rs : List Nat) (hrs : 0 ∉ rs)
    (pre post : List Ev) (c : Cmd) (o : Out) (sub : Submit)
    (ht : runIO cfg qq (istart size inp rs) = pre ++ (c, o) :: post) (hs : o.submit = some sub) : SubmitOK cfg pre sub := by
  rw [C08_io_run cfg qq _ (istart_IWF size inp rs) hrs, C08_run_is_trace] at ht
  exact C08_submit cfg _ pre post c o sub ht hs

/-- **Gating, lifted to raw byte streams and every chunking**, in both forms: the trace predicate `GateOK` and the
documented rules `GateDoc`. -/
theorem C08_gate_bytes (cfg : Cfg) (hl : MoreLower cfg) (qq : QQ) (size : Nat) (inp : Bytes) (rs : List Nat) (hrs : 0 ∉ rs)
    (pre post : List Ev) (arg : Bytes) (o : Out)
    (ht : runIO cfg qq (istart size inp rs) = pre ++ (.rcpt arg, o) :: post) :
    (o.replies = [.rcptok] ↔ GateOK cfg pre arg) ∧ (o.replies = [.rcptok] ↔ GateDoc cfg pre arg) := by
  rw [C08_io_run cfg qq _ (istart_IWF size inp rs) hrs, C08_run_is_trace] at ht
  have := C08_gate cfg hl _ pre post arg o ht
  exact ⟨this, this.trans (gateDoc_iff cfg pre arg).symm⟩

/-! ### The documented rules (qmail-smtpd.8), written without the model's vocabulary -/

/-- **badmailfrom, documented rule**: a sender is refused iff some line equals the whole address or equals `@host`
for the address's host part (what follows its last `@`), ignoring ASCII case (`CiEq`: position-wise, no `lower`). -/
theorem C08_bmf_doc (cfg : Cfg) (a : Bytes) : bmfcheck cfg a = true ↔ BadSenderDoc cfg a :=
  (bmf_iff cfg a).trans (badSenderDoc_iff cfg a).symm

/-- **rcpthosts / morercpthosts, documented rule**: no rcpthosts file, or no `@`, or the (non-empty) host part is a
listed host or ends with a listed `.suffix`, ignoring case. -/
theorem C08_rcpthosts_doc (cfg : Cfg) (hl : MoreLower cfg) (a : Bytes) : rcpthostsMatch cfg a = true ↔ RcptHostOK cfg a :=
  (match_iff cfg hl a).trans (rcptHostOK_iff cfg a).symm

/-- **The RCPT decision with RELAYCLIENT.** In an open transaction with an unflagged sender, a recipient that parses
to `a` is answered 250 iff the documented rule gives a stored form (RELAYCLIENT set: always, `a ++ $RELAYCLIENT`;
otherwise `a` itself if its host is allowed); that form is what is appended to the recipient list; otherwise the
state is untouched. -/
theorem C08_rcpt_doc (cfg : Cfg) (hl : MoreLower cfg) (s : Sess) (arg a : Bytes) (h1 : s.seenmail = true) (h2 : s.flagbarf = false)
    (ha : addrparse cfg arg = some a) :
    ((sstep cfg s (.rcpt arg)).2.replies = [.rcptok] ↔ ∃ stored, RcptDoc cfg a stored) ∧
    (∀ stored, RcptDoc cfg a stored → (sstep cfg s (.rcpt arg)).1 = { s with rcptto := s.rcptto ++ [stored] }) ∧
    ((¬ ∃ stored, RcptDoc cfg a stored) → (sstep cfg s (.rcpt arg)).1 = s) := by
  have hd : (∃ stored, RcptDoc cfg a stored) ↔ ∃ a', RcptGate cfg s arg a' := by
    rw [rcptDoc_exists_iff, ← match_iff cfg hl]
    exact ⟨fun h => ⟨a, h1, h2, ha, h⟩, fun ⟨a', _, _, ha', h⟩ => by cases ha.symm.trans ha'; exact h⟩
  refine ⟨(gate_step cfg s arg).trans hd.symm, fun stored hs => ?_, fun hn => ?_⟩
  · rw [sstep_rcpt_ok ⟨h1, h2, ha, ((rcptDoc_exists_iff cfg a).1 ⟨stored, hs⟩).imp id (match_iff cfg hl a).2⟩]
    unfold RcptDoc at hs
    cases hr : cfg.relay with
    | some rc => rw [hr] at hs; simp [relaySuffix, hr, hs]
    | none => rw [hr] at hs; simp [relaySuffix, hr, hs.2]
  · obtain ⟨r, _, e⟩ := sstep_rcpt_no (fun h => hn (hd.2 h))
    rw [e]

/-- **Gating by the documented rules, whole sessions.** -/
theorem C08_gate_doc (cfg : Cfg) (hl : MoreLower cfg) (cs : List Cmd) (pre post : List Ev) (arg : Bytes) (o : Out)
    (ht : trace cfg {} cs = pre ++ (.rcpt arg, o) :: post) : o.replies = [.rcptok] ↔ GateDoc cfg pre arg :=
  (C08_gate cfg hl cs pre post arg o ht).trans (gateDoc_iff cfg pre arg).symm

/-- the Boolean forms of the documented rules which the driver evaluates are the rules -/
theorem C08_oracle_doc_iff (cfg : Cfg) (pre : List Ev) (a arg stored : Bytes) :
    (badSenderDocB cfg a = true ↔ BadSenderDoc cfg a) ∧ (rcptHostOKB cfg a = true ↔ RcptHostOK cfg a) ∧
    (rcptDocB cfg a = some stored ↔ RcptDoc cfg a stored) ∧ (gateDocB cfg pre arg = true ↔ GateDoc cfg pre arg) :=
  ⟨badSenderDocB_iff cfg a, rcptHostOKB_iff cfg a, rcptDocB_iff cfg a stored, gateDocB_iff cfg pre arg⟩

/-! ### Non-vacuity -/

/-- rcpthosts = "l.e", ".w.e"; badmailfrom = "@b" -/
def cfgEx : Cfg := { rh := some [[108, 46, 101], [46, 119, 46, 101]], bmf := some [[64, 98]] }

-- "<s@x>", "<u@L.E>" (upper case), "<u@a.W.e>" (wildcard), "<u@w.e>" (not covered), RSET, DATA, MAIL, "<u@r>", ":u" (no @), DATA
example :
    (trace cfgEx {} [.mail [60, 115, 64, 120, 62], .rcpt [60, 117, 64, 76, 46, 69, 62], .rcpt [60, 117, 64, 97, 46, 87, 46, 101, 62],
        .rcpt [60, 117, 64, 119, 46, 101, 62], .rset, .data {}, .mail [60, 115, 64, 120, 62], .rcpt [60, 117, 64, 114, 62],
        .rcpt [58, 117], .data {}]).map (fun x => (x.2.replies, x.2.submit)) =
      [([.mailok], none), ([.rcptok], none), ([.rcptok], none), ([.nogateway], none), ([.flushed], none), ([.wantmail], none),
       ([.mailok], none), ([.nogateway], none), ([.rcptok], none),
       ([.go, .accepted], some ⟨[115, 64, 120], [[117]], []⟩)] := by decide +kernel

-- sender "<s@B>" is on the bad-sender list (@b): every RCPT is refused
example : (trace cfgEx {} [.mail [60, 115, 64, 66, 62], .rcpt [60, 117, 64, 108, 46, 101, 62]]).map (fun x => x.2.replies) =
    [[.mailok], [.bmf]] := by decide +kernel

-- `"a b"\@x@[127.0.0.1]` with localiphost "l.e": quotes and backslash removed, literal replaced
example : addrparse { liphost := some [108, 46, 101], ipme := [(127, 0, 0, 1)] }
    [60, 64, 114, 58, 34, 97, 32, 98, 34, 92, 64, 120, 64, 91, 49, 50, 55, 46, 48, 46, 48, 46, 49, 93, 62] =
    some [97, 32, 98, 64, 120, 64, 108, 46, 101] := by decide +kernel

example : MoreLower cfgEx := by intro ks h; simp [cfgEx] at h

-- table ["a", "AB", "ab", ""]; stream "aB  x\r\n\n a\0b\nAb" read through a 2-byte buffer in reads of 1, 1, 3, … bytes:
-- three calls (entry 1 "AB" with argument "x"; the empty verb selects entry 3; again entry 3 with argument "a"), the
-- unterminated "Ab" is not a command
def tabEx : List Bytes := [[97], [65, 66], [97, 98], []]
def inEx : Bytes := [97, 66, 32, 32, 120, 13, 10, 10, 32, 97, 0, 98, 10, 65, 98]

example : commandsIO tabEx (istart 2 inEx [1, 1, 3]) = ([(1, [120]), (3, []), (3, [97])], .eof) := by decide +kernel
example : specCalls tabEx inEx = [(1, [120]), (3, []), (3, [97])] := by decide +kernel
example : IsLines inEx [[97, 66, 32, 32, 120, 13], [], [32, 97, 0, 98]] [65, 98] := by
  refine ⟨by decide, ?_, by decide⟩
  intro l hl; simp at hl; rcases hl with rfl | rfl | rfl <;> decide
example : IsSplit [97, 66, 32, 32, 120, 13] [97, 66] [120] :=
  ⟨[97, 66, 32, 32, 120], [97, 66, 32, 32, 120], [], [32, 32], Or.inl rfl, by simp, by decide, Or.inl rfl, rfl, by decide,
   by decide, by decide, by decide⟩
-- a failing read (script entry 0) after 3 + 4 + 2 bytes: -1, and only the lines complete by then
example : commandsIO tabEx (istart 4 inEx [3, 5, 2, 0]) = ([(1, [120]), (3, [])], .err) := by decide +kernel

-- "MAIL <s@x>\r\nRCPT <u@L.E>\nDATA\r\nx\r\n.\r\nQUIT\n" one byte per read: one envelope, then QUIT
example : (runIO cfgEx {} (istart 8 [77, 65, 73, 76, 32, 60, 115, 64, 120, 62, 13, 10, 82, 67, 80, 84, 32, 60, 117, 64, 76, 46, 69, 62, 10,
      68, 65, 84, 65, 13, 10, 120, 13, 10, 46, 13, 10, 81, 85, 73, 84, 10] (List.replicate 50 1))).map (fun x => (x.2.replies, x.2.submit)) =
    [([.mailok], none), ([.rcptok], none), ([.go, .accepted], some ⟨[115, 64, 120], [[117, 64, 76, 46, 69]], []⟩), ([.quit], none)] := by decide +kernel

-- the layout of "NOOP\r\nquit\nx": two command lines, the second ends the session, "x" is never read
example : Framed [78, 79, 79, 80, 13, 10, 113, 117, 105, 116, 10, 120]
    [(.noop, { replies := [.noop] }), (.quit, { replies := [.quit], halt := true })] :=
  Framed.cmd [78, 79, 79, 80, 13] _ _ _ _ (by decide) ⟨by decide, by simp [argOfCmd]⟩ rfl (by decide)
    (Framed.last [113, 117, 105, 116] [120] _ _ (by decide) ⟨by decide, by simp [argOfCmd]⟩ rfl)

-- documented rules on cfgEx: "u@a.W.e" is listed by ".w.e", "u@w.e" is not; "s@B" is a bad sender through "@b"
example : RcptHostOK cfgEx [117, 64, 97, 46, 87, 46, 101] := (rcptHostOKB_iff _ _).1 (by decide)
example : ¬ RcptHostOK cfgEx [117, 64, 119, 46, 101] := fun h => absurd ((rcptHostOKB_iff _ _).2 h) (by decide)
example : BadSenderDoc cfgEx [115, 64, 66] := (badSenderDocB_iff _ _).1 (by decide)
example : RcptDoc { relay := some [64, 114] } [117] [117, 64, 114] := rfl

/-! ### Address unquoting against an independent path grammar (`Nq.Spec.SmtpAddr`) -/

open Nq.SmtpAddrSpec in
/-- The path grammar is well defined.  For every argument: the lexer-based reading `specPath` satisfies the
declarative relation `IsPath` (start after the first `<` / after the first `:` and blanks / nothing; a leading
`@…:` source route dropped; the rest a sequence of plain bytes, `\x` pairs and `"…"` strings up to the first
top-level terminator, unterminated strings and a lone trailing backslash included), and the relation
determines the address.  The item grammar alone (`IsUnq`) is total for every terminator. -/
theorem C08_addr_spec_wd (arg : Bytes) :
    IsPath arg (specPath arg) ∧ (∀ a, IsPath arg a ↔ a = specPath arg) ∧
    (∀ term s, IsUnq term s (specUnq term s)) ∧
    IsStart arg (specStart arg).1 (specStart arg).2 ∧ (∀ body, IsRoute body (specRoute body)) :=
  ⟨specPath_is arg, IsPath_iff arg, specUnq_is, specStart_is arg, specRoute_is⟩

open Nq.SmtpAddrSpec in
/-- model = spec for ALL arguments and configurations: the copy loop / source-route / bracket code of the model
of addrparse() computes exactly the address the grammar denotes, and the model's addrparse (localiphost rule,
900-byte limit) is `specAddrparse`; `AddrSpec` (declarative: some `IsPath` reading, `lipSpec`, literal limit)
holds of exactly that result. -/
theorem C08_addr_spec (cfg : Cfg) (arg : Bytes) :
    addrRaw arg = specPath arg ∧ addrparse cfg arg = specAddrparse cfg arg ∧
    (∀ res, AddrSpec cfg arg res ↔ res = addrparse cfg arg) :=
  ⟨addrRaw_eq_spec arg, addrparse_eq_spec cfg arg, fun res => by rw [addrparse_eq_spec]; exact AddrSpec_iff cfg arg res⟩

open Nq.SmtpAddrSpec in
/-- For the two terminators that occur the relation `IsUnq` determines the address: any two readings of a string give
the same address, namely what the model's loop makes of the string. -/
theorem C08_addr_unq_unique (term : Byte) (ht : term = RAB ∨ term = SP) (s a b : Bytes)
    (ha : IsUnq term s a) (hb : IsUnq term s b) : a = b := by
  have h1 : SmtpAddrSpec.BSL ≠ term := by rcases ht with rfl | rfl <;> decide
  have h2 : SmtpAddrSpec.DQ ≠ term := by rcases ht with rfl | rfl <;> decide
  rw [IsUnq_unq term h1 h2 s a ha, IsUnq_unq term h1 h2 s b hb]

/-- the trace checkers the driver runs (`traceBadS`: `traceBad` with `specAddrparse` as "the parsed address")
are the checkers of `C08_oracle_iff`. -/
theorem C08_addr_oracle (cfg : Cfg) (tr pre : List Ev) (i : Nat) :
    traceBadS cfg pre tr i = traceBad cfg pre tr i ∧ gateOKBS = gateOKB ∧ submitOKBS = submitOKB :=
  ⟨traceBadS_eq cfg tr pre i, gateOKBS_eq, submitOKBS_eq⟩

-- `<@a,@b:">"\"@c>x`  reads as  `>"@c`  (source route dropped, quoted `>`, escaped quote, junk after `>` ignored)
example : Nq.SmtpAddrSpec.specPath [60, 64, 97, 44, 64, 98, 58, 34, 62, 34, 92, 34, 64, 99, 62, 120] = [62, 34, 64, 99] := by decide +kernel
-- bracketless `FROM:  u\ v w`: starts after the colon and blanks, ends at the first unescaped blank
example : Nq.SmtpAddrSpec.specPath [70, 58, 32, 32, 117, 92, 32, 118, 32, 119] = [117, 32, 118] := by decide +kernel
-- unterminated quoted string with a lone trailing backslash: `<"a>\`
example : Nq.SmtpAddrSpec.specPath [60, 34, 97, 62, 92] = [97, 62] := by decide +kernel
example : Nq.SmtpAddrSpec.IsUnq 62 [34, 97, 62, 92] [97, 62] :=
  ⟨[], .openq [.ch 97, .ch 62] true, by simp, by simp [Nq.SmtpAddrSpec.Ending.ok, Nq.SmtpAddrSpec.QItem.ok, Nq.SmtpAddrSpec.BSL, Nq.SmtpAddrSpec.DQ], by decide, by decide⟩
example : specAddrparse cfgEx [60, 64, 120, 58, 117, 64, 76, 46, 69, 62] = some [117, 64, 76, 46, 69] := by decide +kernel
set_option maxRecDepth 20000 in
example : AddrSpec cfgEx (60 :: List.replicate 900 97) none :=
  (Nq.SmtpPolicy.AddrSpec_iff _ _ _).2 (by decide +kernel)

/-! ### The flush discipline of commands() (`Nq.SmtpFlush`) -/

open Nq.SmtpFlush in
/-- No reply is withheld.  For EVERY command table, flush-flag assignment, handlers (state, call ↦ state, reply length,
exits?), output buffer size, banner length, input buffer state and read script: the event list of commands() with
`saferead` as the read op is disciplined (`disciplinedB`, the Boolean the driver evaluates on the implementation's own
event log), which means: whenever the server issues a `read` of the connection, and whenever the flush callback of a
table entry has run, the number of bytes written so far equals the number of reply bytes generated so far (banner
included); and no write runs ahead of what was generated. -/
theorem C08_flush {σ : Type} (table : List Bytes) (flags : Nat → Bool) (h : Handler σ) (size : Nat) (st : σ) (s : ISt) (banner : Nat) :
    disciplinedB 0 (cmdsEv table flags h size st s banner) = true ∧
    ∀ pre e post, cmdsEv table flags h size st s banner = pre ++ e :: post →
      written pre ≤ generated pre ∧ ((e = .rd ∨ e = .fl) → written pre = generated pre) := by
  refine ⟨disc_cmdsEv table flags h size st s banner, ?_⟩
  intro pre e post hs
  have := disc_meaning pre 0 e post (by rw [← hs]; exact disc_cmdsEv table flags h size st s banner)
  simpa using this

-- "ab\nc\n" through a 4-byte input buffer, reads of ≤ 3 bytes, entry 0 = "ab" without flush callback, catch-all with one:
-- the 5 bytes of the first reply stay buffered past the handler and are written before the second read
example : Nq.SmtpFlush.cmdsEv [[97, 98]] (fun i => i != 0) (fun (_ : Unit) c => ((), 5 + c.1, false)) 16 () (istart 4 [97, 98, 10, 99, 10] [3, 3]) 7 =
    [.gen 7, .wr 7, .rd, .gen 5, .cmd 0, .wr 5, .rd, .gen 6, .cmd 1, .wr 6, .fl, .rd] := by decide +kernel
example : Nq.SmtpFlush.disciplinedB 0 [.gen 7, .rd] = false := by decide +kernel

end Nq.Props.C08
