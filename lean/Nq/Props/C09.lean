/-
  C09 — Remote delivery verdicts are sound for every server behaviour.

  Models: `Nq.RemoteSmtp.smtpRun` (qmail-remote.c `smtp()`, `smtpcode()`, `quit()`, `dropped()`,
  `outsmtptext()`; `blast()` is `Nq.SmtpOut.rblast`) and `Nq.RspawnReport.rreport`
  (qmail-rspawn.c `report()`), tied to the source by `harness/c09_remote.c`; `Nq.RemoteConnect.mainRun`
  (`main()` from the DNS result on: `connectPhase` picks the address, then `smtpRun`); `Nq.RemoteBuf.smtpRunB`
  (`smtp()` with `blast()` run over the `smtpto` buffer, `bblast`, so that the side of `flagcritical = 1` on which a
  failing write falls is computed, not an input of the script).
  The predicates (`expect`, `verdictOK`, `kSound`, `rcptOrder`, `rspawnSound`, `rspawnClasses`,
  `noUpgrade`) are in `Nq.Spec.RemoteVerdict`; compiled, they are the oracle of the driver. The statements also use
  `abstr` (`Nq.Lemmas.RemoteSmtp`), `resultOf` (`Nq.Lemmas.RspawnReport`) and `toRes` (`Nq.Lemmas.RemoteBufRun`).

  The server is `sc : Script`: every byte it ever sends (`stream`; reads past the end fail, which
  is what both a disconnect and a stall look like to the client) and the write that fails, if any.
  `abstr a sc` is the script as the client sees it: the code of each reply it delimits, in order.
-/
import Nq.Lemmas.RemoteSmtp
import Nq.Lemmas.RemoteRules
import Nq.Lemmas.RemoteCode
import Nq.Lemmas.RspawnReport
import Nq.Lemmas.RemoteEndToEnd
import Nq.Lemmas.RemoteWire
import Nq.Lemmas.RemoteConnect
import Nq.Lemmas.RemoteBufRun

namespace Nq.Props.C09
open Nq Nq.SmtpOut Nq.RemoteSmtp Nq.RspawnReport Nq.RemoteConnect Nq.Spec.RemoteVerdict Nq.Lemmas.RemoteSmtp Nq.Lemmas.Rspawn
open Nq.Lemmas.RemoteConnect
open Nq.Substdio Nq.SmtpIO Nq.RemoteBuf Nq.Lemmas.RemoteBuf Nq.Lemmas

/-- **Verdict classes.** For every server script the message report has the class the rules require
(`expect`: the first decisive event wins — greeting ≠ 220 / HELO ≠ 250 → Z; MAIL, DATA, final-dot reply
≥ 500 → D, 400..499 → Z; every RCPT refused → D; unreadable message → Z, partial last line → D; any
failed read or write up to the final flush → Z "connection died", flagged "Possible duplicate!" when it
happens between the final flush and the reply to the dot; otherwise K), and the per-recipient reports are
exactly the classes (`r`/`s`/`h`) the rules give, in order. Replies and codes are those `smtpcode()`
delimits (`abstr`); for well-formed streams they are the line-based ones, see `C09_classes_wellformed`.
The rules are strict about QUIT — a decided verdict stands whatever happens to the QUIT command
(`C09_rules_ignore_quit`) — and so is the code (/repo commit 7dc98ec): the theorem needs no hypothesis about the
failing write. -/
theorem C09_classes (a : Args) (sc : Script) :
    verdictOK (expect (abstr a sc)).v (obsOf (smtpRun a sc)) = true ∧
    (obsOf (smtpRun a sc)).rl = (expect (abstr a sc)).rl :=
  (run_exit' a sc.wfail (frames .d1 [] sc.stream)).good

/-- **The QUIT corner.** When the write that fails is the final QUIT, compare with the same script in
which that write succeeds (`r0`): the recipient reports *and the message report* are byte for byte the
same; the only difference is that, if a verdict was announced through `quit()`, the server does not
get the QUIT. (`quit()` writes QUIT with `timeoutwrite` and ignores the result, not through `safewrite`, whose
failure is `dropped()`: /repo commit 7dc98ec.) -/
theorem C09_quit_corner (a : Args) (sc : Script) (hq : sc.wfail = some .quit) :
    let r0 := smtpRun a { sc with wfail := none }
    let r := smtpRun a sc
    r.rcpt = r0.rcpt ∧ r.msg = r0.msg ∧
    (if r0.quit = true then r0.wire = r.wire ++ quitCmd else r.wire = r0.wire) := by
  have h := run_quit a (frames .d1 [] sc.stream)
  simp only [smtpRun, hq]
  exact h

/-- the rules do not look at the QUIT write -/
theorem C09_rules_ignore_quit (a : Args) (sc : Script) (hq : sc.wfail = some .quit) :
    expect (abstr a sc) = expect (abstr a { sc with wfail := none }) := by
  have := expect_quit (abstr a { sc with wfail := none })
  simp only [abstr, abstrF, hq] at this ⊢
  exact this

/-- **K is sound (every script).** The message is reported `K` only if the greeting was 220, the HELO
reply 250, the replies to MAIL, DATA and the final dot below 400, there is one report per recipient and
at least one of them is `r`, no write up to and including the final flush failed, and the message was
read completely and ends with a newline. -/
theorem C09_K_sound (a : Args) (sc : Script) : kSound (abstr a sc) (obsOf (smtpRun a sc)) = true :=
  have g := (run_exit' a sc.wfail (frames .d1 [] sc.stream)).good
  kSound_of_good _ _ g.1 g.2

/-- **Recipient reports in argument order (every script).** Never more reports than recipient
arguments; the `i`-th report is the class of the reply to the `i`-th RCPT (reply number `3+i` of the
conversation); there are none unless greeting, HELO and MAIL were accepted. -/
theorem C09_rcpt_order (a : Args) (sc : Script) : rcptOrder (abstr a sc) (obsOf (smtpRun a sc)) = true :=
  rcptOrder_of_good _ _ (run_exit' a sc.wfail _).good.2

/-- **Commands in argument order.** What the server receives is — apart from a final QUIT — a prefix
of HELO, MAIL FROM, one RCPT TO per recipient argument *in argument order*, DATA and the encoded
message; the RCPT command of every recipient reported on is on the wire (containment in the final wire, not an
order in time: the reports go through the buffer `subfdoutsmall`); and `K` is reported only with the whole
encoded message written — and QUIT after it, unless the QUIT write is the one that fails (`wireOrderQ … qf`;
with `qf = false` it is `wireOrder`). (`enc` = the encoding of the message by `blast()`, if it has one.) -/
theorem C09_wire_order (a : Args) (sc : Script) (enc : Bytes) (henc : ∀ e, rblast a.msg = some e → e = enc) :
    wireOrderQ a enc (smtpRun a sc).wire (obsOf (smtpRun a sc)) (sc.wfail == some .quit) = true :=
  wireOrderQ_of_WireOK a sc.wfail enc _ (run_exit a sc.wfail enc henc _).wire

/-- **A loss in the critical window is flagged and temporary.** Whenever the rules say the connection
was lost between the final flush and the reply to the dot (`expect = lost true`: everything up to DATA
accepted, the message complete, and then either the final write fails or the stream ends before a
complete reply), the report is `Z…` and contains "Possible duplicate! " — never `K`. -/
theorem C09_possible_duplicate (a : Args) (sc : Script) (h : (expect (abstr a sc)).v = .lost true) :
    headB (smtpRun a sc).msg = cZ ∧ hasInfix dupMark (smtpRun a sc).msg = true := by
  have := (C09_classes a sc).1
  rw [h] at this
  simpa [verdictOK, obsOf] using this

/-- **Multi-line reply parsing.** If every complete line the server sends has at least three bytes
before its LF, `smtpcode()` delimits exactly the replies of the line-based reading (lines whose 4th
byte is `-` continue a reply), whatever else the lines contain and wherever the stream stops. -/
theorem C09_framing (s : Bytes) (h : wfLines s = true) : frames .d1 [] s = specFrames s :=
  frames_eq_specFrames s h

/-- **Reply codes.** A reply that starts with three ASCII digits has their decimal value as its code
(so the thresholds 400/500 and the tests `= 220`, `= 250` are about the number the server sent). -/
theorem C09_code_decimal (l : Bytes) (n : Nat) (h : decCode l = some n) : codeNat l = n :=
  codeNat_decimal l n h

/-- Consequently, for a well-formed all-digit stream the codes the client acts on are the codes of the
line-based reading (this is the abstract script the driver's oracle uses). -/
theorem C09_spec_codes (a : Args) (sc : Script) (cs : List Nat) (h : specCodes sc.stream = some cs) :
    (abstr a sc).codes = cs := by
  unfold specCodes at h
  by_cases hw : wfLines sc.stream = true
  · rw [if_pos hw] at h
    simp only [abstr, abstrF, frames_eq_specFrames _ hw]
    exact decCodes_codeNat _ cs h
  · simp [hw] at h

/-- **Verdict classes against the independent reading of the stream.** If every complete line the
server sends has at least three bytes before its LF and every reply starts with three digits
(`specCodes`: lines split at LF, a `-` as 4th byte continues the reply, code = decimal value of the
first line's digits), the message class and the recipient letters are those the rules give for *these*
codes — nothing of the client's own framing or arithmetic is in the statement. -/
theorem C09_classes_wellformed (a : Args) (sc : Script) (cs : List Nat) (h : specCodes sc.stream = some cs) :
    let s : AScript := { codes := cs, n := a.rcpts.length, msgErr := a.msgErr,
                         msgPartial := partialMsg a.msg (rblast a.msg).isNone, wfail := sc.wfail }
    verdictOK (expect s).v (obsOf (smtpRun a sc)) = true ∧ (obsOf (smtpRun a sc)).rl = (expect s).rl := by
  have hc : (abstr a sc).codes = cs := C09_spec_codes a sc cs h
  have e : abstr a sc = { codes := cs, n := a.rcpts.length, msgErr := a.msgErr,
                          msgPartial := partialMsg a.msg (rblast a.msg).isNone, wfail := sc.wfail } := by
    rw [partialMsg_eq, ← hc]; rfl
  simp only
  rw [← e]
  exact C09_classes a sc

/-- when the failing write, if any, is not the QUIT: `K` only with QUIT on the wire -/
theorem C09_wire_order_strict (a : Args) (sc : Script) (enc : Bytes) (henc : ∀ e, rblast a.msg = some e → e = enc)
    (hq : sc.wfail ≠ some .quit) : wireOrder a enc (smtpRun a sc).wire (obsOf (smtpRun a sc)) = true := by
  have h := C09_wire_order a sc enc henc
  have : (sc.wfail == some WPoint.quit) = false := by simpa using hq
  simpa [wireOrderQ, this] using h

/-! ### before the connection (`qmail-remote.c main()` from the lookup result on) -/

/-- **Lookup and connect trouble.** Out of memory / temporary lookup failure → `Z`; hard lookup failure,
no address, or only addresses that are not better than this host → `D`; and when some address is
eligible but none connects (`tcpto` skip, refused, timed out) the report is `Z` (`temp_noconn`) — in
all these cases without any recipient report. -/
theorem C09_connect_phase (dnsret : Int) (hostArg : Bytes) (cs : List Cand) (a : Args) (sc : Script) :
    preOK dnsret cs (obsOf (mainRun dnsret hostArg cs a sc)) = true := by
  have := connectPhase_ok dnsret hostArg cs
  unfold mainRun
  cases h : connectPhase dnsret hostArg cs with
  | report r => rw [h] at this; exact this.2 _
  | connected i hst => rw [h] at this; exact this _

/-- a run that ends before `smtp()` never reports `K` -/
theorem C09_preconnect_never_K (dnsret : Int) (hostArg : Bytes) (cs : List Cand) (r : Bytes)
    (h : connectPhase dnsret hostArg cs = .report r) : headB r = cZ ∨ headB r = cD := by
  have := connectPhase_ok dnsret hostArg cs
  rw [h] at this
  exact this.1

/-- The connect loop `tryLoop pm 0 cs`, for any bound `pm`: the address it connects to is the first one, in lookup
order, with preference below `pm` that is not marked as recently timed out and accepts the connection.
(`connectPhase` calls it with `pm = prefme cs`, this host's own best preference: then it is the address `smtp()`
talks to.) -/
theorem C09_connect_choice (pm : Nat) (cs : List Cand) (i : Nat) (hst : Bytes) (h : tryLoop pm 0 cs = .connected i hst) :
    ∃ c, cs[i]? = some c ∧ c.host = hst ∧ c.pref < pm ∧ c.skip = false ∧ c.conn = 0 ∧
      ∀ j c', j < i → cs[j]? = some c' → c'.pref < pm → c'.skip = true ∨ c'.conn ≠ 0 := by
  obtain ⟨j, c, e1, e2, e3, e4, e5, e6, e7⟩ := tryLoop_connected pm cs 0 i hst h
  have : i = j := by omega
  subst this
  exact ⟨c, e2, e3, e4, e5, e6, e7⟩

/-- and after the connection everything above applies with that address as `host` -/
theorem C09_main_connected (dnsret : Int) (hostArg : Bytes) (cs : List Cand) (a : Args) (sc : Script) (i : Nat) (hst : Bytes)
    (h : connectPhase dnsret hostArg cs = .connected i hst) :
    mainRun dnsret hostArg cs a sc = smtpRun { a with host := hst } sc := by
  simp [mainRun, h]

/-! ### the spawner's report (`qmail-rspawn.c report()`) -/

/-- **The relayed `K` is sound**: qmail-rspawn reports `K` for the delivery only if qmail-remote exited
0 without crashing, produced output, its first report is not `h` or `s`, and the first
NUL-terminated report that starts with K, Z or D starts with `K`. -/
theorem C09_rspawn (wstat : Nat) (s : Bytes) : rspawnSound wstat s (rreport wstat s) = true := by
  unfold rspawnSound
  by_cases h : wstat % 128 = 0 ∧ wstat / 256 = 0 ∧ s ≠ []
  · obtain ⟨h1, h2, h3⟩ := h
    rw [headB_rreport_normal wstat s h1 h2 h3]
    by_cases hk : relayOf (headB s) (firstKZD (records [] s)) = cK
    · obtain ⟨a2, a1, a3⟩ := relayOf_eq_cK hk
      simp [hk, h1, h2, h3, a1, a2, a3]
    · simp [hk]
  · rw [headB_rreport_abnormal wstat s h]
    split <;> rfl

/-- crash → `Z`; exit 111 → `Z`; any other non-zero exit → `D`; no output → `Z`; otherwise one of K/Z/D -/
theorem C09_rspawn_classes (wstat : Nat) (s : Bytes) : rspawnClasses wstat s (rreport wstat s) = true := by
  unfold rspawnClasses
  by_cases h : wstat % 128 = 0 ∧ wstat / 256 = 0 ∧ s ≠ []
  · obtain ⟨h1, h2, h3⟩ := h
    rw [headB_rreport_normal wstat s h1 h2 h3]
    simp only [h1, h2, ne_eq, not_true_eq_false, if_false, show (0 : Nat) ≠ 111 by decide, List.isEmpty_iff, h3]
    exact isKZD_relayOf _ _
  · rw [headB_rreport_abnormal wstat s h]
    by_cases h1 : wstat % 128 = 0
    · by_cases h3 : wstat / 256 = 111
      · simp [h1, h3]
      · by_cases h2 : wstat / 256 = 0
        · simp [h1, h2, isKZD]
        · simp [h1, h2, h3]
    · simp [h1]

/-- **No upgrade**: after a normal exit the relayed letter is never better (K > Z > D) than the message
result unless the recipient's own class is `s` (then it is `Z`, never `K`); `h` gives `D`; an output
without any terminated K/Z/D report (unparseable) is never `K`. -/
theorem C09_no_upgrade (wstat : Nat) (s : Bytes) (h1 : wstat % 128 = 0) (h2 : wstat / 256 = 0) (h3 : s ≠ []) :
    noUpgrade s (rreport wstat s) = true := by
  simp only [noUpgrade, headB_rreport_normal wstat s h1 h2 h3]
  generalize firstKZD (records [] s) = m
  generalize headB s = c
  unfold relayOf
  by_cases hS : c = lS
  · cases m <;> simp [hS, rank, cK, cZ, cD, lS, lH]
  by_cases hH : c = lH
  · cases m <;> simp [hH, rank, cK, cZ, cD, lS, lH]
  by_cases hK : m = some cK
  · simp [hS, hH, hK, rank]
  by_cases hZ : m = some cZ
  · simp [hS, hH, hZ, rank, cK, cZ]
  · cases m with
    | none => simp [hS, hH, cK, cD]
    | some x =>
      have hK' : x ≠ cK := fun e => hK (e ▸ rfl)
      have hZ' : x ≠ cZ := fun e => hZ (e ▸ rfl)
      simp [hS, hH, hK, hZ, hK', hZ', rank, cK, cZ, cD]

/-- **The relayed text contains only bytes of qmail-remote's output**: after a normal exit it is empty,
or the text of the first report, or that followed by the text of the next report — read inside the
collected output even when that does not end with a NUL (`report()` goes by the length it has read; copying
a C string there would run past the end: /repo commit 9e1dfcc). -/
theorem C09_relay_within (wstat : Nat) (s : Bytes) (h1 : wstat % 128 = 0) (h2 : wstat / 256 = 0) (h3 : s ≠ []) :
    relayWithin s (rreport wstat s) = true := by
  cases s with
  | nil => exact absurd rfl h3
  | cons c s1 =>
    rw [rreport_normal wstat c s1 h1 h2]
    generalize orrOf (c :: s1) (scan .start (c :: s1)) = orr
    generalize scan .start (c :: s1) = result
    simp only [relayWithin, tailOf, List.drop_succ_cons, List.drop_zero]
    cases hn : afterNul s1 with
    | none => simp
    | some rest =>
      simp only
      by_cases hle : result ≤ orr
      · simp only [hle, if_true]
        cases rest with
        | nil => simp
        | cons c' rest' =>
          by_cases hk : c' = cZ ∨ c' = cD ∨ c' = cK
          · have hne : c' ≠ NUL := by rcases hk with h | h | h <;> rw [h] <;> decide
            simp [hk, cstr_cons_ne c' rest' hne]
          · simp [hk]
      · simp [hle]

/-- the scan loop of `report()` is the declarative "first terminated record starting with K, Z or D" -/
theorem C09_scan_spec (s : Bytes) : scan .start s = resultOf (firstKZD (records [] s)) := scan_start s

/-! ### from the server's replies to the queue manager -/

/-- **Output shape.** Every report qmail-remote prints is NUL-free (NULs in the server's text become
`?`), the per-recipient reports start with `r`/`h`/`s` and the final one with `K`/`Z`/`D` — so the
spawner, splitting at NULs, sees exactly the reports that were printed, in order. -/
theorem C09_output_shape (a : Args) (sc : Script) (hh : NUL ∉ a.host) :
    records [] (render (smtpRun a sc)) = (smtpRun a sc).rcpt ++ [(smtpRun a sc).msg] ∧
    (∀ r ∈ (smtpRun a sc).rcpt, headB r = lR ∨ headB r = lH ∨ headB r = lS) ∧
    isKZD (headB (smtpRun a sc).msg) = true := by
  have hok : ResOK (smtpRun a sc) := (run_exit' a sc.wfail _).ok hh
  exact ⟨records_of_ok _ hok, fun r hr => (hok.1 r hr).2, hok.2.2⟩

/-- **End to end.** If qmail-rspawn relays `K` to qmail-send for the output of a qmail-remote run
(exit status 0), then by the class rules the server accepted the message after the final dot (`K`:
see `C09_K_sound` for everything that implies) and accepted the first — for the spawner, the only —
recipient. Whatever the server did, a refusal, a lost connection or a garbled reply is never
relayed as success. -/
theorem C09_end_to_end (a : Args) (sc : Script) (hh : NUL ∉ a.host)
    (hK : headB (rreport 0 (render (smtpRun a sc))) = cK) :
    (expect (abstr a sc)).v = .K ∧ (expect (abstr a sc)).rl.head? = some lR := by
  obtain ⟨hv, hS, hH⟩ := relayClass_eq_cK _ ((relay_class 0 a sc rfl rfl hh).symm.trans hK)
  refine ⟨hv, ?_⟩
  obtain ⟨_, _, _, _, a5, ⟨c, hc, _⟩, _⟩ := expect_K _ hv
  rw [a5] at hS hH ⊢
  cases hl : ((abstr a sc).codes.drop 3).take (abstr a sc).n with
  | nil => rw [hl] at hc; cases hc
  | cons c0 l =>
    rw [hl] at hS hH
    simp only [List.map_cons, List.head?_cons] at hS hH ⊢
    unfold clsLetter at hS hH ⊢
    by_cases h5 : c0 ≥ 500
    · rw [if_pos h5] at hH; exact absurd rfl hH
    · by_cases h4 : c0 ≥ 400
      · rw [if_neg h5, if_pos h4] at hS; exact absurd rfl hS
      · rw [if_neg h5, if_neg h4]

/-- **A server that goes away is never taken for success.** If the stream contains fewer than `n+5`
complete replies (the server disconnects or stalls anywhere up to and including the reply to the final
dot, even in the middle of a reply), the report is not `K`. -/
theorem C09_loss_never_K (a : Args) (sc : Script) (h : (abstr a sc).codes.length < a.rcpts.length + 5) :
    headB (smtpRun a sc).msg ≠ cK := by
  intro hk
  have ks := C09_K_sound a sc
  have hml : (obsOf (smtpRun a sc)).ml = cK := hk
  unfold kSound at ks
  simp only [hml, bne_self_eq_false, Bool.false_or, Bool.and_eq_true] at ks
  -- of the clauses of `kSound` only this one is needed: the reply to the final dot is there
  have h4 : lt400 (abstr a sc).codes[4 + (abstr a sc).n]? = true := ks.1.1.1.2
  have hn : (abstr a sc).n = a.rcpts.length := rfl
  rw [hn] at h4
  have : (abstr a sc).codes[4 + a.rcpts.length]? = none := by
    apply List.getElem?_eq_none; omega
  rw [this] at h4
  simp [lt400] at h4

/-! ### the class rules, spelled out (`expect` on scripts of a given form)

`s.codes = 220 :: 250 :: m :: (rc ++ rest)` with `rc.length = s.n`: greeting, HELO reply, MAIL reply,
one reply per recipient, then the replies to DATA and to the final dot. `hw`: no write fails, or only
the QUIT (which the rules ignore). -/

/-- greeting other than 220: temporary failure, no recipient reports -/
theorem C09_rule_greeting (s : AScript) (g : Nat) (rest : List Nat) (hc : s.codes = g :: rest) (hg : g ≠ 220) :
    (expect s).rl = [] ∧ (expect s).v = .Z := by
  unfold expect
  simp [hc, hg]

/-- HELO reply other than 250: temporary failure (`Z`, or "connection died" if the HELO write failed) -/
theorem C09_rule_helo (s : AScript) (h : Nat) (rest : List Nat) (hc : s.codes = 220 :: h :: rest) (hh : h ≠ 250) :
    (expect s).rl = [] ∧ (expect s).v = (if s.wfail = some .helo then .lost false else .Z) := by
  unfold expect
  by_cases hw : s.wfail = some .helo <;> simp [hc, hh, hw]

/-- MAIL reply: ≥ 500 permanent, 400..499 temporary -/
theorem C09_rule_mail (s : AScript) (m : Nat) (rest : List Nat) (hc : s.codes = 220 :: 250 :: m :: rest)
    (hw : s.wfail = none ∨ s.wfail = some .quit) (hm : m ≥ 400) :
    (expect s).rl = [] ∧ (expect s).v = (if m ≥ 500 then .D else .Z) := by
  unfold expect
  by_cases h5 : m ≥ 500
  · rcases hw with hw | hw <;> simp [hc, hw, h5]
  · rcases hw with hw | hw <;> simp [hc, hw, h5, hm]

/-- every recipient refused (each RCPT reply ≥ 400): permanent failure, each recipient reported `s` or
`h` by its own reply, and nothing of the rest of the script (no DATA reply) matters -/
theorem C09_rule_all_refused (s : AScript) (m : Nat) (rc rest : List Nat)
    (hc : s.codes = 220 :: 250 :: m :: (rc ++ rest)) (hm : m < 400) (hn : rc.length = s.n)
    (hr : ∀ c ∈ rc, c ≥ 400) (hw : s.wfail = none ∨ s.wfail = some .quit) :
    (expect s).v = .D ∧ (expect s).rl = rc.map clsLetter := by
  have hany : rc.any (fun c => decide (c < 400)) = false := by
    rw [List.any_eq_false]; intro c hcm; have := hr c hcm; simp; omega
  rw [expect_rcpts_nofail s m rc rest hc hm hn hw, hany]
  simp [expData]

/-- DATA reply (some recipient accepted): ≥ 500 permanent, 400..499 temporary -/
theorem C09_rule_data (s : AScript) (m d : Nat) (rc rest : List Nat)
    (hc : s.codes = 220 :: 250 :: m :: (rc ++ d :: rest)) (hm : m < 400) (hn : rc.length = s.n)
    (hr : ∃ c ∈ rc, c < 400) (hw : s.wfail = none ∨ s.wfail = some .quit) (hd : d ≥ 400) :
    (expect s).v = (if d ≥ 500 then .D else .Z) ∧ (expect s).rl = rc.map clsLetter := by
  rw [expect_rcpts_nofail s m rc (d :: rest) hc hm hn hw, any_lt400 rc hr]
  exact ⟨by simp [expData, hd, apply_ite Exp.v], expData_rl ..⟩

/-- reply to the final dot (DATA accepted, message complete): ≥ 500 permanent, 400..499 temporary,
below 400 success -/
theorem C09_rule_final (s : AScript) (m d f : Nat) (rc rest : List Nat)
    (hc : s.codes = 220 :: 250 :: m :: (rc ++ d :: f :: rest)) (hm : m < 400) (hn : rc.length = s.n)
    (hr : ∃ c ∈ rc, c < 400) (hw : s.wfail = none ∨ s.wfail = some .quit)
    (hd : d < 400) (he : s.msgErr = false) (hp : s.msgPartial = false) :
    (expect s).v = (if f ≥ 500 then .D else if f ≥ 400 then .Z else .K) ∧ (expect s).rl = rc.map clsLetter := by
  rw [expect_rcpts_nofail s m rc (d :: f :: rest) hc hm hn hw, any_lt400 rc hr]
  have h5 : ¬ d ≥ 500 := by omega
  have h4 : ¬ d ≥ 400 := by omega
  exact ⟨by simp [expData, h5, h4, he, hp, apply_ite Exp.v], expData_rl ..⟩

/-- the message file (DATA accepted): unreadable → temporary, partial last line → permanent -/
theorem C09_rule_message (s : AScript) (m d : Nat) (rc rest : List Nat)
    (hc : s.codes = 220 :: 250 :: m :: (rc ++ d :: rest)) (hm : m < 400) (hn : rc.length = s.n)
    (hr : ∃ c ∈ rc, c < 400) (hw : s.wfail = none ∨ s.wfail = some .quit) (hd : d < 400) :
    (s.msgErr = true → (expect s).v = .Z) ∧ (s.msgErr = false → s.msgPartial = true → (expect s).v = .D) := by
  rw [expect_rcpts_nofail s m rc (d :: rest) hc hm hn hw, any_lt400 rc hr]
  have h5 : ¬ d ≥ 500 := by omega
  have h4 : ¬ d ≥ 400 := by omega
  constructor
  · intro he; simp [expData, h5, h4, he]
  · intro he hp; simp [expData, h5, h4, he, hp]

/-- the server goes away (no failing write): with no reply to DATA → plain temporary failure; after DATA
was accepted and the message sent, with no (complete) reply to the dot → temporary failure flagged as a
possible duplicate -/
theorem C09_rule_lost (s : AScript) (m d : Nat) (rc : List Nat) (hm : m < 400) (hn : rc.length = s.n)
    (hr : ∃ c ∈ rc, c < 400) (hw : s.wfail = none ∨ s.wfail = some .quit)
    (hd : d < 400) (he : s.msgErr = false) (hp : s.msgPartial = false) :
    (s.codes = 220 :: 250 :: m :: (rc ++ []) → (expect s).v = .lost false) ∧
    (s.codes = 220 :: 250 :: m :: (rc ++ [d]) → (expect s).v = .lost true) := by
  have h5 : ¬ d ≥ 500 := by omega
  have h4 : ¬ d ≥ 400 := by omega
  constructor
  · intro hc
    rw [expect_rcpts_nofail s m rc [] hc hm hn hw, any_lt400 rc hr]
    simp [expData]
  · intro hc
    rw [expect_rcpts_nofail s m rc [d] hc hm hn hw, any_lt400 rc hr]
    simp [expData, h5, h4, he, hp]

/-- the server goes away earlier: a script that stops before the greeting, the HELO reply or the MAIL reply is a
plain temporary failure. (Not stated here: `expRcpt` gives the same before the reply to some RCPT, the recipients
answered so far keeping their classes.) -/
theorem C09_rule_lost_early (s : AScript) (hw : s.wfail = none ∨ s.wfail = some .quit) :
    (s.codes = [] → (expect s).v = .lost false) ∧ (s.codes = [220] → (expect s).v = .lost false) ∧
    (s.codes = [220, 250] → (expect s).v = .lost false) := by
  refine ⟨?_, ?_, ?_⟩ <;> intro hc <;> unfold expect <;> rcases hw with hw | hw <;> simp [hc, hw]

/-- a failing write in the DATA phase (everything accepted so far, message complete): the DATA command and a write
of `blast()` before `flagcritical = 1` (`body`) → plain temporary failure; a write after it (`final`) → flagged;
the QUIT → *no effect*: the verdict is the one the reply to the dot decides -/
theorem C09_rule_wfail (s : AScript) (m d f : Nat) (rc rest : List Nat)
    (hc : s.codes = 220 :: 250 :: m :: (rc ++ d :: f :: rest)) (hm : m < 400) (hn : rc.length = s.n)
    (hr : ∃ c ∈ rc, c < 400) (hd : d < 400) (he : s.msgErr = false) (hp : s.msgPartial = false) :
    (s.wfail = some .data → (expect s).v = .lost false) ∧
    (s.wfail = some .body → (expect s).v = .lost false) ∧
    (s.wfail = some .final → (expect s).v = .lost true) ∧
    (s.wfail = some .quit → (expect s).v = (if f ≥ 500 then .D else if f ≥ 400 then .Z else .K)) := by
  have h5 : ¬ d ≥ 500 := by omega
  have h4 : ¬ d ≥ 400 := by omega
  have key : ∀ w, s.wfail = some w → (w ≠ .helo ∧ w ≠ .mail ∧ ∀ j, w ≠ .rcpt j) →
      expect s = expData s (rc.map clsLetter) true (d :: f :: rest) := by
    intro w hw hcase
    rw [expect_rcpts s m rc (d :: f :: rest) hc hm hn (fun w' e => by rw [hw] at e; cases e; exact hcase),
      any_lt400 rc hr]
  refine ⟨?_, ?_, ?_, ?_⟩ <;> intro hw
  · rw [key _ hw ⟨nofun, nofun, nofun⟩]; simp [expData, hw]
  · rw [key _ hw ⟨nofun, nofun, nofun⟩]; simp [expData, hw, h5, h4]
  · rw [key _ hw ⟨nofun, nofun, nofun⟩]; simp [expData, hw, h5, h4, he, hp]
  · exact (C09_rule_final s m d f rc rest hc hm hn hr (Or.inr hw) hd he hp).1


/-! ### `blast()` over the 1024-byte `smtpto` buffer — the label of a failing write is computed

`Nq.RemoteBuf`: `bblast ws msg err` is `blast()` over the substdio output model with write script `ws` (`0` = this
`write()` call fails, `k+1` = it takes at most `k+1` bytes); `smtpRunB` is `smtp()` with it; `toScript a sb` is the
script of the unbuffered model `smtpRun` in which the label `body`/`final` of a failing `blast()` write is the one
`bblast` computes (`blastLabel`). -/

/-- **Successful writes are a prefix of the encoding.** Whatever the write script (short writes, a
failing `write()` at any index) and whatever the message (complete, partial last line, read error): what the
socket has taken is a prefix of `rfull .top msg` (everything `blast()` hands to `substdio_put`; `= rblast msg`
when the message is complete); so is that followed by the (non-empty) bytes of the failing `write()`; and
`blast()` returns only with the complete encoding `rblast msg` on the wire and an empty buffer. -/
theorem C09_blast_writes_prefix (ws : List Nat) (msg : Bytes) (err : Bool) :
    (bblast ws msg err).ost.out <+: rfull .top msg ∧
    (∀ o crit t, bblast ws msg err = .dropped o crit t → 0 ∈ ws ∧ t ≠ [] ∧ o.out ++ t <+: rfull .top msg) ∧
    (∀ o, bblast ws msg err = .sent o → err = false ∧ rblast msg = some o.out ∧ o.buf = []) :=
  bblast_prefix ws msg err

/-- **On which side of `flagcritical = 1` a failing write falls — computed from bytes.** When a `write()`
of `blast()` fails with `wire` = what the socket took before and `t` = the bytes of that call, `dropped()` runs
with `flagcritical = 1` **iff** the message was read to its end, ends a line, and with this write everything but
at most the 3-byte terminator `.CRLF` has been handed over (`|e| ≤ |wire| + |t| + 3`). Hence: a write that carries
the last byte of the encoding (the only one after which the peer may hold the complete message) is always
flagged; a write that is not flagged leaves more than the terminator unsent. (In `bblast_spec`, not in this
statement: a flagged write ends at the end of the encoding or, the one over-warning case, at the end of the body,
`|wire| + |t| + 3 = |e|` — the flush forced by the put of the terminator itself.) -/
theorem C09_blast_flag (ws : List Nat) (msg : Bytes) (err : Bool) (o : OSt) (crit : Bool) (t : Bytes)
    (h : bblast ws msg err = .dropped o crit t) :
    (crit = true ↔ err = false ∧ ∃ e, rblast msg = some e ∧ e.length ≤ o.out.length + t.length + 3) ∧
    (∀ e, err = false → rblast msg = some e → e.length ≤ o.out.length + t.length → crit = true) ∧
    (crit = false → ∀ e, rblast msg = some e → o.out.length + t.length + 3 < e.length) := by
  have hs := bblast_spec ws msg err
  rw [h] at hs
  cases crit with
  | false =>
    -- wire ++ tried is a strict prefix of the body part: more than the terminator is unsent, whatever `err`
    obtain ⟨_, _, _, rest, h3, h4⟩ := hs
    have hlt : ∀ e, rblast msg = some e → o.out.length + t.length + 3 < e.length := by
      intro e he
      have hlen := congrArg List.length h4
      have hr : 0 < rest.length := List.length_pos_iff.mpr h3
      rw [rrun_rbody _ _ _ he]
      simp only [List.length_append, List.nil_append, List.length_cons, List.length_nil] at hlen ⊢
      omega
    refine ⟨⟨nofun, ?_⟩, ?_, fun _ => hlt⟩
    · rintro ⟨_, e, he, hl⟩
      have := hlt e he
      omega
    · intro e _ he hl
      have := hlt e he
      omega
  | true =>
    obtain ⟨_, _, _, h3, h4, h5⟩ := hs
    refine ⟨⟨fun _ => ⟨h3, _, h4, ?_⟩, fun _ => rfl⟩, fun _ _ _ _ => rfl, nofun⟩
    rcases h5 with h5 | h5
    all_goals
      have hlen := congrArg List.length h5
      simp only [List.length_append, List.nil_append, List.length_cons, List.length_nil] at hlen ⊢
      omega

/-- **The buffered `smtp()` prints what the unbuffered model prints under the computed label**, and
reaches `quit()` in the same runs. So every theorem above about the reports of `smtpRun a sc` holds for
`smtpRunB a sb` with `sc := toScript a sb`, the label computed and not an input. (The wire, exact in `smtpRunB`:
`C09_wire_order_buffered`.) -/
theorem C09_buffered_reports (a : Args) (sb : ScriptB) :
    (smtpRunB a sb).rcpt = (smtpRun a (toScript a sb)).rcpt ∧
    (smtpRunB a sb).msg = (smtpRun a (toScript a sb)).msg ∧
    (smtpRunB a sb).quit = (smtpRun a (toScript a sb)).quit ∧
    renderB (smtpRunB a sb) = render (smtpRun a (toScript a sb)) := by
  have h := smtpRunB_rel a sb
  exact ⟨h.rcpt, h.msg, h.quit, by simp only [renderB, render, h.rcpt, h.msg]⟩

/-- **Verdict classes with the computed label**: `C09_classes` for the buffered run — the class rules are
applied to the abstract script whose failing-write label comes out of the buffer model. -/
theorem C09_classes_buffered (a : Args) (sb : ScriptB) :
    verdictOK (expect (abstr a (toScript a sb))).v (obsOf (toRes (smtpRunB a sb))) = true ∧
    (obsOf (toRes (smtpRunB a sb))).rl = (expect (abstr a (toScript a sb))).rl := by
  have h := smtpRunB_rel a sb
  have := C09_classes a (toScript a sb)
  simpa only [obsOf, toRes, h.rcpt, h.msg] using this

/-- **The exact wire of the whole conversation.** What the server received from the buffered run —
including every successful write of `blast()` — is, apart from a final QUIT, a prefix of HELO, MAIL, the
RCPTs in argument order, DATA and the encoding `rfull .top a.msg`; each recipient report's RCPT is on the wire;
`K` only with everything (and QUIT, unless its write fails) on the wire. -/
theorem C09_wire_order_buffered (a : Args) (sb : ScriptB) :
    wireOrderQ a (rfull .top a.msg) (smtpRunB a sb).wire (obsOf (toRes (smtpRunB a sb)))
      (effWf a sb.wb == some .quit) = true :=
  wireOrderQ_of_WireOK a (effWf a sb.wb) (rfull .top a.msg) (toRes (smtpRunB a sb)) (wireOK_B a sb)

/-- **"Possible duplicate!" is computed, for the whole conversation.** When a write of `blast()` fails
(`tried = some t`; `wire` = what the server has received) the report is `dropped()`'s, and it carries the
duplicate flag **iff** the message is complete (no read error, last line terminated) and `flagWrite` holds of the
bytes — with this write the server would have everything but at most the terminator. In particular `critWrite`
(the write carries the last byte of the conversation's data: the peer may hold the whole message) implies the
flag, and an unflagged loss of a complete message means more than the terminator was still unsent (`critWrite` false). -/
theorem C09_flag_computed (a : Args) (sb : ScriptB) (t : Bytes) (h : (smtpRunB a sb).tried = some t) :
    ∃ crit, (smtpRunB a sb).msg = droppedRep a.host crit ∧
      (crit = true ↔ a.msgErr = false ∧ (rblast a.msg).isSome = true ∧
        flagWrite a (rfull .top a.msg) (smtpRunB a sb).wire t = true) ∧
      (a.msgErr = false → (rblast a.msg).isSome = true →
        critWrite a (rfull .top a.msg) (smtpRunB a sb).wire t = true → crit = true) := by
  obtain ⟨o, crit, hb, hw, hm⟩ := (smtpRunB_rel a sb).tried t h
  obtain ⟨f1, f2, _⟩ := C09_blast_flag _ _ _ _ _ _ hb
  have hiff : crit = true ↔ a.msgErr = false ∧ (rblast a.msg).isSome = true ∧
      flagWrite a (rfull .top a.msg) (smtpRunB a sb).wire t = true := by
    rw [f1]
    constructor
    · rintro ⟨he, e, hr, hl⟩
      refine ⟨he, by rw [hr]; rfl, ?_⟩
      have : rfull .top a.msg = e := rfull_of_some _ _ _ hr
      simp only [flagWrite, hw, this, List.length_append, decide_eq_true_eq]; omega
    · rintro ⟨he, hs, hf⟩
      obtain ⟨e, hr⟩ := Option.isSome_iff_exists.mp hs
      refine ⟨he, e, hr, ?_⟩
      have : rfull .top a.msg = e := rfull_of_some _ _ _ hr
      simp only [flagWrite, hw, this, List.length_append, decide_eq_true_eq] at hf; omega
  refine ⟨crit, hm, hiff, fun he hs hc => hiff.mpr ⟨he, hs, ?_⟩⟩
  simp only [critWrite, flagWrite, Bool.and_eq_true, decide_eq_true_eq] at hc ⊢
  omega

/-- **End to end with the computed label.** If qmail-rspawn relays `K` for the output of the buffered
run, the class rules — over the script whose failing-write label is computed — say `K` and the first recipient
was accepted; in particular no write of `blast()` failed. -/
theorem C09_end_to_end_buffered (a : Args) (sb : ScriptB) (hh : NUL ∉ a.host)
    (hK : headB (rreport 0 (renderB (smtpRunB a sb))) = cK) :
    (expect (abstr a (toScript a sb))).v = .K ∧ (expect (abstr a (toScript a sb))).rl.head? = some lR ∧
    (smtpRunB a sb).tried = none := by
  rw [(C09_buffered_reports a sb).2.2.2] at hK
  obtain ⟨h1, h2⟩ := C09_end_to_end a (toScript a sb) hh hK
  refine ⟨h1, h2, ?_⟩
  cases ht : (smtpRunB a sb).tried with
  | none => rfl
  | some t =>
    exfalso
    obtain ⟨crit, hm, _⟩ := C09_flag_computed a sb t ht
    have hc := (C09_classes_buffered a sb).1
    rw [h1] at hc
    simp only [verdictOK, obsOf, toRes, hm, headB_dropped, beq_iff_eq] at hc
    exact absurd hc (by decide)

/-! ### The relayed line, all three classes

`C09_end_to_end` speaks about a relayed `K` only. The fold `report()` makes of the recipient letter (`r`/`h`/`s`)
and the message verdict (`K`/`Z`/`D`) decides between *retry* and *bounce* as well: qmail-remote, left without an
accepted recipient, prints `s…` followed by `DGiving up on …`, and only `report()`'s `case 's': orr = 0` makes that
pair the temporary failure the property demands for a 4xx reply to RCPT. -/

/-- **The relayed verdict is the documented function of the server's replies.** For every server script the line
qmail-rspawn's `report()` relays for qmail-remote's output starts with `relayClass (expect …)`: first (for the
spawner: only) recipient refused with 4xx → `Z`, refused with 5xx → `D`, otherwise the class of the message verdict
(`K` only if the rules say `K`; greeting/HELO trouble, 4xx to MAIL/DATA/the message and any lost connection → `Z`;
5xx there → `D`). -/
theorem C09_relay_class (a : Args) (sc : Script) (hh : NUL ∉ a.host) :
    relayAsReplied (expect (abstr a sc)) (rreport 0 (render (smtpRun a sc))) = true := by
  simp only [relayAsReplied, beq_iff_eq]
  exact relay_class 0 a sc rfl rfl hh

/-- the same for `smtp()` with `blast()` over the 1024-byte buffer (label of a failing write computed) -/
theorem C09_relay_class_buffered (a : Args) (sb : ScriptB) (hh : NUL ∉ a.host) :
    relayAsReplied (expect (abstr a (toScript a sb))) (rreport 0 (renderB (smtpRunB a sb))) = true := by
  rw [(C09_buffered_reports a sb).2.2.2]
  exact C09_relay_class a (toScript a sb) hh

/-- `relayClass` spelled out for the spawner's case, one recipient (rule table only): greeting 220, HELO 250, MAIL
accepted, reply `p` to the only RCPT — `p` ≥ 500 → `D`, 400..499 → `Z` **whatever follows** (qmail-remote's own
message verdict is `D`, "Giving up", there), below 400 → the class of the message verdict. -/
theorem C09_relay_rule_sole (s : AScript) (m p : Nat) (rest : List Nat)
    (hc : s.codes = 220 :: 250 :: m :: p :: rest) (hm : m < 400) (hn : s.n = 1)
    (hw : s.wfail = none ∨ s.wfail = some .quit) :
    relayClass (expect s) = (if p ≥ 500 then cD else if p ≥ 400 then cZ else vLetter (expect s).v) ∧
    (p ≥ 400 → (expect s).v = .D) := by
  have he := expect_rcpts_nofail s m [p] rest (by simpa using hc) hm (by simp [hn]) hw
  have hrl : (expect s).rl = [clsLetter p] := by rw [he, expData_rl]; rfl
  refine ⟨?_, ?_⟩
  · simp only [relayClass, hrl, List.head?_cons, clsLetter]
    by_cases h5 : p ≥ 500
    · simp [h5, lH, lS]
    · by_cases h4 : p ≥ 400
      · simp [h5, h4]
      · simp [h5, h4, lR, lS, lH]
  · intro h4
    have : ¬ p < 400 := by omega
    rw [he]; simp [expData, this]

/-- `relayClass` unfolded for any outcome `e` without recipient letters (what the rules give for trouble before the
first RCPT reply: `C09_rule_greeting`, `_helo`, `_mail`, `_lost_early`): the relayed class is that of the message verdict -/
theorem C09_relay_rule_early (e : Exp) (h : e.rl = []) : relayClass e = vLetter e.v := by
  simp [relayClass, h]

/-! ### Non-vacuity, and the definitions evaluated on examples -/

/-- two recipients, the first refused (multi-line 550), the second accepted, message accepted -/
def exArgs : Args := { host := lit "192.0.2.25", helo := lit "me", sender := lit "s@a", rcpts := [lit "x@b", lit "y@b"],
                       msg := lit "hi\n", msgErr := false }
def exStream : Bytes := lit "220 a\r\n250 b\r\n250 c\r\n550-no\r\n550 such user\r\n250 d\r\n354 e\r\n250 f\r\n"

/-- the same, cut inside the reply to the final dot -/
def exCut : Bytes := lit "220 a\r\n250 b\r\n250 c\r\n550-no\r\n550 such user\r\n250 d\r\n354 e\r\n250"

example : (abstr exArgs ⟨exStream, none⟩).codes = [220, 250, 250, 550, 250, 354, 250] := by decide +kernel
example : specCodes exStream = some [220, 250, 250, 550, 250, 354, 250] := by decide +kernel
example : (obsOf (smtpRun exArgs ⟨exStream, none⟩)).rl = [lH, lR] ∧ (obsOf (smtpRun exArgs ⟨exStream, none⟩)).ml = cK := by decide +kernel
/- the same conversation cut inside the reply to the final dot: temporary, flagged; its abstract script meets the
   hypothesis of `C09_possible_duplicate` -/
example : (abstr exArgs ⟨exCut, none⟩).codes = [220, 250, 250, 550, 250, 354] := by decide +kernel
example : (expect { codes := [220, 250, 250, 550, 250, 354], n := 2, msgErr := false, msgPartial := false, wfail := none }).v
    = .lost true := by decide +kernel
example : (obsOf (smtpRun exArgs ⟨exCut, none⟩)).ml = cZ ∧ (obsOf (smtpRun exArgs ⟨exCut, none⟩)).dup = true := by decide +kernel
set_option maxRecDepth 20000 in
example : render (smtpRun exArgs ⟨exCut, none⟩) =
    lit "h192.0.2.25 does not like recipient.\nRemote host said: 550-no\n550 such user\n" ++ [0] ++ lit "r" ++ [0] ++
    lit "ZConnected to 192.0.2.25 but connection died. Possible duplicate! (#4.4.2)\n" ++ [0] := by decide +kernel
/- the QUIT write fails after the message was accepted: rules and report say `K` (`C09_quit_corner`); likewise a 550
   to MAIL is `D` -/
example : (expect (abstr exArgs ⟨exStream, some .quit⟩)).v = .K := by decide +kernel
set_option maxRecDepth 20000 in
example : (smtpRun exArgs ⟨exStream, some .quit⟩).msg = lit "K192.0.2.25 accepted message.\nRemote host said: 250 f\n" := by decide +kernel
example : (expect (abstr exArgs ⟨lit "220 a\r\n250 b\r\n550 no\r\n", some .quit⟩)).v = .D := by decide +kernel
set_option maxRecDepth 20000 in
example : (smtpRun exArgs ⟨lit "220 a\r\n250 b\r\n550 no\r\n", some .quit⟩).msg =
    lit "DConnected to 192.0.2.25 but sender was rejected.\nRemote host said: 550 no\n" := by decide +kernel
/- the message state `C09_classes_wellformed` computes with `partialMsg`, and a script of the form the `C09_rule_*`
   theorems assume, its QUIT write failing -/
example : partialMsg exArgs.msg (rblast exArgs.msg).isNone = false := by decide +kernel
example : (expect { codes := 220 :: 250 :: 250 :: ([550, 250] ++ [354, 250]), n := 2, msgErr := false, msgPartial := false,
                    wfail := some .quit }).v = .K := by decide +kernel
/-- `critWrite`: all commands received, the whole encoded message in one write: that write is critical;
a write of its first 6 bytes (without the last byte of the terminator) is not -/
example : critWrite exArgs (lit "hi\r\n.\r\n") (fullCmds exArgs) (lit "hi\r\n.\r\n") = true ∧
          critWrite exArgs (lit "hi\r\n.\r\n") (fullCmds exArgs) (lit "hi\r\n.\r") = false := by decide +kernel
example : hasAddr (lit "10.0.0.1") none (lit "ZConnected to 110.0.0.1 but") = false ∧
          hasAddr (lit "10.0.0.1") none (lit "DGiving up on 10.0.0.1.\n") = true ∧
          hasAddr (lit "10.0.0.1") none (lit "h10.0.0.15 does") = false := by decide +kernel
/-- a reply that does not start with digits still gets a number: "1?0" counts as 250 -/
example : codeNat (lit "1?0 x\n") = 250 := by decide +kernel
/-- ... and a negative value wraps to a huge one (permanent failure) -/
example : codeNat (lit "abc\n") ≥ 500 ∧ codeNat (lit "   \n") ≥ 500 := by decide +kernel

example : rreport 0 (lit "r" ++ [0] ++ lit "Kaccepted\n" ++ [0]) = lit "Kaccepted\n" := by decide +kernel
example : rreport 0 (lit "sdeferred\n" ++ [0] ++ lit "Kaccepted\n" ++ [0]) = lit "Zdeferred\n" := by decide +kernel
example : rreport 0 (lit "hrefused\n" ++ [0] ++ lit "DGiving up\n" ++ [0]) = lit "Drefused\nGiving up\n" := by decide +kernel
/-- unterminated second report: its text is copied up to the end of the output, not beyond -/
example : rreport 0 (lit "r" ++ [0] ++ lit "Kab") = lit "Dab" := by decide +kernel
example : rreport 11 (lit "r" ++ [0] ++ lit "Kok" ++ [0]) = lit "Zqmail-remote crashed.\n" := by decide +kernel

/-- connect trouble: the best MX is this host itself, the only better one times out → Z -/
example : connectPhase 0 (lit "h") [⟨lit "10.0.0.1", 0, false, false, 2⟩, ⟨lit "10.0.0.2", 10, true, false, 0⟩]
    = .report tempNoconnRep := by decide +kernel
example : connectPhase 0 (lit "h") [⟨lit "10.0.0.1", 0, false, true, 0⟩, ⟨lit "10.0.0.2", 0, false, false, 0⟩, ⟨lit "10.0.0.3", 5, true, false, 0⟩]
    = .connected 1 (lit "10.0.0.2") := by decide +kernel

/-! non-vacuity for the theorems about `bblast` and `smtpRunB` -/

/-- (wire, flag, bytes of the failing write) of a dropped `blast()` -/
def dropView : BRes → Option (Bytes × Bool × Nat)
  | .dropped o c t => some (o.out, c, t.length)
  | _ => none

/-- short message, the only write of `blast()` fails: it carries the whole encoding → flagged -/
example : dropView (bblast (failAt 0) (lit "hi\n") false) = some ([], true, 7) := by decide +kernel
/-- short write of 3 bytes, then the failure: the wire has "hi\r", the failing call has the other 4 bytes → flagged -/
example : dropView (bblast [3, 0] (lit "hi\n") false) = some (lit "hi\r", true, 4) := by decide +kernel
/-- a read error after the bytes: nothing is written, `temp_read()` -/
example : (bblast [0] (lit "hi\n") true) = .tempRead ((bblast [0] (lit "hi\n") true).ost) ∧
    (bblast [0] (lit "hi\n") true).ost.out = [] := by decide +kernel
/- 1100 body bytes: the first write is a buffer-full flush long before the end → not flagged (`body`);
    the second one is the final flush → flagged -/
set_option maxRecDepth 100000 in
example : blastLabel (bblast (failAt 0) (List.replicate 1100 97 ++ [10]) false) = some .body ∧
    blastLabel (bblast (failAt 1) (List.replicate 1100 97 ++ [10]) false) = some .final ∧
    blastLabel (bblast (failAt 2) (List.replicate 1100 97 ++ [10]) false) = none := by decide +kernel
/- the boundary: 1022 bytes and a newline fill the buffer exactly; the put of the terminator forces a flush of
    1024 body bytes with `flagcritical` already 1 — flagged although the write carries no byte of the terminator
    (the over-warning case of `C09_blast_flag`: |wire| + |t| + 3 = |e| = 1027) -/
set_option maxRecDepth 100000 in
example : (dropView (bblast (failAt 0) (List.replicate 1022 97 ++ [10]) false)).map (fun v => (v.2.1, v.2.2)) = some (true, 1024) ∧
    (dropView (bblast (failAt 1) (List.replicate 1022 97 ++ [10]) false)).map (fun v => (v.1.length, v.2.1, v.2.2)) = some (1024, true, 3) := by
  decide +kernel
def exArgs1 : Args := { exArgs with rcpts := [lit "x@b"] }
def exOk1 : Bytes := lit "220 a\r\n250 b\r\n250 c\r\n250 d\r\n354 e\r\n250 f\r\n"
/- the whole conversation: DATA accepted, the write of the message fails → computed label `final`, flagged report,
    the wire is exactly the commands, `tried` is the encoding -/
set_option maxRecDepth 20000 in
example : (toScript exArgs1 ⟨exOk1, .blast (failAt 0)⟩).wfail = some .final ∧
    (smtpRunB exArgs1 ⟨exOk1, .blast (failAt 0)⟩).tried = some (lit "hi\r\n.\r\n") ∧
    (smtpRunB exArgs1 ⟨exOk1, .blast (failAt 0)⟩).wire = fullCmds exArgs1 ∧
    (smtpRunB exArgs1 ⟨exOk1, .blast (failAt 0)⟩).msg = droppedRep exArgs1.host true := by decide +kernel
/- no failing write: K, the wire ends with the encoding and QUIT (hypothesis of `C09_end_to_end_buffered`) -/
set_option maxRecDepth 20000 in
example : headB (rreport 0 (renderB (smtpRunB exArgs1 ⟨exOk1, .blast [2, 2]⟩))) = cK ∧
    (smtpRunB exArgs1 ⟨exOk1, .blast [2, 2]⟩).wire = fullCmds exArgs1 ++ lit "hi\r\n.\r\n" ++ quitCmd := by decide +kernel

/- the spawner's case of `C09_relay_class`: one recipient, `450` to RCPT. qmail-remote prints `s…` and `DGiving up on …`;
   the rules say recipient `s`, message `D`; the relayed line is `Z`. With `550` it is `D` -/
set_option maxRecDepth 20000 in
example : (smtpRun exArgs1 ⟨lit "220 a\r\n250 b\r\n250 c\r\n450 greylisted\r\n", none⟩).rcpt.map headB = [lS] ∧
    headB (smtpRun exArgs1 ⟨lit "220 a\r\n250 b\r\n250 c\r\n450 greylisted\r\n", none⟩).msg = cD ∧
    headB (rreport 0 (render (smtpRun exArgs1 ⟨lit "220 a\r\n250 b\r\n250 c\r\n450 greylisted\r\n", none⟩))) = cZ ∧
    relayClass (expect (abstr exArgs1 ⟨lit "220 a\r\n250 b\r\n250 c\r\n450 greylisted\r\n", none⟩)) = cZ := by decide +kernel
set_option maxRecDepth 20000 in
example : headB (rreport 0 (render (smtpRun exArgs1 ⟨lit "220 a\r\n250 b\r\n250 c\r\n550 no\r\n", none⟩))) = cD := by decide +kernel

end Nq.Props.C09
