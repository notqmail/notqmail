/-
  C10 — Recipients are routed and rewritten exactly by the control files.

  Model: `Nq.Rewrite` (constmap hash table, control-file readers, `rewrite()`, `senderadd()`, the
  `todo_do` record loop, the HUP/reread acceptor), tied to control.c, constmap.c and qmail-send.c by
  the differential harness `harness/c10_route.c` (which also runs the real `main()` with real
  SIGHUPs). Specification: `Nq.Route` — the rules of qmail-send(8), addresses(5), qmail-control(5).
  Control files that cannot be read (any call of control.c failing, at start-up and at a re-read): model
  `Nq.RewriteIO`, what the documents say of it `Nq.Spec.RouteIO`; also in `Nq.RewriteIO` `byte_rchr` as the C loop
  (`rchrC`); the layout of `comm_write` is `commWrite` of `Nq.Rewrite`.
-/
import Nq.Lemmas.RewriteSpec
import Nq.Lemmas.RewriteVerp
import Nq.Lemmas.RewriteCase
import Nq.Lemmas.RewriteTodo
import Nq.Lemmas.RewriteCtl
import Nq.Lemmas.RewriteDaemon
import Nq.Lemmas.RewriteIO

namespace Nq.Props.C10
open Nq Nq.Rewrite Nq.Route
open Nq.Lemmas.RewriteMap Nq.Lemmas.RewriteSpec Nq.Lemmas.RewriteVerp Nq.Lemmas.RewriteCase Nq.Lemmas.RewriteTodo
open Nq.Lemmas.RewriteCtl Nq.Lemmas.RewriteDaemon Nq.Lemmas.RewriteIO

/-! ### the routing rule -/

/-- **`rewrite()` is the documented rule set**, for every configuration in the stated domain (no
key listed twice in virtualdomains; repeated keys in locals/percenthack are harmless) and every
recipient byte string: default host, percent hack repeated while the domain is listed, `locals`
wins, then the most specific virtualdomains entry (full address, domain, dot-suffix wildcards
longest first, catch-all), empty prepend ⇒ not virtual ⇒ remote. -/
theorem C10_spec (c : Cfg) (r : Bytes) (h : noDupKeys c.vdoms = true) : rewrite c r = routeSpec c r :=
  rewrite_eq_routeSpec c r h

/-- Complement of `C10_spec` (outside the stated domain): with repeated keys the code follows the
same rules with the **later** entry of a repeated key winning. -/
theorem C10_spec_dupkeys (c : Cfg) (r : Bytes) : rewrite c r = routeSpecG (mapLookup c.vdoms) c r :=
  rewrite_eq_G c r

/-- **constmap is a finite map**: the bucket/chain hash table built by `constmap_init` (djb hash
of the case-folded key, `first[]/next[]` chains, stored-hash + length + `case_diffb` test) returns
exactly the entry whose key equals the looked-up key ignoring ASCII case — for every buffer, both
`flagcolon` modes, every key (with repeated keys: the later entry). -/
theorem C10_constmap (s : Bytes) (flagcolon : Bool) (k : Bytes) :
    (cmInit s flagcolon).lookup k = mapLookup (parseEntries s flagcolon) k :=
  lookup_cmInit s flagcolon k

/-- membership — all that the `locals` and `percenthack` lookups use — needs no hypothesis at all:
`constmap()` finds a key iff it is listed (ignoring ASCII case), repeated keys or not -/
theorem C10_constmap_listed (s : Bytes) (flagcolon : Bool) (k : Bytes) :
    ((cmInit s flagcolon).lookup k).isSome = listed (parseEntries s flagcolon) k := by
  rw [C10_constmap, isSome_mapLookup]

/-- …so `rewrite()` over the three hash tables is `rewrite()` over the parsed control files. -/
theorem C10_constmap_rewrite (raw : RawCfg) (r : Bytes) : rewriteHT raw r = rewrite raw.cfg r := by
  unfold rewriteHT rewrite
  rw [ht_eq]; rfl

/-- without repeated keys the finite map is "the entry for that key" -/
theorem C10_constmap_nodup (s : Bytes) (flagcolon : Bool) (k : Bytes)
    (h : noDupKeys (parseEntries s flagcolon) = true) :
    (cmInit s flagcolon).lookup k = entryFor (parseEntries s flagcolon) k := by
  rw [C10_constmap, mapLookup_eq_entryFor _ _ h]

/-- **all matching ignores case**: changing the ASCII case of the recipient, of `envnoathost` and of
any keys in locals / percenthack / virtualdomains changes neither the channel nor the prepended tag,
and the rewritten address only in the case of its letters. -/
theorem C10_case (c c' : Cfg) (r r' : Bytes)
    (he : lower c.env = lower c'.env) (hp : lowerKeys c.ph = lowerKeys c'.ph)
    (hl : lowerKeys c.locals = lowerKeys c'.locals) (hv : lowerKeys c.vdoms = lowerKeys c'.vdoms)
    (hr : lower r = lower r') :
    (rewrite c r).chan = (rewrite c' r').chan ∧ (rewrite c r).tag = (rewrite c' r').tag ∧
      lower (rewrite c r).addr = lower (rewrite c' r').addr := by
  unfold rewrite
  rw [← lookups_keys_ci hp hl hv]
  exact rewriteWith_ci (cfg_ci c) c.env c'.env r r' he hr

/-! ### the two readings of "the percent hack may be applied repeatedly" -/

/-- no `@` after a `%` in the local part -/
def pctSafe (l : Bytes) : Prop := ∀ u f, l = u ++ PCT :: f → AT ∉ f

/-- When no extracted `fqdn` can contain an `@`, re-reading the whole address string after every
percent-hack step (domain = what follows the final `@`) gives the same address as the pair reading
used by `routeSpec` and by the code. -/
theorem C10_pct_string (ph : List Ent) (n : Nat) (l d : Bytes) (hd : AT ∉ d) (hl : pctSafe l) :
    pctString ph n (l ++ AT :: d) = pctFix ph n l d := by
  induction n generalizing l d with
  | zero => rfl
  | succ n ih =>
    simp only [pctString, pctFix]
    rw [splitLast_append AT l d hd]
    simp only
    split
    · cases hsp : splitLast PCT l with
      | none => rfl
      | some q =>
        obtain ⟨u, f⟩ := q
        have hq := (splitLast_some hsp).1
        simp only
        apply ih u f (hl u f hq)
        intro u' f' hu
        have : l = u' ++ PCT :: (f' ++ PCT :: f) := by rw [hq, hu]; simp
        have := hl u' _ this
        intro hm; exact this (by simp [hm])
    · rfl

/-- Complement: with an `@` inside an extracted fqdn the readings differ — "x%y%b@c@d" with `c`
and `d` in percenthack is left at "x%y@b@c" by the pair reading (and the code: next domain "b@c"),
while the string reading goes on to "x@y@b". -/
example :
    pctFix [⟨[99], []⟩, ⟨[100], []⟩] 9 [120, 37, 121, 37, 98, 64, 99] [100] = [120, 37, 121, 64, 98, 64, 99] ∧
    pctString [⟨[99], []⟩, ⟨[100], []⟩] 9 [120, 37, 121, 37, 98, 64, 99, 64, 100] = [120, 64, 121, 64, 98] := by
  decide +kernel

/-! ### order, no loss, no duplication, no merging -/

/-- **`todo_do` partitions the recipient list**: for a `todo` file of header records (`u`,`p`,`F`)
followed by `T` records (NUL-free addresses) and an optional unterminated tail, preprocessing
succeeds, `info` gets the `F` records, and `local`/`remote` get, in input order, exactly the
records `rewrite()` routes to them. -/
theorem C10_partition (c : Cfg) (hdr rs : List Bytes) (tail : Bytes)
    (hh : ∀ r ∈ hdr, isHdr r = true ∧ NUL ∉ r) (hr : ∀ r ∈ rs, NUL ∉ r) (ht : NUL ∉ tail) :
    todoDo c.lookups c.env (encode (hdr ++ rs.map (fun r => TEE :: r)) ++ tail) =
      some ⟨infoOf hdr, chanFile .loc (routeAll c rs), chanFile .rem (routeAll c rs)⟩ := by
  have hrec : ∀ r ∈ hdr ++ rs.map (fun r => TEE :: r), NUL ∉ r := by
    intro r hm
    rcases List.mem_append.1 hm with hm | hm
    · exact (hh r hm).2
    · obtain ⟨x, hx, rfl⟩ := List.mem_map.1 hm
      have := hr x hx
      simp only [List.mem_cons, not_or]
      exact ⟨by decide, this⟩
  obtain ⟨h1, h2, h3⟩ := hdrT_shape hdr rs (fun r h => (hh r h).1)
  unfold todoDo
  rw [chunks_encode _ _ hrec ht, todoFold_all, foldSpec, if_pos h1, h2, h3]
  rfl

/-- **`todo_do` on every byte string**: for every configuration without a repeated virtualdomains
key and *every* `todo` file (records in any order, any bytes), the record loop produces exactly the
documented result `specTodo`: it fails (`goto fail`, the message stays in `todo/`) iff some
NUL-terminated record is empty or has a type other than `T u p F`; otherwise `info` gets the `F`
records and `local`/`remote` get, in input order, the `rwline` of exactly the recipients the
documented rules `routeSpec` send there. Generalises `C10_partition` (no shape hypothesis) and is the
predicate the real-daemon oracle evaluates. -/
theorem C10_todo (c : Cfg) (todo : Bytes) (h : noDupKeys c.vdoms = true) :
    todoDo c.lookups c.env todo = specTodo c todo :=
  todoDo_eq_specTodo c todo h

/-- the channel files the oracle expects (`specChan`, built from `routeSpec`) are the right-hand side
of `C10_partition` -/
theorem C10_specChan (c : Cfg) (h : noDupKeys c.vdoms = true) (ch : Chan) (rs : List Bytes) :
    specChan c ch rs = chanFile ch (routeAll c rs) :=
  specChan_eq c h ch rs

/-- the two channel lists are an order-preserving split of the routed list: their interleaving is
the input order. (The first two conjuncts — same length, i-th element is `rewrite` of the i-th
recipient — merely unfold `routeAll := rs.map (rewrite c)`; that the *code* drops and duplicates
nothing is `C10_partition`/`C10_todo`, where `routeAll` is the right-hand side.) -/
theorem C10_interleave (c : Cfg) (rs : List Bytes) :
    (routeAll c rs).length = rs.length ∧
    (∀ i (h : i < rs.length), (routeAll c rs)[i]? = some (rewrite c rs[i])) ∧
    Interleave (chanRecs .loc (routeAll c rs)) (chanRecs .rem (routeAll c rs)) (routeAll c rs) := by
  refine ⟨by simp [routeAll], ?_, ?_⟩
  · intro i h; simp [routeAll, h]
  · have := interleave_filter (fun r : Routed => r.chan == Chan.loc) (routeAll c rs)
    unfold chanRecs
    simpa only [chan_not_loc] using this

/-- **`rewrite()` introduces no NUL**: for a NUL-free recipient, NUL-free `envnoathost` and NUL-free
virtualdomains prepends, the tag and the rewritten address are NUL-free. -/
theorem C10_rewrite_nulfree (c : Cfg) (r : Bytes) (hr : NUL ∉ r) (he : NUL ∉ c.env)
    (hv : ∀ e ∈ c.vdoms, NUL ∉ e.val) : NUL ∉ (rewrite c r).tag ∧ NUL ∉ (rewrite c r).addr :=
  rewrite_nulfree c r hr he hv

/-- …and the configuration `getcontrols()` builds meets these hypotheses: the prepends
`constmap_init` extracts are NUL-free for **every** buffer, `envnoathost` is NUL-free when
`control/envnoathost` and `control/me` are; neither is changed by a HUP reread
(`reget` replaces `vdoms` by another parsed buffer and keeps `env`). -/
theorem C10_cfg_nulfree (f : Files) (raw : RawCfg) (hme : ∀ s, f.me = some s → NUL ∉ s)
    (henv : ∀ s, f.env = some s → NUL ∉ s) (hg : getcontrols f = some raw) (me : Option Bytes) (f' : Files) :
    NUL ∉ raw.cfg.env ∧ (∀ e ∈ raw.cfg.vdoms, NUL ∉ e.val) ∧
    NUL ∉ (reget me raw f').cfg.env ∧ (∀ e ∈ (reget me raw f').cfg.vdoms, NUL ∉ e.val) := by
  have he := getcontrols_env_nulfree f raw hme henv hg
  refine ⟨he, parseEntries_val_nulfree _ _, ?_, parseEntries_val_nulfree _ _⟩
  show NUL ∉ (reget me raw f').env
  rw [reget_env]; exact he

/-- records are never merged or split, generic form: a channel file parses back (at its NULs) into
exactly one record per routed recipient, provided tags and addresses are NUL-free -/
theorem C10_records_gen (ch : Chan) (routed : List Routed)
    (h : ∀ r ∈ routed, NUL ∉ r.tag ∧ NUL ∉ r.addr) :
    chunks (chanFile ch routed) =
      (chanRecs ch routed).map (fun r => TEE :: (if r.tag = [] then r.addr else r.tag ++ DASH :: r.addr)) := by
  have hfile : chanFile ch routed =
      encode ((chanRecs ch routed).map (fun r => TEE :: (if r.tag = [] then r.addr else r.tag ++ DASH :: r.addr))) ++ [] := by
    unfold chanFile encode
    rw [List.append_nil, List.flatMap_map]
    congr 1
  rw [hfile, chunks_encode _ _ _ (by simp)]
  intro x hx
  obtain ⟨r, hr, rfl⟩ := List.mem_map.1 hx
  have hr' : r ∈ routed := (List.mem_filter.1 hr).1
  obtain ⟨h1, h2⟩ := h r hr'
  simp only [List.mem_cons, not_or]
  refine ⟨by decide, ?_⟩
  split
  · exact h2
  · simp only [List.mem_append, List.mem_cons, not_or]
    exact ⟨h1, by decide, h2⟩

/-- **records are never merged or split**: the channel file `todo_do` writes for a list of NUL-free
recipients parses back (at its NULs) into exactly one record per recipient routed to that channel, in
order — under NUL-free `envnoathost` and prepends (which `C10_cfg_nulfree` gives for NUL-free
`me`/`envnoathost` files). The NUL-freeness hypotheses are on the inputs; that of the *routed* records
follows (`C10_rewrite_nulfree`). -/
theorem C10_records (c : Cfg) (ch : Chan) (rs : List Bytes) (hr : ∀ r ∈ rs, NUL ∉ r) (he : NUL ∉ c.env)
    (hv : ∀ e ∈ c.vdoms, NUL ∉ e.val) :
    chunks (chanFile ch (routeAll c rs)) =
      (chanRecs ch (routeAll c rs)).map (fun r => TEE :: (if r.tag = [] then r.addr else r.tag ++ DASH :: r.addr)) := by
  apply C10_records_gen
  intro x hx
  obtain ⟨r, hrm, rfl⟩ := List.mem_map.1 hx
  exact rewrite_nulfree c r (hr r hrm) he hv

/-! ### VERP -/

/-- `senderadd` is the documented VERP rule, for all byte strings -/
theorem C10_verp (sender recip : Bytes) : senderadd sender recip = verpSpec sender recip := by
  unfold senderadd verpSpec
  by_cases hsuf : sender.length ≥ 4 ∧ sender.drop (sender.length - 4) = VERPSUFFIX
  · simp only [hsuf, and_self, if_true]
    have hbl : (sender.take (sender.length - 4)).length = sender.length - 4 := List.length_take_of_le (Nat.sub_le _ _)
    rw [splitLast_eq_rchr AT (sender.take (sender.length - 4)), splitLast_eq_rchr AT recip, hbl]
    -- only the two positions matter from here on
    generalize rchr AT (sender.take (sender.length - 4)) = j
    generalize rchr AT recip = k
    by_cases hk : k < recip.length
    · by_cases hj : j < sender.length - 4
      · rw [if_pos hj, if_pos hk, if_pos ⟨hk, Nat.succ_le_of_lt (Nat.add_lt_of_lt_sub hj)⟩]
        simp only
        rw [List.take_take, Nat.min_eq_left (Nat.le_of_lt hj), List.drop_take,
          show sender.length - 4 - (j + 1) = sender.length - 5 - j by omega]
      · rw [if_neg hj, if_neg (fun h => hj (Nat.lt_sub_of_add_lt (Nat.lt_of_succ_le h.2)))]
    · rw [if_neg hk, if_neg (fun h => hk h.1)]
      split
      · rename_i h; cases h
      · rfl
  · simp only [hsuf, if_false]

/-- `pre@host-@[]` for a delivery to `box@dom` becomes `prebox=dom@host` -/
theorem C10_verp_expand (pre host box dom : Bytes) (hh : AT ∉ host) (hd : AT ∉ dom) :
    senderadd (pre ++ AT :: host ++ VERPSUFFIX) (box ++ AT :: dom) = pre ++ box ++ EQS :: dom ++ AT :: host := by
  rw [C10_verp, verpSpec_expand pre host box dom hh hd]

/-- every other sender is passed through unchanged: no `-@[]` suffix, or no `@` before it -/
theorem C10_verp_identity (sender recip : Bytes) :
    (¬ (sender.length ≥ 4 ∧ sender.drop (sender.length - 4) = VERPSUFFIX) → senderadd sender recip = sender) ∧
    (∀ b, sender = b ++ VERPSUFFIX → AT ∉ b → senderadd sender recip = sender) ∧
    (AT ∉ recip → senderadd sender recip = sender) := by
  refine ⟨fun h => ?_, fun b hb hn => ?_, fun h => ?_⟩
  · rw [C10_verp, verpSpec_plain _ _ h]
  · rw [C10_verp, hb, verpSpec_nohost _ _ hn]
  · rw [C10_verp, verpSpec_noat _ _ h]

/-! ### HUP

`accept`/`acceptAll` (Nq/Rewrite.lean) is a monitor of an observed trace of the daemon: control files
edited / SIGHUP delivered (`sighup()` sets the flag) / the main loop passes its top (`if
(flagreadasap) { flagreadasap = 0; reread(); }`) / `todo_do` preprocesses a message with given
outputs. The guard of `msg` ("the outputs are `todoDo` under the configuration in force") is tied to
the code by replaying the real daemon's traces through `acceptAll` (driver, DISAGREE channel). What
follows are consequences *over all traces the monitor accepts*; the documented predicate `specTrace` of
`C10_trace` is what the driver's S-oracle evaluates on the real daemon. -/

/-- **a HUP is served when the loop next passes its top** (at once when the signal interrupts
`select()`): the reread installs `locals`/`virtualdomains` as they are on disk at that moment and
clears the flag; `percenthack` and `envnoathost` stay as read at start-up (as documented). -/
theorem C10_hup (d d1 d2 : Daemon) (h1 : accept d .hup = some d1) (h2 : accept d1 .top = some d2) :
    d2.cfg = reget d.me d.cfg d.files ∧ d2.flagread = false ∧ d2.files = d.files ∧ d2.me = d.me ∧
    d2.cfg.ph = d.cfg.ph ∧ d2.cfg.env = d.cfg.env := by
  simp only [accept, Option.some.injEq] at h1
  subst h1
  simp only [accept, Daemon.top, if_true, Option.some.injEq] at h2
  subst h2
  exact ⟨rfl, rfl, rfl, rfl, reget_ph _ _ _, reget_env _ _ _⟩

/-- **…and every later message** — after any number of further loop rounds and **whatever is done to
the control files afterwards** — is preprocessed under exactly that reread configuration, until the
next SIGHUP: for every SIGHUP-free continuation `es` of the trace, all its `msg` events carry the
outputs of `todo_do` under `reget` of the files that were on disk when the HUP was served, and the
configuration at the end is still that one. (The reread happens at the loop top, as in the daemon:
a model that reread lazily at the next message would see the files as edited in between.) -/
theorem C10_hup_later (d d1 d2 dn : Daemon) (es : List Ev)
    (h1 : accept d .hup = some d1) (h2 : accept d1 .top = some d2)
    (hno : es.all (fun e => !isHup e) = true) (h3 : acceptAll d2 es = some dn) :
    dn.cfg = reget d.me d.cfg d.files ∧
    ∀ todo out, Ev.msg todo out ∈ es →
      out = todoDo (reget d.me d.cfg d.files).htLookups (reget d.me d.cfg d.files).env todo := by
  obtain ⟨hc, hf, _⟩ := C10_hup d d1 d2 h1 h2
  obtain ⟨a, b⟩ := acceptAll_stable es d2 dn hf hno h3
  rw [hc] at a b
  exact ⟨a, b⟩

/-- Complement (the select race of this loop, code behaviour): a SIGHUP that is delivered after the
flag test — so that no loop top lies between it and the next `todo_do` — does **not** affect that
message: it is preprocessed under the old configuration and the reread stays pending until the loop
passes its top again. (The correspondence runs deliver SIGHUP only while the daemon is blocked in
`select()`, where `EINTR` leads straight to the loop top.) -/
theorem C10_hup_race (d d1 d2 : Daemon) (todo : Bytes) (out : Option TodoOut)
    (h1 : accept d .hup = some d1) (h2 : accept d1 (.msg todo out) = some d2) :
    out = todoDo d.cfg.htLookups d.cfg.env todo ∧ d2.cfg = d.cfg ∧ d2.flagread = true := by
  simp only [accept, Option.some.injEq] at h1
  subst h1
  obtain ⟨hq, rfl⟩ := accept_msg _ d2 todo out h2
  exact ⟨hq.symm, rfl, rfl⟩

/-- **a SIGHUP that arrives while the re-read for an earlier one is under way is not lost**: the loop
top clears the flag *before* it calls `reread()`, so the second signal sets it again and the loop re-reads
once more when it next passes its top. Trace: `hup`, `top` (re-read (A), whatever version of the files it
saw: `d.files`), the files are edited to `f2`, `hup` (B, any time after the flag was cleared), `top`. The
configuration is then `reget` of `f2` on top of what (A) installed, no re-read is pending, and along every
SIGHUP-free continuation every message is preprocessed under it. (With `reread(); flagreadasap = 0;` the
second `hup` would be wiped and `f2` ignored: the real daemon is run through exactly this trace, the second
signal delivered before each call inside `reread()` in turn - harness `I` steps.) -/
theorem C10_hup_overlap (d d5 dn : Daemon) (f2 : Files) (es : List Ev)
    (h : acceptAll d [.hup, .top, .edit f2, .hup, .top] = some d5)
    (hno : es.all (fun e => !isHup e) = true) (h3 : acceptAll d5 es = some dn) :
    d5.flagread = false ∧ d5.cfg = reget d.me (reget d.me d.cfg d.files) f2 ∧ dn.cfg = d5.cfg ∧
    ∀ todo out, Ev.msg todo out ∈ es →
      out = todoDo (reget d.me (reget d.me d.cfg d.files) f2).htLookups
                   (reget d.me (reget d.me d.cfg d.files) f2).env todo := by
  simp only [acceptAll, accept, Daemon.top, if_true, Option.some.injEq] at h
  subst h
  obtain ⟨a, b⟩ := acceptAll_stable es _ dn rfl hno h3
  exact ⟨rfl, rfl, a, b⟩

/-- what the reread installs: the freshly parsed `locals` (default `me`) and `virtualdomains`
(absent file = empty); an unreadable `locals` with no `me` keeps everything as it was -/
theorem C10_hup_reget (me : Option Bytes) (old : RawCfg) (f : Files) :
    (∀ l, readfile f.locals me true = some l →
      (reget me old f).locals = l ∧ (reget me old f).vdoms = (readfile f.vdoms me false).getD []) ∧
    (readfile f.locals me true = none → reget me old f = old) := by
  constructor
  · intro l hl; simp [reget, hl]
  · intro hl; simp [reget, hl]

/-- Complement: **without a SIGHUP nothing changes** — with no reread pending, along any SIGHUP-free
trace (any edits of the control files, any number of loop rounds and messages) the configuration
stays what it was and every message is preprocessed under it. -/
theorem C10_nohup (d dn : Daemon) (es : List Ev) (hf : d.flagread = false)
    (hno : es.all (fun e => !isHup e) = true) (h : acceptAll d es = some dn) :
    dn.cfg = d.cfg ∧ ∀ todo out, Ev.msg todo out ∈ es → out = todoDo d.cfg.htLookups d.cfg.env todo := by
  obtain ⟨a, b⟩ := acceptAll_stable es d dn hf hno h
  exact ⟨a, b⟩

/-- `me`, `envnoathost` and `percenthack` are never reread: along **any** trace (SIGHUPs included)
they stay as read at start-up -/
theorem C10_fixed (d dn : Daemon) (es : List Ev) (h : acceptAll d es = some dn) :
    dn.me = d.me ∧ dn.cfg.env = d.cfg.env ∧ dn.cfg.ph = d.cfg.ph :=
  acceptFAll_fixed (es.map .ev) d dn ((acceptFAll_ev es d).trans h)

/-! ### the control files -/

/-- **parsed control files**: for a control directory without NUL bytes, `getcontrols()` (control.c
`control_readline/rldef/readfile`, then the entry splitting of `constmap_init`) yields exactly the
documented configuration — one entry per line, trailing blanks stripped, `#` comments and empty
lines ignored, `key:prepend` split at the first colon, lines without colon in virtualdomains
ignored, `me` as default for locals and envnoathost — and refuses to start exactly when neither
`locals` nor `me` exists. -/
theorem C10_controls (f : Files) (h : nulFreeFiles f) : (getcontrols f).map RawCfg.cfg = specCfg f :=
  getcontrols_eq_spec f h

/-- …and the HUP reread installs exactly the documented `locals`/`virtualdomains` of the files on
disk (default for locals: the `me` read at start-up), leaving the rest of the configuration alone. -/
theorem C10_hup_controls (f0 f : Files) (old : RawCfg) (h0 : ∀ s, f0.me = some s → NUL ∉ s) (h : nulFreeFiles f) :
    (reget (readline f0.me) old f).cfg = specHup old.cfg f0 f :=
  reget_eq_spec f0 f old h0 h

/-- the daemon starts exactly when the documents say it does (NUL-free control directory) -/
theorem C10_start (f0 : Files) (h : nulFreeB f0 = true) : (start f0).isSome = (specStart f0).isSome := by
  have hc := getcontrols_eq_spec f0 ((nulFreeB_iff f0).1 h)
  unfold start specStart
  rw [if_pos h, ← hc]
  cases getcontrols f0 <;> rfl

/-- **every trace of the daemon meets the documented behaviour, end to end** (control files → control.c
readers → constmap hash tables → `rewrite()` → `todo_do`, under edits, SIGHUPs and rereads): for every
start-up control directory `f0` and every trace `es` the monitor accepts from `start f0`, the
documented predicate `specTrace` holds — i.e. every preprocessed message has exactly the outputs
`specTodo` prescribes (`info` = the `F` records, `local`/`remote` = `routeSpec` of the `T` records
in order, failure iff an unknown record) under the *documented* configuration: `specCfg f0` at
start-up, replaced by `specHup` (locals and virtualdomains of the files then on disk, `me` default
from start-up) each time a pending HUP is served at the loop top. `specTrace` judges while that
configuration has no repeated virtualdomains key and stops judging once a control file containing a
NUL byte has been read (the stated domain); it never mentions the model. This is literally the
predicate `drv_c10` evaluates on the real daemon's observed trace (ORACLE kind=S). -/
theorem C10_trace (f0 : Files) (d0 dn : Daemon) (es : List Ev)
    (hs : start f0 = some d0) (h : acceptAll d0 es = some dn) :
    specTrace f0 (specStart f0) es = true := by
  -- the trace as one of the monitor with failing re-reads, none of which fails
  rw [← specTraceF_ev]
  exact sim_trace f0 d0 dn _ hs ((acceptFAll_ev es d0).trans h)

/-- One HUP, end to end: after any accepted prefix from start-up, a HUP served at the loop top, and any
SIGHUP-free continuation (including further edits of the control files), a well-formed message in the
continuation gets `info` = its `F` records and channel files = `specChan` under `specHup` of the
files that were on disk when the HUP was served. What `specHup` updates is the model's configuration
before the HUP (`d.cfg.cfg`), so unlike `C10_trace` the statement mentions model state; the proof chains
`C10_fixed`, `C10_hup_later`, `C10_hup_controls`, `C10_specChan` and `C10_partition` and does not use `C10_trace`. -/
theorem C10_hup_e2e (f0 : Files) (d0 d d1 d2 dn : Daemon) (pre es : List Ev)
    (hdr rs : List Bytes) (tail : Bytes) (out : Option TodoOut)
    (hs : start f0 = some d0) (hpre : acceptAll d0 pre = some d)
    (h0 : ∀ s, f0.me = some s → NUL ∉ s) (hf : nulFreeFiles d.files)
    (hnd : noDupKeys (specHup d.cfg.cfg f0 d.files).vdoms = true)
    (hh : ∀ r ∈ hdr, isHdr r = true ∧ NUL ∉ r) (hr : ∀ r ∈ rs, NUL ∉ r) (ht : NUL ∉ tail)
    (h1 : accept d .hup = some d1) (h2 : accept d1 .top = some d2)
    (hno : es.all (fun e => !isHup e) = true) (h3 : acceptAll d2 es = some dn)
    (hm : Ev.msg (encode (hdr ++ rs.map (fun r => TEE :: r)) ++ tail) out ∈ es) :
    out = some ⟨infoOf hdr, specChan (specHup d.cfg.cfg f0 d.files) .loc rs,
                specChan (specHup d.cfg.cfg f0 d.files) .rem rs⟩ := by
  have hme : d.me = readline f0.me := by
    rw [(C10_fixed d0 d pre hpre).1]
    obtain ⟨raw, _, rfl⟩ := start_some f0 d0 hs
    rfl
  obtain ⟨_, ho⟩ := C10_hup_later d d1 d2 dn es h1 h2 hno h3
  have ho := ho _ out hm
  have hsp : (reget d.me d.cfg d.files).cfg = specHup d.cfg.cfg f0 d.files := by
    rw [hme]; exact C10_hup_controls f0 d.files d.cfg h0 hf
  rw [ho, ht_eq, ← hsp, C10_specChan _ (hsp ▸ hnd), C10_specChan _ (hsp ▸ hnd)]
  exact C10_partition (reget d.me d.cfg d.files).cfg hdr rs tail hh hr ht

/-! ### non-vacuity (bytes: 64 '@', 37 '%', 46 '.', 58 ':', 45 '-', 0 NUL, 97.. 'a'..) -/

/-- locals "a", percenthack "a", virtualdomains "u@b:t", "b:v", ".b:w", "c.b:" (exception) -/
def exCfg : Cfg :=
  { env := [97], ph := [⟨[97], []⟩], locals := [⟨[97], []⟩],
    vdoms := [⟨[117, 64, 98], [116]⟩, ⟨[98], [118]⟩, ⟨[46, 98], [119]⟩, ⟨[99, 46, 98], []⟩] }

example : noDupKeys exCfg.vdoms = true := by decide +kernel
/-- "u%B@A": percent hack for listed "A" (case-insensitive), then the virtual user u@b wins over b and .b -/
example : rewrite exCfg [117, 37, 66, 64, 65] = ⟨.loc, [116], [117, 64, 66]⟩ := by decide +kernel
/-- "x@c.b": the empty prepend is an exception to the wildcard ".b" ⇒ remote -/
example : rewrite exCfg [120, 64, 99, 46, 98] = ⟨.rem, [], [120, 64, 99, 46, 98]⟩ := by decide +kernel
/-- "x@d.b": the wildcard ".b" applies -/
example : rewrite exCfg [120, 64, 100, 46, 98] = ⟨.loc, [119], [120, 64, 100, 46, 98]⟩ := by decide +kernel
/-- "x" (no @): gets envnoathost "a", which is local -/
example : rewrite exCfg [120] = ⟨.loc, [], [120, 64, 97]⟩ := by decide +kernel
/-- the hash table finds "B" in the buffer "u@b:t\0b:v\0" (flagcolon) -/
example : (cmInit [117, 64, 98, 58, 116, 0, 98, 58, 118, 0] true).lookup [66] = some [118] := by decide +kernel
/-- VERP: "l-@h-@[]" for "r@d" gives "l-r=d@h" -/
example : senderadd [108, 45, 64, 104, 45, 64, 91, 93] [114, 64, 100] = [108, 45, 114, 61, 100, 64, 104] := by decide +kernel
/-- a todo file "u1\0Fs\0Tx@a\0Ty@z\0": one local, one remote record -/
example : todoDo exCfg.lookups exCfg.env [117, 49, 0, 70, 115, 0, 84, 120, 64, 97, 0, 84, 121, 64, 122, 0] =
    some ⟨[70, 115, 0], [84, 120, 64, 97, 0], [84, 121, 64, 122, 0]⟩ := by decide +kernel

/-- control files: locals "A \n#c\n\nb" (no final newline), virtualdomains "u@b:t\nno\n:c\n" (a line without colon), me "m\n" -/
example : getcontrols ⟨some [109, 10], none, some [65, 32, 10, 35, 99, 10, 10, 98],
      none, some [117, 64, 98, 58, 116, 10, 110, 111, 10, 58, 99, 10]⟩ =
    some { env := [109], ph := [], locals := [65, 0, 98, 0],
           vdoms := [117, 64, 98, 58, 116, 0, 110, 111, 0, 58, 99, 0] } := by decide +kernel
example : parseEntries [117, 64, 98, 58, 116, 0, 110, 111, 0, 58, 99, 0] true =
    [⟨[117, 64, 98], [116]⟩, ⟨[], [99]⟩] := by decide +kernel

/-! #### HUP traces: start-up locals "a"; then locals "b" is written and a HUP served; then locals "c"
is written **without** a HUP; then the message "Fs\0Tx@b\0Tx@c\0" -/
def exF (l : Byte) : Files := ⟨some [109, 10], none, some [l, 10], none, none⟩
def exTodo : Bytes := [70, 115, 0, 84, 120, 64, 98, 0, 84, 120, 64, 99, 0]
def exTrace (out : TodoOut) : List Ev :=
  [.edit (exF 98), .hup, .top, .edit (exF 99), .top, .msg exTodo (some out)]

/-- the monitor accepts the outputs of the configuration read at the HUP (x@b local, x@c remote) … -/
example : ((start (exF 97)).bind (fun d => acceptAll d (exTrace ⟨[70, 115, 0], [84, 120, 64, 98, 0], [84, 120, 64, 99, 0]⟩))).isSome = true := by
  decide +kernel
/-- … and rejects those of the files edited after the HUP (what a lazy reread would produce) … -/
example : ((start (exF 97)).bind (fun d => acceptAll d (exTrace ⟨[70, 115, 0], [84, 120, 64, 99, 0], [84, 120, 64, 98, 0]⟩))).isSome = false := by
  decide +kernel
/-- … and the documented predicate says the same (it is not trivially true) -/
example : specTrace (exF 97) (specStart (exF 97)) (exTrace ⟨[70, 115, 0], [84, 120, 64, 98, 0], [84, 120, 64, 99, 0]⟩) = true ∧
    specTrace (exF 97) (specStart (exF 97)) (exTrace ⟨[70, 115, 0], [84, 120, 64, 99, 0], [84, 120, 64, 98, 0]⟩) = false ∧
    specTrace (exF 97) (specStart (exF 97)) [.edit (exF 98), .msg exTodo (some ⟨[70, 115, 0], [84, 120, 64, 98, 0], [84, 120, 64, 99, 0]⟩)] = false := by
  decide +kernel
/-- a todo file with an unknown record type ("Tx@a\0Zq\0") or an empty record is not preprocessed;
records may come in any order -/
example : specTodo exCfg [84, 120, 64, 97, 0, 90, 113, 0] = none ∧ specTodo exCfg [84, 120, 64, 97, 0, 0] = none ∧
    specTodo exCfg [84, 120, 64, 97, 0, 70, 115, 0, 84, 121, 64, 122, 0, 117, 49, 0] =
      some ⟨[70, 115, 0], [84, 120, 64, 97, 0], [84, 121, 64, 122, 0]⟩ := by
  decide +kernel

/-- **control.c readers under faults.** `control_readfile` returns -1 exactly when the fault strikes a
call it makes (`open_read` failing with errno ≠ ENOENT, a `read()` it really issues - the k-th of the
⌈n/64⌉+1 -, a stralloc call) and otherwise behaves as on a readable directory; same for
`control_readline` (reads only up to the first LF; no stralloc call on an absent file). -/
theorem C10_io_readers (flt : Option RdFault) (f me : Option Bytes) (fm : Bool) :
    readfileIO flt f me fm = (if fileHits flt f then Rd.err else Rd.ofOpt (readfile f me fm)) ∧
    readlineIO flt f = (if lineHits flt f then Rd.err else Rd.ofOpt (readline f)) :=
  ⟨rfl, rfl⟩

/-- **start-up refuses to run on any control-file I/O error**: with an arbitrary combination of failing
calls, `main()` gets past `getcontrols()`/`chdir("queue")` iff no error strikes a call start-up needs,
and then the state is exactly that of the fault-free start. -/
theorem C10_start_io (io : IOEnv) (f : Files) :
    startIO io f = if strikesStart io f then none else start f :=
  startIO_eq io f

/-- … in the documents' terms (NUL-free control directory): it starts iff `specStartIO` is defined -/
theorem C10_start_io_spec (io : IOEnv) (f : Files) (h : nulFreeB f = true) :
    (startIO io f).isSome = (specStartIO io f).isSome := by
  rw [startIO_eq]; unfold specStartIO
  cases strikesStart io f
  · simpa using C10_start f h
  · rfl

/-- **a failing re-read keeps the old tables, whole**: `regetcontrols()` under any combination of
failing calls installs what the fault-free re-read installs, or - when an error strikes
`chdir(auto_qmail)`, the reader of control/locals or the reader of control/virtualdomains (also after
control/locals was read successfully) - nothing at all. Failing `constmap_init`/`stralloc_copy`/
`chdir("queue")` (retried until they succeed) change nothing. -/
theorem C10_reget_io (io : IOEnv) (me : Option Bytes) (old : RawCfg) (f : Files) :
    regetIO io me old f = if strikesReread io f then old else reget me old f :=
  regetIO_eq io me old f

/-- the code never mixes: after `regetcontrols()` (failing or not) `locals` and `vdoms` are BOTH the old
buffers or BOTH what the readers produce from the directory on disk -/
theorem C10_reget_atomic (io : IOEnv) (me : Option Bytes) (old : RawCfg) (f : Files) :
    regetIO io me old f = old ∨
      tablesAt me f = some ((regetIO io me old f).locals, (regetIO io me old f).vdoms) := by
  rw [regetIO_eq]
  split
  · exact Or.inl rfl
  · exact reget_tables me old f

/-- **one instant.** After start-up under any environment and any history of edits, SIGHUPs, loop
tops, re-reads that fail in any way (`topIO io`) and messages: every message is preprocessed with
`locals` AND `virtualdomains` read off ONE control directory - the start-up one, or the one on disk at
some earlier loop top at which a HUP was pending - together with the start-up envnoathost/percenthack.
Never locals from one instant and virtualdomains from another. -/
theorem C10_one_instant (io0 : IOEnv) (f0 : Files) (d0 dn : Daemon) (pre post : List EvF)
    (todo : Bytes) (out : Option TodoOut)
    (hs : startIO io0 f0 = some d0)
    (h : acceptFAll d0 (pre ++ .ev (.msg todo out) :: post) = some dn) :
    ∃ f ∈ f0 :: servedAt f0 false pre, ∃ l v, tablesAt (readline f0.me) f = some (l, v) ∧
      out = todoDo ({ d0.cfg with locals := l, vdoms := v } : RawCfg).htLookups d0.cfg.env todo := by
  have hst : start f0 = some d0 := start_of_startIO io0 f0 d0 hs
  obtain ⟨d1, h1, _, hq⟩ := acceptFAll_msg d0 dn pre post todo out h
  obtain ⟨f, hf, ht⟩ := one_instant_model pre d0 d1 [f0] ⟨f0, by simp, start_tables f0 d0 hst⟩ h1
  obtain ⟨_, a2, a3⟩ := acceptFAll_fixed pre d0 d1 h1
  obtain ⟨c, _, rfl⟩ := start_some f0 d0 hst
  refine ⟨f, hf, d1.cfg.locals, d1.cfg.vdoms, ht, ?_⟩
  rw [← hq, ← a2]
  show _ = todoDo (⟨c.env, c.ph, d1.cfg.locals, d1.cfg.vdoms⟩ : RawCfg).htLookups _ _
  rw [← a2, ← a3]

/-- **every trace with failing re-reads meets the documented behaviour, end to end**: `C10_trace` for the
monitor extended by `topIO io` (a loop top during which any combination of calls fails), from a
start-up under any environment. `specTraceF` keeps the documented configuration when an error strikes
the re-read and otherwise is `specTrace`. -/
theorem C10_trace_io (io0 : IOEnv) (f0 : Files) (d0 dn : Daemon) (es : List EvF)
    (hs : startIO io0 f0 = some d0) (h : acceptFAll d0 es = some dn) :
    specTraceF f0 (specStart f0) es = true :=
  sim_trace f0 d0 dn es (start_of_startIO io0 f0 d0 hs) h

/-- **one instant, in the documents' terms** (the ORACLE `judgeOneInstant` of `drv_c10`): within the
stated domain (`specRunF` defined: no control file with a NUL byte was read; no repeated
virtualdomains key in force) the outputs of every message are what `specTodo` prescribes under the
start-up envnoathost/percenthack and the documented locals AND virtualdomains of ONE control directory
among start-up's and those on disk at the served HUPs. -/
theorem C10_one_instant_spec (io0 : IOEnv) (f0 : Files) (d0 dn : Daemon) (s0 s : SpecD) (pre : List EvF)
    (todo : Bytes) (out : Option TodoOut)
    (hs : startIO io0 f0 = some d0) (hsp : specStart f0 = some s0)
    (h : acceptFAll d0 (pre ++ [.ev (.msg todo out)]) = some dn)
    (hr : specRunF f0 s0 pre = some s) (hnd : noDupKeys s.cfg.vdoms = true) :
    judgeOneInstant s0.cfg f0.me (f0 :: servedAt f0 false pre) todo out = true := by
  have hst : start f0 = some d0 := start_of_startIO io0 f0 d0 hs
  obtain ⟨d1, h1, h2, _⟩ := acceptFAll_msg d0 dn pre [] todo out h
  have hsim1 := (sim_run f0 pre d0 d1 s0 (sim_start f0 d0 s0 hst hsp) h1).2 s hr
  have hj := (sim_stepF f0 d1 d1 s (.ev (.msg todo out)) hsim1 h2).1
  simp only [specJudgeF, specJudge, hnd, Bool.not_true, Bool.false_or, decide_eq_true_eq] at hj
  obtain ⟨hf0, hp0, ht0⟩ := specStart_some f0 s0 hsp
  obtain ⟨⟨e1, e2⟩, f, hf, ht⟩ := one_instant_spec f0 pre s0 s [f0] ⟨f0, by simp, ht0⟩ hr
  rw [hf0, hp0] at hf
  unfold judgeOneInstant
  rw [List.any_eq_true]
  refine ⟨f, hf, ?_⟩
  rw [ht, hj]
  -- `s.cfg` is the start-up configuration with the tables of `f`
  show decide (_ = specTodo ⟨s0.cfg.env, s0.cfg.ph, s.cfg.locals, s.cfg.vdoms⟩ todo) = true
  rw [← e1, ← e2]
  exact decide_eq_true rfl

/-- **byte_rchr.c as written** (one forward pass that remembers the last match, `if (!u) u = t`) returns
what the model's `rchr` - index of the last occurrence, or the length - returns. -/
theorem C10_rchr_loop (c : Byte) (s : Bytes) : rchrC c s = rchr c s := by
  have key : ∀ (s : Bytes) (pos : Nat) (u : Option Nat),
      rchrScan c s pos u = if rchr c s < s.length then some (pos + rchr c s) else u := by
    intro s
    induction s with
    | nil => intro pos u; simp [rchrScan, rchr]
    | cons x r ih =>
      intro pos u
      simp only [rchrScan, rchr, List.length_cons]
      rw [ih]
      by_cases h : rchr c r < r.length
      · simp only [h, if_true]
        rw [if_pos (by omega)]; congr 1; omega
      · simp only [h, if_false]
        by_cases hx : x = c
        · simp [hx]
        · simp [hx]
  unfold rchrC
  rw [key]
  have := rchr_le c s
  by_cases h : rchr c s < s.length
  · simp [h]
  · simp only [h, if_false]; omega

/-- `senderadd` introduces no NUL -/
theorem C10_senderadd_nulfree (sender recip : Bytes) (hs : NUL ∉ sender) (hr : NUL ∉ recip) :
    NUL ∉ senderadd sender recip := by
  unfold senderadd
  simp only
  split
  · split
    · intro hm
      simp only [List.mem_append, List.mem_cons] at hm
      rcases hm with ((hm | hm) | hm | hm) | hm | hm
      · exact hs (List.mem_of_mem_take hm)
      · exact hr (List.mem_of_mem_take hm)
      · exact absurd hm (by decide)
      · exact hr (List.mem_of_mem_drop hm)
      · exact absurd hm (by decide)
      · exact hs (List.mem_of_mem_drop (List.mem_of_mem_take hm))
    · exact hs
  · exact hs

/-- **`comm_write` layout**: the command written to a spawner is the delivery number followed by exactly
three NUL-terminated fields - split file name, sender after VERP expansion, recipient - and splits
back into them at its NULs (NUL-free inputs; nothing dropped, merged or reordered). -/
theorem C10_comm_layout (delnum : Byte) (fn sender recip : Bytes)
    (hf : NUL ∉ fn) (hs : NUL ∉ sender) (hr : NUL ∉ recip) :
    commWrite delnum fn sender recip = delnum :: encode [fn, senderadd sender recip, recip] ∧
    chunks (commWrite delnum fn sender recip).tail = [fn, senderadd sender recip, recip] := by
  have e : commWrite delnum fn sender recip = delnum :: encode [fn, senderadd sender recip, recip] := by
    simp [commWrite, encode]
  refine ⟨e, ?_⟩
  rw [e]
  have := chunks_encode [fn, senderadd sender recip, recip] [] (by
    intro r hr'
    simp only [List.mem_cons, List.mem_nil_iff, or_false] at hr'
    rcases hr' with h | h | h
    · rw [h]; exact hf
    · rw [h]; exact C10_senderadd_nulfree sender recip hs hr
    · rw [h]; exact hr) (by simp)
  simpa using this

/-! #### non-vacuity of the I/O-error theorems (me "m\n", locals "a\n" resp. "b\n", virtualdomains "d:t\n") -/
def exG (l : Byte) : Files := ⟨some [109, 10], none, some [l, 10], none, some [100, 58, 116, 10]⟩

/-- start-up: a failing first read of control/me, a failing open of control/percenthack (which does not
exist), a failing chdir("queue") are all fatal; a failing third read of the 2-byte control/locals does not
happen (it takes two reads) and the daemon starts -/
example : startIO { me := some (.readErr 0) } (exG 97) = none ∧ startIO { ph := some .openErr } (exG 97) = none ∧
    startIO { chdirQueue := true } (exG 97) = none ∧
    (startIO { locals := some (.readErr 2) } (exG 97)).isSome = true ∧ (start (exG 97)).isSome = true := by decide +kernel
/-- re-read: control/locals ("b") is read, then the open of control/virtualdomains fails: the OLD locals stay -/
example : regetIO { vdoms := some .openErr } (some [109]) ⟨[109], [], [97, 0], []⟩ (exG 98) = ⟨[109], [], [97, 0], []⟩ ∧
    regetIO { vdoms := some (.readErr 1) } (some [109]) ⟨[109], [], [97, 0], []⟩ (exG 98) = ⟨[109], [], [97, 0], []⟩ ∧
    regetIO { vdoms := some (.readErr 2), cmNomem := true, chdirQueue := true } (some [109]) ⟨[109], [], [97, 0], []⟩ (exG 98) =
      ⟨[109], [], [98, 0], [100, 58, 116, 0]⟩ := by decide +kernel
/-- the calls of that re-read: chdir, open/read/read/close of locals, open/read/read/close of virtualdomains, chdir -/
example : (List.range 11).map (rereadCall (some [109]) (exG 98)) =
    [.chdirHome, .openf .locals, .readf .locals 0, .readf .locals 1, .closef .locals,
     .openf .vdoms, .readf .vdoms 0, .readf .vdoms 1, .closef .vdoms, .chdirQueue, .past] := by decide +kernel
/-- a trace: HUP with locals "b" whose re-read fails at control/virtualdomains; a message to x@b and x@c
("Fs\0Tx@b\0Tx@c\0") is then still routed by the start-up tables (both remote) - accepted; the outputs
under locals "b" are rejected; a second, undisturbed HUP installs "b" -/
example : ((startIO {} (exG 97)).bind (fun d => acceptFAll d
      [.ev (.edit (exG 98)), .ev .hup, .topIO { vdoms := some .openErr },
       .ev (.msg exTodo (some ⟨[70, 115, 0], [], [84, 120, 64, 98, 0, 84, 120, 64, 99, 0]⟩)),
       .ev .hup, .topIO {},
       .ev (.msg exTodo (some ⟨[70, 115, 0], [84, 120, 64, 98, 0], [84, 120, 64, 99, 0]⟩))])).isSome = true ∧
    ((startIO {} (exG 97)).bind (fun d => acceptFAll d
      [.ev (.edit (exG 98)), .ev .hup, .topIO { vdoms := some .openErr },
       .ev (.msg exTodo (some ⟨[70, 115, 0], [84, 120, 64, 98, 0], [84, 120, 64, 99, 0]⟩))])).isSome = false := by decide +kernel
/-- the documented predicates are not trivially true: outputs under locals "b" after the failed re-read are judged false -/
example : specTraceF (exG 97) (specStart (exG 97))
      [.ev (.edit (exG 98)), .ev .hup, .topIO { vdoms := some .openErr },
       .ev (.msg exTodo (some ⟨[70, 115, 0], [84, 120, 64, 98, 0], [84, 120, 64, 99, 0]⟩))] = false ∧
    judgeOneInstant ⟨[109], [], [⟨[97], []⟩], [⟨[100], [116]⟩]⟩ (some [109, 10]) [exG 97] exTodo
      (some ⟨[70, 115, 0], [84, 120, 64, 98, 0], [84, 120, 64, 99, 0]⟩) = false ∧
    judgeOneInstant ⟨[109], [], [⟨[97], []⟩], [⟨[100], [116]⟩]⟩ (some [109, 10]) [exG 97, exG 98] exTodo
      (some ⟨[70, 115, 0], [84, 120, 64, 98, 0], [84, 120, 64, 99, 0]⟩) = true := by decide +kernel
-- byte_rchr on "a@b@c" and on "abc"; comm_write of delivery 7, "0/5", sender "s", recipient "r@d"
example : rchrC 64 [97, 64, 98, 64, 99] = 3 ∧ rchrC 64 [97, 98, 99] = 3 := by decide +kernel
example : commWrite 7 [48, 47, 53] [115] [114, 64, 100] = [7, 48, 47, 53, 0, 115, 0, 114, 64, 100, 0] := by decide +kernel

end Nq.Props.C10
