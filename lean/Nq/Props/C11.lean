/-
  C11 — local deliveries run as exactly the user the address belongs to, never root.

  Theorems about the executable model `Nq.Users` (tied to qmail-newu.c, cdb*.c, qmail-lspawn.c, qmail-getpw.c,
  spawn.c, prot.c by the correspondence harness harness/c11_users.c and to qlx.h / report() by the translator),
  stated with the predicates of `Nq.Spec.Users` — the same functions the driver evaluates, compiled, on the
  implementation's traces.
-/
import Nq.Users
import Nq.Spec.Users
import Nq.Lemmas.UsersSpawn
import Nq.Lemmas.UsersLookup
import Nq.Lemmas.UsersCdb
import Nq.Lemmas.UsersGetpw
import Nq.Lemmas.UsersNewu
import Nq.Lemmas.UsersCdbBytes
import Nq.Lemmas.UsersCdbRobust
import Nq.Lemmas.UsersCdbDump
import Nq.Lemmas.UsersIdent

namespace Nq.Props.C11
open Nq Nq.Users Nq.Spec.Users Nq.Gen.Lspawn Nq.Lemmas.Users

/-! ## order of the privileged calls; never root

  What is and is not claimed: `C11_order`, `C11_order_docmd`, `C11_argv`, `C11_runs_assigned_user`, `C11_never_root`
  are statements about the model's `dropAndExec`, which emits `setgroups, setgid, setuid, getuid, execv` in that order BY
  CONSTRUCTION (it transcribes the tail of spawn()); what is proved is that no other path of `spawnChild` (lookup, getpw
  child, faults) reaches an execv, and that the ids/argv are those of the parsed record.  That the real spawn() makes these
  calls in this order with these arguments is established by trace replay (harness + DISAGREE channel + the `guardedAny`
  / `traceOk` / `specChild` oracles on the recorded calls), not by these theorems.  `C11_argv` & co. are conditional on a
  model fact (`nughdeGet … = (evs, .hit x)`); the unconditional, composed statements are `C11_identity`,
  `C11_identity_faults`, `C11_child_defers` below, and `parseNughde` is tied to the record's fields by `C11_record_parse`,
  `C11_record_fields`, `C11_table_record`, `C11_passwd_record`. -/

/-- Whatever the tables, the passwd database, the recipient and the injected fault: qmail-local is executed only
    immediately after successful `setgroups [g]`, `setgid g`, `setuid u` and a `getuid` that returned `u ≠ 0`. -/
theorem C11_order (env : Env) (flt : Fault) (sender loc dom : Bytes) :
    guardedAny [] (spawnChild env flt sender loc dom).1 = true := by
  rcases spawnChild_shape env flt sender loc dom with ⟨hq, _⟩ | ⟨_, _, _, q, t⟩
  · exact guardedAny_of_quiet _ _ hq
  · rw [t.eq, guardedAny_quiet q _ _ t.quiet]; exact dropAndExec_guarded ..

/-- the same for docmd(), i.e. including the split of the recipient at its last '@' -/
theorem C11_order_docmd (env : Env) (flt : Fault) (sender recip : Bytes) :
    guardedAny [] (docmd env flt sender recip).1 = true := by
  unfold docmd
  split
  · simp [guardedAny]
  · exact C11_order ..

/-- Exactly the assigned identity: if the lookup (table or qmail-getpw) yields the record `x` with fields `id`,
    every execv of qmail-local in the trace follows the drop to exactly `id.gid`/`id.uid` and carries
    `[bin/qmail-local, --, user, home, local, dash, ext, domain, sender, aliasempty]`. -/
theorem C11_argv (env : Env) (flt : Fault) (sender loc dom : Bytes) (evs : List Ev) (x : Bytes) (id : Ident)
    (h : nughdeGet env flt loc = (evs, .hit x)) (hp : parseNughde x = some id) :
    traceOk env id loc dom sender [] (spawnChild env flt sender loc dom).1 = true :=
  spawnChild_traceOk_hit env flt sender loc dom evs x id h hp

/-- … and it is started: with no fault and a non-zero uid the child's calls are exactly
    chdir, (the qmail-getpw child's calls), fd moves, setgroups, setgid, setuid, getuid, execv. -/
theorem C11_runs_assigned_user (env : Env) (sender loc dom : Bytes) (evs : List Ev) (x : Bytes) (id : Ident)
    (hl : loc ≠ []) (h : nughdeGet env .none loc = (evs, .hit x)) (hp : parseNughde x = some id) (hu : id.uid ≠ 0) :
    spawnChild env .none sender loc dom =
      (.chdir env.autoQmail :: (evs ++ [.fdmove 0, .fdmove 1, .fdcopy 2] ++
        [.setgroups 1 id.gid true, .setgid id.gid true, .setuid id.uid true, .getuid id.uid,
         .execv localPath (argvOf env id loc dom sender)]), .exec) := by
  unfold spawnChild
  have : loc.isEmpty = false := by cases loc <;> simp_all
  simp [this, h, hp, dropAndExec_run env id loc dom sender hu]

/-- Never root: if the record assigns uid 0 (also through a non-numeric or a wrapping uid field) qmail-local is not
    executed under any fault plan, and without a fault the child exits QLX_ROOT. -/
theorem C11_never_root (env : Env) (flt : Fault) (sender loc dom : Bytes) (evs : List Ev) (x : Bytes) (id : Ident)
    (h : nughdeGet env flt loc = (evs, .hit x)) (hp : parseNughde x = some id) (hu : id.uid = 0) :
    noExec (spawnChild env flt sender loc dom).1 = true ∧ (spawnChild env flt sender loc dom).2 ≠ .exec ∧
    (flt = .none → loc ≠ [] → (spawnChild env flt sender loc dom).2 = .exit QLX_ROOT) := by
  obtain ⟨hq, hx⟩ := spawnChild_noExec_hit env flt sender loc dom evs x h
    (by intro id' hp'; rw [hp] at hp'; cases hp'; exact hu)
  refine ⟨noExec_of_quiet _ hq, hx, ?_⟩
  rintro rfl hl
  have : loc.isEmpty = false := by cases loc <;> simp_all
  simp [spawnChild, this, h, hp, (dropAndExec_root env .none id loc dom sender hu).2.2 rfl]

/-! ## errors defer -/

/-- report(): every exit code that stands for a database / lookup / identity error is reported as `Z` (deferral);
    the table is regenerated from qmail-lspawn.c and qlx.h on every run. -/
theorem C11_defer :
    ∀ c ∈ [QLX_CDB, QLX_NOMEM, QLX_SYS, QLX_NFS, QLX_EXECPW, QLX_USAGE, QLX_NOALIAS, QLX_ROOT, QLX_EXECSOFT],
      reportByte c = 90 := by
  decide

/-- a child killed by a signal is deferred as well -/
theorem C11_defer_crash : reportCrashed = 90 := by decide

/-- the exit codes nughde_get itself can produce (cdb unreadable, fork/pipe failure, qmail-getpw not startable or
    failing: NFS, passwd busy, no alias user) are all reported as `Z`: a lookup error defers, it never bounces -/
theorem C11_lookup_error_defers (env : Env) (flt : Fault) (loc : Bytes) (evs : List Ev) (c : Nat)
    (h : nughdeGet env flt loc = (evs, .exit c)) : reportByte c = 90 := by
  have key := nughdeGet_exit_codes env flt loc evs c h
  have hall : ∀ c ∈ [QLX_CDB, QLX_SYS, QLX_USAGE, QLX_EXECPW, QLX_NFS, QLX_NOALIAS], reportByte c = 90 := by decide
  exact hall c key

/-- **Whole-child deferral.** Every way the model's delivery child can end without running qmail-local — under every
    table, passwd database, recipient and every fault of the plan `Fault` — is: exit 0 for the null recipient only;
    QLX_EXECHARD only when `execv` of qmail-local itself failed permanently; otherwise an exit code that report() turns
    into `Z` (deferral).  Covers the exits of spawn() proper (chdir failure, malformed record, `prot_gid`/`prot_uid`
    failure, QLX_ROOT, EXECSOFT) and of nughde_get.  Not in the fault plan: a failing `fd_move`/`fd_copy`, `pipe` or
    `slurpclose`, a crashed qmail-getpw (all `_exit(QLX_SYS)`) and allocation failure (QLX_NOMEM); both codes are in
    `C11_defer`.  (A consequence of the model's control flow and the regenerated report table.) -/
theorem C11_child_defers (env : Env) (flt : Fault) (sender loc dom : Bytes) (c : Nat)
    (h : (spawnChild env flt sender loc dom).2 = .exit c) :
    (c = 0 ∧ loc = []) ∨ (c = QLX_EXECHARD ∧ flt = .execHard) ∨ reportByte c = 90 := by
  rcases spawnChild_exit env flt sender loc dom c h with h' | h' | h'
  · exact Or.inl h'
  · exact Or.inr (Or.inl h')
  · have hall : ∀ c ∈ [QLX_CDB, QLX_SYS, QLX_USAGE, QLX_EXECPW, QLX_NFS, QLX_NOALIAS, QLX_ROOT, QLX_EXECSOFT],
        reportByte c = 90 := by decide
    exact Or.inr (Or.inr (hall c h'))

/-- the same for docmd() (a recipient without `@` is answered by docmd itself: `.refused`, not an exit) -/
theorem C11_docmd_defers (env : Env) (flt : Fault) (sender recip : Bytes) (c : Nat)
    (h : (docmd env flt sender recip).2 = .exit c) :
    c = 0 ∨ (c = QLX_EXECHARD ∧ flt = .execHard) ∨ reportByte c = 90 := by
  unfold docmd at h
  split at h
  · simp at h
  · rcases C11_child_defers _ _ _ _ _ c h with h' | h' | h'
    · exact Or.inl h'.1
    · exact Or.inr (Or.inl h')
    · exact Or.inr (Or.inr h')

/-- report() beyond its first byte: for every lookup/identity error code the WHOLE report is a fixed single line
    `Z…\n` — it does not depend on what the child wrote, contains no NUL and no inner LF (so qmail-send reads exactly one
    deferral line).  (For every other code `reportFull` is the class byte followed by the child's output up to its first
    NUL; of that branch only the first byte has a theorem, `C11_report_head`.  Texts regenerated from qmail-lspawn.c on
    every run.) -/
theorem C11_report_text :
    ∀ c ∈ [QLX_CDB, QLX_NOMEM, QLX_SYS, QLX_NFS, QLX_EXECPW, QLX_USAGE, QLX_NOALIAS, QLX_ROOT, QLX_EXECSOFT], ∀ s : Bytes,
      reportFull c s = reportFull c [] ∧ (reportFull c []).head? = some 90 ∧ (reportFull c []).getLast? = some LF ∧
      NUL ∉ reportFull c [] ∧ LF ∉ (reportFull c []).dropLast := by
  have key : ∀ c ∈ [QLX_CDB, QLX_NOMEM, QLX_SYS, QLX_NFS, QLX_EXECPW, QLX_USAGE, QLX_NOALIAS, QLX_ROOT, QLX_EXECSOFT],
      (reportTexts.find? (fun p => p.1 == c)).isSome = true ∧ (reportFull c []).head? = some 90 ∧
      (reportFull c []).getLast? = some LF ∧ NUL ∉ reportFull c [] ∧ LF ∉ (reportFull c []).dropLast := by decide +kernel
  intro c hc s
  obtain ⟨h1, h2⟩ := key c hc
  refine ⟨?_, h2⟩
  unfold reportFull
  cases hf : reportTexts.find? (fun p => p.1 == c) with
  | none => rw [hf] at h1; cases h1
  | some p => rfl

/-- the first byte of the whole report is `reportByte`, for every exit code and output -/
theorem C11_report_head (c : Nat) (s : Bytes) : (reportFull c s).head? = some (reportByte c) := by
  have key : ∀ p ∈ reportTexts, p.2.head? = some (reportByte p.1) := by decide
  unfold reportFull
  cases hf : reportTexts.find? (fun p => p.1 == c) with
  | none => rfl
  | some p =>
    have hm := List.mem_of_find?_eq_some hf
    have hc := List.find?_some hf
    have : p.1 = c := by simpa using hc
    rw [← this]; exact key p hm

/-- a crashed child: the whole report is the fixed line `Zqmail-local crashed.\n` class `Z` -/
theorem C11_report_crashed : reportCrashedText.head? = some reportCrashed ∧ reportCrashed = 90 ∧
    reportCrashedText.getLast? = some LF ∧ NUL ∉ reportCrashedText := by decide

/-! ## which user: the assignment table -/

/-- nughde_get's lookup order (exact key, then shrinking prefixes gated by the recorded break characters, then the
    empty prefix) computes exactly the declarative assignment: the first exact entry for the lower-cased address, else
    the first entry with the LONGEST wildcard prefix of it (its `pre` followed by the rest of the address in original
    case), else "not in the table". `lkTbl tbl` is the lookup function the source table defines
    (`C11_cdb_roundtrip` shows that the bytes of the compiled file implement it). Hypotheses: the address is a C string and
    the table's names are NUL-free — `C11_newu_table_ok` shows qmail-newu only produces such tables. -/
theorem C11_lookup_spec (tbl : List Asg) (hT : ∀ a ∈ tbl, NUL ∉ a.name) (loc : Bytes) (hl : NUL ∉ loc) :
    nughdeLoop (lkTbl tbl) (wildOf tbl []) loc =
      match specLookup tbl loc with
      | some r => .hit r
      | none => .miss :=
  nughdeLoop_spec tbl hT loc hl

/-- every table qmail-newu's parser accepts has NUL-free names (it refuses lines containing NUL) -/
theorem C11_newu_table_ok (assign : Bytes) (tbl : List Asg) (h : newuParse assign = some tbl) :
    ∀ a ∈ tbl, NUL ∉ a.name :=
  newuParse_names assign tbl h

/-- the record stored under the empty key is the list of break characters nughde_get reads first -/
theorem C11_wildchars_record (tbl : List Asg) : lkTbl tbl [] = .found (wildOf tbl []) :=
  lkTbl_empty tbl

/-! ## the source table: qmail-newu's line compiler -/

/-- qmail-newu's parser (getln loop, dot line, NUL check, `byte_chr` for the first colon, the six-colon data loop,
    `case_lowerb`) = the declarative reading of users/assign written from qmail-users(5) (LF-separated lines up to the
    first line starting with a dot, which must exist; each line: no NUL, eight or more colon-separated fields, the first
    not empty; wildcard iff it starts with `+`; name = rest of the first field lower-cased; data = fields 2–7 joined by
    NUL) — for EVERY file: same table, and "bad format" on exactly the same files. -/
theorem C11_newu_parse (assign : Bytes) : newuParse assign = specParse assign :=
  newuParse_eq_specParse assign

/-- line level: one line of users/assign -/
theorem C11_newu_line (line : Bytes) : newuLine line = specLine line :=
  newuLine_eq_specLine line

/-! ## the compiled database, byte level -/

/-- the structured tables (hashing, 256 buckets, `2*count` slots, linear probing with wrap-around in insertion order,
    first match in probe order) return the first pair, for every list (duplicates, collisions, any size) -/
theorem C11_cdb_struct (es : List (Bytes × Bytes)) (k : Bytes) : findStruct es k = assocFind es k :=
  findStruct_eq_assocFind es k

/-- **The constant database round trip, on bytes.** For every list of (key, data) pairs whose compiled file is smaller
    than 4 GiB (the format's limit: every pointer is a 32-bit word) and every key `k` (present or not, any length):
    running the reader — `cdb_hash`, the header pointer `(pos, len)` of table `h & 255` read as two little-endian words,
    the slot walk from `(h >> 8) % len` with wrap-around, for each slot with an equal hash the record header
    `(klen, dlen)`, the key comparison in 32-byte chunks, then `cdb_bread` of `dlen` bytes — on the bytes the writer
    produces (records from offset 2048, 256 tables of `(hash, pos)` slots, the 2048-byte header) returns the data of the
    FIRST pair with key `k`, and "absent" iff there is none; never a read error. -/
theorem C11_cdb_roundtrip (es : List (Bytes × Bytes)) (k : Bytes) (hsz : (cdbMake es).length < 4294967296) :
    cdbGet (cdbMake es) k =
      match assocFind es k with
      | some d => .found d
      | none => .notFound := by
  rw [cdbGet_cdbMake es k hsz, findStruct_eq_assocFind]
  cases assocFind es k <;> rfl

/-- the same for `cdb_seek` alone: it stops with the file position on the data of the first pair with that key and
    reports its length -/
theorem C11_cdb_seek_roundtrip (es : List (Bytes × Bytes)) (k : Bytes) (hsz : (cdbMake es).length < 4294967296) :
    match cdbSeek (cdbMake es) k with
    | .found dpos dlen => assocFind es k = some (((cdbMake es).drop dpos).take dlen) ∧
                          (((cdbMake es).drop dpos).take dlen).length = dlen
    | .notFound => assocFind es k = none
    | .err => False := by
  rw [cdbSeek_cdbMake es k hsz, ← mkEnts_find k es 2048]
  cases hf : (mkEnts es 2048).find? (fun e => e.key == k) with
  | none => rfl
  | some e =>
    have ht := (first_data_at es k e hf).take
    exact ⟨by rw [ht]; rfl, by rw [ht]⟩

/-- table lookup end to end on the BYTES of the database compiled from `tbl`: what nughde_get computes (wildchars
    record, exact key, shrinking prefixes, empty prefix — each a byte-level cdb lookup) is what the table says -/
theorem C11_lookup_compiled (tbl : List Asg) (hT : ∀ a ∈ tbl, NUL ∉ a.name) (loc : Bytes) (hl : NUL ∉ loc)
    (hsz : (cdbMake (pairsOf tbl)).length < 4294967296) :
    nughdeCdb (some (cdbMake (pairsOf tbl))) loc =
      match specLookup tbl loc with
      | some r => .hit r
      | none => .miss := by
  have hlk : cdbGet (cdbMake (pairsOf tbl)) = lkTbl tbl := by
    funext k
    rw [C11_cdb_roundtrip _ k hsz]; rfl
  unfold nughdeCdb
  dsimp only
  rw [hlk, lkTbl_empty]
  exact nughdeLoop_spec tbl hT loc hl

/-- **users/assign → users/cdb → nughde, end to end.** If qmail-newu compiles `assign` into the file `f` (smaller than
    4 GiB), then the independent reading of `assign` accepts it as a table `tbl`, and for every C-string address
    nughde_get's lookups in the bytes of `f` produce exactly the record `tbl` assigns (first exact entry, else first
    entry with the longest wildcard prefix + remainder, case-insensitive), or a miss iff `tbl` does not cover it. -/
theorem C11_assign_to_nughde (assign f : Bytes) (h : newuFile assign = some f) (hsz : f.length < 4294967296)
    (loc : Bytes) (hl : NUL ∉ loc) :
    ∃ tbl, specParse assign = some tbl ∧
      nughdeCdb (some f) loc =
        match specLookup tbl loc with
        | some r => .hit r
        | none => .miss := by
  obtain ⟨tbl, hp, rfl⟩ := Option.map_eq_some_iff.mp h
  exact ⟨tbl, by rw [← C11_newu_parse, hp], C11_lookup_compiled tbl (newuParse_names assign tbl hp) loc hl hsz⟩

/-- … and a file qmail-newu refuses ("bad format", exit 111, no cdb installed) is exactly one the declarative reading
    refuses -/
theorem C11_newu_refuses (assign : Bytes) : newuFile assign = none ↔ specParse assign = none := by
  rw [← C11_newu_parse]
  exact Option.map_eq_none_iff

/-- reading the records of the compiled file back in file order (an independent reading of the format, `cdbDump`)
    gives exactly the source list: nothing added, dropped, reordered or altered (duplicates kept) -/
theorem C11_cdb_dump (es : List (Bytes × Bytes)) (hsz : (cdbMake es).length < 4294967296) :
    cdbDump (cdbMake es) = some es := by
  obtain ⟨hd, tb, heq, hl, h0⟩ := cdbMake_parts es
  have hlen : (cdbMake es).length = 2048 + ((mkEnts es 2048).flatMap recBytes).length + tb.length := by
    rw [heq]; simp only [List.length_append, hl]
  -- header entry 0 holds the position of the first table = end of the record area
  have hhd : At (cdbMake es) 0
      (pack (2048 + ((mkEnts es 2048).flatMap recBytes).length) ++ pack (tableOf (mkEnts es 2048) 0).length) := by
    rw [heq, List.append_assoc]; exact At.append_right _ h0
  unfold cdbDump
  rw [read8_at hhd, Nat.mod_eq_of_lt (by omega)]
  dsimp only
  have hdrop : (cdbMake es).drop 2048 = (mkEnts es 2048).flatMap recBytes ++ tb := by
    rw [heq, List.append_assoc, List.drop_left' hl]
  rw [if_neg (by omega), hdrop, Nat.add_sub_cancel_left]
  exact dumpRecs_mkEnts es 2048 _ _ (by omega) (by omega)

/-- the predicate the driver evaluates on the real qmail-newu's output: the records of the compiled users/cdb are
    exactly the keys and data of the declaratively parsed users/assign, followed by the wildchars record -/
theorem C11_newu_dump (assign f : Bytes) (h : newuFile assign = some f) (hsz : f.length < 4294967296) :
    ∃ tbl, specParse assign = some tbl ∧ cdbDump f = some (pairsOf tbl) := by
  obtain ⟨tbl, hp, rfl⟩ := Option.map_eq_some_iff.mp h
  exact ⟨tbl, by rw [← C11_newu_parse, hp], C11_cdb_dump _ hsz⟩

/-! ## corrupted and truncated databases

  Bounds (cdb_seek reports a record only after reading its header and key from inside the file; the data is a slice of
  the file or the read fails) are `C20_cdb_seek_in_file` and `C20_cdb_get_slice` in Nq/Props/C20.lean, about the same
  model functions.  Here: what a hit MEANS on an arbitrary file, and that truncation can only turn answers into errors. -/

/-- On ANY file (corrupted, truncated, hostile): if the lookup of `k` returns data `d`, then the file really contains
    a slot holding `(cdb_hash k, p)`, at `p` a record header `(|k|, |d|)`, and at `p + 8` the bytes `k ++ d`, all
    inside the file — a hit is never made of garbage positions or of another key's record. -/
theorem C11_cdb_hit_sound (f k d : Bytes) (h : cdbGet f k = .found d) :
    ∃ o p, read8 f o = some ((hashKey k).toNat, p) ∧ read8 f p = some (k.length, d.length) ∧
      (f.drop (p + 8)).take (k.length + d.length) = k ++ d ∧ p + 8 + k.length + d.length ≤ f.length := by
  obtain ⟨o, p, h1, h2, hk, hd, hle⟩ := cdbGet_sound f k d h
  exact ⟨o, p, h1, h2, by rw [List.take_add, hk, List.drop_drop, hd], hle⟩

/-- Reads are stable under extension: whatever the reader answers WITHOUT a read error on a file it answers on every
    file that extends it.  (The reader never looks at the file size.) -/
theorem C11_cdb_extension (f y k : Bytes) (hne : cdbGet f k ≠ .err) : cdbGet (f ++ y) k = cdbGet f k :=
  cdbGet_mono f y k hne

/-- A TRUNCATED compiled database (any prefix of the file, e.g. a crash while copying): every lookup either reports a
    read error or gives exactly the answer of the source list — never another record, never a false "absent". -/
theorem C11_cdb_truncated (es : List (Bytes × Bytes)) (f' y k : Bytes) (hf : f' ++ y = cdbMake es)
    (hsz : (cdbMake es).length < 4294967296) :
    cdbGet f' k = .err ∨
    cdbGet f' k = match assocFind es k with
      | some d => .found d
      | none => .notFound := by
  rcases cdbGet_prefix f' y k with h | h
  · exact Or.inl h
  · right; rw [h, hf]; exact C11_cdb_roundtrip es k hsz

/-- … hence nughde_get on a truncated users/cdb compiled from `tbl` yields exactly the record the table assigns (or
    the miss that sends it to qmail-getpw, iff the table does not cover the address), or exits QLX_CDB — which
    `C11_defer` shows is reported `Z`: the delivery is deferred, never misdirected. -/
theorem C11_truncated_defers (tbl : List Asg) (hT : ∀ a ∈ tbl, NUL ∉ a.name) (loc : Bytes) (hl : NUL ∉ loc)
    (f' y : Bytes) (hf : f' ++ y = cdbMake (pairsOf tbl)) (hsz : (cdbMake (pairsOf tbl)).length < 4294967296) :
    nughdeCdb (some f') loc = .exit QLX_CDB ∨
    nughdeCdb (some f') loc = match specLookup tbl loc with
      | some r => .hit r
      | none => .miss := by
  rcases nughdeCdb_prefix f' y loc with h | h
  · exact Or.inl h
  · right; rw [h, hf]; exact C11_lookup_compiled tbl hT loc hl hsz

/-- On ANY file whatsoever nughde_get's cdb part ends in a record, a miss, or exit QLX_CDB (reported `Z`) -/
theorem C11_any_cdb_exit (f : Option Bytes) (loc : Bytes) (c : Nat) (h : nughdeCdb f loc = .exit c) :
    c = QLX_CDB ∧ reportByte c = 90 := by
  have := nughdeCdb_exit f loc c h
  subst this
  exact ⟨rfl, by decide⟩

/-! ## what a record says: the model's parser and argv layout against the declarative reading -/

/-- the six `byte_chr`/`scan_ulong` steps of spawn() = the declarative reading of a nughde record (split at every NUL,
    six NUL-terminated fields, numbers = leading decimal digits as a 32-bit id), for EVERY byte string — so the
    `parseNughde` in `C11_argv`, `C11_runs_assigned_user`, `C11_never_root` can be read as `specRecord` -/
theorem C11_record_parse (x : Bytes) : parseNughde x = specRecord x :=
  parseNughde_eq_specRecord x

/-- a record `user NUL uid NUL gid NUL home NUL dash NUL pre` + remainder of the address + NUL reads as exactly those
    fields: uid/gid = value of the leading digits of the field modulo 2^32 (no digits — `+5`, ` 5`, empty — give 0, which
    `C11_never_root` refuses), ext = pre followed by the remainder -/
theorem C11_record_fields (u ui gi ho da ex rest : Bytes)
    (hu : NUL ∉ u) (hui : NUL ∉ ui) (hgi : NUL ∉ gi) (hho : NUL ∉ ho) (hda : NUL ∉ da) (hex : NUL ∉ ex) (hr : NUL ∉ rest) :
    parseNughde (joinNul [u, ui, gi, ho, da, ex] ++ rest ++ [NUL]) =
      some ⟨u, decVal (ui.takeWhile isDigit) % 4294967296, decVal (gi.takeWhile isDigit) % 4294967296, ho, da, ex ++ rest⟩ := by
  rw [parseNughde_eq_specRecord, specRecord_fields u ui gi ho da ex rest hu hui hgi hho hda hex hr]
  rfl

/-- … hence, in terms of the TEXT of users/assign: a line the declarative reading accepts has colon-separated fields
    `f0:user:uid:gid:home:dash:pre:…`, and the record it contributes, completed by nughde_get with the remainder `rest` of
    the address (`[]` for a simple assignment), is parsed by spawn() into exactly these fields of the line -/
theorem C11_table_record (line : Bytes) (a : Asg) (h : specLine line = some a) :
    ∃ f0 u ui gi ho da ex x xs, splitOn COLON line = f0 :: u :: ui :: gi :: ho :: da :: ex :: x :: xs ∧
      a.wild = (f0.head? == some PLUS) ∧ a.name = lower (f0.drop 1) ∧
      ∀ rest, NUL ∉ rest →
        parseNughde (a.data ++ rest ++ [NUL]) =
          some ⟨u, decVal (ui.takeWhile isDigit) % 4294967296, decVal (gi.takeWhile isDigit) % 4294967296,
                ho, da, ex ++ rest⟩ := by
  obtain ⟨hnul, f0, u, ui, gi, ho, da, ex, x, xs, hs, rfl⟩ := specLine_some h
  have nf : ∀ f, f ∈ f0 :: u :: ui :: gi :: ho :: da :: ex :: x :: xs → NUL ∉ f :=
    fun f hf hc => hnul (splitOn_mem COLON line f (hs ▸ hf) NUL hc)
  refine ⟨f0, u, ui, gi, ho, da, ex, x, xs, hs, rfl, rfl, fun rest hr => ?_⟩
  exact C11_record_fields u ui gi ho da ex rest (nf u (by simp)) (nf ui (by simp)) (nf gi (by simp))
    (nf ho (by simp)) (nf da (by simp)) (nf ex (by simp)) hr

/-- … and in terms of the PASSWORD FILE: the line qmail-getpw prints for an account (`fmt_ulong` of uid and gid) is parsed
    by spawn() (`scan_ulong`) into exactly the account's name, uid, gid (as 32-bit ids), home, and the dash/ext it chose -/
theorem C11_passwd_record (pw : PwEnt) (dash ext : Bytes)
    (hn : NUL ∉ pw.name) (hd : NUL ∉ pw.dir) (hda : NUL ∉ dash) (hex : NUL ∉ ext) :
    parseNughde (pwLine pw dash ext) =
      some ⟨pw.name, pw.uid % 4294967296, pw.gid % 4294967296, pw.dir, dash, ext⟩ := by
  have hshape : pwLine pw dash ext = joinNul [pw.name, fmtDec pw.uid, fmtDec pw.gid, pw.dir, dash, ext] ++ [] ++ [NUL] := by
    simp [pwLine, joinNul, List.append_assoc]
  rw [hshape, C11_record_fields _ _ _ _ _ _ [] hn (fmtDec_nul _) (fmtDec_nul _) hd hda hex (by simp),
    (fmtDec_spec pw.uid).2, (fmtDec_spec pw.gid).2]
  simp

/-- the argv the model's spawn() builds is the argument list written down from qmail-local(8) in the spec
    (`bin/qmail-local -- user homedir local dash ext domain sender defaultdelivery`) -/
theorem C11_argv_layout (env : Env) (id : Ident) (loc dom sender : Bytes) :
    argvOf env id loc dom sender = specArgv env id loc dom sender := rfl

/-! ## the composed identity: "the assignment table, or else the password-file rules" -/

/-- with users/cdb installed by qmail-newu from a users/assign that reads as `tbl` (or absent: `tbl = none`), the cdb part
    of nughde_get answers what the table says -/
theorem C11_installed_lookup (env : Env) (tbl : Option (List Asg)) (hI : Installed env tbl) (loc : Bytes) (hl : NUL ∉ loc) :
    nughdeCdb env.cdb loc =
      match tbl.bind (fun t => specLookup t loc) with
      | some r => .hit r
      | none => .miss := by
  cases tbl with
  | none =>
    have : env.cdb = none := hI
    rw [this]; rfl
  | some t =>
    obtain ⟨assign, f, hc, hn, hsz, hp⟩ := hI
    obtain ⟨t', hp', hlk⟩ := C11_assign_to_nughde assign f hn hsz loc hl
    have : t' = t := Option.some.inj (hp'.symm.trans hp)
    subst this
    rw [hc, hlk]
    rfl

/-- **nughde_get as a whole** (no failing call): the record the assignment table gives the address, without any child
    process; or else — the table does not cover it, or there is no users/cdb — what the password-file rules print, after
    the qmail-getpw child has been run as qmailp/nofiles; or else the exit code of that failing lookup.
    This states as one clause the fall-through that `nughdeGet` has as an `if` nest. -/
theorem C11_identity_lookup (env : Env) (tbl : Option (List Asg)) (hI : Installed env tbl) (loc : Bytes) (hl : NUL ∉ loc) :
    nughdeGet env .none loc =
      match specIdentity tbl env.pw loc with
      | .table r => ([], .hit r)
      | .passwd r => (gpwEvents env loc, .hit r)
      | .fail c => (gpwEvents env loc, .exit c) := by
  rw [nughdeGet_identity env tbl loc (C11_installed_lookup env tbl hI loc hl)]
  cases specIdentity tbl env.pw loc <;> rfl

/-- **The composed identity theorem.** users/cdb compiled by qmail-newu from users/assign (or absent), any passwd
    database, any non-empty NUL-free local part, no failing call: the delivery child does EXACTLY what the tables dictate
    (`specChild`, written in the spec without reference to the model): chdir, the lookup's child if the table does not
    cover the address, then for the record of `specIdentity` read by `specRecord`: fds, `setgroups [gid]`, `setgid gid`,
    `setuid uid`, `getuid`, and `execv bin/qmail-local` with `specArgv` (user, home, local, dash, ext, domain, sender,
    aliasempty) — outcome exec; uid 0 ⇒ QLX_ROOT before any exec; malformed record ⇒ QLX_USAGE; failing password lookup ⇒
    its code.  Composes `C11_newu_parse`, `C11_cdb_roundtrip`, `C11_lookup_spec`, `C11_getpw_spec`, `C11_record_parse`. -/
theorem C11_identity (env : Env) (tbl : Option (List Asg)) (hI : Installed env tbl) (sender loc dom : Bytes)
    (hl : NUL ∉ loc) (hne : loc ≠ []) :
    spawnChild env .none sender loc dom = specChild env (specIdentity tbl env.pw loc) sender loc dom :=
  spawnChild_none env sender loc dom hne _
    (nughdeGet_identity env tbl loc (C11_installed_lookup env tbl hI loc hl))

/-- the form of `C11_identity` the driver evaluates on the implementation's recorded calls and outcome -/
theorem C11_identity_oracle (env : Env) (tbl : Option (List Asg)) (hI : Installed env tbl) (sender loc dom : Bytes)
    (hl : NUL ∉ loc) (hne : loc ≠ []) :
    childAsDictated env (specIdentity tbl env.pw loc) sender loc dom
      (spawnChild env .none sender loc dom).1 (spawnChild env .none sender loc dom).2 = true := by
  rw [C11_identity env tbl hI sender loc dom hl hne]
  simp [childAsDictated]

/-- … and under EVERY single-call fault: with `id` the identity the tables dictate, every execv of qmail-local that
    still happens follows the drop to exactly `id.gid`/`id.uid ≠ 0` and carries exactly `specArgv … id …`; and when the
    tables dictate no runnable identity (failing lookup, malformed record, uid 0) nothing is executed at all. -/
theorem C11_identity_faults (env : Env) (tbl : Option (List Asg)) (hI : Installed env tbl) (flt : Fault)
    (sender loc dom : Bytes) (hl : NUL ∉ loc) :
    match (specIdentity tbl env.pw loc).record?.bind specRecord with
    | some id =>
      traceOk env id loc dom sender [] (spawnChild env flt sender loc dom).1 = true ∧
      (id.uid = 0 → noExec (spawnChild env flt sender loc dom).1 = true ∧ (spawnChild env flt sender loc dom).2 ≠ .exec)
    | none =>
      noExec (spawnChild env flt sender loc dom).1 = true ∧ (spawnChild env flt sender loc dom).2 ≠ .exec := by
  rcases spawnChild_shape env flt sender loc dom with ⟨hq, c, hc, _⟩ | ⟨evs, x, id, _, t⟩
  · -- the child stops before the tail of spawn()
    have hx : (spawnChild env flt sender loc dom).2 ≠ .exec := by rw [hc]; nofun
    split
    · exact ⟨traceOk_of_quiet _ _ _ _ _ _ _ hq, fun _ => ⟨noExec_of_quiet _ hq, hx⟩⟩
    · exact ⟨noExec_of_quiet _ hq, hx⟩
  · -- a failing call leaves the lookup's answer as it is, or turns it into an exit: the record is the dictated one
    rcases nughdeGet_fault env flt loc with he | ⟨_, _, he, _⟩
    · have hw := t.lookup
      rw [he, nughdeGet_identity env tbl loc (C11_installed_lookup env tbl hI loc hl)] at hw
      have hid : (specIdentity tbl env.pw loc).record?.bind specRecord = some id := by
        rw [← t.parse, parseNughde_eq_specRecord]
        cases hs : specIdentity tbl env.pw loc <;> rw [hs] at hw <;> cases hw <;> rfl
      rw [hid]
      have hroot := C11_never_root env flt sender loc dom evs x id t.lookup t.parse
      exact ⟨C11_argv env flt sender loc dom evs x id t.lookup t.parse, fun hu => ⟨(hroot hu).1, (hroot hu).2.1⟩⟩
    · cases he.symm.trans t.lookup

/-! ## which user: the password-file rules -/

/-- qmail-getpw's loop = the declarative rules: the longest `user[-ext]` split (user part shorter than 32 bytes,
    lower-cased) whose account is a non-root account owning its existing home; a temporary getpwnam/stat failure
    met before that exits QLX_SYS/QLX_NFS; otherwise the alias user with dash "-" and the whole address as ext;
    QLX_NOALIAS without one -/
theorem C11_getpw_spec (db : PwDb) (loc : Bytes) : getpwMain db loc = specGetpw db loc :=
  getpwMain_eq_spec db loc

/-- what "is a user" means in that rule -/
theorem C11_getpw_user_rule (db : PwDb) (name : Bytes) (pw : PwEnt) (h : acct db name = .user pw) :
    db.getpwnam name = some pw ∧ pw.uid ≠ 0 ∧ db.stat pw.dir = .ok pw.uid := by
  -- the only branch of `acct` that answers `.user`: entry found, not busy, uid not 0, home directory owned by the uid
  revert h
  fun_cases acct db name <;> intro h <;> cases h
  next hg _ hu hs => exact ⟨hg, hu, hs⟩

/-! ## non-vacuity: concrete inputs meeting the hypotheses -/

/-- qmail-users(5)'s example: `+:alias…`, `+joe-:joe…`, `=joe:joe…` (data abbreviated to one byte) -/
def exTbl : List Asg :=
  [⟨true, [], [65]⟩, ⟨true, [106, 111, 101, 45], [66]⟩, ⟨false, [106, 111, 101], [67]⟩]

example : ∀ a ∈ exTbl, NUL ∉ a.name := by decide
-- "Joe-Direct" is handled by the second line (longest wildcard prefix, case-insensitive), keeping "Direct"
example : specLookup exTbl [74, 111, 101, 45, 68, 105, 114, 101, 99, 116] = some [66, 68, 105, 114, 101, 99, 116, 0] := by decide +kernel
-- "JOE" by the third (exact beats wildcard), "bill" by the first
example : specLookup exTbl [74, 79, 69] = some [67, 0] := by decide
example : specLookup exTbl [98, 105, 108, 108] = some [65, 98, 105, 108, 108, 0] := by decide
example : nughdeLoop (lkTbl exTbl) (wildOf exTbl []) [74, 111, 101, 45, 68] = .hit [66, 68, 0] := by decide
-- duplicates: the first pair wins, through hashing and probing
example : findStruct [([33, 97, 0], [1]), ([33, 98, 0], [2]), ([33, 97, 0], [3])] [33, 97, 0] = some [1] := by decide +kernel

-- the same through the BYTES of the compiled file (2132 bytes, far below the 4 GiB hypothesis)
example : (cdbMake [([33, 97, 0], [1]), ([33, 98, 0], [2]), ([33, 97, 0], [3])]).length < 4294967296 := by decide +kernel
example : cdbGet (cdbMake [([33, 97, 0], [1]), ([33, 98, 0], [2]), ([33, 97, 0], [3])]) [33, 97, 0] = .found [1] := by
  decide +kernel
example : cdbGet (cdbMake [([33, 97, 0], [1]), ([33, 98, 0], [2]), ([33, 97, 0], [3])]) [33, 99, 0] = .notFound := by
  decide +kernel
example : cdbDump (cdbMake [([33, 97, 0], [1]), ([33, 98, 0], [2]), ([33, 97, 0], [3])]) =
    some [([33, 97, 0], [1]), ([33, 98, 0], [2]), ([33, 97, 0], [3])] := by decide +kernel
-- truncated after the header: the lookup reports a read error (the first alternative of `C11_cdb_truncated`)
example : cdbGet ((cdbMake [([33, 97, 0], [1]), ([33, 98, 0], [2])]).take 2060) [33, 97, 0] = .err := by decide +kernel

/-- `+a:w:1:2:/h:-:p:` / `=B:u:3:4:/:::` / `.` -/
def exAssign : Bytes :=
  [43, 97, 58, 119, 58, 49, 58, 50, 58, 47, 104, 58, 45, 58, 112, 58, 10,
   61, 66, 58, 117, 58, 51, 58, 52, 58, 47, 58, 58, 58, 10, 46, 10]

example : specParse exAssign = some [⟨true, [97], [119, 0, 49, 0, 50, 0, 47, 104, 0, 45, 0, 112]⟩,
                                     ⟨false, [98], [117, 0, 51, 0, 52, 0, 47, 0, 0]⟩] := by decide +kernel
-- a line with seven fields only, and a file without a dot line, are refused by both readings
example : specParse [61, 97, 58, 117, 58, 49, 58, 50, 58, 47, 58, 58, 10, 46, 10] = none := by decide
example : newuParse [61, 97, 58, 117, 58, 49, 58, 50, 58, 47, 58, 58, 58, 10] = none := by decide
-- the compiled file of `exAssign` exists, is small, and "Ax" is delivered by the wildcard line (ext "x" after pre "p")
example : ∃ f, newuFile exAssign = some f ∧ f.length < 4294967296 ∧
    nughdeCdb (some f) [65, 120] = .hit [119, 0, 49, 0, 50, 0, 47, 104, 0, 45, 0, 112, 120, 0] :=
  ⟨_, rfl, by decide +kernel, by decide +kernel⟩

/-- no users/cdb; passwd: alias (7790) and joe (uid 1001, owns /h/joe) -/
def exEnv : Env :=
  { cdb := none,
    pw := { pws := [⟨[97, 108, 105, 97, 115], 7790, 2108, [47, 97], false⟩, ⟨[106, 111, 101], 1001, 100, [47, 104], false⟩],
            dirs := [([47, 97], .ok 7790), ([47, 104], .ok 1001)] },
    uidp := 7794, gidn := 2108, aliasempty := [46], autoQmail := [47] }

-- "Joe-x@d" is delivered as joe with ext "x"; the trace ends in the guarded execv
example : (docmd exEnv .none [115] [74, 111, 101, 45, 120, 64, 100]).2 = .exec := by decide +kernel
example : ((docmd exEnv .none [115] [74, 111, 101, 45, 120, 64, 100]).1.getLast?) =
    some (.execv localPath [localPath, [45, 45], [106, 111, 101], [47, 104], [74, 111, 101, 45, 120], [45], [120], [100], [115], [46]]) := by
  decide +kernel
-- with setuid failing nothing is executed and the exit code defers
example : (docmd exEnv .setuid [115] [106, 111, 101, 64, 100]).2 = .exit QLX_USAGE := by decide

/-- the declarative reading of `exAssign` -/
def exAssignTbl : List Asg :=
  [⟨true, [97], [119, 0, 49, 0, 50, 0, 47, 104, 0, 45, 0, 112]⟩, ⟨false, [98], [117, 0, 51, 0, 52, 0, 47, 0, 0]⟩]

-- `Installed` is satisfiable: the passwd-only environment with the compiled `exAssign` as users/cdb; and without users/cdb
example : ∃ f, Installed { exEnv with cdb := some f } (some exAssignTbl) :=
  ⟨_, exAssign, _, rfl, rfl, by decide +kernel, by decide⟩
example : Installed exEnv none := rfl
-- "Ax" is covered by the table (wildcard `+a`, pre "p", remainder "x"): record w/1/2//h/-/px, no child process
example : specIdentity (some exAssignTbl) exEnv.pw [65, 120] = .table [119, 0, 49, 0, 50, 0, 47, 104, 0, 45, 0, 112, 120, 0] := by decide
example : specRecord [119, 0, 49, 0, 50, 0, 47, 104, 0, 45, 0, 112, 120, 0] = some ⟨[119], 1, 2, [47, 104], [45], [112, 120]⟩ := by decide
-- "Joe-x" is not: the password-file rules give joe (1001/100, /h), dash "-", ext "x"
example : specIdentity (some exAssignTbl) exEnv.pw [74, 111, 101, 45, 120] =
    .passwd [106, 111, 101, 0, 49, 48, 48, 49, 0, 49, 48, 48, 0, 47, 104, 0, 45, 0, 120, 0] := by decide +kernel
-- … and the whole child for it: chdir, the four calls of the qmail-getpw child, fds, drop to 100/1001, execv
example : specChild exEnv (specIdentity (some exAssignTbl) exEnv.pw [74, 111, 101, 45, 120]) [115] [74, 111, 101, 45, 120] [100] =
    ([.chdir [47]] ++ gpwEvents exEnv [74, 111, 101, 45, 120] ++
      [.fdmove 0, .fdmove 1, .fdcopy 2, .setgroups 1 100 true, .setgid 100 true, .setuid 1001 true, .getuid 1001,
       .execv localPath [localPath, [45, 45], [106, 111, 101], [47, 104], [74, 111, 101, 45, 120], [45], [120], [100], [115], [46]]],
     .exec) := by decide +kernel
-- no alias user and an unknown address: the lookup fails with QLX_NOALIAS
example : specIdentity none { pws := [], dirs := [] } [120] = .fail QLX_NOALIAS := by decide
-- a uid field without leading digits (`+5`) reads as uid 0 — refused by `C11_never_root`; 4294967296 wraps to 0
example : (specRecord [117, 0, 43, 53, 0, 50, 0, 47, 0, 0, 0]).map (·.uid) = some 0 := by decide
example : (specRecord [117, 0, 52, 50, 57, 52, 57, 54, 55, 50, 57, 54, 0, 50, 0, 47, 0, 0, 0]).map (·.uid) = some 0 := by decide
-- five NULs only: malformed
example : specRecord [117, 0, 49, 0, 50, 0, 47, 0, 45, 0, 120] = none := by decide
-- 8-bit names: `case_lowerb` folds ASCII only — "MÜLLER" (UTF-8 c3 9c) lower-cases to "mÜller", not to "müller" (c3 bc);
-- 0xC1 ('A' + 0x80) is left alone
example : lower [77, 195, 156, 76, 76, 69, 82] = [109, 195, 156, 108, 108, 101, 114] := by decide
example : lower [193, 201, 255, 127, 1] = [193, 201, 255, 127, 1] := by decide
example : specLookup [⟨false, [109, 195, 188, 108, 108, 101, 114], [65]⟩, ⟨true, [], [66]⟩] [77, 195, 188, 76, 76, 69, 82] = some [65, 0] := by decide
example : specLookup [⟨false, [109, 195, 188, 108, 108, 101, 114], [65]⟩, ⟨true, [], [66]⟩] [77, 195, 156, 76, 76, 69, 82] =
    some [66, 77, 195, 156, 76, 76, 69, 82, 0] := by decide +kernel
-- the same 8-bit key through the bytes of the compiled file (reader and writer hash the byte as unsigned)
example : cdbGet (cdbMake [([33, 109, 195, 188, 0], [1]), ([33, 233, 45], [2])]) [33, 109, 195, 188, 0] = .found [1] := by decide +kernel
example : cdbGet (cdbMake [([33, 109, 195, 188, 0], [1]), ([33, 233, 45], [2])]) [33, 233, 45] = .found [2] := by decide +kernel

end Nq.Props.C11
