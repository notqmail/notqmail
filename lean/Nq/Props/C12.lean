/-
  C12 — Mailbox deliveries are complete or absent: maildir atomic, mbox rolled back.

  Models (`Nq.LocalDeliver`): `Md.accept` — acceptor of the system-call traces of `maildir()` and
  `maildir_child()` with the abstract file `Md.FS` and the crash relation `Md.CrashOf`; `Mb.accept` /
  `Mb.sysStep` — acceptor of `mailfile()` and the system of any number of concurrent deliveries to one
  mbox file with `flock` as a mutex; `mboxEntry`, `gfrom`, `myctime`, `ufline` and (from `Nq.Local`)
  `rpline`, `dtline`.  Specification (`Nq.Spec.Mbox`): the reader of mbox(5), `mboxRead`.
  `Nq.MaildirSys` (`MdSys`): any number of `Md.accept` deliveries into one maildir, with the clock, the process ids
  and a mail reader that empties new/.

  Tie: every trace of the real qmail-local recorded under qsim (all inputs × single faults × schedules)
  is replayed through the acceptors by `drv_c12`; gfrom()/myctime() are compared on exhaustive / dense
  inputs; the exit-status `switch` of `maildir()` is regenerated from the source (`Gen.LocalExit`).

  The maildir theorems quantify over every accepted trace — every message, chunking, short write,
  EINTR, failing call, alarm — and, since every prefix of an accepted trace is accepted
  (`C12_maildir_prefix_closed`), over every instant at which the process or machine may stop;
  `CrashOf` lets a file not fsynced since its last change come back with arbitrary content.
-/
import Nq.Lemmas.LocalDeliverMd
import Nq.Lemmas.LocalDeliverMb
import Nq.Lemmas.LocalDeliverMbox
import Nq.Lemmas.LocalDeliverDate
import Nq.Lemmas.MaildirSys

namespace Nq.Props.C12
open Nq Nq.LocalDeliver Nq.Mbox

/-! ## Maildir -/
section maildir
open Nq.LocalDeliver.Md Nq.Lemmas.LD.Md

/-- the trace is a run of one maildir delivery from the start -/
def MdRun (p : Md.Params) (evs : List Md.Ev) (s : Md.St) : Prop := Md.acceptAll p {} evs = some s

/-- Crash points are covered: each prefix of a run is a run. -/
theorem C12_maildir_prefix_closed (p : Md.Params) (evs : List Md.Ev) (s : Md.St) (k : Nat) (h : MdRun p evs s) :
    ∃ s', MdRun p (evs.take k) s' := by
  obtain ⟨s', h'⟩ := Acceptor.foldlM_take ((acceptAll_eq p evs {}).symm.trans h) k
  exact ⟨s', (acceptAll_eq p _ {}).trans h'⟩

/-- **Atomic at every instant, under every crash.**  If after any prefix of a delivery and any
crash resolution the message is visible in new/, then the file holds exactly the Return-Path line,
the Delivered-To line and the message. -/
theorem C12_maildir_atomic (p : Md.Params) (evs : List Md.Ev) (s : Md.St) (h : MdRun p evs s) (fs' : Md.FS)
    (hc : Md.CrashOf (Md.applyAll {} evs) fs') (hv : fs'.newName = true) : fs'.cur = p.content := by
  have hinv := (run_inv p evs s h).1
  obtain ⟨_, c2, c3⟩ := hc
  have hcomp := hinv.1 (by rw [← c2]; exact hv)
  rw [c3 hcomp.2]; exact hcomp.1

/-- **Success means delivered, durably**: when qmail-local reports success the message is visible in
new/, complete, and stays so across any crash. -/
theorem C12_maildir_success (p : Md.Params) (evs : List Md.Ev) (s : Md.St) (h : MdRun p evs s) (hx : s.pc = .done 0)
    (fs' : Md.FS) (hc : Md.CrashOf (Md.applyAll {} evs) fs') : fs'.newName = true ∧ fs'.cur = p.content := by
  have hinv := (run_inv p evs s h).1
  have hn : (Md.applyAll {} evs).newName = true := by
    have := hinv.2; simp [PcInv, hx] at this; exact this
  have hv : fs'.newName = true := by rw [hc.2.1]; exact hn
  exact ⟨hv, C12_maildir_atomic p evs s h fs' hc hv⟩

/-- **Failure means absent**: when qmail-local reports a failure nothing is visible in new/ — unless a
signal (the 24-hour alarm, a kill) hit the child after its `link`, in which case the complete
message is there (`C12_maildir_atomic`) and will be delivered a second time, never lost. -/
theorem C12_maildir_failure (p : Md.Params) (evs : List Md.Ev) (s : Md.St) (h : MdRun p evs s) (c : Nat)
    (hx : s.pc = .done c) (hc0 : c ≠ 0) (hsig : s.interrupted = false) (fs' : Md.FS)
    (hc : Md.CrashOf (Md.applyAll {} evs) fs') : fs'.newName = false := by
  have hinv := (run_inv p evs s h).1
  have := hinv.2; simp [PcInv, hx] at this
  have h2 := this.2.1 hc0
  rw [hc.2.1]
  cases hn : (Md.applyAll {} evs).newName with
  | false => rfl
  | true => have := h2 hn; rw [hsig] at this; cases this

/-- **Failures of a delivery are temporary**: once `maildir()` has forked, qmail-local exits 0 or 111. -/
theorem C12_maildir_exit_codes (p : Md.Params) (evs : List Md.Ev) (s : Md.St) (h : MdRun p evs s) (c : Nat)
    (hx : s.pc = .done c) (hf : s.forked = true) : c = 0 ∨ c = 111 := by
  have hinv := (run_inv p evs s h).1
  have := hinv.2; simp [PcInv, hx] at this
  exact this.2.2 hf

/-- **The exit-status switch of `maildir()`** (regenerated from the source): only child status 0 is
reported as success. -/
theorem C12_maildir_exit_map (c : Nat) : (parentCode c = 0 ↔ c = 0) ∧ (parentCode c = 0 ∨ parentCode c = 111) :=
  ⟨parentCode_zero c, parentCode_cases c⟩

/-- **Only `link` populates new/**: an accepted event that makes new/ non-empty is a successful `link`
issued at the control point `linking`.  (This restates the guard of `Md.accept` and `Md.apply`; what
must have happened before that control point is reached is `C12_maildir_link_reach`.) -/
theorem C12_maildir_link_only (p : Md.Params) (s s' : Md.St) (e : Md.Ev) (fs : Md.FS) (h : Md.accept p s e = some s')
    (h0 : fs.newName = false) (h1 : (Md.apply fs e).newName = true) : e = .link true ∧ s.pc = .linking := by
  rw [apply_newName, h0] at h1
  obtain rfl : e = .link true := by simpa using h1
  exact ⟨rfl, accept_link_pc p s s' true h⟩

/-- **Reachability of the link** (inductive, over all accepted traces): in any run whose last event is
a successful `link`, the events before it leave this delivery's file named in tmp/ (a successful
`open_excl`), nothing in new/, the writes since that `open_excl` concatenating to exactly
Return-Path line + Delivered-To line + message, a successful `fsync` after the last write, and the
event immediately before the `link` is the successful `close`. -/
theorem C12_maildir_link_reach (p : Md.Params) (evs : List Md.Ev) (s : Md.St) (h : MdRun p (evs ++ [.link true]) s) :
    (Md.applyAll {} evs).tmpName = true ∧ (Md.applyAll {} evs).newName = false ∧ (Md.applyAll {} evs).cur = p.content ∧
    (Md.applyAll {} evs).synced = true ∧ evs.getLast? = some (.close true) := link_reach p evs s h

/-- **Names**: the name `time.pid.host` used under tmp/ and new/ determines the second and the
process id of the delivering child: `maildirName` is injective in time and pid, whatever the hosts.
That is the whole statement.  What it is used for is not in it: two deliveries on one host that use
the same name therefore are the same process in the same second — and one child performs one
delivery; a name left over from an earlier life of the same pid is detected by `open_excl` (retry,
then failure) and by `link` (failure): `Md.accept` has no path on which an existing name is taken over
(for several deliveries into one maildir these are `C12_mdsys_new_once`, `C12_mdsys_link_exclusive`,
`C12_mdsys_concurrent_names` and `C12_mdsys_restart_names`). -/
theorem C12_maildir_names (t p t' p' : Nat) (h h' : Bytes) (he : maildirName t p h = maildirName t' p' h') :
    t = t' ∧ p = p' := by
  unfold maildirName at he
  simp only [List.append_assoc, List.singleton_append] at he
  have nd := Nq.Lemmas.LD.Rt.fmtDec_ne_dot
  obtain ⟨e1, e2⟩ := Nq.Lemmas.LD.Rt.split_at_dot _ _ _ _ (nd t) (nd t') he
  obtain ⟨e3, _⟩ := Nq.Lemmas.LD.Rt.split_at_dot _ _ _ _ (nd p) (nd p') e2
  exact ⟨Nq.Lemmas.LD.Rt.fmtDec_inj e1, Nq.Lemmas.LD.Rt.fmtDec_inj e3⟩

end maildir

/-! ## Mbox: the entry and the reader -/
section roundtrip
open Nq.Lemmas.LD.Rt

/-- exactly one LF, at the end (the lemma files say `SingleLine` for the same proposition) -/
def OneLine (l : Bytes) : Prop := ∃ pre, l = pre ++ [LF] ∧ LF ∉ pre

/-- **Header lines**: the Return-Path, Delivered-To and From_ lines built by `main` are single lines
whatever bytes the envelope sender, the recipient and the host contain (newlines in them become
'_' resp. '-'); the From_ line is a From_ line, the other two are neither From_ nor >From_ lines; and
a reader gets the envelope sender back from the From_ line with blanks, tabs and newlines replaced
by '-' (MAILER-DAEMON for the empty sender), as mbox(5) says. -/
theorem C12_headers (sender loc host : Bytes) (t : Nat) :
    OneLine (Local.rpline sender) ∧ OneLine (Local.dtline loc host) ∧ OneLine (ufline sender t) ∧
    isFromLine (ufline sender t) = true ∧ gfrom (Local.rpline sender) = false ∧ gfrom (Local.dtline loc host) = false ∧
    envSender (ufline sender t) = ufSender sender ∧ (∀ c ∈ ufSender sender, c ≠ SP ∧ c ≠ TAB ∧ c ≠ LF) :=
  ⟨rpline_single sender, dtline_single loc host, ufline_single sender t, ufline_from sender t, rpline_gfrom sender,
   dtline_gfrom loc host, ufline_sender sender t, ufSender_clean sender⟩

/-- **The date has exactly 24 characters** (mbox(5): "It always contains exactly 24 characters in
asctime format"), for every instant from 1970-01-01 00:00:00 to 9999-12-31 23:59:59 (later years need
five digits): weekday and month indices are in range of the name tables, the other fields have two
resp. four digits — from the Gregorian-calendar theorem for `datetime_tai` (`Nq/Lemmas/Datetime.lean`).
So the From_ line is "From " word " " 24 characters LF. -/
theorem C12_date_24 (sender : Bytes) (t : Nat) (ht : t < 253402300800) :
    (myctime t).length = 25 ∧ (ufline sender t).length = 5 + (ufSender sender).length + 1 + 24 + 1 := by
  have h := Nq.Lemmas.LD.Date.myctime_length t ht
  refine ⟨h, ?_⟩
  simp [ufline, uflinePrefix_eq, h, fromSp]; omega

/-- **gfrom.c is the documented test**: `>` is prepended exactly to From_, >From_, >>From_, … lines. -/
theorem C12_gfrom (l : Bytes) : gfrom l = (isFromLine l || isQuoted l) := gfrom_spec l

/-- **Round trip** for every message and every envelope: appending the entry to a file that ends at
a line boundary leaves such a file, and the documented reader finds the old messages unchanged
followed by exactly one new message: the From_ line, and the Return-Path line, the Delivered-To line
and the message — byte for byte, for NUL and 8-bit bytes, From_/>From_ lines and empty messages; the
only normalisation is the completion of a partial last line that mbox(5) prescribes. -/
theorem C12_mbox_roundtrip (box msg sender loc host : Bytes) (t : Nat) (hbox : AtBoundary box) :
    let entry := mboxEntry (ufline sender t) (Local.rpline sender) (Local.dtline loc host) msg
    AtBoundary (box ++ entry) ∧
    mboxRead (box ++ entry) = mboxRead box ++
      [(ufline sender t, completeLastLine (Local.rpline sender ++ Local.dtline loc host ++ msg))] :=
  roundtrip box _ _ _ msg hbox (ufline_single sender t) (ufline_from sender t) (rpline_single sender) (rpline_gfrom sender)
    (dtline_single loc host) (dtline_gfrom loc host)

/-- one delivery: envelope sender, time, recipient local part and host, message -/
structure Delivery where
  sender : Bytes
  t : Nat
  loc : Bytes
  host : Bytes
  msg : Bytes

/-- what `mailfile()` appends for it -/
def entryOf (d : Delivery) : Bytes := mboxEntry (ufline d.sender d.t) (Local.rpline d.sender) (Local.dtline d.loc d.host) d.msg

/-- what the reader must return for it -/
def readOf (d : Delivery) : Bytes × Bytes :=
  (ufline d.sender d.t, completeLastLine (Local.rpline d.sender ++ Local.dtline d.loc d.host ++ d.msg))

/-- **Round trip for any sequence of deliveries** (with `C12_mbox_final`: for the result of any
number of concurrent deliveries): the reader returns the old messages and then exactly the
delivered messages, in the order of the entries. -/
theorem C12_mbox_roundtrip_many (ds : List Delivery) : ∀ (box : Bytes), AtBoundary box →
    AtBoundary (box ++ (ds.map entryOf).flatten) ∧
    mboxRead (box ++ (ds.map entryOf).flatten) = mboxRead box ++ ds.map readOf := by
  induction ds with
  | nil => intro box hb; simpa using hb
  | cons d ds ih =>
    intro box hb
    have h1 := C12_mbox_roundtrip box d.msg d.sender d.loc d.host d.t hb
    simp only at h1
    obtain ⟨hb1, hr1⟩ := h1
    have h2 := ih (box ++ entryOf d) hb1
    simp only [List.map_cons, List.flatten_cons, ← List.append_assoc]
    refine ⟨h2.1, ?_⟩
    rw [h2.2]
    unfold entryOf readOf
    rw [hr1]
    simp [List.append_assoc]

/-- a message that ends with a newline (or is empty) comes back unchanged -/
theorem C12_mbox_roundtrip_exact (m : Bytes) (h : m = [] ∨ m.getLast? = some LF) : completeLastLine m = m := by
  simp [completeLastLine, h]

end roundtrip

/-! ## Mbox: locking, roll-back, serialisation -/
section mbox
open Nq.LocalDeliver.Mb Nq.Lemmas.LD.Mb

/-- a run of any number of deliveries (process `i` appends `entry i`) to a file that holds `box` -/
def MbRun (entry : Nat → Bytes) (box : Bytes) (tr : List (Nat × Mb.Ev)) (y : Mb.Sys) : Prop :=
  Mb.sysRun entry { file := box } tr = some y

/-- no `flock` and no `ftruncate` fails in the run (if `lock_ex` fails the program proceeds unlocked) -/
def Benign (tr : List (Nat × Mb.Ev)) : Prop := ∀ x ∈ tr, Mb.benign x.2 = true

/-- **Deliveries never interleave.**  At every instant of every interleaving of any number of
deliveries the file is the old content, followed by the complete entries of the deliveries that have
finished their append, in the order in which they held the lock, followed by what the current lock
holder has appended so far; nobody else is inside the critical section. -/
theorem C12_mbox_serial (entry : Nat → Bytes) (box : Bytes) (tr : List (Nat × Mb.Ev)) (y : Mb.Sys)
    (h : MbRun entry box tr y) (hb : Benign tr) :
    y.order.Nodup ∧ (∀ j, j ∈ y.order ↔ Committed (y.st j).pc = true) ∧
    (∀ j, InCrit (y.st j).pc = true → y.holder = some j) ∧
    (y.holder = none → y.file = box ++ (y.order.map entry).flatten) ∧
    (∀ i, y.holder = some i → ∃ part, y.file = box ++ (y.order.map entry).flatten ++ part) := by
  have hinv := run_inv entry box tr _ y (inv_init entry box) (fun j => pinv_init (entry j)) hb h
  refine ⟨hinv.nodup, hinv.ord, hinv.excl, hinv.free, ?_⟩
  intro i hi
  have := hinv.held i hi
  unfold HolderInv at this
  split at this
  · exact ⟨_, this.1⟩
  · exact ⟨_, this.1⟩
  · exact ⟨_, this.1⟩
  · exact ⟨_, this.1⟩
  · exact ⟨_, this.1⟩
  · exact ⟨[], by simpa [base] using this⟩

/-- **Complete or absent, in every interleaving.**  When every delivery has exited, the file is the
old content followed by the entries of exactly the deliveries that reported success (exit 0), each
complete, in lock order; a delivery that reported failure left nothing. -/
theorem C12_mbox_final (entry : Nat → Bytes) (box : Bytes) (tr : List (Nat × Mb.Ev)) (y : Mb.Sys)
    (h : MbRun entry box tr y) (hb : Benign tr) (hdone : ∀ j, ∃ c, (y.st j).pc = .done c ∨ (y.st j).pc = .start) :
    y.file = box ++ (y.order.map entry).flatten ∧ y.order.Nodup ∧ (∀ j, j ∈ y.order ↔ (y.st j).pc = .done 0) :=
  all_idle entry box tr y h hb fun j => by
    obtain ⟨c, hc | hc⟩ := hdone j <;> rw [hc] <;> rfl

/-- **Roll-back**: a single delivery that fails (read error, write error, failing fsync — at any
point of the copy) while holding the lock leaves the file exactly as it was.  The statement: a run of
one delivery alone in which no `flock` and no `ftruncate` fails (`Benign`) and which ends in an exit
code ≠ 0, for whatever reason, has `file = box`.  That the code reported is then the temporary failure
111 is not in this statement: it is `C12_mbox_exit_codes` (once `open_append` was attempted) and, after
a failing read, write or fsync, `C12_mbox_error_fails`. -/
theorem C12_mbox_rollback (entry : Nat → Bytes) (box : Bytes) (tr : List (Nat × Mb.Ev)) (y : Mb.Sys)
    (h : MbRun entry box tr y) (hb : Benign tr) (honly : ∀ x ∈ tr, x.1 = 0) (c : Nat)
    (hx : (y.st 0).pc = .done c) (hc : c ≠ 0) : y.file = box := by
  obtain ⟨hf, ho⟩ := single_done entry box tr y h hb honly c hx
  simpa [ho, hc] using hf

/-- **Success appends exactly the entry** (single delivery). -/
theorem C12_mbox_append (entry : Nat → Bytes) (box : Bytes) (tr : List (Nat × Mb.Ev)) (y : Mb.Sys)
    (h : MbRun entry box tr y) (hb : Benign tr) (honly : ∀ x ∈ tr, x.1 = 0)
    (hx : (y.st 0).pc = .done 0) : y.file = box ++ entry 0 := by
  obtain ⟨hf, ho⟩ := single_done entry box tr y h hb honly 0 hx
  simpa [ho] using hf

/-- **A failure is reported as temporary**: once `mailfile()` has been entered (open_append attempted),
qmail-local exits 0 or 111 — in every interleaving, whatever fails (no `Benign` hypothesis). -/
theorem C12_mbox_exit_codes (entry : Nat → Bytes) (box : Bytes) (tr : List (Nat × Mb.Ev)) (y : Mb.Sys)
    (h : MbRun entry box tr y) (i c : Nat) (hx : (y.st i).pc = .done c) (ho : (y.st i).opened = true) : c = 0 ∨ c = 111 := by
  exact (pinv_run entry tr _ y (fun j => pinv_init (entry j)) h i).done_code c hx ho

/-- **Exit 0 iff the entry was appended and synced** (no `Benign` hypothesis): `synced` is set by
exactly one event, an accepted successful `fsync`, which the program may issue only when everything
it wrote is the complete entry; a delivery that has exited reported 0 iff that happened. -/
theorem C12_mbox_exit_zero_iff (entry : Nat → Bytes) (box : Bytes) (tr : List (Nat × Mb.Ev)) (y : Mb.Sys)
    (h : MbRun entry box tr y) (i c : Nat) (hx : (y.st i).pc = .done c) :
    (c = 0 ↔ (y.st i).synced = true) ∧ ((y.st i).synced = true → (y.st i).written = entry i) := by
  have hp := pinv_run entry tr _ y (fun j => pinv_init (entry j)) h i
  refine ⟨?_, hp.synced_written⟩
  rw [hp.synced_iff, hx]
  cases c with
  | zero => simp [Committed]
  | succ k => simp [Committed]

/-- **Any failing write ⇒ temporary failure, nothing of the delivery stays** (every interleaving, no hypothesis on
lengths).  `hardError e`: a `read` or `write` that fails with anything but EINTR, or a failing `fsync`.  The acceptor takes
EVERY chunking of the entry into `write` events, hence every buffered writer — substdio's 1024-byte `outbuf` flushed when a
put finds it full — at every entry length, in particular the lengths `k*1024 (+1)` at which the failing `write` is the flush
forced by the final one-byte put: a trace in which the program carries on after such an error (further `write`, `fsync`,
`exit 0`) is not a trace of the model, so the real program doing that is a DISAGREE.  Once process `i` has seen a hard
error it can only exit with 111, never counts as synced, and (if no `flock`/`ftruncate` fails) is not among the committed
deliveries whose entries make up the file (`C12_mbox_serial`, `C12_mbox_final`; alone: `C12_mbox_rollback`, file = box). -/
theorem C12_mbox_error_fails (entry : Nat → Bytes) (box : Bytes) (tr1 tr2 : List (Nat × Mb.Ev)) (i : Nat) (e : Mb.Ev)
    (y : Mb.Sys) (he : hardError e = true) (h : MbRun entry box (tr1 ++ (i, e) :: tr2) y) :
    (∀ c, (y.st i).pc = .done c → c = 111) ∧ (y.st i).synced = false ∧
    (Benign (tr1 ++ (i, e) :: tr2) → i ∉ y.order) := by
  have hf := error_run entry tr1 tr2 i e _ y he h
  have hnc := failed_not_committed _ hf
  have hp := pinv_run entry _ _ y (fun j => pinv_init (entry j)) h i
  refine ⟨fun c hc => failed_done _ hf c hc, hp.not_synced hnc, ?_⟩
  · intro hb hmem
    have hinv := run_inv entry box _ _ y (inv_init entry box) (fun j => pinv_init (entry j)) hb h
    have := (hinv.ord i).1 hmem
    rw [hnc] at this; cases this

/-- the only event that sets `synced`: a successful fsync at the end of the copy with the complete entry written -/
theorem C12_mbox_synced_by_fsync (entry : Bytes) (s s' : Mb.St) (e : Mb.Ev) (h : Mb.accept entry s e = some s')
    (h0 : s.synced = false) (h1 : s'.synced = true) : e = .fsync true ∧ s.pc = .copy ∧ s.eof = true ∧ s.written = entry := by
  rcases synced_step entry s s' e h with hs | hs
  · rw [hs, h0] at h1; cases h1
  · exact hs

/-- **The unlocked case, stated, not hidden**: `ftruncate` is issued only by a delivery that holds
the lock, and always to the length the file had when the lock was taken; a delivery whose `lock_ex`
failed never truncates (and then neither roll-back nor serialisation is claimed). -/
theorem C12_mbox_truncate_only_locked (entry : Bytes) (s s' : Mb.St) (len : Nat) (ok : Bool)
    (h : Mb.accept entry s (.ftrunc len ok) = some s') : s.pc = .rollback ∧ len = s.pos := by
  exact (Nq.Lemmas.of_ite_some h).1

theorem C12_mbox_rollback_needs_lock (s : Mb.St) (h : s.locked = false) : (Mb.failFrom s).pc = .closeErr := by
  simp [Mb.failFrom, h]

end mbox

section crashIndex
open Nq.LocalDeliver.Md Nq.Lemmas.LD.Md

/-- **The crash relation at EVERY call index, in terms of the trace.**  Stop a delivery after any number `k` of its
events (process or machine crash; un-fsynced data arbitrary): the message is in new/ — complete, byte for byte — if a
successful `link` is among the first `k` events, and new/ has nothing of this delivery otherwise.  In particular between
`link` and `unlink(tmp)`, and between `unlink(tmp)` and `_exit`, the message is there. -/
theorem C12_maildir_crash_every_index (p : Md.Params) (evs : List Md.Ev) (s : Md.St) (h : MdRun p evs s) (k : Nat)
    (fs' : Md.FS) (hc : Md.CrashOf (Md.applyAll {} (evs.take k)) fs') :
    (Md.Ev.link true ∈ evs.take k → fs'.newName = true ∧ fs'.cur = p.content) ∧
    (Md.Ev.link true ∉ evs.take k → fs'.newName = false) := by
  obtain ⟨sk, hk⟩ := C12_maildir_prefix_closed p evs s k h
  have hn := applyAll_newName (evs.take k) {}
  constructor
  · intro hm
    have hv : fs'.newName = true := by rw [hc.2.1, hn]; simp [hm]
    exact ⟨hv, C12_maildir_atomic p (evs.take k) sk hk fs' hc hv⟩
  · intro hm
    rw [hc.2.1, hn]; simp [hm]

/-- **Exactly once**: a run contains at most one successful `link` (so with `C12_maildir_crash_every_index`: the
message is in new/ zero times before it and once after it, never twice). -/
theorem C12_maildir_link_once (p : Md.Params) (evs : List Md.Ev) (s : Md.St) (h : MdRun p evs s) :
    evs.count (Md.Ev.link true) ≤ 1 := link_once p evs.length evs rfl s h

/-- **Inside the child after `link`, before `unlink(tmp)`**: in every crash state at that point the one file has both
names, tmp/x (the leftover that a later clean-up removes) and new/x, and holds exactly the message. -/
theorem C12_maildir_between_link_and_unlink (p : Md.Params) (evs : List Md.Ev) (s : Md.St)
    (h : MdRun p (evs ++ [.link true]) s) (fs' : Md.FS) (hc : Md.CrashOf (Md.applyAll {} (evs ++ [.link true])) fs') :
    fs'.newName = true ∧ fs'.tmpName = true ∧ fs'.cur = p.content := by
  have hr := link_reach p evs s h
  have hv : fs'.newName = true := by rw [hc.2.1, applyAll_newName]; simp
  refine ⟨hv, ?_, C12_maildir_atomic p _ s h fs' hc hv⟩
  rw [hc.1]
  have := applyAll_snoc evs (.link true) {}
  rw [this]
  simp [Md.apply, hr.1]

end crashIndex

section mdsys
open Nq.LocalDeliver.MdSys Nq.Lemmas.LD.MdSys

/-- a run of any number of maildir deliveries into one maildir, from a state in which none of them has started
(tmp/ and new/ may hold anything: stale files, earlier messages) -/
def MdSysRun (c : MdSys.Cfg) (y0 : MdSys.Sys) (tr : List MdSys.Ev) (y : MdSys.Sys) : Prop :=
  (∀ i, y0.st i = {}) ∧ y0.log = [] ∧ y0.new.Nodup ∧ MdSys.run c y0 tr = some y

/-- **Every delivery of the system is a run of the single-delivery acceptor**, whatever the others and the mail reader
do in between: so `C12_maildir_atomic / success / failure / crash_every_index / link_once …` hold for each of them. -/
theorem C12_mdsys_each_is_a_run (c : MdSys.Cfg) (y0 y : MdSys.Sys) (tr : List MdSys.Ev) (h : MdSysRun c y0 tr y) (i : Nat) :
    MdRun (MdSys.params c i) (MdSys.proj i tr) (y.st i) := by
  have := run_proj c i tr y0 y h.2.2.2
  rw [h.1 i] at this
  exact this

/-- **new/ never holds a name twice**, at any instant of any interleaving, with a mail reader moving messages away
(consequence of the `link` guard = link(2) fails on an existing name). -/
theorem C12_mdsys_new_once (c : MdSys.Cfg) (y0 y : MdSys.Sys) (tr : List MdSys.Ev) (h : MdSysRun c y0 tr y) : y.new.Nodup :=
  run_new_nodup c tr y0 y h.2.2.2 h.2.2.1

/-- **No two deliveries ever link the same name while messages stay in new/**: if no reader removes anything, new/ is
what was there before followed by the linked names in link order; they are pairwise different and different from every
old name — for equal pids and equal seconds too. -/
theorem C12_mdsys_link_exclusive (c : MdSys.Cfg) (y0 y : MdSys.Sys) (tr : List MdSys.Ev) (h : MdSysRun c y0 tr y)
    (hm : ∀ e ∈ tr, MdSys.isMua e = false) :
    y.new = y0.new ++ y.log.map (MdSys.logName c) ∧ (y.log.map (MdSys.logName c)).Nodup ∧
    (∀ x ∈ y.log, MdSys.logName c x ∉ y0.new) := by
  have h1 := run_new_log c tr y0 y h.2.2.2 hm y0.new (by simp [h.2.1])
  have h2 := C12_mdsys_new_once c y0 y tr h
  rw [h1] at h2
  have h3 := List.nodup_append.mp h2
  refine ⟨h1, h3.2.1, ?_⟩
  intro x hx hin
  exact h3.2.2 _ hin _ (List.mem_map.mpr ⟨x, hx, rfl⟩) rfl

/-- **Concurrent deliveries use different names** (assumption, a guard of the model: `fork` returns a process id that no
live child has): two deliveries whose children exist at the same instant have different pids, hence their names under
tmp/ and new/ differ whatever the clock showed when each of them called `now()`. -/
theorem C12_mdsys_concurrent_names (c : MdSys.Cfg) (y0 y : MdSys.Sys) (tr : List MdSys.Ev) (h : MdSysRun c y0 tr y)
    (i j : Nat) (hij : i ≠ j) (hi : Md.inChild (y.st i).pc = true) (hj : Md.inChild (y.st j).pc = true) (t t' : Nat) :
    c.pid i ≠ c.pid j ∧ maildirName t (c.pid i) c.host ≠ maildirName t' (c.pid j) c.host := by
  have hl := run_live c tr y0 y h.2.2.2 (live_init c y0 (fun k => by rw [h.1 k]; rfl))
  have hp := hl.2 i j hij hi hj
  exact ⟨hp, fun he => hp (C12_maildir_names _ _ _ _ _ _ he).2⟩

/-- **Restarts: the same name twice needs the same pid in the same second** (and a reader that took the first message
away in between, by `C12_mdsys_link_exclusive`): two successful links of one name were made by children with the same
process id that read the same second from the clock, and in the state `y` the run ends in these two children do not
both exist (the statement speaks of that state only, not of every instant of the run). -/
theorem C12_mdsys_restart_names (c : MdSys.Cfg) (y0 y : MdSys.Sys) (tr : List MdSys.Ev) (h : MdSysRun c y0 tr y)
    (x x' : Nat × Nat) (_hx : x ∈ y.log) (_hx' : x' ∈ y.log) (he : MdSys.logName c x = MdSys.logName c x') :
    x.2 = x'.2 ∧ c.pid x.1 = c.pid x'.1 ∧
    (x.1 ≠ x'.1 → ¬ (Md.inChild (y.st x.1).pc = true ∧ Md.inChild (y.st x'.1).pc = true)) := by
  have hn := C12_maildir_names _ _ _ _ _ _ he
  refine ⟨hn.1, hn.2, ?_⟩
  intro hne ⟨h1, h2⟩
  exact (C12_mdsys_concurrent_names c y0 y tr h x.1 x'.1 hne h1 h2 0 0).1 hn.2

end mdsys

section mboxread
open Nq.LocalDeliver.Mb Nq.Lemmas.LD.Mb

/-- **Mbox, end to end** (`C12_mbox_final` + `C12_mbox_roundtrip_many`): any number of concurrent deliveries, every
interleaving in which no `flock`/`ftruncate` fails, old file ending at a line boundary; when all have exited, the
documented reader returns the old messages unchanged followed by exactly the messages of the deliveries that exited 0 —
each split and unquoted back to From_ line, Return-Path line + Delivered-To line + message — in lock order; the
deliveries that failed contribute nothing. -/
theorem C12_mbox_final_read (d : Nat → Delivery) (box : Bytes) (tr : List (Nat × Mb.Ev)) (y : Mb.Sys)
    (h : MbRun (fun i => entryOf (d i)) box tr y) (hb : Benign tr)
    (hdone : ∀ j, ∃ c, (y.st j).pc = .done c ∨ (y.st j).pc = .start) (hbox : AtBoundary box) :
    mboxRead y.file = mboxRead box ++ y.order.map (fun i => readOf (d i)) ∧ AtBoundary y.file ∧
    y.order.Nodup ∧ (∀ j, j ∈ y.order ↔ (y.st j).pc = .done 0) := by
  obtain ⟨hf, hnd, hmem⟩ := C12_mbox_final _ box tr y h hb hdone
  have hr := C12_mbox_roundtrip_many (y.order.map d) box hbox
  simp only [List.map_map] at hr
  have he : (y.order.map (entryOf ∘ d)) = y.order.map (fun i => entryOf (d i)) := rfl
  rw [he, ← hf] at hr
  exact ⟨hr.2, hr.1, hnd, hmem⟩

end mboxread

/-! ## Non-vacuity -/

/-- a complete maildir delivery: name taken at the first try and free at the second, two writes, one EINTR -/
example : (Md.acceptAll { content := [82, 10, 68, 10, 104, 105] } {}
    [.fork, .alarm 86400, .openExcl false true, .sleep 2, .alarm 86400, .openExcl true false, .read 2, .read 0,
     .write [82, 10, 68], .writeErr true, .write [10, 104, 105], .fsync true, .close true, .link true, .unlinkTmp true,
     .childExit 0, .parentExit 0]).map (·.pc) = some (.done 0) := by decide +kernel

/-- a failing fsync: tmp file removed, child exits 1, parent reports 111 -/
example : (Md.acceptAll { content := [82, 10] } {}
    [.fork, .alarm 86400, .openExcl true false, .read 0, .write [82, 10], .fsync false, .unlinkTmp true,
     .childExit 1, .parentExit 111]).map (·.pc) = some (.done 111) := by decide

/-- linking before the fsync is not a run of this program -/
example : Md.acceptAll { content := [82, 10] } {}
    [.fork, .alarm 86400, .openExcl true false, .read 0, .write [82, 10], .link true] = none := by decide

/-- two interleaved mbox deliveries: the second blocks until the first has closed -/
example : (Mb.sysRun (fun i => if i = 0 then [70, 10, 10] else [71, 10, 10]) { file := [] }
    [(0, .openAppend true), (1, .openAppend true), (0, .alarm 30), (1, .alarm 30), (0, .flock true), (0, .alarm 0), (0, .seekEnd 0), (0, .seekCur 0),
     (0, .read 0), (0, .write [70, 10]), (0, .write [10]), (0, .fsync true), (0, .close), (1, .flock true), (0, .exit 0),
     (1, .alarm 0), (1, .seekEnd 3), (1, .seekCur 3), (1, .read 0), (1, .write [71, 10, 10]), (1, .fsync true), (1, .close), (1, .exit 0)]).map (·.file)
    = some [70, 10, 10, 71, 10, 10] := by decide +kernel

/-- taking the lock while another delivery holds it is not possible -/
example : (Mb.sysRun (fun _ => [70, 10, 10]) { file := [] }
    [(0, .openAppend true), (1, .openAppend true), (0, .alarm 30), (1, .alarm 30), (0, .flock true), (1, .flock true)]).isNone = true := by
  decide

/-- a write error under the lock: truncation to the old length, exit 111 -/
example : (Mb.sysRun (fun _ => [70, 10, 10]) { file := [1, 10] }
    [(0, .openAppend true), (0, .alarm 30), (0, .flock true), (0, .alarm 0), (0, .seekEnd 2), (0, .seekCur 2), (0, .read 0), (0, .write [70]), (0, .writeErr false),
     (0, .ftrunc 2 true), (0, .close), (0, .exit 111)]).map (·.file) = some [1, 10] := by decide +kernel

/-- a roll-back position recorded before the lock is held (seek before flock) is not a run of this program -/
example : (Mb.sysRun (fun _ => [70, 10, 10]) { file := [1, 10] }
    [(0, .openAppend true), (0, .seekEnd 2)]).isNone = true := by decide

/-- `seek_end` must return the length the file has at that moment -/
example : (Mb.sysRun (fun _ => [70, 10, 10]) { file := [1, 10] }
    [(0, .openAppend true), (0, .alarm 30), (0, .flock true), (0, .alarm 0), (0, .seekEnd 0)]).isNone = true := by decide

/-- the reader on a concrete entry: "From x\n" in the body is quoted and unquoted again -/
example : mboxRead (mboxEntry [70, 114, 111, 109, 32, 97, 32, 100, 10] [82, 58, 10] [68, 58, 10] [70, 114, 111, 109, 32, 120, 10, 122])
    = [([70, 114, 111, 109, 32, 97, 32, 100, 10], [82, 58, 10, 68, 58, 10, 70, 114, 111, 109, 32, 120, 10, 122, 10])] := by decide +kernel

/-- the excluded input of `C12_mbox_roundtrip` (old file ends inside a line, e.g. after a machine
crash in the middle of an earlier mbox delivery — the weakness maildir(5) describes): the new From_
line is glued to the partial line, so the reader attributes the new entry to the old message -/
example : mboxRead ([70, 114, 111, 109, 32, 97, 10, 120] ++ mboxEntry [70, 114, 111, 109, 32, 98, 10] [82, 10] [68, 10] [109, 10])
    = [([70, 114, 111, 109, 32, 97, 10], [120, 70, 114, 111, 109, 32, 98, 10, 82, 10, 68, 10, 109, 10])] := by decide +kernel

example : ¬ AtBoundary [70, 114, 111, 109, 32, 97, 10, 120] := by decide

/-- `C12_mbox_error_fails` is not vacuous, at the very shape of the buffer-boundary case: the entry minus its last byte has
been written, the flush forced by the final one-byte put fails (ENOSPC) — roll-back to `pos`, exit 111, file as before -/
example : ((Mb.sysRun (fun _ => [70, 10, 82, 10, 10]) { file := [111, 10] }
    [(0, .openAppend true), (0, .alarm 30), (0, .flock true), (0, .alarm 0), (0, .seekEnd 2), (0, .seekCur 2), (0, .read 3), (0, .read 0),
     (0, .write [70, 10, 82, 10]), (0, .writeErr false), (0, .ftrunc 2 true), (0, .close), (0, .exit 111)]).map
      (fun y => ((y.st 0).pc, y.file))) = some (.done 111, [111, 10]) := by decide +kernel

/-- … and carrying on after the failed write is not a trace of the model -/
example : (Mb.sysRun (fun _ => [70, 10, 82, 10, 10]) { file := [111, 10] }
    [(0, .openAppend true), (0, .alarm 30), (0, .flock true), (0, .alarm 0), (0, .seekEnd 2), (0, .seekCur 2), (0, .read 3), (0, .read 0),
     (0, .write [70, 10, 82, 10]), (0, .writeErr false), (0, .fsync true)]).isNone = true := by decide +kernel

/-- names: 120.7.mx -/
example : maildirName 120 7 [109, 120, 0, 33] = [49, 50, 48, 46, 55, 46, 109, 120] := by
  decide +kernel

/-- `C12_maildir_between_link_and_unlink` / `crash_every_index`: the run stopped right after the `link` -/
example : (Md.acceptAll { content := [82, 10] } {}
    [.fork, .alarm 86400, .openExcl true false, .read 0, .write [82, 10], .fsync true, .close true, .link true]).map (·.pc)
    = some .unlinkOk := by decide

example : Md.applyAll {} [.fork, .alarm 86400, .openExcl true false, .read 0, .write [82, 10], .fsync true, .close true, .link true]
    = { tmpName := true, newName := true, cur := [82, 10], synced := true } := by decide

/-- a second `link` is not a run (`C12_maildir_link_once`) -/
example : Md.acceptAll { content := [82, 10] } {}
    [.fork, .alarm 86400, .openExcl true false, .read 0, .write [82, 10], .fsync true, .close true, .link true, .link true] = none := by decide

/-- two deliveries, same second, different pids, interleaved: both link, two names in new/
(the names go through `fmtDec`, defined by well-founded recursion: the kernel unfolds it, the elaborator's `decide` does not) -/
example : ((MdSys.run { host := [104], pid := fun i => 7 + i, content := fun _ => [82, 10] } { clock := 5 }
    [.proc 0 .fork, .proc 1 .fork, .proc 0 (.alarm 86400), .proc 1 (.alarm 86400), .proc 0 (.openExcl true false),
     .proc 1 (.openExcl true false), .proc 0 (.read 0), .proc 0 (.write [82, 10]), .proc 1 (.read 0), .proc 1 (.write [82, 10]),
     .proc 0 (.fsync true), .proc 1 (.fsync true), .proc 0 (.close true), .proc 1 (.close true), .proc 1 (.link true),
     .proc 0 (.link true)]).map (fun y => (y.new, y.log))) = some ([[53, 46, 56, 46, 104], [53, 46, 55, 46, 104]], [(1, 5), (0, 5)]) := by
  decide +kernel

/-- a restart with the same pid in the same second: the stale tmp/ name makes `open_excl` fail (EEXIST), the delivery
sleeps 2 s and uses a later name -/
example : ((MdSys.run { host := [104], pid := fun _ => 7, content := fun _ => [82, 10] } { clock := 5, tmp := [[53, 46, 55, 46, 104]] }
    [.proc 0 .fork, .proc 0 (.alarm 86400), .proc 0 (.openExcl false true), .proc 0 (.sleep 2), .tick 2, .proc 0 (.alarm 86400),
     .proc 0 (.openExcl true false)]).map (fun y => y.tmp)) = some [[55, 46, 55, 46, 104], [53, 46, 55, 46, 104]] := by decide +kernel

/-- … taking the existing tmp/ name, or linking onto an existing new/ name, is not a run of the system -/
example : (MdSys.run { host := [104], pid := fun _ => 7, content := fun _ => [82, 10] } { clock := 5, tmp := [[53, 46, 55, 46, 104]] }
    [.proc 0 .fork, .proc 0 (.alarm 86400), .proc 0 (.openExcl true false)]).isNone = true := by decide +kernel

example : (MdSys.run { host := [104], pid := fun _ => 7, content := fun _ => [82, 10] } { clock := 5, new := [[53, 46, 55, 46, 104]] }
    [.proc 0 .fork, .proc 0 (.alarm 86400), .proc 0 (.openExcl true false), .proc 0 (.read 0), .proc 0 (.write [82, 10]),
     .proc 0 (.fsync true), .proc 0 (.close true), .proc 0 (.link true)]).isNone = true := by decide +kernel

/-- the excluded case of `C12_mdsys_link_exclusive`, allowed by `C12_mdsys_restart_names`: a reader moved the first message
away, the pid is reused within the same second — the same name is linked a second time (no message is lost) -/
example : ((MdSys.run { host := [104], pid := fun _ => 7, content := fun _ => [82, 10] } { clock := 5 }
    [.proc 0 .fork, .proc 0 (.alarm 86400), .proc 0 (.openExcl true false), .proc 0 (.read 0), .proc 0 (.write [82, 10]),
     .proc 0 (.fsync true), .proc 0 (.close true), .proc 0 (.link true), .proc 0 (.unlinkTmp true), .proc 0 (.childExit 0),
     .mua [53, 46, 55, 46, 104],
     .proc 1 .fork, .proc 1 (.alarm 86400), .proc 1 (.openExcl true false), .proc 1 (.read 0), .proc 1 (.write [82, 10]),
     .proc 1 (.fsync true), .proc 1 (.close true), .proc 1 (.link true)]).map (fun y => (y.new, y.log)))
    = some ([[53, 46, 55, 46, 104]], [(0, 5), (1, 5)]) := by decide +kernel

/-- two live children with one pid: not a run (the operating-system assumption of `C12_mdsys_concurrent_names`) -/
example : (MdSys.run { host := [104], pid := fun _ => 7, content := fun _ => [82, 10] } { clock := 5 }
    [.proc 0 .fork, .proc 1 .fork]).isNone = true := by decide +kernel

end Nq.Props.C12
