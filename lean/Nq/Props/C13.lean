/-
  C13 — Delivery instructions are interpreted as documented and loops are cut.

  Model: `Nq.Local` (qmail-local.c: safeext, qmesearch/qmeexists, checkhome, bouncexf, the Delivered-To /
  Return-Path lines, the -owner sender, the instruction loop, mailprogram's exit switch, main() as `run`),
  tied to the source by the translator (exit switch, conf-patrn, sticky / x bits, exit codes of the fixed
  diagnostics: `Nq.Gen.LocalExit`) and by the differential harness `harness/c13_local.c`, which runs the
  real `main()` in generated home directories.  `Nq.LocalSpec` is an independent formulation of the documented
  behaviour (dot-qmail(5), qmail-local(8), qmail-command(8)); it is not a verbatim rendering of the pages: it also
  mirrors what the C does where they say nothing (`+list`, a NUL in a line, any other first character forwards).
  Compiled, it is the oracle of the check.
  The environment handed to commands: model `Nq.LocalEnv` (env.c and the `env_put2` calls of `main()`), documentation
  `Nq.LocalEnvSpec` (qmail-command(8), variable by variable).
-/
import Nq.Lemmas.Local
import Nq.Lemmas.LocalOutcome
import Nq.Lemmas.LocalEnv
import Nq.Lemmas.LocalEnvRun

namespace Nq.Props.C13
open Nq Nq.Local Nq.Gen.LocalExit Nq.Lemmas.Local

/-! ### Which file controls the address -/

/-- **Search order.** For every `dash` and every extension the candidate names are exactly the documented
list: `.qmail<dash><ext>` (lower-cased, dots replaced by colons), then `.qmail<dash><prefix>default` for
the prefixes that are empty or end in a dash, longest first. -/
theorem C13_search_order (dash ext : Bytes) :
    (qmeCandidates dash (safeext ext)).map Cand.name = LocalSpec.candidates dash ext :=
  candidates_eq_spec dash ext

/-- …the `-default` candidates are indexed by strictly decreasing cut positions, each at a dash boundary, and
every boundary occurs (this is the loop of `qmesearch` itself, without reference to the specification). -/
theorem C13_search_boundaries (sx : Bytes) :
    (defIdx sx).Pairwise (· > ·) ∧ ∀ i, i ∈ defIdx sx ↔ i ≤ sx.length ∧ (i = 0 ∨ sx.getD (i - 1) 0 = DASH) :=
  ⟨defIdxFrom_sorted sx sx.length, fun i => mem_defIdxFrom sx sx.length i⟩

/-- **Selection.** A file is used iff it is the first candidate, in that order, that exists as a regular
file — and then only if it is not writable by others. -/
theorem C13_search (fs : Bytes → FStat) (cs : List Cand) (c : Cand) (mode : Nat) (content : Bytes) :
    qmeSelect fs cs = .found c mode content ↔
      ∃ pre post, cs = pre ++ c :: post ∧ (∀ x ∈ pre, fs x.name = .absent) ∧
        fs c.name = .reg mode content ∧ mode &&& patrn = 0 :=
  qmeSelect_found_iff fs c mode content cs

/-- the first candidate that is not absent decides — also when it cannot be read (defer) or is writable (defer) -/
theorem C13_search_decides (fs : Bytes → FStat) (pre post : List Cand) (c : Cand)
    (hpre : ∀ x ∈ pre, fs x.name = .absent) (hc : fs c.name ≠ .absent) :
    qmeSelect fs (pre ++ c :: post) =
      (match fs c.name with
       | .temp => .temp c.name
       | .reg m ct => if m &&& patrn ≠ 0 then .writable c.name else .found c m ct
       | .absent => .nofile) :=
  qmeSelect_decides fs c post pre hpre hc

/-- no file is selected iff none of the candidates exists -/
theorem C13_search_none (fs : Bytes → FStat) (cs : List Cand) :
    qmeSelect fs cs = .nofile ↔ ∀ x ∈ cs, fs x.name = .absent :=
  qmeSelect_nofile_iff fs cs

/-- the names the agent opens are exactly those the documented procedure has to look at, in order -/
theorem C13_search_opens (fs : Bytes → FStat) (look : Bytes → LocalSpec.Entry)
    (hl : ∀ n, look n = .missing ↔ fs n = .absent) (dash ext : Bytes) :
    qmeTried fs (qmeCandidates dash (safeext ext)) = LocalSpec.mustOpen look (LocalSpec.candidates dash ext) := by
  rw [← candidates_eq_spec]; exact qmeTried_eq_spec fs look hl _

/-- **Confinement.** Every name looked up is `.qmail` ++ dash ++ s where s contains no dot and no
upper-case letter, whatever bytes the extension contains (slashes included). -/
theorem C13_confined (dash ext : Bytes) (c : Cand) (hc : c ∈ qmeCandidates dash (safeext ext)) :
    ∃ s, c.name = dotQmail ++ dash ++ s ∧ DOT ∉ s ∧ ∀ b ∈ s, ¬ (65 ≤ b ∧ b ≤ 90) :=
  candidate_shape dash ext c hc

/-- …hence, `dash` being dot-free (it is "" or "-" in every standard configuration), the name is relative,
begins with ".qmail" and contains no "..": the lookup cannot climb out of the home directory. -/
theorem C13_confined_nodotdot (dash ext : Bytes) (hd : DOT ∉ dash) (c : Cand)
    (hc : c ∈ qmeCandidates dash (safeext ext)) : LocalSpec.confined c.name = true := by
  obtain ⟨s, e, hs, _⟩ := candidate_shape dash ext c hc
  rw [e]
  exact confined_qmail_name hd hs

/-- **Confinement of a whole run.** Every name `main()` opens while searching for the control file *and* every name it
gives to `stat` for the `-owner` / `-owner-default` test (these are built from the same lower-cased, dot-free extension)
begins with ".qmail" and contains no "..". `tried` and `stats` are compared with the names the implementation passes
to `open_read` and `stat` on every generated case. -/
theorem C13_run_confined (a : Args) (w : World) (hd : DOT ∉ a.dash) :
    (∀ n ∈ (run a w).tried, LocalSpec.confined n = true) ∧ (∀ n ∈ (run a w).stats, LocalSpec.confined n = true) := by
  obtain ⟨ht, hs⟩ := run_tried_stats a w
  constructor
  · intro n hn
    rcases ht with h | h
    · rw [h] at hn; simp at hn
    · rw [h] at hn
      obtain ⟨c, hc, e⟩ := qmeTried_sub _ _ _ hn
      rw [← e]; exact C13_confined_nodotdot a.dash a.ext hd c hc
  · intro n hn
    rcases hs with h | h
    · rw [h] at hn; simp at hn
    · rw [h] at hn; exact ueoStats_confined a.dash a.ext a.sender w.ex hd n hn

/-- the names examined for the owner test are the documented ones (`LocalSpec.ownerNames`), and the envelope sender
depends on the home directory through these names only -/
theorem C13_owner_names (a : Args) (w : World) (hm : Nat) (ex' : Bytes → Option Bool) :
    ueoStats a.dash (safeext a.ext) a.sender w.ex = LocalSpec.ownerNames (settingOf a w hm) ∧
    ((∀ n ∈ ueoStats a.dash (safeext a.ext) a.sender w.ex, ex' n = w.ex n) →
      ueoOf a.loc a.dash (safeext a.ext) a.host a.sender ex' = ueoOf a.loc a.dash (safeext a.ext) a.host a.sender w.ex) :=
  ⟨(ownerNames_eq a w hm).symm, ueoOf_congr a.loc a.dash (safeext a.ext) a.host a.sender w.ex ex'⟩

/-- **$DEFAULT** (qmail-command(8)): for whichever candidate is selected, the variable is set iff the file name
ends in "default", to the part of the original (not lower-cased) extension that the word stands for. -/
theorem C13_default_env (dash ext : Bytes) (c : Cand) (hc : c ∈ qmeCandidates dash (safeext ext)) :
    c.dflt.map (fun i => ext.drop i) = LocalSpec.defaultVar dash ext c.name :=
  default_eq_spec dash ext c hc

/-- no mailbox: with a non-empty `dash` the message bounces (100) and nothing is delivered -/
theorem C13_nofile (a : Args) (w : World) (hh : HomeOK a w) (hn : NoLoop a)
    (hs : qmeSelect w.fs (qmeCandidates a.dash (safeext a.ext)) = .nofile) (hd : a.dash ≠ []) :
    Refused (run a w) 100 ∧ (run a w).why = some .noMailbox :=
  run_nofile_dash a w hh hn hs hd

/-- …with an empty `dash` (the user's own address) the default delivery instructions are followed -/
theorem C13_nofile_default (a : Args) (w : World) (hh : HomeOK a w) (hn : NoLoop a)
    (hs : qmeSelect w.fs (qmeCandidates a.dash (safeext a.ext)) = .nofile) (hd : a.dash = []) (u : Bytes)
    (hu : ueoOf a.loc a.dash (safeext a.ext) a.host a.sender w.ex = .ok u) :
    ∃ r0, run a w = deliver a w a.aliasempty false r0 ∧ r0.ueo = some u ∧ Fresh r0 :=
  run_nofile_nodash' a w hh hn hs hd u hu

/-- a selected file is followed (with the x-bit restriction); a 0-byte file means the default instructions. The record
`r0` the loop starts from is fresh (`Fresh`: exit code 0, no diagnostic, nothing done yet), so the exit code of the
run is the one `C13_exit_code` gives with `r.code = 0`. -/
theorem C13_found (a : Args) (w : World) (hh : HomeOK a w) (hn : NoLoop a) (c : Cand) (mode : Nat) (content u : Bytes)
    (hs : qmeSelect w.fs (qmeCandidates a.dash (safeext a.ext)) = .found c mode content)
    (hu : ueoOf a.loc a.dash (safeext a.ext) a.host a.sender w.ex = .ok u) :
    ∃ r0, r0.ueo = some u ∧ r0.sel = some c ∧ Fresh r0 ∧
      run a w = if content = [] then deliver a w a.aliasempty false r0 else deliver a w content (mode &&& xBit ≠ 0) r0 :=
  run_found' a w hh hn c mode content u hs hu

/-! ### Permissions -/

/-- a home directory writable by others (`conf-patrn` bits): defer (111); nothing opened, delivered or printed -/
theorem C13_perm_home (a : Args) (w : World) (m : Nat) (hm : w.home = some m) (hw : m &&& patrn ≠ 0) :
    Refused (run a w) 111 ∧ (run a w).tried = [] :=
  ⟨(run_home_writable a w m hm hw).1, (run_home_writable a w m hm hw).2.2.1⟩

/-- a sticky home directory: defer (111) when delivering -/
theorem C13_perm_sticky (a : Args) (w : World) (m : Nat) (hm : w.home = some m) (hs : m &&& stickyBit ≠ 0)
    (hd : a.doit = true) : Refused (run a w) 111 ∧ (run a w).tried = [] ∧ (run a w).stats = [] :=
  run_home_sticky a w m hm hs hd

/-- a control file writable by others: defer (111), nothing delivered — even if a later candidate is fine -/
theorem C13_perm_file (a : Args) (w : World) (hh : HomeOK a w) (hn : NoLoop a) (pre post : List Cand) (c : Cand)
    (m : Nat) (ct : Bytes) (hc : qmeCandidates a.dash (safeext a.ext) = pre ++ c :: post)
    (hpre : ∀ x ∈ pre, w.fs x.name = .absent) (hf : w.fs c.name = .reg m ct) (hm : m &&& patrn ≠ 0) :
    Refused (run a w) 111 ∧ (run a w).why = some .qmailWritable := by
  apply run_qmail_writable a w hh hn c.name
  rw [hc, qmeSelect_decides w.fs c post pre hpre (by rw [hf]; simp), hf]
  simp [hm]

/-- a control file that cannot be read for a temporary reason: defer (111), no fallback to a later candidate -/
theorem C13_perm_unreadable (a : Args) (w : World) (hh : HomeOK a w) (hn : NoLoop a) (pre post : List Cand) (c : Cand)
    (hc : qmeCandidates a.dash (safeext a.ext) = pre ++ c :: post)
    (hpre : ∀ x ∈ pre, w.fs x.name = .absent) (hf : w.fs c.name = .temp) : Refused (run a w) 111 := by
  apply run_qmail_temp a w hh hn c.name
  rw [hc, qmeSelect_decides w.fs c post pre hpre (by rw [hf]; simp), hf]

/-- the bits are the ones in the tree: others-write, sticky, owner-execute; and all these refusals are deferrals -/
theorem C13_perm_bits : patrn = 0o002 ∧ stickyBit = 0o1000 ∧ xBit = 0o100 ∧
    Why.homeWritable.code = 111 ∧ Why.homeSticky.code = 111 ∧ Why.qmailWritable.code = 111 ∧
    Why.xbitFile.code = 111 ∧ Why.xbitProg.code = 111 ∧ Why.blankFirst.code = 111 := by decide

/-- **Executable .qmail / `+list`**: in forward-only state no file or program instruction is ever acted on… -/
theorem C13_xbit (px : Bytes → PRes) (dx : Instr → Option Why) (lines : List Bytes) (first : Bool) :
    ∀ i ∈ (dispatch px dx first true lines).did, isForward i = true :=
  dispatch_forwardonly px dx lines first

/-- …and the first such line ends the run with the x-bit diagnostic (111) -/
theorem C13_xbit_refuses (px : Bytes → PRes) (dx : Instr → Option Why) (pre : List Bytes) (raw : Bytes) (post : List Bytes)
    (i : Instr) (hpre : ∀ l ∈ pre, ∀ j, classify l = .act j → isForward j = true)
    (hfirst : ∀ l ∈ pre.head?, classify l ≠ .blank) (hc : classify raw = .act i) (hi : isForward i = false) :
    (dispatch px dx true true (pre ++ raw :: post)).fin = .die (if isProgram i then .xbitProg else .xbitFile) :=
  dispatch_forwardonly_refuses px dx pre raw post true i hpre (fun _ => hfirst) hc hi

/-- **`+list` anywhere.** The same for a file that becomes forward-only in the middle: if the loop ran through the lines
`pre` and the state after them is forward-only (x bit, or `+list` among them), then whatever follows, only forward
lines are acted upon after `pre`… -/
theorem C13_list_forwardonly (px : Bytes → PRes) (dx : Instr → Option Why) (pre rest : List Bytes) (first fo : Bool)
    (hpre : (dispatch px dx first fo pre).fin = .done) (hfo : foAfter fo pre = true) :
    ∃ d, (dispatch px dx first fo (pre ++ rest)).did = instrsOf pre ++ d ∧ ∀ i ∈ d, isForward i = true := by
  rw [dispatch_append px dx pre rest first fo hpre, hfo]
  exact ⟨_, rfl, dispatch_forwardonly px dx rest _⟩

/-- …and a file or program line directly after `pre` ends the run with the x-bit diagnostic; neither it nor anything
after it is acted upon (this is `C13_xbit_refuses` without the restriction that the state is forward-only from the
first line and that the lines before are forward lines) -/
theorem C13_list_refuses (px : Bytes → PRes) (dx : Instr → Option Why) (pre : List Bytes) (raw : Bytes)
    (post : List Bytes) (first fo : Bool) (i : Instr)
    (hpre : (dispatch px dx first fo pre).fin = .done) (hfo : foAfter fo pre = true)
    (hc : classify raw = .act i) (hi : isForward i = false) :
    dispatch px dx first fo (pre ++ raw :: post) = ⟨instrsOf pre, .die (if isProgram i then .xbitProg else .xbitFile)⟩ := by
  rw [dispatch_append px dx pre (raw :: post) first fo hpre, hfo, dispatch_act px dx raw post _ true i hc, if_pos ⟨rfl, hi⟩,
    List.append_nil]

/-- for `main()` as a whole: an executable, non-empty control file never causes a file or program delivery -/
theorem C13_xbit_run (a : Args) (w : World) (c : Cand) (mode : Nat) (content : Bytes)
    (hs : qmeSelect w.fs (qmeCandidates a.dash (safeext a.ext)) = .found c mode content)
    (hne : content ≠ []) (hx : mode &&& xBit ≠ 0) :
    ∀ e ∈ (run a w).effects, ∃ s rs, e = .queue s rs := by
  rcases run_found_cases a w c mode content hs hne with ⟨code, _, _, he, _, _⟩ | ⟨r0, h⟩
  · rw [he]; simp
  · rw [h, deliver_rec]
    intro e he
    have hf : ∀ i ∈ (dtrace a w content (decide (mode &&& xBit ≠ 0))).did, isForward i = true := by
      have hx' : decide (mode &&& xBit ≠ 0) = true := by simpa using hx
      rw [hx']
      unfold dtrace
      split <;> exact dispatch_forwardonly _ _ _ _
    rcases List.mem_append.1 he with he | he
    · split at he
      · obtain ⟨i, hi, _⟩ := List.mem_map.1 he
        have := hf i (List.mem_filter.1 hi).1
        have h2 := (List.mem_filter.1 hi).2
        simp [this] at h2
      · simp at he
    · split at he
      · simp at he; exact ⟨_, _, he⟩
      · simp at he

/-! ### The instruction loop -/

/-- **Order and type.** Whatever the commands return, the instructions acted upon are an initial segment of the
file's instructions (each classified by its first character), in file order. -/
theorem C13_dispatch_order (px : Bytes → PRes) (dx : Instr → Option Why) (lines : List Bytes) (first fo : Bool) :
    (dispatch px dx first fo lines).did <+: instrsOf lines :=
  dispatch_prefix px dx lines first fo

/-- if the loop reaches the end of the file, every instruction was acted upon -/
theorem C13_dispatch_complete (px : Bytes → PRes) (dx : Instr → Option Why) (lines : List Bytes) (first fo : Bool)
    (h : (dispatch px dx first fo lines).fin = .done) : (dispatch px dx first fo lines).did = instrsOf lines :=
  dispatch_done px dx lines first fo h

/-- **The loop stops at the first line that does not run through.** If the loop does not reach the end of the file
there is a first such line `raw`: the loop ran through all lines before it (`.done`, so by `C13_dispatch_all_ok` every
instruction among them succeeded), what was acted upon is their instructions followed by what `raw` alone does in the
state they leave (not first line any more; forward-only if it was or if `+list` occurred), and the way the loop ends
is the way that single line ends. Nothing after `raw` is looked at. -/
theorem C13_dispatch_first_stop (px : Bytes → PRes) (dx : Instr → Option Why) (lines : List Bytes) (first fo : Bool)
    (h : (dispatch px dx first fo lines).fin ≠ .done) :
    ∃ pre raw post, lines = pre ++ raw :: post ∧ (dispatch px dx first fo pre).fin = .done ∧
      (dispatch px dx (first && pre.isEmpty) (foAfter fo pre) [raw]).fin = (dispatch px dx first fo lines).fin ∧
      (dispatch px dx first fo lines).did =
        instrsOf pre ++ (dispatch px dx (first && pre.isEmpty) (foAfter fo pre) [raw]).did :=
  dispatch_split px dx lines first fo h

/-- **Every instruction acted upon succeeded** unless the loop ended in a failure (then all but the last did, by
`C13_dispatch_failure`): commands ran and exited with a code of the continue / stop class, file deliveries reported
no failure. -/
theorem C13_dispatch_all_ok (px : Bytes → PRes) (dx : Instr → Option Why) (lines : List Bytes) (first fo : Bool)
    (h : (dispatch px dx first fo lines).fin.isDie = false) :
    ∀ i ∈ (dispatch px dx first fo lines).did, Succeeded px dx i :=
  dispatch_all_ok px dx lines first fo h

/-- **Exit code 99.** The loop stops right after that command: the lines before it all ran through (their
instructions succeeded; earlier forward lines are kept), the state was not forward-only, acted upon are exactly the
instructions before the command and the command itself; nothing of the later lines. -/
theorem C13_dispatch_99 (px : Bytes → PRes) (dx : Instr → Option Why) (lines : List Bytes) (first fo : Bool)
    (h : (dispatch px dx first fo lines).fin = .stop99) :
    ∃ pre raw post c code, lines = pre ++ raw :: post ∧ (dispatch px dx first fo pre).fin = .done ∧
      foAfter fo pre = false ∧ classify raw = .act (.program c) ∧
      px (cstr c) = .exited code ∧ progClass code = .stop99 ∧
      (dispatch px dx first fo lines).did = instrsOf pre ++ [.program c] ∧
      ∀ i ∈ instrsOf pre, Succeeded px dx i :=
  dispatch_99 px dx lines first fo h

/-- **Failure.** A failing line ends the loop. There is a first failing line `raw`; all lines before it ran through
(and their instructions succeeded); the diagnostic `y` and what was acted upon are tied to that line, in exactly one
of four ways: (1) `raw` is blank and is the very first line; (2) `raw` is a file or program line met in forward-only
state — it is *not* acted upon; (3) `raw` is a command that crashed or exited with a code of a failing class — acted
upon, last; (4) `raw` is a file delivery that failed with `y` — acted upon, last. Nothing after `raw`. -/
theorem C13_dispatch_failure (px : Bytes → PRes) (dx : Instr → Option Why) (lines : List Bytes) (first fo : Bool) (y : Why)
    (h : (dispatch px dx first fo lines).fin = .die y) :
    ∃ pre raw post, lines = pre ++ raw :: post ∧ (dispatch px dx first fo pre).fin = .done ∧
      (∀ i ∈ instrsOf pre, Succeeded px dx i) ∧
      ((classify raw = .blank ∧ first = true ∧ pre = [] ∧ y = .blankFirst ∧ (dispatch px dx first fo lines).did = []) ∨
       (∃ i, classify raw = .act i ∧ isForward i = false ∧ foAfter fo pre = true ∧
          y = (if isProgram i then .xbitProg else .xbitFile) ∧ (dispatch px dx first fo lines).did = instrsOf pre) ∨
       (∃ c, classify raw = .act (.program c) ∧ foAfter fo pre = false ∧
          ((px (cstr c) = .crashed ∧ y = .childCrashed) ∨
           (∃ code e, px (cstr c) = .exited code ∧ progClass code = .exit e ∧ y = .progExit e)) ∧
          (dispatch px dx first fo lines).did = instrsOf pre ++ [.program c]) ∨
       (∃ i, classify raw = .act i ∧ isFile i = true ∧ foAfter fo pre = false ∧ dx i = some y ∧
          (dispatch px dx first fo lines).did = instrsOf pre ++ [i])) :=
  dispatch_failure px dx lines first fo y h

/-- **Lines.** The instruction text is cut into lines as documented: every LF ends a line, a missing final LF is
supplied, and a final LF does not start another (blank) line — for every byte string. Hence the trace of
`main()` is `dispatch` over `LocalSpec.instrLines`, to which `C13_walk_spec` applies. -/
theorem C13_lines_spec (text : Bytes) : splitLines (fixup text) = LocalSpec.instrLines text :=
  splitLines_eq_spec text

/-- **The loop is the documented walk (delivering).** For every list of lines, every behaviour of the commands
and of the file deliveries, the C loop and the independently written specification `LocalSpec.walk` (one pass
over the lines: stop at the first failure or exit 99, refuse file/program lines when forward-only, collect
forward addresses) agree on the instructions acted upon, the deliveries made (in order), the addresses
collected (in order) and the way the loop ends. -/
theorem C13_walk_spec (px : Bytes → PRes) (dx : Instr → Option Why) (fileOK : LocalSpec.SInstr → Nat)
    (hfile : ∀ i, isFile i = true → fileOK (specOfInstr i) = match dx i with | some y => y.code | none => 0)
    (hnz : ∀ i y, isFile i = true → dx i = some y → y.code ≠ 0) (lines : List Bytes) (fo : Bool) :
    let W := LocalSpec.walk true fo (fun c => toRan (px c)) fileOK lines
    let t := dispatch px dx true fo lines
    W.shown.reverse = t.did.map specOfInstr ∧ W.effects.reverse = t.did.filterMap effOf ∧
      W.recips.reverse = (t.did.filterMap fwdAddr).map cstr ∧ W.status = finCode t.fin := by
  exact walk_init true _ fileOK px dx (act_doit px dx fileOK hfile hnz) lines fo

/-- **…and with `-n`**: nothing is run, nothing can fail except the x-bit and blank-first-line rules; the
description printed is that of the documented walk. -/
theorem C13_walk_spec_n (run : Bytes → LocalSpec.Ran) (fileOK : LocalSpec.SInstr → Nat) (lines : List Bytes) (fo : Bool) :
    let W := LocalSpec.walk false fo run fileOK lines
    let t := dispatch (fun _ => .exited 0) (fun _ => none) true fo lines
    W.shown.reverse = t.did.map specOfInstr ∧ W.effects = [] ∧
      W.recips.reverse = (t.did.filterMap fwdAddr).map cstr ∧ W.status = finCode t.fin := by
  obtain ⟨h1, h2, h3, h4⟩ := walk_init false run fileOK _ _ (act_n run fileOK) lines fo
  exact ⟨h1, List.reverse_eq_nil_iff.1 h2, h3, h4⟩

/-- **Forwarding comes last, and only after everything else succeeded.** The externally visible effects of
following a control file are: the file and program deliveries in file order; then — only when delivering, only
if the loop did not fail, only if forward addresses were collected — one forwarded copy, to exactly the
collected addresses. With `-n` there are no effects at all. -/
theorem C13_forward_last (a : Args) (w : World) (cmds : Bytes) (fo : Bool) (r : Result) :
    (deliver a w cmds fo r).effects =
      (if a.doit then ((dtrace a w cmds fo).did.filter (fun i => !isForward i)).map (fun i => Effect.deliver (cInstr i)) else []) ++
      (if a.doit ∧ (dtrace a w cmds fo).fin.isDie = false ∧ (dtrace a w cmds fo).did.filterMap fwdAddr ≠ []
       then [Effect.queue (r.ueo.getD []) (((dtrace a w cmds fo).did.filterMap fwdAddr).map cstr)] else []) := by
  rw [deliver_rec]

/-- **Forwarding only after success.** If a forwarded copy is among the effects of following a control file, the agent
was delivering and *every* instruction it acted upon succeeded (`Succeeded`: commands exited with a continue / stop
code, file deliveries reported no failure). Together with `C13_forward_last` (which is an equation: the copy is made
whenever the loop did not fail and addresses were collected) this is clause "forwards only after all other instructions
succeeded". -/
theorem C13_forward_only_after_success (a : Args) (w : World) (cmds : Bytes) (fo : Bool) (r : Result) (sd : Bytes)
    (rs : List Bytes) (hq : Effect.queue sd rs ∈ (deliver a w cmds fo r).effects) :
    a.doit = true ∧ (dtrace a w cmds fo).fin.isDie = false ∧ ∀ i ∈ (dtrace a w cmds fo).did, Succeeded w.px w.dx i := by
  rw [C13_forward_last] at hq
  rcases List.mem_append.1 hq with hq | hq
  · split at hq
    · simp at hq
    · simp at hq
  · split at hq
    · rename_i hc
      obtain ⟨hd, hf, _⟩ := hc
      refine ⟨hd, hf, ?_⟩
      intro i hi
      unfold dtrace at hi hf
      simp only [hd, if_true] at hi hf
      exact dispatch_all_ok w.px w.dx _ _ _ hf i hi
    · simp at hq

/-- **The exit code of following a control file, in all cases.** A failed loop: the code of its diagnostic. Otherwise, if
a copy is forwarded: qmail-queue's verdict — accepted ⇒ the code the loop started with (0 by `C13_found` /
`C13_nofile_default` / `C13_run_cases`: `Fresh`), answer beginning with `D` ⇒ 100, any other answer ⇒ 111 (constants
regenerated from `mailforward`). Otherwise (nothing to forward, or `-n`): the starting code, i.e. 0 — also when a
command stopped the file with exit code 99. -/
theorem C13_exit_code (a : Args) (w : World) (cmds : Bytes) (fo : Bool) (r : Result) :
    (deliver a w cmds fo r).code =
      (match (dtrace a w cmds fo).fin with
       | .die y => y.code
       | _ =>
         if a.doit = true ∧ (dtrace a w cmds fo).did.filterMap fwdAddr ≠ [] then
           (match w.qq with
            | [] => r.code
            | c :: _ => if c = 68 then 100 else 111)
         else r.code) := by
  rw [deliver_rec, failureOf]
  cases (dtrace a w cmds fo).fin with
  | die y => rfl
  | _ =>
    dsimp only
    by_cases hc : a.doit = true ∧ (dtrace a w cmds fo).did.filterMap fwdAddr ≠ []
    · rw [if_pos hc, if_pos hc]
      cases w.qq <;> rfl
    · rw [if_neg hc, if_neg hc]

/-- a failing diagnostic of the loop never has exit code 0 (file deliveries: by hypothesis on the oracle), so "exit 0"
means the loop did not fail -/
theorem C13_failure_nonzero (px : Bytes → PRes) (dx : Instr → Option Why)
    (hnz : ∀ i y, isFile i = true → dx i = some y → y.code ≠ 0) (lines : List Bytes) (first fo : Bool) (y : Why)
    (h : (dispatch px dx first fo lines).fin = .die y) : y.code ≠ 0 :=
  dispatch_die_code px dx hnz lines first fo y h

/-- a failed loop gives the exit code of its diagnostic -/
theorem C13_failure_code (a : Args) (w : World) (cmds : Bytes) (fo : Bool) (r : Result) (y : Why)
    (h : (dtrace a w cmds fo).fin = .die y) : (deliver a w cmds fo r).code = y.code ∧ (deliver a w cmds fo r).why = some y := by
  rw [deliver_rec, failureOf, h]
  exact ⟨rfl, rfl⟩

/-- every run of `main()` either stops before the first instruction (non-zero exit, nothing delivered or printed)
or is the instruction loop on the default instructions or on the selected non-empty control file -/
theorem C13_run_cases (a : Args) (w : World) :
    (∃ code, code ≠ 0 ∧ Refused (run a w) code) ∨
    (∃ r0, Fresh r0 ∧ run a w = deliver a w a.aliasempty false r0) ∨
    (∃ c mode content r0, qmeSelect w.fs (qmeCandidates a.dash (safeext a.ext)) = .found c mode content ∧ content ≠ [] ∧
        Fresh r0 ∧ run a w = deliver a w content (mode &&& xBit ≠ 0) r0) :=
  run_cases' a w

/-! ### One whole delivery = the documented outcome -/

/-- **`deliver` = `LocalSpec.follow`, finalisation included.** Following an instruction text gives exactly the documented
exit code, the documented effects in order (the forwarded copy last, with the documented sender), the documented list
of instructions acted upon and their counts; with `-n` the output is exactly the documented description, when
delivering successfully it begins with the documented counts line. -/
theorem C13_follow_spec (a : Args) (w : World) (cmds : Bytes) (fo : Bool) (r : Result)
    (hnz : ∀ i y, isFile i = true → w.dx i = some y → y.code ≠ 0) (hr : r.code = 0) :
    Matches a.doit (deliver a w cmds fo r)
      (LocalSpec.follow a.doit fo cmds (r.ueo.getD []) (fun c => toRan (w.px c)) (fileCode w.dx) (LocalSpec.queueVerdict w.qq)) :=
  matches_deliver a w cmds fo r hnz hr

/-- **`run` = `LocalSpec.outcome`.** For every invocation and every state of the world (home directory mode `hm`, any
directory contents, any behaviour of commands, file deliveries and qmail-queue) the model of `main()` produces
exactly the documented outcome of `LocalSpec.outcome` — the function the driver evaluates on the implementation's
behaviour as the oracle: refusals (home / control file permissions, loop, no such address, owner file not examinable)
with their exit codes and with nothing delivered or printed, else the documented following of the selected text.
`Matches`: exit code, effects in order, instructions acted upon, counts, and the printed text.
Excluded: `stat(".")` failing (`w.home = none`, outside the documentation; the model refuses with 111:
`checkhome_some_code`, first case of `C13_run_cases`). -/
theorem C13_run_outcome (a : Args) (w : World) (hm : Nat) (hh : w.home = some hm)
    (hnz : ∀ i y, isFile i = true → w.dx i = some y → y.code ≠ 0) :
    Matches a.doit (run a w) (LocalSpec.outcome (settingOf a w hm)) := by
  unfold LocalSpec.outcome
  rw [plan_eq, senderFor_eq]
  split
  · rename_i h
    rcases h with hw | hst
    · exact (run_home_writable a w hm hh hw).1.matches (by decide) _
    · exact (run_home_sticky a w hm hh hst.1 hst.2).1.matches (by decide) _
  rename_i h
  have hok : HomeOK a w := homeOK_of_mode a w hm hh (Decidable.not_not.1 fun hw => h (Or.inl hw)) fun h1 => by
    cases hd : a.doit with
    | false => rfl
    | true => exact absurd (Or.inr ⟨h1, hd⟩) h
  split
  · rename_i hl
    exact (run_looping a w hok hl.1 hl.2).1.matches (by decide) _
  rename_i hn
  cases hs : qmeSelect w.fs (qmeCandidates a.dash (safeext a.ext)) with
  | temp n => exact (run_qmail_temp a w hok hn n hs).matches (by decide) _
  | writable n => exact (run_qmail_writable a w hok hn n hs).1.matches (by decide) _
  | nofile =>
    simp only [planOfSel]
    by_cases hd : a.dash = []
    · rw [if_neg (not_not_intro hd)]
      cases hu : ueoOf a.loc a.dash (safeext a.ext) a.host a.sender w.ex with
      | error n => exact (run_owner_temp a w hok hn n (Or.inl ⟨hs, hd⟩) hu).matches (by decide) _
      | ok u =>
        obtain ⟨r0, e, hu0, hf⟩ := run_nofile_nodash' a w hok hn hs hd u hu
        have := matches_deliver a w a.aliasempty false r0 hnz hf.1
        rwa [hu0, ← e] at this
    · rw [if_pos hd]
      exact (run_nofile_dash a w hok hn hs hd).1.matches (by decide) _
  | found c mode content =>
    simp only [planOfSel]
    cases hu : ueoOf a.loc a.dash (safeext a.ext) a.host a.sender w.ex with
    | error n =>
      have := (run_owner_temp a w hok hn n (Or.inr ⟨c, mode, content, hs⟩) hu).matches (by decide) a.doit
      by_cases hc : content = []
      · rwa [if_pos hc]
      · rwa [if_neg hc]
    | ok u =>
      -- both sides split alike: an empty file means the default instructions
      obtain ⟨r0, hu0, -, hf, e⟩ := run_found' a w hok hn c mode content u hs hu
      rw [e]
      by_cases hc : content = []
      · have := matches_deliver a w a.aliasempty false r0 hnz hf.1
        rw [hu0] at this
        rwa [if_pos hc, if_pos hc]
      · have := matches_deliver a w content (mode &&& xBit ≠ 0) r0 hnz hf.1
        rw [hu0] at this
        rwa [if_neg hc, if_neg hc]

/-! ### Reading a line; the envelope sender of forwarded copies -/

/-- **Instruction types.** The `switch` on the first character (after removing trailing blanks) reads every line as
`LocalSpec.readLine` does, for every byte string: `#` comment, `|` program, `&` forward, `.` or `/` mbox — maildir iff
the line ends in `/`. `readLine` mirrors the C switch also where dot-qmail(5) says less: `+list` (and the ignoring of
other `+…` lines) is not in the page, and the page allows dropping the `&` only before a letter or number, while the
switch forwards on any other first character. -/
theorem C13_line_spec (raw : Bytes) : specOfLine (classify raw) = LocalSpec.readLine raw := classify_eq_spec raw

/-- **-owner / VERP.** Bounces keep their sender; otherwise `local-owner@host` if `.qmail…-owner` exists,
`local-owner-@host-@[]` if `…-owner-default` exists as well, else the original sender — as documented. The
`-owner-default` name is only consulted when `-owner` exists. -/
theorem C13_owner (loc dash sx host sender : Bytes) (ex : Bytes → Option Bool) (o1 o2 : Bool)
    (h1 : ex (dotQmail ++ dash ++ sx ++ ownerB) = some o1)
    (h2 : o1 = true → ex (dotQmail ++ dash ++ sx ++ ownerDefaultB) = some o2) :
    ueoOf loc dash sx host sender ex = .ok (LocalSpec.forwardSender loc host sender o1 (o1 && o2)) := by
  unfold ueoOf LocalSpec.forwardSender
  simp only [bounceVerp]
  by_cases hs : sender = [] ∨ sender = [35, 64, 91, 93]
  · simp [hs]
  · simp only [hs, if_false, h1]
    cases o1 with
    | false => simp
    | true =>
      simp only [h2 rfl]
      cases o2 <;> simp [ownerB, DASH, AT]

/-! ### Program exit codes -/

/-- **Exit-code map** (table regenerated from `mailprogram`'s switch on every run): for every exit status,
0 continues, 99 stops, 100 and 64, 65, 70, 76, 77, 78, 112 are permanent (exit 100), everything else is
temporary (exit 111) — exactly qmail-command(8). -/
theorem C13_exitmap (code : Nat) :
    progClass code = (match LocalSpec.exitVerdict code with
      | .ok => .ok | .stop => .stop99 | .hard => .exit 100 | .soft => .exit 111) :=
  progClass_spec code

/-- a command that crashed is a temporary failure -/
theorem C13_crash (px : Bytes → PRes) (dx : Instr → Option Why) (raw : Bytes) (rest : List Bytes) (c : Bytes) (first : Bool)
    (hc : classify raw = .act (.program c)) (hp : px (cstr c) = .crashed) :
    dispatch px dx first false (raw :: rest) = ⟨[.program c], .die .childCrashed⟩ ∧ Why.childCrashed.code = 111 := by
  refine ⟨?_, by decide⟩
  rw [dispatch_act px dx raw rest first false _ hc]
  simp [verdictOf, hp]

/-! ### Loops -/

/-- the header scan of `bouncexf` is the documented rule, for every message and every recipient -/
theorem C13_loop_spec (loc host msg : Bytes) : bouncexf (dtline loc host) msg = LocalSpec.loops loc host msg :=
  bouncexf_eq_spec loc host msg

/-- **Loop cut.** A message whose header already carries this recipient's Delivered-To line bounces (100)
before any file is looked up and before anything is delivered. -/
theorem C13_loop (a : Args) (w : World) (hh : HomeOK a w) (hd : a.doit = true)
    (hl : LocalSpec.loops a.loc a.host a.msg = true) :
    Refused (run a w) 100 ∧ (run a w).why = some .looping ∧ (run a w).tried = [] :=
  run_looping a w hh hd hl

/-- **…and only then.** The looping diagnostic is given only when delivering a message whose header carries this
recipient's Delivered-To line (`DxSane`: the file-delivery oracle reports file-delivery diagnostics). -/
theorem C13_loop_only (a : Args) (w : World) (hdx : DxSane w.dx) (h : (run a w).why = some .looping) :
    a.doit = true ∧ LocalSpec.loops a.loc a.host a.msg = true := by
  rcases run_shape a w with ⟨_, y, _, _, _, _, e, _, hl, _⟩ | ⟨_, _, _, _, _, e, _⟩
  · rw [e] at h
    exact hl (Option.some.inj h)
  · rw [e] at h
    exact absurd h (deliver_why_ne_looping a w _ _ _ hdx rfl)

/-! ### Header injection -/

/-- **No injection.** Whatever bytes the envelope addresses contain (newlines, quotes, blanks), the Delivered-To
and Return-Path fields are exactly one line each. -/
theorem C13_noinject (loc host sender : Bytes) :
    LocalSpec.oneLine (dtline loc host) = true ∧ LocalSpec.oneLine (rpline sender) = true :=
  ⟨Nq.Lemmas.LocalEnv.dtline_oneLine loc host, Nq.Lemmas.LocalEnv.rpline_oneLine sender⟩

/-- the `From ` line of mbox deliveries (`UFLINE`, up to the date): no newline whatever the sender contains -/
theorem C13_ufline (sender : Bytes) : LF ∉ uflinePrefix sender := by
  unfold uflinePrefix
  intro h
  rcases List.mem_append.1 h with h | h
  · rcases List.mem_append.1 h with h | h
    · simp [LF] at h
    · split at h
      · simp [LF] at h
      · obtain ⟨c, _, hc⟩ := List.mem_map.1 h
        split at hc
        · simp [LF, DASH] at hc
        · rename_i hn; exact hn (Or.inr (Or.inr hc))
  · simp [LF, SP] at h

/-- the line used for loop detection is the documented one -/
theorem C13_dtline (loc host : Bytes) : dtline loc host = LocalSpec.dtline loc host := dtline_eq_spec loc host

/-! ### Non-vacuity (45 = '-', 46 = '.', 97 = 'a', 66 = 'B') -/

/-- ext "a-B.c-": .qmail-a-b:c-, .qmail-a-b:c-default, .qmail-a-default, .qmail-default -/
example : (qmeCandidates [45] (safeext [97, 45, 66, 46, 99, 45])).map Cand.name =
    [[46, 113, 109, 97, 105, 108, 45, 97, 45, 98, 58, 99, 45],
     [46, 113, 109, 97, 105, 108, 45, 97, 45, 98, 58, 99, 45, 100, 101, 102, 97, 117, 108, 116],
     [46, 113, 109, 97, 105, 108, 45, 97, 45, 100, 101, 102, 97, 117, 108, 116],
     [46, 113, 109, 97, 105, 108, 45, 100, 101, 102, 97, 117, 108, 116]] := by decide +kernel

/-- "&f@x", "|exit 99", "./mb", "g@x" with the command returning 99: the forward before it is kept, the rest ignored -/
example : dispatch (fun _ => .exited 99) (fun _ => none) true false
    [[38, 102, 64, 120], [124, 101, 120, 105, 116, 32, 57, 57], [46, 47, 109, 98], [103, 64, 120]] =
    ⟨[.forward [102, 64, 120], .program [101, 120, 105, 116, 32, 57, 57]], .stop99⟩ := by decide +kernel

/-- "+list" then "./mb": refused -/
example : dispatch (fun _ => .exited 0) (fun _ => none) true false [[43, 108, 105, 115, 116], [46, 47, 109, 98]] =
    ⟨[], .die .xbitFile⟩ := by decide

/-- "./mb", "+list", "|x", "&a": the program line after a mid-file `+list` is refused, the mbox before it was delivered -/
example : dispatch (fun _ => .exited 0) (fun _ => none) true false
    [[46, 47, 109, 98], [43, 108, 105, 115, 116], [124, 120], [38, 97]] = ⟨[.mbox [46, 47, 109, 98]], .die .xbitProg⟩ := by decide +kernel

/-- "|a", "|b", "|c" with `a` exiting 1: only `a` is acted upon (the trace [a, b, c] is impossible: `C13_dispatch_failure`) -/
example : dispatch (fun c => if c = [97] then .exited 1 else .exited 0) (fun _ => none) true false
    [[124, 97], [124, 98], [124, 99]] = ⟨[.program [97]], .die (.progExit 111)⟩ := by decide

/-- a header carrying "Delivered-To: a@h" loops for recipient a@h; the same line in the body does not -/
example : LocalSpec.loops [97] [104] ([88, 58, 10] ++ LocalSpec.dtline [97] [104] ++ [10, 98, 10]) = true := by decide +kernel
example : LocalSpec.loops [97] [104] ([88, 58, 10, 10] ++ LocalSpec.dtline [97] [104]) = false := by decide

/-- the documented outcome on a concrete setting: recipient u-a@h, home 0700, `.qmail-a` = "&f@x", "|p", "./mb" (mode 0600),
the command exits 99, sender s@x, no owner file: exit 0, the command was run, then one copy to f@x; the mbox line is dropped -/
def exSetting : LocalSpec.Setting :=
  { doit := true, homeMode := 0o700, loc := [117, 45, 97], dash := [45], ext := [97], host := [104], sender := [115, 64, 120],
    dflt := [46, 47, 77], msg := [88, 58, 10, 10],
    look := fun n => if n = [46, 113, 109, 97, 105, 108, 45, 97] then .file 0o600 [38, 102, 64, 120, 10, 124, 112, 10, 46, 47, 109, 98, 10] else .missing,
    present := fun _ => some false, run := fun _ => .exited 99, fileOK := fun _ => 0, queueReply := [] }

example : (LocalSpec.outcome exSetting).code = 0 ∧
    (LocalSpec.outcome exSetting).effects = [.program [112], .queue [115, 64, 120] [[102, 64, 120]]] := by decide +kernel
-- the same with a world-writable home directory: 111 and nothing happens; with no control file at all: 100
example : (LocalSpec.outcome { exSetting with homeMode := 0o702 }).code = 111 ∧
    (LocalSpec.outcome { exSetting with homeMode := 0o702 }).effects = [] := by decide
example : (LocalSpec.outcome { exSetting with look := fun _ => .missing }).code = 100 := by decide

/-- recipient "a\nB" at host "h": the newline becomes '_' -/
example : dtline [97, 10, 66] [104] = [68, 101, 108, 105, 118, 101, 114, 101, 100, 45, 84, 111, 58, 32, 97, 95, 66, 64, 104, 10] := by
  decide +kernel

/-! ### The environment handed to commands (qmail-command(8) "ENVIRONMENT VARIABLES")

Model `Nq.LocalEnv` (env.c's env_put2/env_get, the env_put2 sequence of `main()`, the From_ line with `myctime(now())`),
documentation `Nq.LocalEnvSpec` (one entry per variable of the manual page).  `e0` is the environment qmail-local was
started with, `user`/`home` its first two arguments, `now` the clock. -/

open Nq.LocalEnv Nq.Lemmas.LocalEnv Nq.Lemmas.LocalEnvRun in
/-- **The environment of every command is the documented one**, for every inherited environment, user, home directory,
recipient, extension, host, sender (any bytes: empty parts, no dash, no dot, dashes and dots at the ends, 8-bit bytes,
newlines) and clock: whenever a run gets as far as the instruction loop (`(run a w).ueo = some u`, the only situation
in which a command can be run), the environment exists, every variable of qmail-command(8) has its documented value
(`DEFAULT` is the part of the extension matched by "default" when `run` selected such a file, and otherwise keeps whatever
was inherited — qmail-local does not remove it), and every other variable is inherited unchanged.
Hypothesis `dateOk`: `date` is *the* civil date of `now` (any valid Gregorian date with that day number). -/
theorem C13_env_documented (e0 : Env) (a : Args) (w : World) (user home : Bytes) (now : Nat) (date : Int × Int × Int) (u : Bytes)
    (hu : (run a w).ueo = some u)
    (hd : (givenOf (eargsOf a user home now) date (run a w).dfltEnv u).dateOk) :
    ∃ env, commandEnv e0 a w user home now = some env ∧
      (∀ p ∈ LocalEnvSpec.documented (givenOf (eargsOf a user home now) date (run a w).dfltEnv u),
        envGet env p.1 = (match p.2 with
          | some v => some v
          | none => envGet e0 p.1)) ∧
      (∀ k, k ∉ (LocalEnvSpec.documented (givenOf (eargsOf a user home now) date (run a w).dfltEnv u)).map (fun p => p.1) →
        envGet env k = envGet e0 k) := by
  refine ⟨envFinal e0 (eargsOf a user home now) (run a w).dfltEnv u, ?_, ?_, ?_⟩
  · unfold commandEnv; rw [hu]
  · exact documented_ok e0 _ _ u date hd
  · exact fun k hk => others_inherited e0 _ _ u date k hk

open Nq.LocalEnv Nq.Lemmas.LocalEnvRun in
/-- the complement: a run that does not get that far (refused home, loop, unusable or missing control file, temporary error
on the -owner test) has no command environment and runs no command (no effect at all) -/
theorem C13_env_none (e0 : Env) (a : Args) (w : World) (user home : Bytes) (now : Nat) (hu : (run a w).ueo = none) :
    commandEnv e0 a w user home now = none ∧ (run a w).effects = [] := by
  have h := (run_envFacts a w).ueo
  rw [hu] at h
  exact ⟨by unfold commandEnv; rw [hu], h⟩

open Nq.Lemmas.LocalEnvRun in
/-- **DEFAULT is put exactly when the selected control file's name ends in "default"**, and then it is the part of the
(original, not lower-cased) extension that the word stands for — `LocalSpec.defaultVar`, qmail-command(8) — for whole runs:
`(run a w).dfltEnv` is what `C13_env_documented` puts under `DEFAULT`. -/
theorem C13_env_default (a : Args) (w : World) :
    (run a w).dfltEnv = (match (run a w).sel with
      | some c => LocalSpec.defaultVar a.dash a.ext c.name
      | none => none) := by
  have h := (run_envFacts a w).dflt
  cases hs : (run a w).sel with
  | none => rw [hs] at h; exact h
  | some c => rw [hs] at h; rw [h.2]; exact default_eq_spec a.dash a.ext c h.1

open Nq.Lemmas.LocalEnvRun in
/-- **NEWSENDER** is the sender `qmeox`'s -owner / -owner-default tests produce (`ueoOf`), which `C13_owner` proves to be
dot-qmail(5)'s rule (`LocalSpec.forwardSender`: bounces keep their sender; `local-owner@host` if `.qmail…-owner` exists,
the VERP form `local-owner-@host-@[]` if `-owner-default` exists as well; otherwise the original sender). -/
theorem C13_env_newsender (a : Args) (w : World) (u : Bytes) (hu : (run a w).ueo = some u) :
    ueoOf a.loc a.dash (safeext a.ext) a.host a.sender w.ex = .ok u := by
  have h := (run_envFacts a w).ueo
  rw [hu] at h
  exact h

open Nq.Lemmas.LocalEnv in
/-- **EXT2, EXT3, EXT4 in the manual's words**: `following 45 (n+1) ext` (the value documented for `EXT(n+2)`) is exactly
what follows the dash that has `n` dashes before it; with at most `n` dashes it is empty. -/
theorem C13_env_ext (n : Nat) (pre r ext : Bytes) :
    (pre.count 45 = n → LocalEnvSpec.following 45 (n + 1) (pre ++ 45 :: r) = r) ∧
    (ext.count 45 ≤ n → LocalEnvSpec.following 45 (n + 1) ext = []) :=
  ⟨following_split 45 r pre n, following_few 45 ext n⟩

open Nq.Lemmas.LocalEnv in
/-- **HOST2, HOST3, HOST4 in the manual's words**: one step of `preceding` removes the last dot and what follows it;
a host without a dot is left as it is (so with fewer dots than asked for, the portion preceding the first dot results). -/
theorem C13_env_host (l r h : Bytes) (n : Nat) :
    (46 ∉ r → LocalEnvSpec.preceding (n + 1) (l ++ 46 :: r) = LocalEnvSpec.preceding n l) ∧
    (46 ∉ h → LocalEnvSpec.preceding n h = h) := by
  constructor
  · intro hr
    have : LocalEnvSpec.precedingLastDot (l ++ 46 :: r) = l := by
      rw [← beforeLastDot_eq_spec]; exact beforeLastDot_split l r hr
    simp [LocalEnvSpec.preceding, this]
  · intro hh
    have : LocalEnvSpec.precedingLastDot h = h := by
      rw [← beforeLastDot_eq_spec]; exact beforeLastDot_nodot h hh
    induction n with
    | zero => rfl
    | succ m ih => simp [LocalEnvSpec.preceding, this, ih]

open Nq.Lemmas.LocalEnv in
/-- **The date in the From_ line (`UFLINE`)** is the Gregorian UTC date and time of the clock value, for every sender and
every `now`: "From " word " " Www Mmm dd hh:mm:ss yyyy "\n" where (yyyy, Mmm, dd) is a valid civil date whose day number is
⌊now/86400⌋ (unique: `Nq.Lemmas.Datetime.tai_unique`), the weekday is (day number + 4) mod 7 and hh:mm:ss is now mod 86400. -/
theorem C13_ufline_date (sender : Bytes) (now : Nat) : LocalEnvSpec.IsUfline sender now (Nq.LocalEnv.ufline sender now) := by
  obtain ⟨h1, h2, _⟩ := Nq.Lemmas.Datetime.tai_civil (now : Int)
  exact ⟨_, _, _, h1, h2, ufline_eq_spec sender now⟩

open Nq.Lemmas.LocalEnv in
/-- the compiled oracle for `UFLINE` accepts only such lines -/
theorem C13_ufline_oracle_sound (sender : Bytes) (now : Nat) (l : Bytes) (h : LocalEnvSpec.uflineOracle sender now l = true) :
    LocalEnvSpec.IsUfline sender now l := by
  unfold LocalEnvSpec.uflineOracle at h
  split at h
  · rename_i y m d hs
    unfold LocalEnvSpec.civilSearch at hs
    have hp := List.find?_some hs
    simp only [Bool.and_eq_true, decide_eq_true_eq, beq_iff_eq] at hp
    exact ⟨y, m, d, hp.1, hp.2, by simpa using h⟩
  · cases h

open Nq.Lemmas.LocalEnv in
/-- **DTLINE, RPLINE and UFLINE (with its date) are single lines** for every recipient, host, sender and clock value -/
theorem C13_env_lines (loc host sender : Bytes) (now : Nat) :
    LocalSpec.oneLine (dtline loc host) = true ∧ LocalSpec.oneLine (rpline sender) = true ∧
    LocalSpec.oneLine (Nq.LocalEnv.ufline sender now) = true :=
  ⟨(C13_noinject loc host sender).1, (C13_noinject loc host sender).2, ufline_oneLine sender now⟩

/-! Non-vacuity of the environment theorems -/

/-- ext "a-b--c": EXT2 "b--c", EXT3 "-c", EXT4 "c"; "-" at the end: EXT2 ""; no dash: "" -/
example : LocalEnvSpec.following 45 1 [97, 45, 98, 45, 45, 99] = [98, 45, 45, 99] ∧
    LocalEnvSpec.following 45 2 [97, 45, 98, 45, 45, 99] = [45, 99] ∧ LocalEnvSpec.following 45 3 [97, 45, 98, 45, 45, 99] = [99] ∧
    LocalEnvSpec.following 45 1 [97, 45] = [] ∧ LocalEnvSpec.following 45 1 [97] = [] := by decide +kernel
/-- host "a.b.c": HOST2 "a.b", HOST3 "a", HOST4 "a"; ".x": HOST2 ""; "x.": "x"; "x": "x" -/
example : LocalEnvSpec.preceding 1 [97, 46, 98, 46, 99] = [97, 46, 98] ∧ LocalEnvSpec.preceding 2 [97, 46, 98, 46, 99] = [97] ∧
    LocalEnvSpec.preceding 3 [97, 46, 98, 46, 99] = [97] ∧ LocalEnvSpec.preceding 1 [46, 120] = [] ∧
    LocalEnvSpec.preceding 1 [120, 46] = [120] ∧ LocalEnvSpec.preceding 1 [120] = [120] := by decide +kernel
/-- the hypotheses of `C13_env_ext` / `C13_env_host` are satisfiable: "a-b" = "a" ++ '-' :: "b" with no dash in "a" -/
example : ([97] : Bytes).count 45 = 0 ∧ (46 : UInt8) ∉ ([99] : Bytes) := by decide
/-- 2001-09-09 (month index 8) is a valid date with day number 11574 = ⌊1000000000/86400⌋: `dateOk` is satisfiable -/
example : Nq.Datetime.validDate 2001 8 9 ∧ Nq.Datetime.daysFromCivil 2001 8 9 = (1000000000 : Int) / 86400 := by decide
/-- an inherited DEFAULT survives a put of another name and is replaced by a put of its own -/
example : Nq.LocalEnv.envGet (Nq.LocalEnv.envPut [([68], [1]), ([69], [2])] [69] [3]) [68] = some [1] ∧
    Nq.LocalEnv.envGet (Nq.LocalEnv.envPut [([68], [1]), ([69], [2])] [68] [3]) [68] = some [3] := by decide +kernel

end Nq.Props.C13
