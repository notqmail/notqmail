/-
  C14 — Bounces go back once, to the sender, and can neither loop nor be forged.

  Model: `Nq.Bounce` (qmail-send.c `stripvdomprepend`, `addbounce`, `del_dochan`'s report handling,
  `getcontrols`, `injectbounce`), tied to the source by the differential harness
  `harness/c14_bounce.c`.  The reader's side (`paras`, `governing`, `namedRecipient`, `recipLine`,
  `sanit`) is `Nq.BounceSpec`; compiled, it is the oracle of `./check C14`.
  "Once" is proved twice: for `injectbounce` itself (`C14_once` …) and, in section `DaemonLevel`
  (`C14_daemon_*`), at DAEMON level — for every event sequence accepted by the monitor `Nq.Daemon` of
  C03/C04 (any interleaving of messages, reports, failing calls, crashes and restarts), with the history
  layer `Nq.BounceDaemon` and the bridge to `inject`/`bounceOf`.  The last two sections: `injectbounce`
  in front of qmail.c's sticky error flag (`Nq.BounceQq`), and `del_dochan`'s record-then-mark order.
  Besides the theorems the file defines the chain relation (`Bounces`, `isChain`) and the inputs of its
  non-vacuity `example`s.
-/
import Nq.Lemmas.Bounce
import Nq.Lemmas.BounceRewrite
import Nq.Lemmas.BounceDaemon
import Nq.Lemmas.BounceQq

namespace Nq.Props.C14
open Nq Nq.Bounce Nq.BounceSpec Nq.Lemmas.Bounce

/-! ### One failed recipient = exactly one paragraph; report text cannot forge another

`addbounceText es fl recip report` is what `addbounce(id,recip,report,flagstrip)` appends; `fl` is
`flagstrip` (`del_dochan` passes `c == 0`: the delivery was on the local channel).  The address that must
be named is `namedRecipient fl …`: the stored recipient itself on the remote channel, the stored
recipient with `rewrite()`'s prefix undone on the local channel. -/

/-- **One `addbounce` call, one paragraph** — for every recipient, every report (any bytes: empty
lines, `<x>:` look-alikes, 8-bit), every virtualdomains/locals table and both channels, whatever follows
in the file: the reader sees exactly one paragraph `core`, then continues between paragraphs.  `core`
begins with the line naming the recipient and is everything that was written except the final empty
line(s). -/
theorem C14_paragraph (es : Tables) (fl : Bool) (recip report rest : Bytes) :
    ∃ core, paras .blank (addbounceText es fl recip report ++ rest) = core :: paras .blank rest
      ∧ recipLine (namedRecipient fl es.locals es.vdoms recip) <+: core
      ∧ (addbounceText es fl recip report = core ++ [LF] ∨ addbounceText es fl recip report = core ++ [LF, LF]) := by
  refine ⟨paraCore (nameOf es fl recip) report, paras_addbounceNamed _ report rest, ?_, addbounceNamed_core _ report⟩
  rw [← nameOf_eq_named]
  exact recipLine_prefix_paraCore _ report

/-- …in particular the text written for one failure is one paragraph. -/
theorem C14_paragraph_one (es : Tables) (fl : Bool) (recip report : Bytes) :
    (paragraphs (addbounceText es fl recip report)).length = 1 := by
  have := paras_addbounceNamed (nameOf es fl recip) report []
  simp only [List.append_nil] at this
  simp [paragraphs, addbounceText, this, paras]

/-- (Corollary about the SPEC's own `recipLine`, not about the code: it says what the predicate used
in `C14_paragraph` means.)  The recipient line is a single line: `<`, the address with every LF shown
as `_`, `>:` LF. -/
theorem C14_recipient_line (addr : Bytes) :
    ∃ r, recipLine addr = 60 :: (r ++ [62, 58, LF]) ∧ LF ∉ r ∧ r.length = addr.length := by
  refine ⟨shown addr, ?_, lf_not_mem_shown addr, by simp [shown]⟩
  rw [recipLine_eq]
  simp [LANGLE, RANGLE, COLON]

/-- **The bounce file has exactly one paragraph per failed recipient, in order, the i-th naming the
i-th recipient** — for every list of failures (each with its channel flag), in any combination and
order, with arbitrary report bytes.  Report text cannot add, remove or re-label a paragraph. -/
theorem C14_paragraphs_file (es : Tables) (fails : List Fail) :
    (paragraphs (bounceFile es fails)).length = fails.length ∧
    NamedInOrder es.locals es.vdoms fails (paragraphs (bounceFile es fails)) := by
  rw [paragraphs_bounceFile]
  exact ⟨by simp, namedInOrder_cores es fails⟩

/-- **The failure text follows the recipient line**: the same bytes, except that an LF which
directly follows an LF (or opens the report) is shown as '/', one final LF is implied, and an empty
line ends the paragraph. -/
theorem C14_report_shown (es : Tables) (fl : Bool) (recip report : Bytes) :
    ∃ b tail, addbounceText es fl recip report = recipLine (namedRecipient fl es.locals es.vdoms recip) ++ b ++ tail
      ∧ sanit (chomp1 report) b = true ∧ (tail = [LF] ∨ tail = [LF, LF]) := by
  refine ⟨squashAll true (chomp1 report), if report = [] then [LF] else [LF, LF], ?_, sanit_squashAll _ _, ?_⟩
  · rw [← nameOf_eq_named]; exact addbounceNamed_shape _ report
  · split <;> simp

/-- A report without empty lines that does not begin with LF is shown verbatim. -/
theorem C14_report_verbatim (es : Tables) (fl : Bool) (recip report : Bytes)
    (h1 : hasLFLF report = false) (h2 : report.head? ≠ some LF) (h3 : report ≠ []) :
    addbounceText es fl recip report = recipLine (namedRecipient fl es.locals es.vdoms recip) ++ chomp1 report ++ [LF, LF] := by
  rw [← nameOf_eq_named]
  unfold addbounceText
  rw [addbounceNamed_shape]
  rw [squashAll_id _ true (chomp1_hasLFLF _ h1) (fun _ => chomp1_head _ h2)]
  simp [h3]

/-- **The model's scan is the C loop.**  `scanInPlace` is the literal transcription of
`for (pos = len - 2;pos > 0;--pos) if (s[pos] == '\n') if (s[pos - 1] == '\n') s[pos] = '/';`
(in-place writes, descending positions); the forward pass used by `addbounceText` computes the same
text for every input. -/
theorem C14_scan_literal (s : Bytes) : scanInPlace s = scanFrom false s := scanInPlace_eq s

/-! ### The named address: per channel, against the documented rule and against `rewrite()`

`nameOf es fl recip` = `flagstrip ? stripvdomprepend(recip) : recip` is what `addbounce` names (without
the channel flag `stripvdomprepend` would be applied on both channels: `C14_channel_matters`);
`stripvdom` transcribes `stripvdomprepend()`.  The rule is `BounceSpec.namedRecipient fl`.

Which of the following are real statements about the code and which are corollaries: `C14_strip`,
`C14_names` compare the transcribed code with the independently written rule; `C14_undo_*`,
`C14_bounce_names_routed_address`, `C14_bounce_paragraph_routed` compare it with C10's model of
`rewrite()`; `C14_strip_local/_user/_removed/_kept`, `C14_remote_as_is` merely unfold `namedRecipient`
case by case (readable corollaries); `C14_strip_user_rewrite`/`C14_strip_rewrite` are the round
trip against the spec's own description of the rule (`entryFor`/`governing`); the round trip against
`rewrite()` itself is `C14_undo_prefixed`. -/

/-- **`stripvdomprepend` implements the documented precedence for local-channel recipients** (the
order of `rewrite()`): a recipient at a domain listed in `locals` is named as it is; otherwise a
virtual-*user* prefix is removed (first cut `prepend-rest` such that `rest` has an entry with exactly
that non-empty prepend); otherwise the entry that governs the recipient's domain (the domain itself,
else the longest `.suffix` wildcard, else the catch-all; last entry wins, keys case-insensitive)
decides, and its `prepend-` is removed exactly when the recipient starts with it. -/
theorem C14_strip (t : Tables) (recip : Bytes) :
    stripvdom t recip = namedRecipient true t.locals t.vdoms recip := stripvdom_eq_named t recip

/-- **What `addbounce` names is the channel-aware rule**, for every table, recipient and channel flag. -/
theorem C14_names (t : Tables) (fl : Bool) (recip : Bytes) :
    nameOf t fl recip = namedRecipient fl t.locals t.vdoms recip := nameOf_eq_named t fl recip

/-- (corollary) a remote-channel recipient is named exactly as it is stored, whatever virtualdomains
says: this is what the channel flag is for. -/
theorem C14_remote_as_is (t : Tables) (recip : Bytes) :
    nameOf t false recip = recip ∧ namedRecipient false t.locals t.vdoms recip = recip := by
  simp [nameOf, namedRecipient]

/-- (corollary, rule 1) a local-channel recipient whose domain is listed in
control/locals was never given a prefix by `rewrite()`; the bounce names it as it was addressed,
whatever virtualdomains says. -/
theorem C14_strip_local (t : Tables) (recip d : Bytes)
    (hd : domainPart recip = some d) (hl : isLocal t.locals d = true) : stripvdom t recip = recip := by
  rw [stripvdom_eq_named]
  simp [namedRecipient, hd, hl]

/-- (corollary, rule 2) outside `locals`, if the recipient can be cut as
`prepend-rest` where `rest` has a virtualdomains entry with exactly this non-empty prepend, the bounce
names `rest` (the first such cut).  This is also the complement of the unambiguity hypothesis of
`C14_undo_prefixed`: whenever a cut exists, its `rest` is what is named. -/
theorem C14_strip_user (t : Tables) (recip d rest : Bytes)
    (hd : domainPart recip = some d) (hl : isLocal t.locals d = false)
    (hu : userSplit t.vdoms recip = some rest) : stripvdom t recip = rest := by
  rw [stripvdom_eq_named]
  simp [namedRecipient, prefixUndone, hd, hl, hu]

/-- (round trip against the spec's description of the rule; against `rewrite()` itself:
`C14_undo_prefixed_user`) if `addr` (not at a local domain) has the entry `addr:p` with `p` non-empty
and dash-free, the local recipient `p-addr` is named `addr`. -/
theorem C14_strip_user_rewrite (t : Tables) (addr d p : Bytes)
    (hd : domainPart addr = some d) (hl : isLocal t.locals d = false)
    (he : entryFor t.vdoms addr = some p) (hp : p ≠ []) (hdash : (45 : Byte) ∉ p) :
    stripvdom t (p ++ 45 :: addr) = addr := by
  exact C14_strip_user t _ d addr (domainPart_prefixed p addr d hd) hl (userSplit_dashfree _ p addr he hp hdash)

/-- (corollary, rule 3) outside `locals` and with no virtual-user cut, the prefix is removed when the
governing entry's non-empty `prepend` and a dash start the recipient -/
theorem C14_strip_removed (t : Tables) (recip d p : Bytes)
    (hd : domainPart recip = some d) (hl : isLocal t.locals d = false) (hu : userSplit t.vdoms recip = none)
    (hg : governing t.vdoms d = some p) (hp : p ≠ [])
    (hpre : (p ++ [45]) <+: recip) : p ++ 45 :: stripvdom t recip = recip := by
  rw [stripvdom_eq_named]
  unfold namedRecipient prefixUndone
  obtain ⟨r, ht⟩ := hpre
  have hpb : (p ++ [45]).isPrefixOf recip = true := by
    rw [List.isPrefixOf_iff_prefix]; exact ⟨r, ht⟩
  have hpe : p.isEmpty = false := by simpa using hp
  simp only [hd, hl, hu, hg, hpe, hpb, Bool.not_false, Bool.not_true, Bool.and_self, if_true, Bool.false_eq_true, if_false]
  rw [← ht]
  simp

/-- (corollary, rule 3) …and in every other case (no virtual-user cut, and no governing entry, an
exception entry for the domain, or the recipient does not start with `prepend-`) the recipient is
named as it is -/
theorem C14_strip_kept (t : Tables) (recip : Bytes) (hu : userSplit t.vdoms recip = none)
    (h : ∀ d p, domainPart recip = some d → governing t.vdoms d = some p → p = [] ∨ ¬ (p ++ [45]) <+: recip) :
    stripvdom t recip = recip := by
  rw [stripvdom_eq_named]
  unfold namedRecipient prefixUndone
  simp only [Bool.not_true, Bool.false_eq_true, if_false]
  cases hd : domainPart recip with
  | none => rfl
  | some d =>
    simp only [hu]
    split
    · rfl
    · cases hg : governing t.vdoms d with
      | none => rfl
      | some p =>
        rcases h d p hd hg with hp | hp
        · simp [hp]
        · have : (p ++ [45]).isPrefixOf recip = false :=
            Bool.eq_false_iff.2 fun hb => hp (List.isPrefixOf_iff_prefix.mp hb)
          simp only [this, Bool.and_false, Bool.false_eq_true, if_false]

/-- (round trip against the spec's description; against `rewrite()` itself: `C14_undo_prefixed`) if
`p` is the (non-empty) prepend of the entry governing `addr`'s domain, the domain is not local and no
virtual-user cut applies, the local recipient `p-addr` is named `addr` in the bounce. -/
theorem C14_strip_rewrite (t : Tables) (addr d p : Bytes)
    (hd : domainPart addr = some d) (hl : isLocal t.locals d = false)
    (hu : userSplit t.vdoms (p ++ 45 :: addr) = none)
    (hg : governing t.vdoms d = some p) (hp : p ≠ []) :
    stripvdom t (p ++ 45 :: addr) = addr := by
  have h := C14_strip_removed t (p ++ 45 :: addr) d p (domainPart_prefixed p addr d hd) hl hu hg hp ⟨addr, by simp⟩
  exact (List.cons.inj (List.append_cancel_left h)).2

/-! #### …against C10's model of `rewrite()` (`Nq.Rewrite.rewrite`, same control files: `tablesOf`)

`rewrite c r = ⟨channel, tag, addr⟩`: `addr` = the recipient after `rewrite()`'s own normalisation
(`@envnoathost` appended if it has no '@', percent hack applied: `C14_routed_address`), `tag` = the
prepend (empty = none); the channel file of `channel` gets `recipOf = addr` or `tag-addr`.  The bounce
must name `addr`: the address the sender used, as qmail-send understood it. -/

open Nq.Lemmas.BounceRewrite in
/-- **What exactly is named**: `(rewrite c r).addr` is C10's normalised recipient — `r` itself when it
has an '@' and its domain is not listed in percenthack, `r@envnoathost` when it has no '@' (and
envnoathost is not listed in percenthack), in general `pctFix` of the two. -/
theorem C14_routed_address (c : Rewrite.Cfg) (r : Bytes) :
    (Rewrite.rewrite c r).addr = (match Route.splitLast AT r with
      | some p => Route.pctFix c.ph (p.1.length + 1) p.1 p.2
      | none => Route.pctFix c.ph (r.length + 1) r c.env) ∧
    (∀ l d, Route.splitLast AT r = some (l, d) → Route.listed c.ph d = false → (Rewrite.rewrite c r).addr = r) ∧
    (Route.splitLast AT r = none → Route.listed c.ph c.env = false → (Rewrite.rewrite c r).addr = r ++ AT :: c.env) :=
  ⟨rewrite_addr_spec c r, fun l d h hp => rewrite_addr_plain c r l d h hp, fun h hp => rewrite_addr_noat c r h hp⟩

open Nq.Lemmas.BounceRewrite in
/-- **remote channel, unconditionally**: a recipient `rewrite()` sent to the remote channel is stored
without a prefix and named exactly as stored = the routed address.  For every configuration and every
recipient bytes; no hypothesis. -/
theorem C14_undo_remote (c : Rewrite.Cfg) (r : Bytes) (hc : (Rewrite.rewrite c r).chan = .rem) :
    recipOf (Rewrite.rewrite c r) = (Rewrite.rewrite c r).addr ∧
    nameOf (tablesOf c) false (recipOf (Rewrite.rewrite c r)) = (Rewrite.rewrite c r).addr := by
  have ht := remote_untagged c r hc
  simp [nameOf, recipOf, ht]

open Nq.Lemmas.BounceRewrite in
/-- **locals**: a recipient `rewrite()` kept because its domain is in `locals` is named as it is — no
hypothesis. -/
theorem C14_undo_local (c : Rewrite.Cfg) (r : Bytes)
    (hc : (Rewrite.rewrite c r).chan = .loc) (ht : (Rewrite.rewrite c r).tag = []) :
    stripvdom (tablesOf c) (Rewrite.rewrite c r).addr = (Rewrite.rewrite c r).addr :=
  strip_local c r hc ht

open Nq.Lemmas.BounceRewrite in
/-- **virtual domains and virtual users**: whatever `rewrite()` prepended — the prepend of the
address's own entry, of its domain's entry, of a wildcard or of the catch-all — is removed again:
`stripvdomprepend(tag-addr) = addr`, provided the only virtual-user reading of the prefixed string, if
there is one, is `addr` (otherwise: `C14_strip_user` says what is named, `C14_undo_ambiguous` shows the
hypothesis cannot be dropped). -/
theorem C14_undo_prefixed (c : Rewrite.Cfg) (r : Bytes)
    (ht : (Rewrite.rewrite c r).tag ≠ [])
    (hu : ∀ rest, userSplit (tablesOf c).vdoms
            ((Rewrite.rewrite c r).tag ++ 45 :: (Rewrite.rewrite c r).addr) = some rest →
            rest = (Rewrite.rewrite c r).addr) :
    stripvdom (tablesOf c) ((Rewrite.rewrite c r).tag ++ 45 :: (Rewrite.rewrite c r).addr)
      = (Rewrite.rewrite c r).addr :=
  strip_prefixed c r ht hu

open Nq.Lemmas.BounceRewrite in
/-- …the unambiguity hypothesis holds in the usual virtual-user case: the prepend comes from the
address's own entry and contains no dash. -/
theorem C14_undo_prefixed_user (c : Rewrite.Cfg) (r : Bytes)
    (ht : (Rewrite.rewrite c r).tag ≠ [])
    (he : Rewrite.mapLookup c.vdoms (Rewrite.rewrite c r).addr = some (Rewrite.rewrite c r).tag)
    (hdash : (45 : Byte) ∉ (Rewrite.rewrite c r).tag) :
    stripvdom (tablesOf c) ((Rewrite.rewrite c r).tag ++ 45 :: (Rewrite.rewrite c r).addr)
      = (Rewrite.rewrite c r).addr :=
  strip_prefixed c r ht
    (unambiguous_of_dashfree _ _ _ (by rw [entryFor_tablesOf]; exact he) ht hdash)

open Nq.Lemmas.BounceRewrite in
/-- **End to end, the name**: for every configuration and every recipient `r`, if `rewrite()` routes
`r` to `(channel, stored)`, then `addbounce(id, stored, report, channel == local)` — which is how
`del_dochan` calls it — names the routed address.  Unconditional for the remote channel and for
`locals`; for a prefixed recipient under the non-ambiguity hypothesis `hu`. -/
theorem C14_bounce_names_routed_address (c : Rewrite.Cfg) (r : Bytes)
    (hu : (Rewrite.rewrite c r).tag ≠ [] →
          ∀ rest, userSplit (tablesOf c).vdoms (recipOf (Rewrite.rewrite c r)) = some rest →
            rest = (Rewrite.rewrite c r).addr) :
    nameOf (tablesOf c) ((Rewrite.rewrite c r).chan == .loc) (recipOf (Rewrite.rewrite c r))
      = (Rewrite.rewrite c r).addr :=
  nameOf_rewrite c r hu

open Nq.Lemmas.BounceRewrite in
/-- **End to end, the paragraph**: under the same hypothesis, the text `addbounce` appends for that
delivery, followed by anything, reads as exactly one paragraph, and that paragraph begins with
`<routed address>:` (LF shown as `_`) — whatever the report bytes. -/
theorem C14_bounce_paragraph_routed (c : Rewrite.Cfg) (r report rest : Bytes)
    (hu : (Rewrite.rewrite c r).tag ≠ [] →
          ∀ rest, userSplit (tablesOf c).vdoms (recipOf (Rewrite.rewrite c r)) = some rest →
            rest = (Rewrite.rewrite c r).addr) :
    ∃ core, paras .blank (addbounceText (tablesOf c) ((Rewrite.rewrite c r).chan == .loc)
                (recipOf (Rewrite.rewrite c r)) report ++ rest) = core :: paras .blank rest
      ∧ recipLine (Rewrite.rewrite c r).addr <+: core := by
  obtain ⟨core, hp, hn, _⟩ := C14_paragraph (tablesOf c) ((Rewrite.rewrite c r).chan == .loc) (recipOf (Rewrite.rewrite c r)) report rest
  rw [← C14_names, nameOf_rewrite c r hu] at hn
  exact ⟨core, hp, hn⟩

open Nq.Lemmas.BounceRewrite in
/-- **The non-ambiguity hypothesis cannot be dropped** (complement of `hu`): virtualdomains `b:p` and
`u@b:p-q`.  `rewrite()` maps BOTH `q-u@b` (domain entry) and `u@b` (virtual-user entry) to the local
recipient `p-q-u@b`; no function of (channel, stored string) can name both, `stripvdomprepend` names
`u@b`. -/
theorem C14_undo_ambiguous :
    let c : Rewrite.Cfg := { env := [], ph := [], locals := [], vdoms := [⟨[98], [112]⟩, ⟨[117, 64, 98], [112, 45, 113]⟩] }
    Rewrite.rewrite c [113, 45, 117, 64, 98] = ⟨.loc, [112], [113, 45, 117, 64, 98]⟩ ∧
    Rewrite.rewrite c [117, 64, 98] = ⟨.loc, [112, 45, 113], [117, 64, 98]⟩ ∧
    stripvdom (tablesOf c) [112, 45, 113, 45, 117, 64, 98] = [117, 64, 98] := by
  refine ⟨by decide, by decide, by decide⟩

open Nq.Lemmas.BounceRewrite in
/-- **Why the channel flag is needed**: virtualdomains `example.com:alice` and the
exception entry `alice-x@example.com:`.  `rewrite()` stores the SAME string `alice-x@example.com` for
`alice-x@example.com` (remote, unchanged) and for `x@example.com` (local, prefixed).  With the flag
both are named right; `stripvdomprepend` on both channels (the channel-blind code) names the
remote one `x@example.com`. -/
theorem C14_channel_matters :
    let c : Rewrite.Cfg := { env := [], ph := [], locals := [], vdoms := [⟨[101, 120, 97, 109, 112, 108, 101, 46, 99, 111, 109], [97, 108, 105, 99, 101]⟩, ⟨[97, 108, 105, 99, 101, 45, 120, 64, 101, 120, 97, 109, 112, 108, 101, 46, 99, 111, 109], []⟩] }
    let ax : Bytes := [97, 108, 105, 99, 101, 45, 120, 64, 101, 120, 97, 109, 112, 108, 101, 46, 99, 111, 109]
    let x : Bytes := [120, 64, 101, 120, 97, 109, 112, 108, 101, 46, 99, 111, 109]
    Rewrite.rewrite c ax = ⟨.rem, [], ax⟩ ∧ Rewrite.rewrite c x = ⟨.loc, [97, 108, 105, 99, 101], x⟩ ∧
    nameOf (tablesOf c) false ax = ax ∧ nameOf (tablesOf c) true ax = x := by
  decide +kernel

/-! ### Where bounces go: sender forms, VERP base address, double bounce, discard -/

/-- a VERP sender `pre-@[]` is answered at `pre` (for `owner-@host-@[]`: at `owner-@host`) -/
theorem C14_verp_base (pre : Bytes) : verpBase (pre ++ VERPSUF) = pre := by
  unfold verpBase
  have : VERPSUF.isSuffixOf (pre ++ VERPSUF) = true := by
    rw [List.isSuffixOf_iff_suffix]; exact ⟨pre, rfl⟩
  simp [this, VERPSUF]

/-- any other sender is used as it is -/
theorem C14_verp_other (s : Bytes) (h : ¬ VERPSUF <:+ s) : verpBase s = s := by
  unfold verpBase
  have : VERPSUF.isSuffixOf s = false := Bool.eq_false_iff.2 fun hb => h (List.isSuffixOf_iff_suffix.mp hb)
  simp [this]

/-- **Envelope of every generated notice.**  A bounce has the empty envelope sender and goes to the
original sender's base address; if the original sender was empty (the failing message was itself a
bounce) the notice is a double bounce from `#@[]` to `doublebounceto@doublebouncehost`. -/
theorem C14_envelope (cfg : Cfg) (date bf : Bytes) (m m' : Msg) (h : bounceOf cfg date bf m = some m') :
    (verpBase m.sender ≠ [] ∧ m'.sender = [] ∧ m'.rcpts = [verpBase m.sender]) ∨
    (verpBase m.sender = [] ∧ m'.sender = DBSENDER ∧ m'.rcpts = [cfg.doublebounceto]) :=
  bounceOf_envelope cfg date bf m m' h

/-- **The double-bounce address is `doublebounceto@doublebouncehost`, read from the control-file bytes
as documented** (`specDoubleBounceTo`, written from qmail-send(8)/qmail-control(5) independently of the
model and used, compiled, as the oracle's expectation): what `getcontrols()` assembles is exactly that,
for every content of the three files. -/
theorem C14_doublebounce_address (c : Controls) :
    (getcontrols c).doublebounceto = specDoubleBounceTo c.doublebounceto c.doublebouncehost c.me := by
  unfold getcontrols specDoubleBounceTo rldef
  cases c.doublebounceto <;> cases c.doublebouncehost <;> cases c.me <;> simp [readline_eq_spec]

/-- …spelled out case by case: a file that exists contributes its first line with trailing spaces
and tabs removed; a missing `doublebounceto` is `postmaster` (control/me is not a fallback for it); a
missing `doublebouncehost` is control/me's first line, and the literal `doublebouncehost` when there is
no control/me either.  `bouncehost` and `bouncefrom` play no part. -/
theorem C14_doublebounce_cases (c : Controls) :
    ∃ to host, (getcontrols c).doublebounceto = to ++ [AT] ++ host ∧
      (∀ f, c.doublebounceto = some f → to = specFirstLine f) ∧
      (c.doublebounceto = none → to = str "postmaster") ∧
      (∀ f, c.doublebouncehost = some f → host = specFirstLine f) ∧
      (∀ m, c.doublebouncehost = none → c.me = some m → host = specFirstLine m) ∧
      (c.doublebouncehost = none → c.me = none → host = str "doublebouncehost") := by
  rw [C14_doublebounce_address]
  refine ⟨_, _, rfl, ?_, ?_, ?_, ?_, ?_⟩
  · intro f h; rw [h]
  · intro h; rw [h]
  · intro f h; rw [h]
  · intro m h1 h2; rw [h1, h2]
  · intro h1 h2; rw [h1, h2]

/-- "first line, trailing blanks removed" on bytes: a file `core ws LF rest` (or `core ws` without a
final LF), where `core` has no LF and does not end in a blank and `ws` consists of spaces and tabs,
reads as `core`. -/
theorem C14_control_first_line (core ws rest : Bytes) (hcore : LF ∉ core)
    (hws : ∀ c ∈ ws, c = SP ∨ c = TAB) (hlast : ∀ c, core.getLast? = some c → c ≠ SP ∧ c ≠ TAB) :
    specFirstLine (core ++ ws ++ LF :: rest) = core ∧ specFirstLine (core ++ ws) = core := by
  have hwsl : LF ∉ ws := by
    intro h; rcases hws _ h with e | e <;> simp [LF, SP, TAB] at e
  have hall : ∀ c ∈ core ++ ws, (c != LF) = true := fun c hc =>
    bne_iff_ne.2 fun e => (List.mem_append.1 hc).elim (fun hc => hcore (e ▸ hc)) (fun hc => hwsl (e ▸ hc))
  have hstrip : rstripBlank (core ++ ws) = core := by
    unfold rstripBlank
    rw [List.reverse_append]
    have hallw : ∀ c ∈ ws.reverse, (c == SP || c == TAB) = true := by
      intro c hc
      rcases hws c (by simpa using hc) with e | e <;> simp [e]
    rw [List.dropWhile_append_of_pos hallw]
    cases hr : core.reverse with
    | nil =>
      have : core = [] := by simpa using hr
      simp [this]
    | cons x t =>
      have hx : core.getLast? = some x := by
        rw [List.getLast?_eq_head?_reverse, hr]; rfl
      obtain ⟨h1, h2⟩ := hlast x hx
      have : (x == SP || x == TAB) = false := by simp [h1, h2]
      rw [List.dropWhile_cons, this]
      simp only [Bool.false_eq_true, if_false]
      rw [← hr, List.reverse_reverse]
  constructor
  · unfold specFirstLine
    rw [takeWhile_stop _ _ rest LF hall (by simp), hstrip]
  · unfold specFirstLine
    rw [← List.append_nil (core ++ ws), List.takeWhile_append_of_pos hall, List.takeWhile_nil, List.append_nil, hstrip]

/-- **A failing double bounce is discarded**: nothing is generated exactly for the sender `#@[]`
(after VERP-suffix removal). -/
theorem C14_discard (cfg : Cfg) (date bf : Bytes) (m : Msg) :
    bounceOf cfg date bf m = none ↔ verpBase m.sender = DBSENDER :=
  bounceOf_none_iff cfg date bf m

/-- `m'` is the notice generated when `m` fails (for some date and some recorded failures) -/
def Bounces (cfg : Cfg) (m m' : Msg) : Prop := ∃ date bf, bounceOf cfg date bf m = some m'

def isChain (R : Msg → Msg → Prop) : List Msg → Prop
  | [] => True
  | [_] => True
  | a :: b :: t => R a b ∧ isChain R (b :: t)

/-- the notice for a bounce is a double bounce, and the notice for a double bounce does not exist -/
theorem C14_chain_step (cfg : Cfg) (m0 m1 m2 : Msg) (h1 : Bounces cfg m0 m1) (h2 : Bounces cfg m1 m2) :
    m1.sender = [] ∧ m2.sender = DBSENDER ∧ m2.rcpts = [cfg.doublebounceto] ∧ ∀ m3, ¬ Bounces cfg m2 m3 := by
  obtain ⟨d1, b1, h1⟩ := h1
  obtain ⟨d2, b2, h2⟩ := h2
  have e1 := C14_envelope cfg d1 b1 m0 m1 h1
  have hs1 : m1.sender = [] := by
    rcases e1 with ⟨_, hs, _⟩ | ⟨_, hs, _⟩
    · exact hs
    · -- a double bounce generates nothing, contradiction with h2
      have : bounceOf cfg d2 b2 m1 = none := (C14_discard cfg d2 b2 m1).mpr (by rw [hs]; decide)
      rw [this] at h2; cases h2
  have e2 := C14_envelope cfg d2 b2 m1 m2 h2
  have hv : verpBase m1.sender = [] := by rw [hs1]; decide
  rcases e2 with ⟨hne, _, _⟩ | ⟨_, hs2, hr2⟩
  · exact absurd hv hne
  · refine ⟨hs1, hs2, hr2, ?_⟩
    intro m3 ⟨d3, b3, h3⟩
    have : bounceOf cfg d3 b3 m2 = none := (C14_discard cfg d3 b3 m2).mpr (by rw [hs2]; decide)
    rw [this] at h3; cases h3

/-- **Bounce loops are impossible**: every chain message → notice → notice → … has at most three
members (the message, its bounce, the double bounce), for every configuration and every original
sender. -/
theorem C14_chain (cfg : Cfg) (l : List Msg) (h : isChain (Bounces cfg) l) : l.length ≤ 3 := by
  match l, h with
  | [], _ => simp
  | [_], _ => simp
  | [_, _], _ => simp
  | [_, _, _], _ => simp
  | m0 :: m1 :: m2 :: m3 :: t, h =>
    simp only [isChain] at h
    exact absurd h.2.2.1 ((C14_chain_step cfg m0 m1 m2 h.1 h.2.1).2.2.2 m3)

/-- **The notice contains the recorded failures and ends with the original message.** -/
theorem C14_original_appended (cfg : Cfg) (date bf : Bytes) (m m' : Msg) (h : bounceOf cfg date bf m = some m') :
    m.body <:+ m'.body ∧ bf <:+: m'.body := by
  obtain ⟨rcpt, single, base, hb⟩ := bounceOf_body cfg date bf m m' h
  rw [hb]
  exact ⟨(suffix_trailer single base m.body).trans (List.suffix_append _ _), ⟨_, _, rfl⟩⟩

/-- **In the notice each failed recipient occupies exactly one paragraph.**  The text is
`pre ++ bounce file ++ post` (`pre` = header and introduction, `post` = the "Below this line" marker,
Return-Path and the original message); read as paragraphs it is the paragraphs of `pre`, then one
paragraph per failed recipient (exactly the paragraphs of the bounce file) — the i-th naming the i-th
recipient — then the paragraphs of `post`:
neither report text nor recipient addresses nor the original message can change that count or
re-label one of those paragraphs. -/
theorem C14_notice_paragraphs (cfg : Cfg) (date : Bytes) (fails : List Fail) (m m' : Msg)
    (h : bounceOf cfg date (bounceFile cfg.tables fails) m = some m') :
    ∃ pre post ps, m'.body = pre ++ bounceFile cfg.tables fails ++ post
      ∧ paragraphs m'.body = paragraphs pre ++ ps ++ paragraphs post
      ∧ ps = paragraphs (bounceFile cfg.tables fails)
      ∧ ps.length = fails.length
      ∧ NamedInOrder cfg.locals cfg.vdoms fails ps
      ∧ m.body <:+ post := by
  obtain ⟨rcpt, single, base, hb⟩ := bounceOf_body cfg date _ m m' h
  have hf := C14_paragraphs_file cfg.tables fails
  refine ⟨preamble cfg date rcpt single, trailer single base m.body, paragraphs (bounceFile cfg.tables fails),
    hb, ?_, rfl, hf.1, hf.2, suffix_trailer single base m.body⟩
  -- either introduction ends with an empty line: the reader is between paragraphs where the bounce file begins
  have hbl : endSt .blank (preamble cfg date rcpt single) = .blank := by
    unfold preamble
    cases single
    · unfold introDouble; rw [if_neg Bool.false_ne_true, ← List.append_assoc]; exact endSt_LFLF _ _
    · unfold introSingle; rw [if_pos rfl, ← List.append_assoc]; exact endSt_LFLF _ _
  rw [hb, paragraphs_bounceFile]
  unfold paragraphs
  rw [List.append_assoc (preamble cfg date rcpt single), paras_append_blank _ _ _ hbl, paras_bounceFile, List.append_assoc]

/-! ### Once: `injectbounce` queues first and removes `bounce/<id>` afterwards -/

/-- **After a successful call nothing more is ever sent for this message**: the bounce file is gone,
so any later call (whatever faults it meets) queues nothing. -/
theorem C14_once (cfg : Cfg) (date date' : Bytes) (id qp qp' : Nat) (f f' : Fault)
    (sender : Bytes) (bounce : Option Bytes) (mess : Bytes)
    (h : (inject cfg date id qp f sender bounce mess).ret = true) :
    (inject cfg date id qp f sender bounce mess).bounce = none ∧
    (inject cfg date' id qp' f' sender (inject cfg date id qp f sender bounce mess).bounce mess).queued = none := by
  obtain ⟨_, hb, _⟩ | ⟨hr, _⟩ | ⟨hr, _⟩ := inject_cases cfg date id qp f sender bounce mess
  · rw [hb]
    -- without a bounce file nothing is due: `hq` says `queued = none` in each of the three endings
    obtain ⟨_, _, hq⟩ | ⟨_, _, hq, _⟩ | ⟨_, _, hq, _⟩ := inject_cases cfg date' id qp' f' sender none mess
    · exact ⟨rfl, hq⟩
    · exact ⟨rfl, hq⟩
    · exact ⟨rfl, hq⟩
  · cases hr.symm.trans h
  · cases hr.symm.trans h

/-- **The bounce file is removed only after the notice was queued** (or, for the failure of a double
bounce, deliberately discarded): if `bounce/<id>` is gone after the call, the call handed exactly the
notice `bounceOf …` to qmail-queue and qmail-queue accepted it (`none` exactly when the sender's VERP
base is `#@[]`, i.e. for `#@[]` and `#@[]-@[]`: `bounceOf_none_iff`). -/
theorem C14_unlink_after_queue (cfg : Cfg) (date : Bytes) (id qp : Nat) (f : Fault)
    (sender bf mess : Bytes)
    (h : (inject cfg date id qp f sender (some bf) mess).bounce = none) :
    (inject cfg date id qp f sender (some bf) mess).queued
        = bounceOf cfg date bf { sender := sender, rcpts := [], body := mess } := by
  obtain ⟨_, _, hq⟩ | ⟨_, hb, _⟩ | ⟨_, hb, _⟩ := inject_cases cfg date id qp f sender (some bf) mess
  · exact hq
  · cases hb.symm.trans h
  · cases hb.symm.trans h

/-- **A call that fails loses nothing**: the bounce file is unchanged, so the retry (qmail-send
re-schedules the message SLEEP_SYSFAIL seconds later) starts from the same state. -/
theorem C14_retry (cfg : Cfg) (date : Bytes) (id qp : Nat) (f : Fault)
    (sender : Bytes) (bounce : Option Bytes) (mess : Bytes)
    (h : (inject cfg date id qp f sender bounce mess).ret = false) :
    (inject cfg date id qp f sender bounce mess).bounce = bounce := by
  obtain ⟨hr, _⟩ | ⟨_, hb, _⟩ | ⟨_, hb, _⟩ := inject_cases cfg date id qp f sender bounce mess
  · cases hr.symm.trans h
  · exact hb
  · exact hb

/-- The only failing call that has already queued the notice is the one whose `unlink` failed
(the notice will then be sent again by the retry: at-least-once, the documented trade-off). -/
theorem C14_duplicate_only_on_unlink_failure (cfg : Cfg) (date : Bytes) (id qp : Nat) (f : Fault)
    (sender : Bytes) (bounce : Option Bytes) (mess : Bytes)
    (h : (inject cfg date id qp f sender bounce mess).ret = false)
    (hq : (inject cfg date id qp f sender bounce mess).queued ≠ none) : f = .unlink := by
  obtain ⟨hr, _⟩ | ⟨_, _, hn, _⟩ | ⟨_, _, _, hf⟩ := inject_cases cfg date id qp f sender bounce mess
  · cases hr.symm.trans h
  · exact absurd hn hq
  · exact hf

/-- Without faults a recorded failure always produces its notice (or the documented discard). -/
theorem C14_every_failure_bounces (cfg : Cfg) (date : Bytes) (id qp : Nat) (sender bf mess : Bytes) :
    (inject cfg date id qp .none sender (some bf) mess).ret = true ∧
    (inject cfg date id qp .none sender (some bf) mess).queued
        = bounceOf cfg date bf { sender := sender, rcpts := [], body := mess } := by
  obtain ⟨hr, _, hq⟩ | ⟨_, _, _, hf⟩ | ⟨_, _, _, hf⟩ := inject_cases cfg date id qp .none sender (some bf) mess
  · exact ⟨hr, hq⟩
  · exact absurd rfl hf
  · cases hf

/-! ### Which reports become bounce paragraphs (del_dochan) -/

/-- a permanent failure report (status `D`) is recorded with its text, cut so that delivery number,
status and text together do not exceed REPORTMAX bytes ("we don't trust rspawn") -/
theorem C14_report_D (dying : Bool) (n : Byte) (text : Bytes) :
    delReport dying (n :: 68 :: text) = some (text.take (Gen.REPORTMAX - 2)) := by
  rw [delReport_eq]; simp

/-- **A temporary failure past the queue lifetime is a permanent one**: status `Z` on a dying
message is recorded, with the explanation appended (the text is cut one byte earlier) … -/
theorem C14_report_expired (n : Byte) (text : Bytes) :
    delReport true (n :: 90 :: text) = some (text.take (Gen.REPORTMAX - 3) ++ dyingText) := by
  rw [delReport_eq]; simp

/-- … while before expiry (`Z`), on success (`K`) or on a mangled report nothing is recorded. -/
theorem C14_report_none (n st : Byte) (text : Bytes) (h : st ≠ 68) (h' : st ≠ 90) (dying : Bool) :
    delReport dying (n :: st :: text) = none ∧ delReport false (n :: 90 :: text) = none := by
  rw [delReport_eq, delReport_eq]; simp [h, h']

/-! ### Non-vacuity: concrete inputs (bytes written out) -/

/-- report "\n\n<v>:\nx" against recipient "a@b": the forged paragraph stays inside the one paragraph -/
example : addbounceText ⟨[], []⟩ true [97, 64, 98] [10, 10, 60, 118, 62, 58, 10, 120]
    = [60, 97, 64, 98, 62, 58, 10, 47, 47, 60, 118, 62, 58, 10, 120, 10, 10] := by decide +kernel
example : paragraphs (addbounceText ⟨[], []⟩ true [97, 64, 98] [10, 10, 60, 118, 62, 58, 10, 120])
    = [[60, 97, 64, 98, 62, 58, 10, 47, 47, 60, 118, 62, 58, 10, 120, 10]] := by decide +kernel
/-- a report ending in an empty line leaves two empty lines, still one paragraph -/
example : addbounceText ⟨[], []⟩ true [97, 64, 98] [120, 10, 10] = [60, 97, 64, 98, 62, 58, 10, 120, 10, 10, 10] := by decide +kernel
/-- recipient "p-a\n@b" with entry "b:p": prefix removed, LF shown as '_' -/
example : addbounceText ⟨[], [([98], [112])]⟩ true [112, 45, 97, 10, 64, 98] [] = [60, 97, 95, 64, 98, 62, 58, 10, 10] := by decide +kernel
/-- wildcard ".b:q" governs "x.b", exception "a.b:" keeps "q-u@a.b" as it is -/
example : stripvdom ⟨[], [([46, 98], [113]), ([97, 46, 98], [])]⟩ [113, 45, 117, 64, 120, 46, 98] = [117, 64, 120, 46, 98] := by decide +kernel
example : stripvdom ⟨[], [([46, 98], [113]), ([97, 46, 98], [])]⟩ [113, 45, 117, 64, 97, 46, 98] = [113, 45, 117, 64, 97, 46, 98] := by decide +kernel
/-- virtual *user* entry "u@b:p": the local recipient "p-u@b" is named "u@b" (rule 2) -/
example : stripvdom ⟨[], [([117, 64, 98], [112])]⟩ [112, 45, 117, 64, 98] = [117, 64, 98] := by decide
/-- "b" in locals and "b:p" in virtualdomains: the local recipient "p-u@b" keeps its name (rule 1) -/
example : stripvdom ⟨[[98]], [([98], [112])]⟩ [112, 45, 117, 64, 98] = [112, 45, 117, 64, 98] := by decide
example : stripvdom ⟨[], [([98], [112])]⟩ [112, 45, 117, 64, 98] = [117, 64, 98] := by decide
/-- sender forms: "x-@h-@[]" -> single bounce to "x-@h"; "" -> double; "#@[]" -> discard; "-@[]" -> double -/
example : decideBounce [120, 45, 64, 104, 45, 64, 91, 93] = .single [120, 45, 64, 104] := by decide
example : decideBounce [] = .double := by decide
example : decideBounce [35, 64, 91, 93] = .discard := by decide
example : decideBounce [45, 64, 91, 93] = .double := by decide

/-! ### Once, at daemon level: every event sequence the monitor `Nq.Daemon` accepts

`Daemon.accept` is the acceptor of C03/C04; `Nq.BounceDaemon.gaccept` adds history
only (it accepts exactly the same sequences: `C14_daemon_history_total`).  `noted` = paragraphs
appended for the message (one entry per `appendBounce`, i.e. per `addbounce()` call), `inFile` = those
in the current `bounce/<m>`, `bounced` = those whose file was unlinked after a successful injection,
`committed` = the successful injections (envelope, text, file content, paragraphs) that were followed
by the unlink, `dropped` = paragraphs discarded with the file of a `#@[]` message. -/

section DaemonLevel
open Nq.BounceDaemon Nq.Lemmas.BD

/-- The history layer refuses nothing and changes nothing: the sequences it accepts are exactly the
monitor's, with the same monitor state. -/
theorem C14_daemon_history_total (cfg : Daemon.Cfg) (evs : List Daemon.Ev) (s : Daemon.St) :
    Daemon.acceptAll cfg {} evs = some s ↔ ∃ g, gacceptAll cfg ginit evs = some (s, g) := by
  rw [← gacceptAll_fst cfg evs {} (fun _ => {})]
  show Option.map _ (gacceptAll cfg ginit evs) = _ ↔ _
  cases gacceptAll cfg ginit evs with
  | none => simp
  | some sg => obtain ⟨a, b⟩ := sg; simp

/-- **(a) `bounce/<m>` is unlinked only right after a successful injection of exactly its content**
(strengthens `C03_bounce_removed` by content equality, on the trace itself): whenever the monitor
accepts `unlinkBounce m` after the history `evs`, either the message's sender is `#@[]` (the
documented discard), or `evs = pre ++ bounceInject m true env body :: post` where `post` contains no
event on `bounce/<m>` (no append, no further injection, no crash rewrite, no unlink), the file had
at the injection exactly the content `file` that is unlinked now (and named the same records), the
queued text `body` contains `file`, and `env` is the bounce envelope of the message's sender. -/
theorem C14_daemon_unlink_after_inject (cfg : Daemon.Cfg) (evs : List Daemon.Ev) (s s' : Daemon.St) (m : Nat)
    (hacc : Daemon.acceptAll cfg {} evs = some s) (hu : Daemon.accept cfg s (.unlinkBounce m) = some s') :
    ∃ info file, (s.msg m).info = some info ∧ (s.msg m).bounce = some file ∧
      ((senderOf info = DBSENDER ∧ (s'.msg m).discarded = true) ∨
       (senderOf info ≠ DBSENDER ∧ ∃ pre post env body s1,
          evs = pre ++ Daemon.Ev.bounceInject m true env body :: post ∧
          Daemon.acceptAll cfg {} pre = some s1 ∧ (s1.msg m).bounce = some file ∧ (s1.msg m).inFile = (s.msg m).inFile ∧
          post.all (fun e => !bounceEvent m e) = true ∧
          Daemon.isInfix file body = true ∧ env = Daemon.bounceEnvelope cfg (senderOf info))) := by
  obtain ⟨g, hg⟩ := (C14_daemon_history_total cfg evs s).1 hacc
  have hG := (greach_inv cfg s g ⟨evs, hg⟩).2 m
  -- `unlinkBounce` is judged outside the crash window, in `s.calm` (same files, same history)
  cases Nq.Lemmas.DI.accept_step hu with
  | unlinkBounceDiscard _ info file _ hinfo hfile _ hs =>
    exact ⟨info, file, hinfo, hfile, Or.inl ⟨hs, by rw [Daemon.St.msg_upd_self]⟩⟩
  | unlinkBounceOk _ info file _ hinfo hfile _ hs hl =>
    refine ⟨info, file, hinfo, hfile, Or.inr ⟨hs, ?_⟩⟩
    have hfile : (s.msg m).bounce = some file := hfile
    obtain ⟨x, hx, hxf, hxp, _⟩ := hG.c5 hl (Option.ne_none_iff_exists'.2 ⟨file, hfile⟩)
    have hxf' : file = x.file := Option.some.inj (hfile.symm.trans hxf)
    have hok := hG.c6 x (hG.c5a x hx)
    rcases last_trace cfg m x evs _ _ s g hg hx with ⟨h0, _⟩ | ⟨pre, post, s1, g1, he, hpre, hin, hf, hp, hpost⟩
    · cases h0
    · obtain ⟨f1, hf1⟩ := inject_bounce_some cfg s1 m true x.env x.body hin
      refine ⟨pre, post, x.env, x.body, s1, he, (C14_daemon_history_total cfg pre s1).2 ⟨g1, hpre⟩, ?_, ?_, hpost, ?_, ?_⟩
      · rw [hf1] at hf ⊢; rw [hxf', hf]; rfl
      · rw [← hp]; exact hxp
      · rw [hxf']; exact hok.inf
      · rw [hok.env, hok.sender info hinfo]

/-- **(b) Every appended paragraph is accounted for exactly once**, in every reachable state, for
every message, counted with multiplicity (the same record can fail again after a crash that lost its
mark, and is then appended again): the number of times a paragraph for record `x` was appended equals
the number of its copies still in `bounce/<m>`, plus those in committed bounces (injection succeeded
and the file was unlinked), plus those discarded with the bounce file of a `#@[]` message.  The
committed copies are exactly the paragraphs of the committed injections; paragraphs are dropped only
under the documented discard; paragraphs still in the file keep the message in the queue (retry).
WHAT THIS IS: an identity between the monitor's bookkeeping fields `noted`/`inFile`/`bounced` (ghost
state of the monitor, updated by `appendBounce`/`unlinkBounce`) and the history layer — it counts
*records*, not text.  EXEMPTION not visible in the counts: a machine crash may replace the never-fsynced
`bounce/<m>` (`crashBounce`); the monitor then keeps `inFile` and lists the records in `lostRecs`, so a
lost record still counts as "bounced once" when the damaged file is later injected and unlinked
(example below).  That the TEXT appended for a record is inside the committed notice is
`C14_daemon_committed` / `C14_daemon_left_queue`, which hold for every record not in `lostRecs`. -/
theorem C14_daemon_exactly_once (cfg : Daemon.Cfg) (s : Daemon.St) (g : Ghost) (hr : GReach cfg s g) (m : Nat) :
    (∀ x, (s.msg m).noted.count x = (s.msg m).inFile.count x + (s.msg m).bounced.count x + (g m).dropped.count x) ∧
    (s.msg m).bounced = ((g m).committed.map (·.paras)).flatten ∧
    ((g m).dropped ≠ [] → (s.msg m).discarded = true) ∧
    ((s.msg m).inFile ≠ [] → (s.msg m).bounce.isSome = true ∧ (s.msg m).info.isSome = true) := by
  obtain ⟨hI, hG⟩ := greach_inv cfg s g hr
  have h := hG m
  refine ⟨h.c1, h.c2, h.c8, ?_⟩
  intro hne
  have hbs : (s.msg m).bounce.isSome = true := Option.isSome_iff_ne_none.2 fun hb => hne ((hI.msgs m).ghost.k5 hb)
  refine ⟨hbs, ?_⟩
  cases ht : (s.msg m).todo with
  | none => exact ((hI.msgs m).files ht).k6 (Or.inr (Or.inr hbs))
  | some e =>
    exact absurd (h.t0 (Option.isSome_of_eq_some ht)).2.2.1 hne

/-- **(b) What a committed bounce is**: every injection after which the monitor accepted the unlink
went, with the envelope `bounceEnvelope` prescribes, to the envelope sender *that qmail-queue accepted
for the message* (= the sender stored in `info/<m>`; never for a `#@[]` message), carried the whole
bounce file of that moment inside its text, and that file names one record per appended text.
**Per record**: the text appended for every record that is not among the crash-lost ones
(`lostRecs`: records that were in `bounce/<m>` when a machine crash replaced the never-fsynced file by
something that does not even start with the old content — the documented exemption; a record gets there
only by a `crashBounce` that the monitor accepts in the crash window right after a crash `.restart`:
`C03_lost_step`, `C03_lost_after_crash`) is inside the queued notice.  If no crash ever touched the file (`lost = false`) the file was exactly the
concatenation of the appended texts. -/
theorem C14_daemon_committed (cfg : Daemon.Cfg) (s : Daemon.St) (g : Ghost) (hr : GReach cfg s g) (m : Nat)
    (x : Sent) (hx : x ∈ (g m).committed) :
    x.sender ≠ DBSENDER ∧ x.env = Daemon.bounceEnvelope cfg x.sender ∧ Daemon.isInfix x.file x.body = true ∧
    x.paras.length = x.parts.length ∧
    (∀ sd r, (s.msg m).accepted = some (sd, r) → x.sender = sd ∧ x.env = Daemon.bounceEnvelope cfg sd) ∧
    (∀ info, (s.msg m).info = some info → x.sender = senderOf info) ∧
    (∀ pr ∈ List.zip x.paras x.parts, pr.1 ∉ (s.msg m).lostRecs → Daemon.isInfix pr.2 x.body = true) ∧
    ((s.msg m).lost = false → x.parts ≠ [] ∧ x.file = fileOf x.parts ∧ ∀ p ∈ x.parts, Daemon.isInfix p x.body = true) := by
  have h := (greach_inv cfg s g hr).2 m
  have hok := h.c6 x (h.c6a x hx)
  refine ⟨hok.notdb, hok.env, hok.inf, hok.len, fun sd r ha => ⟨hok.acc sd r ha, by rw [hok.env, hok.acc sd r ha]⟩, hok.sender,
    fun pr hpr hn => isInfix_trans pr.2 x.file x.body (hok.kept pr hpr hn) hok.inf, ?_⟩
  intro hl
  obtain ⟨h1, h2⟩ := hok.intact hl
  refine ⟨h1, h2, fun p hp => isInfix_trans p x.file x.body ?_ hok.inf⟩
  obtain ⟨u, v, huv⟩ := List.append_of_mem (List.mem_reverse.2 hp)
  exact (isInfix_iff p _).2 ⟨u.flatten, v.flatten, by simp [h2, fileOf, huv]⟩

/-- **(b) Nothing is sent twice in two committed bounces, nothing is dropped when the message leaves
the queue**: once `info/<m>` is gone (after which qmail-clean removes the message) no paragraph is
left in a file, and — unless the message's own sender was `#@[]` (discard) — every record has exactly
as many copies in committed bounces as paragraphs were appended for it: in particular a paragraph
appended once is in exactly one committed bounce.  The counts are bookkeeping identities (see
`C14_daemon_exactly_once`); the last clause is about TEXT: for every committed bounce and every record
it names that is not crash-lost (`lostRecs`, the second documented exemption), the text appended for
that record is inside the queued notice. -/
theorem C14_daemon_left_queue (cfg : Daemon.Cfg) (s : Daemon.St) (g : Ghost) (hr : GReach cfg s g) (m : Nat)
    (ht : (s.msg m).todo = none) (hi : (s.msg m).info = none) :
    (s.msg m).inFile = [] ∧
    (∀ x, (s.msg m).noted.count x = (((g m).committed.map (·.paras)).flatten).count x + (g m).dropped.count x) ∧
    ((s.msg m).discarded = false → ∀ x, (s.msg m).noted.count x = (((g m).committed.map (·.paras)).flatten).count x) ∧
    (∀ x ∈ (g m).committed, x.paras.length = x.parts.length ∧
      ∀ pr ∈ List.zip x.paras x.parts, pr.1 ∉ (s.msg m).lostRecs → Daemon.isInfix pr.2 x.body = true) := by
  obtain ⟨h1, h2, h8, h4⟩ := C14_daemon_exactly_once cfg s g hr m
  -- a paragraph left in the file would keep `info/<m>`
  have hf : (s.msg m).inFile = [] := by
    cases hfl : (s.msg m).inFile with
    | nil => rfl
    | cons a t =>
      have := (h4 (by rw [hfl]; simp)).2
      rw [hi] at this; cases this
  have hc : ∀ x, (s.msg m).noted.count x = (((g m).committed.map (·.paras)).flatten).count x + (g m).dropped.count x := by
    intro x
    have := h1 x
    rw [hf, h2] at this
    simpa using this
  refine ⟨hf, hc, ?_, ?_⟩
  · intro hd x
    have hdr : (g m).dropped = [] := by
      cases hdd : (g m).dropped with
      | nil => rfl
      | cons a t =>
        have := h8 (by rw [hdd]; simp)
        rw [hd] at this; cases this
    rw [hc x, hdr]; simp
  · intro x hx
    have hc := C14_daemon_committed cfg s g hr m x hx
    exact ⟨hc.2.2.2.1, hc.2.2.2.2.2.2.1⟩

/-- At any time, a record is named in committed bounces at most as often as a paragraph was appended
for it (no invention, no double sending through two committed bounces). -/
theorem C14_daemon_sent_at_most_appended (cfg : Daemon.Cfg) (s : Daemon.St) (g : Ghost) (hr : GReach cfg s g) (m : Nat)
    (x : Daemon.Ch × Nat) : (((g m).committed.map (·.paras)).flatten).count x ≤ (s.msg m).noted.count x := by
  obtain ⟨h1, h2, _, _⟩ := C14_daemon_exactly_once cfg s g hr m
  rw [← h2, h1 x]; omega

/-- **(b) A failed injection keeps the record (retry)**: after `bounceInject m false …` the bounce
file and the bookkeeping are unchanged and an `unlinkBounce m` is refused — by (a) it stays refused
until an injection succeeds. -/
theorem C14_daemon_retry (cfg : Daemon.Cfg) (s s' : Daemon.St) (m : Nat) (env body : Bytes)
    (h : Daemon.accept cfg s (.bounceInject m false env body) = some s') :
    (s'.msg m).bounce = (s.msg m).bounce ∧ (s'.msg m).inFile = (s.msg m).inFile ∧ (s'.msg m).noted = (s.msg m).noted ∧
    (s'.msg m).bounced = (s.msg m).bounced ∧ (s'.msg m).bounce.isSome = true ∧
    Daemon.accept cfg s' (.unlinkBounce m) = none := by
  cases Nq.Lemmas.DI.accept_step h with
  | bounceInject _ _ _ _ info file _ hinfo hfile hg =>
    simp only [Daemon.St.msg_upd_self]
    exact ⟨rfl, rfl, rfl, rfl, hfile ▸ rfl, unlink_refused cfg _ m info (by rw [Daemon.St.msg_upd_self]; exact hinfo) hg.2.2.2.1
      (by rw [Daemon.St.msg_upd_self])⟩

/-- **(c) What `injectbounce` queues is what the monitor demands**: for every configuration, date
line, bounce file, original message and sender, the notice built by `bounceOf` (which `drv_c14`
compares byte for byte with the real `injectbounce()` output) contains the bounce file, carries the
envelope `Daemon.bounceEnvelope` prescribes, and is never built for a `#@[]` message — i.e. the
`(env, body)` of a monitor event `bounceInject m true env body` may be `bounceOf` of the file. -/
theorem C14_daemon_inject_guard (dcfg : Daemon.Cfg) (bcfg : Cfg) (hdb : dcfg.doublebounceto = bcfg.doublebounceto)
    (date bf sender mess : Bytes) (q : Msg)
    (h : bounceOf bcfg date bf { sender := sender, rcpts := [], body := mess } = some q) :
    injectGuard dcfg sender bf (envBytes q) q.body = true := by
  obtain ⟨h1, h2, h3⟩ := bounceOf_guard dcfg bcfg hdb date bf sender mess [] q h
  exact (injectGuard_iff dcfg sender bf (envBytes q) q.body).2 ⟨h1, h2, h3⟩

/-- **(c) Every behaviour of the `injectbounce` model is a behaviour the monitor accepts** — all ten
values of `Fault` (nine fault points and the fault-free call), every sender whose VERP base is not `#@[]` unless it is `#@[]` itself: from any monitor
state in which qmail-send calls `injectbounce(m)` the events of the call (`injectEvents`: the
injection with `bounceOf`'s envelope and text, then the unlink if the model removed the file) are
accepted, and the monitor's `bounce/<m>` afterwards is the model's. -/
theorem C14_daemon_inject_accepted (dcfg : Daemon.Cfg) (bcfg : Cfg) (hdb : dcfg.doublebounceto = bcfg.doublebounceto)
    (date : Bytes) (m qp : Nat) (f : Fault) (sender bf mess : Bytes) (s : Daemon.St)
    (hclean : s.clean = none) (ht : (s.msg m).todo = none) (hl : (s.msg m).loc = none) (hrm : (s.msg m).rem = none)
    (hi : (s.msg m).info = some (70 :: sender ++ [0])) (hb : (s.msg m).bounce = some bf)
    (hv : verpBase sender = DBSENDER → sender = DBSENDER) :
    ∃ s', Daemon.acceptAll dcfg s (injectEvents m f sender (some bf) (inject bcfg date m qp f sender (some bf) mess)) = some s' ∧
      (s'.msg m).bounce = (inject bcfg date m qp f sender (some bf) mess).bounce :=
  inject_accepted dcfg bcfg hdb date m qp f sender bf mess s ⟨hclean, ht, hl, hrm, hi, hb⟩ hv

/-- The excluded sender `#@[]-@[]` (complement of the hypothesis above; a gap of the MONITOR, not of
qmail-send): `injectbounce` strips the VERP suffix first and therefore discards, the monitor compares
the unstripped sender with `#@[]` and refuses the unlink.  (Clause the monitor would need: use the
VERP base of the sender in the guards of `bounceInject` and `unlinkBounce`.) -/
theorem C14_daemon_verp_discard_gap (dcfg : Daemon.Cfg) (bcfg : Cfg) (date : Bytes) (m qp : Nat) (bf mess : Bytes) (s : Daemon.St)
    (hclean : s.clean = none) (ht : (s.msg m).todo = none) (hl : (s.msg m).loc = none) (hrm : (s.msg m).rem = none)
    (hi : (s.msg m).info = some (70 :: (DBSENDER ++ VERPSUF) ++ [0])) (hb : (s.msg m).bounce = some bf)
    (hli : (s.msg m).lastInject = false) :
    (inject bcfg date m qp .none (DBSENDER ++ VERPSUF) (some bf) mess).queued = none ∧
    (inject bcfg date m qp .none (DBSENDER ++ VERPSUF) (some bf) mess).bounce = none ∧
    Daemon.accept dcfg s (.unlinkBounce m) = none := by
  have hbo : bounceOf bcfg date bf { sender := DBSENDER ++ VERPSUF, rcpts := [], body := mess } = none :=
    (bounceOf_none_iff bcfg date bf _).2 (C14_verp_base DBSENDER)
  -- the stored sender is not `#@[]`, and no injection succeeded
  exact ⟨by simp [inject, hbo], by simp [inject, hbo], unlink_refused dcfg s m _ hi (by decide) hli⟩

/-! #### Non-vacuity at daemon level: one message from sender `s` to `a`, reported `D x`, paragraph
appended, record marked, channel file closed, `injectbounce` (model) run, message removed -/

def dcfg0 : Daemon.Cfg := { conc := fun _ => 2, lifetime := 1000, route := fun a => (.loc, a), doublebounceto := [112, 64, 100] }
def bcfg0 : Cfg := { bouncefrom := [77], bouncehost := [104], doublebounceto := [112, 64, 100], vdoms := [] }
/-- `<a>:` LF `x` LF LF -/
def para0 : Bytes := [60, 97, 62, 58, 10, 120, 10, 10]
example : addbounceText bcfg0.tables true [97] [120, 10] = para0 := by decide
/-- a text that contains the bounce file -/
def body0 : Bytes := [72, 10] ++ para0 ++ [84, 10]
def pre0 (sender : Bytes) : List Daemon.Ev :=
  evArrive 7 sender [[97]] ++ evFail 7 [[97]] 0 [120, 10] para0 ++ [.unlinkChan 7 .loc]

/-- what `injectEvents` is for an ordinary sender without faults: `bounceOf`'s envelope and text, then the unlink -/
example (date mess : Bytes) :
    injectEvents 7 .none [115] (some para0) (inject bcfg0 date 7 9 .none [115] (some para0) mess)
      = [.bounceInject 7 true [70, 0, 84, 115, 0] (preamble bcfg0 date [115] true ++ para0 ++ trailer true [115] mess),
         .unlinkBounce 7] := by
  have hd : decideBounce [115] = .single [115] := by decide
  simp [injectEvents, inject, bounceOf, hd, envBytes]
/-- … with `qmail_close` refusing: a failed injection, no unlink -/
example (date mess : Bytes) :
    injectEvents 7 .qqClose [115] (some para0) (inject bcfg0 date 7 9 .qqClose [115] (some para0) mess)
      = [.bounceInject 7 false [] []] := by
  have hd : decideBounce [115] = .single [115] := by decide
  simp [injectEvents, inject, bounceOf, hd, closeFails]
/-- the state reached by `pre0` meets the hypotheses of `C14_daemon_inject_accepted` / `…_unlink_after_inject` -/
example : ((Daemon.acceptAll dcfg0 {} (pre0 [115])).map fun s =>
    s.clean.isNone && (s.msg 7).todo.isNone && (s.msg 7).loc.isNone && (s.msg 7).rem.isNone &&
    (s.msg 7).info == some (70 :: [115] ++ [0]) && (s.msg 7).bounce == some para0) = some true := by decide +kernel

/-- the whole life is accepted; one paragraph was appended, it is in exactly one committed bounce, the
file is gone, and the committed bounce carried exactly the file -/
example : ((gacceptAll dcfg0 ginit (pre0 [115] ++ [.bounceInject 7 true [70, 0, 84, 115, 0] body0, .unlinkBounce 7] ++ evDone 7)).map fun sg =>
    (sg.1.msg 7).noted == [(.loc, 0)] && (sg.1.msg 7).inFile == [] && (sg.1.msg 7).bounced == [(.loc, 0)] &&
    (sg.1.msg 7).bounce == none && (sg.1.msg 7).info == none &&
    (sg.2 7).committed.map (·.file) == [para0] && (sg.2 7).committed.map (·.paras) == [[(.loc, 0)]] &&
    (sg.2 7).committed.map (·.parts) == [[para0]] && (sg.2 7).committed.map (·.sender) == [[115]] &&
    (sg.1.msg 7).accepted == some ([115], [[97]])) = some true := by decide +kernel
/-- qmail-queue refuses: the file stays, nothing is committed, the unlink is refused -/
example : ((gacceptAll dcfg0 ginit (pre0 [115] ++ [.bounceInject 7 false [] []])).map fun sg =>
    (sg.1.msg 7).inFile == [(.loc, 0)] && (sg.1.msg 7).bounce.isSome && (sg.2 7).committed.length == 0 &&
    (sg.2 7).attempts.length == 0 && (Daemon.accept dcfg0 sg.1 (.unlinkBounce 7)).isNone) = some true := by decide +kernel
/-- `unlink` fails after a successful injection: the retry injects again (two attempts), exactly one is committed -/
example : ((gacceptAll dcfg0 ginit (pre0 [115] ++ [.bounceInject 7 true [70, 0, 84, 115, 0] body0,
      .bounceInject 7 true [70, 0, 84, 115, 0] body0, .unlinkBounce 7])).map fun sg =>
    (sg.2 7).attempts.length == 2 && (sg.2 7).committed.length == 1 && (sg.1.msg 7).bounced == [(.loc, 0)]) = some true := by decide +kernel
/-- the exemption the counts do not show: a crash (`.restart`) empties the never-fsynced `bounce/7`
(`crashBounce`, accepted only in the crash window), a notice that does not contain the paragraph is injected and
committed — the record counts as bounced once, and it is in `lostRecs`, which is exactly the hypothesis the text
clauses of `C14_daemon_committed`/`C14_daemon_left_queue` exclude -/
example : ((gacceptAll dcfg0 ginit (pre0 [115] ++ [.restart, .crashBounce 7 [], .bounceInject 7 true [70, 0, 84, 115, 0] [88], .unlinkBounce 7] ++ evDone 7)).map fun sg =>
    (sg.1.msg 7).bounced == [(.loc, 0)] && (sg.2 7).committed.map (·.body) == [[88]] && (sg.1.msg 7).lost &&
    (sg.1.msg 7).lostRecs == [(.loc, 0)] && (sg.2 7).committed.map (·.parts) == [[para0]]) = some true := by decide +kernel
/-- …whereas a crash that leaves the old content as a prefix loses nothing: `lostRecs` stays empty -/
example : ((gacceptAll dcfg0 ginit (pre0 [115] ++ [.restart, .crashBounce 7 (para0 ++ [120])])).map fun sg =>
    (sg.1.msg 7).lost && (sg.1.msg 7).lostRecs == [] && (sg.1.msg 7).inFile == [(.loc, 0)]) = some true := by decide +kernel
/-- with no crash the same `crashBounce` is refused: the exemption needs a crash -/
example : Daemon.acceptAll dcfg0 {} (pre0 [115] ++ [.crashBounce 7 []]) = none ∧
    Daemon.acceptAll dcfg0 {} (pre0 [115] ++ [.restart, .tick 0, .crashBounce 7 []]) = none := by decide +kernel
/-- an unlink without a successful injection is not accepted -/
example : Daemon.acceptAll dcfg0 {} (pre0 [115] ++ [.unlinkBounce 7]) = none := by decide +kernel
/-- … nor an injection of something that does not contain the file, nor one with another envelope -/
example : Daemon.acceptAll dcfg0 {} (pre0 [115] ++ [.bounceInject 7 true [70, 0, 84, 115, 0] [60, 97, 62, 58, 10]]) = none := by decide +kernel
example : Daemon.acceptAll dcfg0 {} (pre0 [115] ++ [.bounceInject 7 true [70, 0, 84, 116, 0] body0]) = none := by decide +kernel
/-- a `#@[]` message: the paragraph is discarded, `discarded` is set, nothing is committed -/
example : ((gacceptAll dcfg0 ginit (pre0 DBSENDER ++ [.unlinkBounce 7])).map fun sg =>
    (sg.2 7).dropped == [(.loc, 0)] && (sg.1.msg 7).discarded && (sg.2 7).committed.length == 0 &&
    (sg.1.msg 7).bounce == none) = some true := by decide +kernel
/-- an empty sender: the double bounce goes from `#@[]` to doublebounceto -/
example : (Daemon.acceptAll dcfg0 {} (pre0 [] ++ [.bounceInject 7 true ([70, 35, 64, 91, 93, 0, 84] ++ [112, 64, 100] ++ [0]) body0, .unlinkBounce 7])).isSome = true := by
  decide +kernel

end DaemonLevel

/-! ### injectbounce() in front of the real qmail.c: a failed open or read of bounce/<id> or mess/<id>

`Nq.BounceQq`: qmail.c's `struct qmail` under the calls injectbounce() makes (`injectCalls`), with the two byte streams the
queue program reads.  `RF` = outcome of copying one file: read to the end, `open_read()` failed, or a `read()` failed after
`k` bytes.  The driver compares both streams with what the scripted queue program behind the REAL qmail.c received, for a
fault at every call index, and evaluates `queuedOK`/`completeOK` on them. -/

open Nq.BounceQq Nq.Lemmas.BounceQq in
/-- **The error flag of qmail.c is sticky** — for every state, every call sequence with a `qmail_fail()` in it, every exit
code of the queue program, killed or not: `qmail_close()` refuses, and nothing that was put after the `qmail_fail()` has
reached the message pipe or the envelope pipe. -/
theorem C14_inject_fault_sticky (q : Qq) (a b : List Call) (exit : Nat) (crashed : Bool) :
    (close (run q (a ++ .fail :: b)) exit crashed).2 = false
      ∧ (close (run q (a ++ .fail :: b)) exit crashed).1.msg = (run q a).msg
      ∧ (close (run q (a ++ .fail :: b)) exit crashed).1.env = (run q a).env := by
  obtain ⟨h1, h2, h3⟩ := run_fail q a b
  simp [close, qput, h1, h2, h3]

open Nq.BounceQq Nq.Lemmas.BounceQq in
/-- **A failed open/read never queues a notice** — for every configuration, sender, bounce file, message, every combination of
copy outcomes with at least one failure (open failed, or read failed after any number of bytes, in either file), every exit code
(also 0) and a killed or un-killed queue program: `qmail_close()` refuses, the queue program has been given an EMPTY envelope
(so a real qmail-queue queues nothing) and only a prefix of the notice; and `inject` at the corresponding fault point returns 0
("will try later"), queues nothing and keeps bounce/<id>. -/
theorem C14_inject_fault_refused (cfg : Cfg) (date sender bf mess : Bytes) (fb fm : RF) (exit : Nat) (crashed : Bool)
    (id qp : Nat) (hf : fb ≠ .ok ∨ fm ≠ .ok) (q : Qq) (acc : Bool)
    (h : injectQq cfg date sender bf mess fb fm exit crashed = some (q, acc)) :
    acc = false ∧ q.env = [] ∧ queuedOK exit crashed q.env = false
      ∧ (∃ m, bounceOf cfg date bf { sender := sender, rcpts := [], body := mess } = some m ∧ q.msg <+: m.body)
      ∧ inject cfg date id qp (faultOf fb fm) sender (some bf) mess
          = { ret := false, queued := none, bounce := some bf,
              log := str "warning: trouble injecting bounce message, will try later\n" } := by
  have hfy : faulty fb fm = true := by simpa [faulty] using hf
  obtain ⟨pre, mid, f, t, hb, rfl, rfl⟩ := injectQq_some h
  rw [hb]
  exact ⟨by simp [hfy], by simp [hfy], by simp [hfy, queuedOK], ⟨_, rfl, sentMsg_prefix _ _ _ _ _ _⟩,
    inject_faulty cfg date id qp sender bf mess fb fm _ hfy hb⟩

open Nq.BounceQq Nq.Lemmas.BounceQq in
/-- **Complement: without a failure the queue program gets the whole notice** and the prescribed envelope, and `qmail_close()`
accepts exactly when the queue program exited 0 un-killed. -/
theorem C14_inject_fault_free (cfg : Cfg) (date sender bf mess : Bytes) (exit : Nat) (crashed : Bool) (q : Qq) (acc : Bool)
    (h : injectQq cfg date sender bf mess .ok .ok exit crashed = some (q, acc)) :
    ∃ m t, bounceOf cfg date bf { sender := sender, rcpts := [], body := mess } = some m ∧ m.rcpts = [t]
      ∧ q.msg = m.body ∧ q.env = fullEnv m.sender t ∧ acc = (!crashed && exit == 0) := by
  obtain ⟨pre, mid, f, t, hb, rfl, rfl⟩ := injectQq_some h
  rw [hb]
  exact ⟨_, t, rfl, rfl, sentMsg_ok_ok .., by simp [faulty], by simp [faulty]⟩

open Nq.BounceQq Nq.Lemmas.BounceQq in
/-- **What is accepted is complete** (the oracle of the Q leg, in its executable form): if `qmail_close()` accepts after
injectbounce()'s calls — whatever happened while copying — then nothing failed, the queue program exited 0 un-killed, and it was given
the prescribed terminated envelope (`queuedOK`) and a notice with the whole bounce/<id> inside and the original message at the end
(`completeOK`). -/
theorem C14_inject_fault_accepted_complete (cfg : Cfg) (date sender bf mess : Bytes) (fb fm : RF) (exit : Nat) (crashed : Bool)
    (q : Qq) (h : injectQq cfg date sender bf mess fb fm exit crashed = some (q, true)) :
    fb = .ok ∧ fm = .ok ∧ exit = 0 ∧ crashed = false
      ∧ ∃ m t, bounceOf cfg date bf { sender := sender, rcpts := [], body := mess } = some m ∧ m.rcpts = [t]
          ∧ q.msg = m.body ∧ queuedOK exit crashed q.env = true ∧ completeOK m.sender t bf mess q.msg q.env = true := by
  obtain ⟨pre, mid, f, t, hb, rfl, ha⟩ := injectQq_some h
  rw [hb]
  simp only [Bool.and_eq_true, Bool.not_eq_true', beq_iff_eq] at ha
  obtain ⟨⟨rfl, rfl⟩, hfy⟩ := ha
  obtain ⟨rfl, rfl⟩ : fb = .ok ∧ fm = .ok := by simpa [faulty] using hfy
  refine ⟨rfl, rfl, rfl, rfl, _, t, rfl, rfl, sentMsg_ok_ok .., ?_, ?_⟩
  · simp only [hfy]; exact queuedOK_fullEnv _ _
  · have hi : Daemon.isInfix bf (pre ++ (bf ++ (mid ++ mess))) = true :=
      (Nq.Lemmas.BD.isInfix_iff bf _).2 ⟨pre, mid ++ mess, by simp [List.append_assoc]⟩
    have hs : isSuffixB mess (pre ++ (bf ++ (mid ++ mess))) = true := by
      have := isSuffixB_append (pre ++ bf ++ mid) mess
      simpa [List.append_assoc] using this
    simp [completeOK, hfy, sentMsg_ok_ok, hi, hs]

/-- non-vacuity: an ordinary sender, the open of mess/<id> fails, the queue program exits 0: refused, empty envelope, the notice
stops after the Return-Path line -/
example : (BounceQq.injectQq ⟨[66], [104], [112], [], []⟩ [68, 10] [115] [60, 97, 62, 58, 10, 120, 10, 10] [77, 10] .ok .openFail 0 false).map
    (fun r => (r.2, r.1.env, r.1.flagerr)) = some (false, [], true) := by
  rw [Nq.Lemmas.BounceQq.injectQq_eq]; simp [BounceQq.parts, show decideBounce [115] = .single [115] by decide, Nq.Lemmas.BounceQq.faulty]
/-- … and without a fault it is accepted with the envelope F NUL T s NUL NUL -/
example : (BounceQq.injectQq ⟨[66], [104], [112], [], []⟩ [68, 10] [115] [60, 97, 62, 58, 10, 120, 10, 10] [77, 10] .ok .ok 0 false).map
    (fun r => (r.2, r.1.env)) = some (true, [70, 0, 84, 115, 0, 0]) := by
  rw [Nq.Lemmas.BounceQq.injectQq_eq]; simp [BounceQq.parts, show decideBounce [115] = .single [115] by decide, Nq.Lemmas.BounceQq.faulty, BounceQq.fullEnv]
/-- the sticky flag on a concrete call list: put, fail, put, from, to -/
example : BounceQq.close (BounceQq.run {} [.put [1], .fail, .put [2], .efrom [3], .eto [4]]) 0 false
    = ({ flagerr := true, onEnv := true, msg := [1], env := [] }, false) := by decide

/-! ### del_dochan(): the failure is recorded before the recipient is marked done (write-ahead order)

Transcription-level statements about `BounceQq.delOrder` (the order of `addbounce()` and `markdone()` in `case 'D'`); they are
tied to the code by the D leg (order of the real writes: DISAGREE against `delOrder`, ORACLE `recordBeforeMark` on the real
order).  What a crash between the two writes can lose is the crash-window clause of C03 (monitor `Nq.Daemon`: `markD` is refused
before `appendBounce`). -/

/-- for every report that is a permanent failure (status D, or Z on a message past its lifetime — exactly when `delReport`
yields a text): first the record, then the mark, and the executable order predicate holds -/
theorem C14_record_before_mark (dying : Bool) (raw r : Bytes) (h : delReport dying (1 :: raw) = some r) :
    BounceQq.delOrder dying raw = [.record, .mark] ∧ BounceQq.recordBeforeMark (BounceQq.delOrder dying raw) = true := by
  simp [BounceQq.delOrder, h, BounceQq.recordBeforeMark]

/-- complement: any other report writes no record; the recipient is marked only for a success report (status K) -/
theorem C14_no_record_otherwise (dying : Bool) (raw : Bytes) (h : delReport dying (1 :: raw) = none) :
    BounceQq.DelEv.record ∉ BounceQq.delOrder dying raw
      ∧ (BounceQq.DelEv.mark ∈ BounceQq.delOrder dying raw ↔ raw.head? = some 75) := by
  by_cases hk : raw.head? = some 75 <;> simp [BounceQq.delOrder, h, hk]

example : delReport false (1 :: [68, 120, 10]) = some [120, 10] := by decide
example : delReport false (1 :: [75, 120, 10]) = none := by decide

end Nq.Props.C14
