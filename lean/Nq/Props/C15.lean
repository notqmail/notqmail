/-
  C15 — Retries back off quadratically, expire with the queue lifetime, earliest first.

  Model: `Nq.Sched` (qmail-send.c squareroot/nextretry/pass_dochan/del_dochan/job_close/pqrun/pqfinish/
  pqadd/pass_selprep and prioq.c), tied to the source by `harness/c15_sched.c` (exhaustive square roots,
  dense nextretry grid, exhaustive/random heap histories, daemon histories over a real queue directory),
  `harness/c15_loop.c` (the real main() under a virtual clock: the `W` scenarios) and by the translator (chanskip[], the
  SLEEP_* constants).  Predicates: `Nq.Spec.Sched`.
  History level: `Nq.SchedHist.step` (a pass is one step; predicates `Nq.Spec.SchedHist`), `Nq.SelPrep` (select() timeout),
  `Nq.SchedPass.pstep` (passes interleaved with everything else), `Nq.SchedFail.fstep` (`messdone`, cut passes, failing `utimes`).
-/
import Nq.Lemmas.SchedSqrt
import Nq.Lemmas.SchedDaemon
import Nq.Lemmas.SchedHist
import Nq.Lemmas.SchedSleep
import Nq.Lemmas.SchedPass
import Nq.Lemmas.SchedFail

namespace Nq.Props.C15
open Nq Nq.Sched Nq.Spec.Sched Nq.Lemmas.Sched

/-! ### the integer square root -/

/-- **`squareroot` is exact on every age `0 … 2³²−1`**: `r² ≤ x < (r+1)²`. -/
theorem C15_sqrt (x : Int) (h0 : 0 ≤ x) (h : x < 4294967296) : IsSqrt x (squareroot x) := by
  refine ⟨squareroot_nonneg x, ?_, lt_squareroot_succ_sq h⟩
  rcases (squareroot_max x).2.2.1 with c | c
  · rw [c]; exact h0
  · exact c

/-- complement: from `2³²` on the root saturates at 65535 … -/
theorem C15_sqrt_saturated (x : Int) (h : 4294967296 ≤ x) : squareroot x = 65535 := by
  obtain ⟨a, b, _, d⟩ := squareroot_max x
  generalize squareroot x = r at *
  by_contra hne
  have := d (by omega)
  have := mul_self_le_mul_self (by omega : 0 ≤ r + 1) (by omega : r + 1 ≤ 65536)
  omega

/-- … and a negative argument (never passed by `nextretry`) gives 0. -/
theorem C15_sqrt_negative (x : Int) (h : x < 0) : squareroot x = 0 := squareroot_neg h

/-- no intermediate of the C loop overflows: `1 << (j+j)` fits an `int`, everything else a `long`,
for every non-negative `long` argument (9223372036854775808 = 2⁶³). -/
theorem C15_sqrt_nooverflow (x : Int) (h0 : 0 ≤ x) (h : x < 9223372036854775808) : sqLoopOk x 16 0 0 = true :=
  sqLoopOk_inv x h0 h 16 0 0 (Nat.le_refl _) (Int.le_refl 0) (by norm_num) (by ring) (by simpa using h0)

/-! ### the retry time -/

/-- **The retry time is strictly in the future** for every age below `2³²` (including a birth time
that lies after `recent`, i.e. a clock that went backwards), and for a birth time in the past it is
exactly `birth + (⌊√age⌋ + 10 or 20)²`. -/
theorem C15_future (recent birth : Int) (c : Chan) (h : recent - birth < 4294967296) :
    recent < nextretry recent birth c ∧ (birth ≤ recent → IsRetry recent birth c (nextretry recent birth c)) := by
  rw [nextretry_eq]
  have hs := skip_ge c
  refine ⟨?_, fun hb => ⟨_, C15_sqrt _ (by omega) h, rfl⟩⟩
  -- whichever way the clock went: the age lies under the next square after its root
  have := retry_gap (squareroot_nonneg _) (lt_squareroot_succ_sq h) hs
  omega

/-- complement: for ages from `2³²` (136 years) on, the root is saturated; the retry time is then
`birth + (65535 + skip)²` and it is in the future only while the age is below that square. -/
theorem C15_future_saturated (recent birth : Int) (c : Chan) (h : 4294967296 ≤ recent - birth) :
    nextretry recent birth c = birth + (65535 + skip c) * (65535 + skip c) ∧
    (recent < nextretry recent birth c ↔ recent - birth < (65535 + skip c) * (65535 + skip c)) := by
  rw [nextretry_eq, C15_sqrt_saturated _ h]
  exact ⟨rfl, by constructor <;> intro h' <;> linarith⟩

/-- **Bounded time to expiry.** While a message is not older than the queue lifetime, each retry is
scheduled at least `skip² ≥ 100` seconds after the attempt and no later than
`birth + (⌊√lifetime⌋ + skip)²`; so the attempts' times strictly increase and the first attempt made
after `birth + lifetime` (the expiring one, `C15_dying`) is due by that bound. -/
theorem C15_bounded (recent birth lifetime L : Int) (c : Chan) (hb : birth ≤ recent)
    (hl : recent ≤ birth + lifetime) (h32 : lifetime < 4294967296) (hL : IsSqrt lifetime L) :
    recent + 100 ≤ nextretry recent birth c ∧ nextretry recent birth c ≤ birth + (L + skip c) * (L + skip c) := by
  have hage : recent - birth < 4294967296 := by omega
  obtain ⟨s, hs, he⟩ := (C15_future recent birth c hage).2 hb
  refine ⟨?_, nextretry_le_bound hL recent birth c hl⟩
  rw [he]
  have hgap := retry_gap hs.1 hs.2.2 (skip_ge c)
  omega

/-! ### the priority queue (prioq.c) -/

/-- `prioq_insert` keeps the heap order and adds exactly the new entry. -/
theorem C15_heap_insert (q : PQ) (e : Elt) (h : Heap q) :
    Heap (q.insert e) ∧ (q.insert e).toList.Perm (e :: q.toList) := insert_spec q e h

/-- `prioq_min` returns the root, which is a minimum of everything queued. -/
theorem C15_heap_min (q : PQ) (pe : Elt) (h : Heap q) (hm : q.min = some pe) :
    pe ∈ q.toList ∧ ∀ e ∈ q.toList, pe.dt ≤ e.dt :=
  ⟨min_mem hm, min_le_mem q h hm⟩

/-- `prioq_delmin` keeps the heap order and removes exactly the entry `prioq_min` returned. -/
theorem C15_heap_delmin (q : PQ) (pe : Elt) (h : Heap q) (hm : q.min = some pe) :
    Heap q.delmin ∧ q.toList.Perm (pe :: q.delmin.toList) := delmin_of_min q h hm

/-- complement: on an empty queue `prioq_min` fails and `prioq_delmin` does nothing. -/
theorem C15_heap_empty (q : PQ) (hm : q.min = none) : q.delmin = q ∧ q.toList = [] := by
  have := min_none q hm
  exact ⟨delmin_of_size_zero q this, toList_of_size_zero q this⟩

/-- **For every sequence of insertions and deletions** the array is a heap (so every later
`prioq_min` is a minimum, by `C15_heap_min`). -/
theorem C15_heap (ops : List PQ.Op) : Heap (PQ.run #[] ops) := heap_run ops #[] heap_empty

/-! ### the daemon: which message is started, and when -/

/-- **No early start, earliest-due first.** `pass_dochan` opens a job only for an entry whose due time
has passed, that entry is a minimum of the channel's heap, and exactly it leaves the heap. -/
theorem C15_order (recent : Int) (ja : Bool) (q q' : PQ) (pe : Elt) (h : Heap q)
    (hs : passStart recent ja q = some (pe, q')) :
    pe.dt ≤ recent ∧ (∀ e ∈ q.toList, pe.dt ≤ e.dt) ∧ q.toList.Perm (pe :: q'.toList) ∧ Heap q' :=
  have hst := passStart_spec recent ja q q' pe h hs
  ⟨hst.due, hst.min, hst.perm, hst.heap⟩

/-- **Promptness.** If a job slot is free and anything on the channel is due, a job is opened. -/
theorem C15_order_prompt (recent : Int) (q : PQ) (h : Heap q) (e : Elt) (he : e ∈ q.toList)
    (hdue : e.dt ≤ recent) : (passStart recent true q).isSome = true := passStart_prompt recent q h e he hdue

/-- Serving the channel until nothing more is started: the started messages come out in non-decreasing
due-time order, they are exactly the due ones, and everything left is not yet due. -/
theorem C15_order_drain (recent : Int) (q : PQ) (h : Heap q) :
    (drainDue recent q.size q).1.Pairwise (fun a b => a.dt ≤ b.dt) ∧
    q.toList.Perm ((drainDue recent q.size q).1 ++ (drainDue recent q.size q).2.toList) ∧
    (∀ e ∈ (drainDue recent q.size q).1, e.dt ≤ recent) ∧
    (∀ e ∈ (drainDue recent q.size q).2.toList, recent < e.dt) :=
  have ⟨sorted, perm, allDue, restLater, _⟩ := drainDue_spec recent q.size q h (Nat.le_refl _)
  ⟨sorted, perm, allDue, restLater⟩

/-- The per-heap lines of `pass_selprep` (`wakeupChan`: `if (prioq_min(&pq,&pe)) if (*wakeup > pe.dt) *wakeup = pe.dt`): after
them the wake-up time is no later than any due time on that heap.  `pass_selprep` runs them on a channel heap only when a job
slot is free and the channel is not mid-pass (on pqfail and pqdone always), so the daemon may sleep past a due entry of a
channel that is mid-pass; the statement about the timeout as a whole is `C15_sleep_prompt`. -/
theorem C15_wakeup (w : Int) (q : PQ) (h : Heap q) :
    wakeupChan w q ≤ w ∧ ∀ e ∈ q.toList, wakeupChan w q ≤ e.dt := by
  unfold wakeupChan
  cases hm : q.min with
  | none =>
    simp [toList_of_size_zero q (min_none q hm)]
  | some pe =>
    simp only
    have hmin := min_le_mem q h hm
    by_cases hc : w > pe.dt
    · rw [if_pos hc]; exact ⟨by omega, hmin⟩
    · rw [if_neg hc]; exact ⟨Int.le_refl _, fun e he => by have := hmin e he; omega⟩

/-- After a pass that leaves recipients to do, the message goes back into the heap with exactly the
retry time computed when the pass began — which was then strictly in the future (`C15_future`), so by
`C15_order` it is not tried again before it. -/
theorem C15_reschedule (recent lifetime birth : Int) (c : Chan) (id numtodo : Nat) (q : PQ) (h : Heap q)
    (hn : numtodo ≠ 0) :
    ∃ q', jobClose (jobOpen recent lifetime birth c) id numtodo q = some q' ∧ Heap q' ∧
      q'.toList.Perm ({ dt := nextretry recent birth c, id := id } :: q.toList) := by
  refine ⟨q.insert { dt := nextretry recent birth c, id := id }, ?_, ?_⟩
  · simp [jobClose, jobOpen, hn]
  · exact insert_spec q _ h

/-! ### expiry -/

/-- **Older than the queue lifetime ⇒ every K/Z/D report finishes its recipient** (four facts about `jobOpen`, `report`,
`jobClose`; the expiring pass as a whole is `C15_hist_expire`): the flag is set exactly when
`recent > birth + lifetime`, and under it every report of the letters qmail-lspawn/qmail-rspawn
produce (K, Z, D) finishes the recipient: a `Z` is handled as `D`, bounced with the report text followed
by the "too long" sentence; no reported recipient stays to be retried, and a `job_close` with nothing left
to do removes the message from the channel.
(The first and the last conjunct restate the definitions of `jobOpen` / `jobClose` — they say that
`flagdying = (recent > birth + lifetime)` and `if (!numtodo) unlink` are transcribed so, nothing more; the content is in
conjuncts 2–3 (`Z` under `flagdying` is a failure carrying the too-long text; no K/Z/D report leaves a recipient) and, at
history level, in `C15_hist_expire`.) -/
theorem C15_dying (recent lifetime birth : Int) (c : Chan) (text : Bytes) :
    ((jobOpen recent lifetime birth c).dying = true ↔ recent > birth + lifetime) ∧
    report true 90 text = .failure (text ++ tooLong) ∧
    (∀ letter : Byte, letter = 75 ∨ letter = 90 ∨ letter = 68 → (report true letter text).staysTodo = false) ∧
    (∀ (job : Job) (id : Nat) (q : PQ), jobClose job id 0 q = none) := by
  refine ⟨by simp [jobOpen], by simp [report], ?_, by intro job id q; simp [jobClose]⟩
  intro letter hl
  rcases hl with hl | hl | hl <;> subst hl <;> simp [report, Act.staysTodo]

/-- before expiry a temporary failure leaves the recipient to be retried (and nothing is bounced).
(An evaluation of `report`, i.e. of the transcription of del_dochan's switch — not independent evidence for the expiry clause.) -/
theorem C15_dying_not (text : Bytes) : report false 90 text = .deferral ∧ Act.deferral.staysTodo = true := by
  simp [report, Act.staysTodo]

/-- complement: a report that is none of K, Z, D is "mangled" and deferred — even in the expiring pass
(again an evaluation of `report`) -/
theorem C15_dying_mangled (dying : Bool) (letter : Byte) (text : Bytes) (h1 : letter ≠ 75) (h2 : letter ≠ 90)
    (h3 : letter ≠ 68) : report dying letter text = .mangled := by
  simp [report, h1, h2, h3]

/-! ### restart and ALRM -/

/-- **The schedule survives a clean restart.** TERM: `pqfinish` stores every due time as the channel
file's mtime; the new process's `pqstart` reads them back: the heap holds the same entries again
(each message is queued once per channel; `ids` is the directory listing in any order). -/
theorem C15_persist (q : PQ) (m0 : Mtimes) (ids : List Nat) (h : Heap q)
    (hn : (q.toList.map (·.id)).Nodup) (hids : ids.Perm (q.toList.map (·.id))) :
    Heap (pqstart (m0.writeAll (pqfinish q.size q)) ids) ∧
    (pqstart (m0.writeAll (pqfinish q.size q)) ids).toList.Perm q.toList := by
  have hf := pqfinish_perm q.size q h (Nat.le_refl _)
  have hnl : ((pqfinish q.size q).map (·.id)).Nodup := ((hf.map (·.id)).nodup_iff).mpr hn
  have hget := writeAll_get (pqfinish q.size q) m0 hnl
  obtain ⟨s1, s2⟩ := pqstart_from (m0.writeAll (pqfinish q.size q)) ids #[] heap_empty
  refine ⟨s1, ?_⟩
  unfold pqstart
  -- `pqstart` holds `ids.filterMap loadElt`; permute `ids` into the order of the `utimes` calls: there every file reads back as
  -- the entry that wrote it (`hget`: the ids are distinct, so no other call touched it), and the calls are the heap (`hf`)
  refine s2.trans ?_
  simp only [List.append_nil] at *
  have hids' : ids.Perm ((pqfinish q.size q).map (·.id)) := hids.trans (hf.map (·.id)).symm
  refine (hids'.filterMap _).trans ?_
  rw [List.filterMap_map]
  have : List.filterMap (loadElt (m0.writeAll (pqfinish q.size q)) ∘ fun e => e.id) (pqfinish q.size q)
      = List.filterMap some (pqfinish q.size q) := by
    apply filterMap_congr'
    intro e he
    simp only [Function.comp, loadElt, hget e he, Option.map_some]
  rw [this, List.filterMap_some]
  exact hf

/-- **ALRM makes everything due at once**: after `pqrun` every entry has `dt = recent`, the same
messages are queued, and (by `C15_order_prompt`) a job is opened as soon as a slot is free. -/
theorem C15_alrm (recent : Int) (q : PQ) :
    (∀ e ∈ (pqrun recent q).toList, e.dt = recent) ∧
    (pqrun recent q).toList.map (·.id) = q.toList.map (·.id) ∧ Heap (pqrun recent q) ∧
    (q.size ≠ 0 → (passStart recent true (pqrun recent q)).isSome = true) := by
  have hall : ∀ e ∈ (pqrun recent q).toList, e.dt = recent := by
    intro e he
    rw [pqrun_toList] at he
    obtain ⟨x, _, hx⟩ := List.mem_map.mp he
    rw [← hx]
  refine ⟨hall, by rw [pqrun_toList, List.map_map]; rfl, pqrun_heap recent q, ?_⟩
  intro hne
  have hl : (pqrun recent q).toList ≠ [] := by
    rw [pqrun_toList]; intro h
    have := congrArg List.length h
    simp at this; exact hne (by simp [this])
  obtain ⟨e, he⟩ := List.exists_mem_of_ne_nil _ hl
  exact passStart_prompt recent _ (pqrun_heap recent q) e he (Int.le_of_eq (hall e he))

/-! ### monotonicity -/

/-- `squareroot` is non-negative and monotone on ALL of `Int` (exact below 2³², saturated above, 0 below 0). -/
theorem C15_sqrt_mono (x y : Int) (h : x ≤ y) : 0 ≤ squareroot x ∧ squareroot x ≤ squareroot y := by
  refine ⟨squareroot_nonneg x, ?_⟩
  by_cases hs : squareroot y + 1 < 65536
  · -- `x ≤ y` lies under the next square after the root of `y`
    exact squareroot_le (squareroot_nonneg y) (Int.lt_of_le_of_lt h ((squareroot_max y).2.2.2 hs))
  · have := squareroot_le_65535 x; omega

/-- a later attempt never gets an earlier retry time (for every pair of times, every birth) -/
theorem C15_retry_mono (recent recent' birth : Int) (c : Chan) (h : recent ≤ recent') :
    nextretry recent birth c ≤ nextretry recent' birth c := by
  rw [nextretry_eq, nextretry_eq]
  obtain ⟨h0, h1⟩ := C15_sqrt_mono (recent - birth) (recent' - birth) (by omega)
  have := skip_ge c
  exact Int.add_le_add_left (mul_self_le_mul_self (by omega) (by omega)) _

/-! ### history level: every event history of the daemon model (`Nq.SchedHist.step`) -/

open Nq.SchedHist Nq.Spec.SchedHist Nq.Lemmas.SchedHist

/-- **Well-formedness is an invariant of EVERY history**: whatever step is taken (file creation from outside,
pqstart, clock change, ALRM, wake-up, pqfinish, a pass with any reports and any injected failure, a message arriving through
todo/), the heaps
stay heaps, message ids stay unique per channel, and every scheduled entry has its channel file. -/
theorem C15_hist_wf (s : HSt) (x : Step) (hwf : WF s) : WF (step s x).1 := by
  cases x with
  | mk id c birth due nrec => exact wf_mk hwf id c birth due nrec
  | load => exact wf_loadSt hwf.nodupMsgs
  | clock t => exact wf_clock hwf t
  | alrm => exact wf_alrm hwf
  | wake => exact hwf
  | fin => exact wf_finSt hwf
  | pass c l f => exact wf_passSt hwf c l f
  | arrive id n0 n1 => exact wf_arriveSt hwf id n0 n1
  | bad => exact hwf

/-- … hence over every history from a well-formed state (the empty queue is one). -/
theorem C15_hist_wf_run (l : List Step) : ∀ s : HSt, WF s → WF (run s l) :=
  fun _ h => List.foldlRecOn l _ h fun s hs x _ => C15_hist_wf s x hs

/-- **Nothing is lost** (pqdone bookkeeping, markdone effects): `pqstart` schedules every channel file and puts
every message without channel files into pqdone; from then on every step of a running daemon — clock change,
wake-up, ALRM, a pass with ANY reports and ANY injected failure (open/getinfo trouble, unlink failure, stat
failure) — keeps every existing channel file scheduled on its channel heap and every message without channel
files in pqdone.  (pqfinish empties the heaps on purpose; `C15_hist_restart` covers TERM + restart.) -/
theorem C15_hist_noloss (s : HSt) (hwf : WF s) :
    Tracked (step s .load).1 ∧
    (Tracked s → (∀ t, Tracked (step s (.clock t)).1) ∧ Tracked (step s .wake).1 ∧ Tracked (step s .alrm).1 ∧
      ∀ c l f, Tracked (step s (.pass c l f)).1) :=
  ⟨tracked_loadSt s, fun ht => ⟨fun t => tracked_clock ht t, ht, tracked_alrm ht, fun c l f => tracked_passSt hwf ht c l f⟩⟩

theorem sysfail_pos : (0 : Int) < SLEEP_SYSFAIL := by decide

/-- **Earliest-due first, no starvation — one pass, given a free job slot.**  (`started` is
`passStart s.clock true …`: `job_avail()` is assumed true — with all `numjobs` slots taken by open jobs nothing starts
until one closes; the pass is uninterrupted.)  If an entry `e` of channel `c` is due, a pass on `c`
(any reports, any injected failure) starts an entry due no later than `e`; and either that is `e` itself, or `e`
is still scheduled and the number of entries due no later than `e` has gone down by exactly one (the started
message comes back strictly later than now: at its back-off time, or at now + SLEEP_SYSFAIL). -/
theorem C15_hist_prompt (s : HSt) (hwf : WF s) (c : Chan) (e : Elt) (he : e ∈ (s.q c).toList) (hdue : e.dt ≤ s.clock)
    (hage : ∀ m ∈ s.msgs, s.clock - m.birth < 4294967296) (letters : List Byte) (f : Fault) :
    ∃ pe, started s c = some pe ∧ pe.dt ≤ e.dt ∧
      (pe = e ∨ (e ∈ ((step s (.pass c letters f)).1.q c).toList ∧
                 rank (step s (.pass c letters f)).1 c e.dt + 1 = rank s c e.dt)) :=
  rank_passSt hwf he hdue (fun m hm => (C15_future s.clock m.birth c (hage m hm)).1) sysfail_pos letters f

/-- **No starvation — bounded number of passes, given a free job slot at each pass, no system failure, and a clock
that stands still meanwhile.**  A due entry `e` is started by one of the next `rank` passes on its channel (`rank` = number
of entries due no later than `e`, itself included), whatever the reports.  Assumptions built into `passes` / `started`:
each of these passes finds a free job slot (`job_avail()`), runs uninterrupted and without an injected failure
(`Fault.none`; with failures `C15_hist_prompt` still gives progress per pass, but a `trouble` exit re-schedules the failing
message only SLEEP_SYSFAIL later, so the count is not bounded by `rank`), and the clock does not move between them (time
advancing only makes more entries due: entries due no later than `e.dt` are the same set, so the bound is unaffected, but
this is not stated).  It counts passes, not seconds. -/
theorem C15_hist_no_starvation (s : HSt) (hwf : WF s) (c : Chan) (e : Elt) (he : e ∈ (s.q c).toList)
    (hdue : e.dt ≤ s.clock) (hage : ∀ m ∈ s.msgs, s.clock - m.birth < 4294967296) (ls : Nat → List Byte) :
    ∃ j, j < rank s c e.dt ∧ started (passes s c ls j) c = some e :=
  let ⟨j, hj, h, _⟩ := no_starvation c e sysfail_pos (rank s c e.dt) s ls hwf he hdue
    (fun m hm => (C15_future s.clock m.birth c (hage m hm)).1) (Nat.le_refl _)
  ⟨j, hj, h⟩

/-- **The expiring pass.**  A pass started when `recent > birth + lifetime`, answered with K/Z/D only (no open
or unlink failure), finishes every recipient: the channel file is removed, the message is no longer scheduled on
the channel, the other channel is untouched, and if that was the last channel the message is in pqdone. -/
theorem C15_hist_expire (s : HSt) (hwf : WF s) (c : Chan) (letters : List Byte) (f : Fault) (pe : Elt) (m : Msg)
    (hstart : started s c = some pe) (hm : s.find pe.id = some m)
    (hold : s.clock > m.birth + s.lifetime) (hl : lettersKZD letters) (hf : f = .none ∨ f = .stat) :
    ∃ m2, (step s (.pass c letters f)).1.find pe.id = some m2 ∧ m2.recs c = none ∧
      m2.recs (other c) = m.recs (other c) ∧ pe.id ∉ ids ((step s (.pass c letters f)).1.q c) ∧
      (m.recs (other c) = none → pe.id ∈ ids (step s (.pass c letters f)).1.done) := by
  obtain ⟨q', hp⟩ := started_some hstart
  exact expire_passSt hwf letters f hp hm hold hl hf

/-- **The schedule survives a clean restart, at history level**: after TERM (`pqfinish`) and a new process
(`pqstart`) each channel heap holds exactly the same entries (same message, same due time) as before. -/
theorem C15_hist_restart (s : HSt) (hwf : WF s) (ht : Tracked s) (c : Chan) (e : Elt) :
    e ∈ ((run s [.fin, .load]).q c).toList ↔ e ∈ (s.q c).toList := restart_mem hwf ht c e

/-- **ALRM at history level**: every scheduled entry becomes due now, the same messages stay scheduled, nothing
is lost, and every non-empty channel starts a message at the next pass. -/
theorem C15_hist_alrm (s : HSt) (hwf : WF s) (c : Chan) :
    WF (step s .alrm).1 ∧ (Tracked s → Tracked (step s .alrm).1) ∧
    (∀ e ∈ ((step s .alrm).1.q c).toList, e.dt = s.clock) ∧ ids ((step s .alrm).1.q c) = ids (s.q c) ∧
    ((s.q c).size ≠ 0 → (started (step s .alrm).1 c).isSome = true) := by
  have h := C15_alrm s.clock (s.q c)
  refine ⟨wf_alrm hwf, tracked_alrm, by rw [alrm_q]; exact h.1, by rw [alrm_q]; exact ids_pqrun _ _, ?_⟩
  intro hne
  unfold started
  rw [alrm_q]
  have := h.2.2.2 hne
  show (Option.map _ (passStart s.clock true (pqrun s.clock (s.q c)))).isSome = true
  rw [Option.isSome_map]; exact this

theorem expiryBound_eq (L b : Int) (c : Chan) : expiryBound L b c = b + (L + skip c) * (L + skip c) := by
  unfold expiryBound; rw [chanskip_eq]

/-- the arithmetic behind the bound: an attempt made no later than `birth + lifetime` is rescheduled no later
than `birth + (⌊√lifetime⌋ + skip)²` — also when the birth time lies in the future of the clock -/
theorem C15_retry_le_bound (lifetime L : Int) (h32 : lifetime < 4294967296) (hL : IsSqrt lifetime L)
    (t b : Int) (c : Chan) (h : t ≤ b + lifetime) : nextretry t b c ≤ expiryBound L b c := by
  rw [expiryBound_eq]
  exact nextretry_le_bound hL t b c h

/-- **Bounded time to expiry, over all fault-free histories.**  Invariant: every scheduled entry is due by
`birth + (⌊√lifetime⌋ + skip)²` or is already due.  It is preserved by every history made of time advancing,
wake-ups, ALRM, (uninterrupted) passes answered with K/Z/D, clean restarts, and NEW MESSAGES ARRIVING through todo/
(`BStep.arrive`: todo_do schedules them at `now`, i.e. already due) — together with well-formedness and
nothing-is-lost.  Base cases: the empty queue (`C15_hist_init`; every history of arrivals from it:
`C15_hist_bounded_from_empty`) and any queue directory a new process finds whose persisted due times respect the bound
(`C15_hist_load_inv`). -/
theorem C15_hist_bounded (s : HSt) (L : Int) (h32 : s.lifetime < 4294967296) (hL : IsSqrt s.lifetime L)
    (hinv : DInv L s) (l : List BStep) (hk : allKZD l) : DInv L (runB s l) ∧ (runB s l).lifetime = s.lifetime :=
  inv_runB l s hinv (fun t b c h => C15_retry_le_bound s.lifetime L h32 hL t b c h) hk

/-- **Every message leaves the channel in bounded time — counted in passes, given a free job slot at each pass, no system
failure and spawners answering K/Z/D**: in any state reached as in
`C15_hist_bounded`, once the clock has reached `birth + (⌊√lifetime⌋ + skip)²` a scheduled message `e` is due,
and within `rank` further passes on its channel (`rank` = entries due no later than it) it is started, that
pass is the expiring one, and afterwards its channel file is gone and it is off the channel heap; if no file
remains on the other channel it is in pqdone. -/
theorem C15_hist_leaves (s : HSt) (L : Int) (hL : IsSqrt s.lifetime L) (hinv : DInv L s) (c : Chan) (e : Elt) (m : Msg)
    (he : e ∈ (s.q c).toList) (hm : s.find e.id = some m) (hclock : expiryBound L m.birth c ≤ s.clock)
    (hage : ∀ m ∈ s.msgs, s.clock - m.birth < 4294967296) (ls : Nat → List Byte) (hk : ∀ k, lettersKZD (ls k)) :
    ∃ j, j < rank s c e.dt ∧ started (passes s c ls j) c = some e ∧
      ∃ m2, (passes s c ls (j + 1)).find e.id = some m2 ∧ m2.recs c = none ∧
        e.id ∉ ids ((passes s c ls (j + 1)).q c) ∧
        (m2.recs (other c) = none → e.id ∈ ids (passes s c ls (j + 1)).done) := by
  obtain ⟨hwf, _, hd⟩ := hinv
  have hdue : e.dt ≤ s.clock := by
    rcases hd c e he m hm with h | h
    · omega
    · exact h
  obtain ⟨j, hj, hst, hwfj, hcj, hlj, hbj⟩ := no_starvation c e sysfail_pos (rank s c e.dt) s ls hwf he hdue
    (fun m hm => (C15_future s.clock m.birth c (hage m hm)).1) (Nat.le_refl _)
  obtain ⟨mj, hmj, hbirth⟩ := hbj e.id m hm
  -- the bound lies beyond birth + lifetime
  have hold : (passes s c ls j).clock > mj.birth + (passes s c ls j).lifetime := by
    rw [hcj, hlj, hbirth]
    have hb := expiryBound_eq L m.birth c
    have := skip_ge c
    obtain ⟨l0, _, l2⟩ := hL
    have := mul_self_le_mul_self (by omega : 0 ≤ L + 1) (by omega : L + 1 ≤ L + skip c)
    omega
  obtain ⟨q', hp⟩ := started_some hst
  obtain ⟨m2, hfind, hgone, hother, hoff, hdone⟩ := expire_passSt hwfj (ls j) .none hp hmj hold (hk j) (Or.inl rfl)
  exact ⟨j, hj, hst, m2, hfind, hgone, hoff, fun ho => hdone (by rw [← hother]; exact ho)⟩

/-! ### overflow -/

/-- the root never exceeds 65535, for every argument -/
theorem C15_sqrt_le (x : Int) : squareroot x ≤ 65535 := squareroot_le_65535 x

/-- **No `long` overflow in `nextretry`.**  For every `recent`, `birth` that are `long`s, with
`recent - birth` representable (always true for `birth ≥ 0`) and `birth + (65535 + skip)² < 2⁶³` — i.e. every
birth time up to 2⁶³ − 4 297 458 026, the year 292 billion — every intermediate of the C computation
(`recent - birth`, the 16 iterations of `squareroot`, `n + chanskip`, `n * n`, `birth + n * n`) fits, so the
wrapped (machine) arithmetic computes exactly the mathematical `nextretry` all other theorems talk about.
Ages near 2³² are inside this range (the root saturates, `C15_future_saturated`); ages near 2⁶³ are inside it as
long as the subtraction itself is representable. -/
theorem C15_overflow_range (recent birth : Int) (c : Chan)
    (hr0 : -9223372036854775808 ≤ recent) (hr1 : recent < 9223372036854775808)
    (hb0 : -9223372036854775808 ≤ birth)
    (hx : recent - birth < 9223372036854775808)
    (hs : birth + (65535 + skip c) * (65535 + skip c) < 9223372036854775808) :
    nextretryOk recent birth c = true ∧ nextretryW recent birth c = nextretry recent birth c := by
  have hk := skip_ge c
  have hk2 := skip_le c
  have hsq : (decide (birth > recent) || (inLong (recent - birth) && sqLoopOk (recent - birth) 16 0 0)) = true := by
    by_cases hbr : birth > recent
    · simp [hbr]
    · simp [C15_sqrt_nooverflow (recent - birth) (by omega) hx, inLong]; omega
  -- `recent - birth` is only computed, and only then known to be representable, when `birth ≤ recent`
  have hW : (if birth > recent then 0 else squareroot (wrap64 (recent - birth))) =
      if birth > recent then 0 else squareroot (recent - birth) := by
    split
    · rfl
    · rw [wrap64_id _ (by omega) hx]
  unfold nextretryOk nextretryW
  rw [nextretry_eq]
  simp only [chanskip_eq, hW, root_eq, hsq]
  have a0 := squareroot_nonneg (recent - birth)
  have a1 := C15_sqrt_le (recent - birth)
  generalize squareroot (recent - birth) = a at a0 a1 ⊢
  obtain ⟨p0, p1, p2⟩ := retry_sq_range a0 a1 (by omega) hk2
  rw [wrap64_id (a + skip c) (by omega) (by omega),
    wrap64_id ((a + skip c) * (a + skip c)) (by omega) (by omega), wrap64_id _ (by omega) (by omega)]
  generalize (a + skip c) * (a + skip c) = p at *
  simp [inLong]
  -- left are the range checks.  `recent`: `hr0`, `hr1`; `birth`: `hb0` below, `hs` with `0 ≤ p ≤ (65535 + skip)²` (`p0`, `p1`) above;
  -- `a + skip`: `a0`, `a1`, `hk`, `hk2`; `p`: `p0`, `p1`, `p2`; `birth + p`: `hb0`, `p0` below, `p1`, `hs` above
  omega

/-- complement: what the C does when the mathematical retry time does not fit a `long` (birth within
4 297 458 025 s of 2⁶³): `birth + n * n` overflows — undefined behaviour in C; with the two's-complement
wrap-around the supported compilers produce, the retry time comes out as `retry − 2⁶⁴`, a negative time, i.e. in
the past: such a message would be retried at every pass.  (`nextretryOk` is false there; the harness never
generates such a case because the build is UBSan-instrumented.) -/
theorem C15_overflow_wraps (recent birth : Int) (c : Chan) (hb0 : 0 ≤ birth) (hbr : birth ≤ recent)
    (hr1 : recent < 9223372036854775808) (hov : 9223372036854775808 ≤ nextretry recent birth c) :
    nextretryOk recent birth c = false ∧
    nextretryW recent birth c = nextretry recent birth c - 18446744073709551616 ∧ nextretryW recent birth c < 0 := by
  have hk := skip_ge c
  have hk2 := skip_le c
  have a0 := squareroot_nonneg (recent - birth)
  have a1 := C15_sqrt_le (recent - birth)
  unfold nextretryOk nextretryW nextretry at *
  simp only [chanskip_eq, if_neg (by omega : ¬ birth > recent)] at *
  rw [wrap64_id (recent - birth) (by omega) (by omega)]
  generalize squareroot (recent - birth) = a at *
  obtain ⟨p0, p1, p2⟩ := retry_sq_range a0 a1 (by omega) hk2
  rw [wrap64_id (a + skip c) (by omega) (by omega), wrap64_id ((a + skip c) * (a + skip c)) (by omega) (by omega)]
  generalize (a + skip c) * (a + skip c) = p at *
  -- only the last addition leaves the range, and by less than 2⁶⁴
  have hW : wrap64 (birth + p) = birth + p - 18446744073709551616 := by unfold wrap64; omega
  have hO : inLong (birth + p) = false := by simp only [inLong, decide_eq_false_iff_not]; omega
  rw [hW, hO, Bool.and_false]
  exact ⟨rfl, rfl, by omega⟩

/-! ### the system-failure paths: SLEEP_SYSFAIL re-insertion, full `job_close`, `pqadd`, pqfail -/

/-- **The `trouble:` exit of `pass_dochan`** (channel file or info file cannot be opened): the message stays on
the channel heap (same ids as before the pass: not lost), heap order kept, and its new due time
`recent + SLEEP_SYSFAIL` is strictly later than the due time it had — which was its back-off time —, so the
failure never makes a retry earlier. -/
theorem C15_trouble (recent : Int) (ja : Bool) (q q' : PQ) (pe : Elt) (h : Heap q)
    (hs : passStart recent ja q = some (pe, q')) :
    Heap (passTrouble recent pe q') ∧
    (passTrouble recent pe q').toList.Perm ({ dt := recent + SLEEP_SYSFAIL, id := pe.id } :: q'.toList) ∧
    (ids (passTrouble recent pe q')).Perm (ids q) ∧ pe.dt < recent + SLEEP_SYSFAIL := by
  obtain ⟨hdue, _, hperm, hh'⟩ := C15_order recent ja q q' pe h hs
  have hi := insert_spec q' { dt := recent + SLEEP_SYSFAIL, id := pe.id } hh'
  refine ⟨hi.1, hi.2, ?_, ?_⟩
  · have h1 := ids_insert q' { dt := recent + SLEEP_SYSFAIL, id := pe.id }
    have h2 : (ids q).Perm (pe.id :: ids q') := hperm.map Elt.id
    exact h1.trans h2.symm
  · have := sysfail_pos
    omega

/-- **`job_close` in full.**  Heaps stay heaps and keep all their entries.  Never lost: afterwards the message is
on the channel heap, or in pqdone, or its other channel file exists (and is tracked there, `C15_hist_noloss`).
Never earlier than the back-off time: whenever a recipient is left to do (or the pass was cut short before EOF)
the message is re-inserted exactly at `retry`, the file is kept and pqdone untouched.  The file is removed only
when nothing is left to do; if the unlink fails the message stays scheduled at `now + SLEEP_SYSFAIL` — there is
then no recipient left whose delivery could be retried early. -/
theorem C15_jobclose (job : Job) (id : Nat) (hiteof : Bool) (numtodo : Nat) (unlinkOk : Bool) (st : StatRes) (now : Int)
    (q done : PQ) (hq : Heap q) (hd : Heap done) :
    Heap (jobCloseF job id hiteof numtodo unlinkOk st now q done).chan ∧
    Heap (jobCloseF job id hiteof numtodo unlinkOk st now q done).done ∧
    (∀ e ∈ q.toList, e ∈ (jobCloseF job id hiteof numtodo unlinkOk st now q done).chan.toList) ∧
    (∀ e ∈ done.toList, e ∈ (jobCloseF job id hiteof numtodo unlinkOk st now q done).done.toList) ∧
    (id ∈ ids (jobCloseF job id hiteof numtodo unlinkOk st now q done).chan ∨
      id ∈ ids (jobCloseF job id hiteof numtodo unlinkOk st now q done).done ∨ ∃ t, st = .found t) ∧
    ((numtodo ≠ 0 ∨ hiteof = false) →
      (jobCloseF job id hiteof numtodo unlinkOk st now q done).chan = q.insert { dt := job.retry, id := id } ∧
      (jobCloseF job id hiteof numtodo unlinkOk st now q done).done = done ∧
      (jobCloseF job id hiteof numtodo unlinkOk st now q done).removed = false) ∧
    ((jobCloseF job id hiteof numtodo unlinkOk st now q done).removed = true →
      numtodo = 0 ∧ hiteof = true ∧ unlinkOk = true ∧ (jobCloseF job id hiteof numtodo unlinkOk st now q done).chan = q) ∧
    (hiteof = true → numtodo = 0 → unlinkOk = false →
      (jobCloseF job id hiteof numtodo unlinkOk st now q done).chan = q.insert { dt := now + SLEEP_SYSFAIL, id := id } ∧
      (jobCloseF job id hiteof numtodo unlinkOk st now q done).removed = false) := by
  have excl : (numtodo ≠ 0 ∨ hiteof = false) → hiteof = true → numtodo = 0 → False := fun hor he hn => by
    rcases hor with h | h
    · exact h hn
    · rw [he] at h; cases h
  generalize ho : jobCloseF job id hiteof numtodo unlinkOk st now q done = o
  rcases jobCloseF_cases ho.symm with ⟨hrm, hdn, ⟨hor, hch⟩ | ⟨he, hn, hu, hch⟩⟩ | ⟨he, hn, hu, hrm, hch, hdn⟩
  · -- back at `retry`
    rw [hrm, hdn, hch]
    exact ⟨(insert_spec q _ hq).1, hd, fun e h => (mem_insert q _ e).mpr (Or.inr h), fun _ h => h, Or.inl (ids_insert_self q _),
      fun _ => ⟨rfl, rfl, rfl⟩, nofun, fun a b _ => (excl hor a b).elim⟩
  · -- the unlink failed
    rw [hrm, hdn, hch]
    exact ⟨(insert_spec q _ hq).1, hd, fun e h => (mem_insert q _ e).mpr (Or.inr h), fun _ h => h, Or.inl (ids_insert_self q _),
      fun hor => (excl hor he hn).elim, nofun, fun _ _ _ => ⟨rfl, rfl⟩⟩
  · -- the file is removed: into pqdone unless the other channel file is there
    rw [hrm, hch]
    have hdone : Heap o.done ∧ (∀ e ∈ done.toList, e ∈ o.done.toList) ∧ (id ∈ ids o.done ∨ ∃ t, st = .found t) := by
      rcases hdn with ⟨hf, hdn⟩ | ⟨_, hdn⟩
      · rw [hdn]; exact ⟨hd, fun _ h => h, Or.inr hf⟩
      · rw [hdn]
        exact ⟨(insert_spec done _ hd).1, fun e h => (mem_insert done _ e).mpr (Or.inr h), Or.inl (ids_insert_self done _)⟩
    exact ⟨hq, hdone.1, fun _ h => h, hdone.2.1, Or.inr hdone.2.2, fun hor => (excl hor he hn).elim, fun _ => ⟨hn, he, hu, rfl⟩,
      fun _ _ hu' => by rw [hu] at hu'; cases hu'⟩

/-- **`pqadd` in full (restart and pqfail re-adds).**  Heaps stay heaps.  Never lost: if the info file is there
(or cannot be examined) and no todo file is seen, the message ends up in at least one of pqchan[0], pqchan[1],
pqdone, pqfail.  Complete: with no stat error each existing channel file is scheduled.  Never earlier: the only
possible change of a channel heap is the insertion of ⟨mtime of the channel file, id⟩ — the persisted back-off
time (`C15_persist`); pqdone gets at most ⟨now, id⟩, pqfail at most ⟨now + SLEEP_SYSFAIL, id⟩. -/
theorem C15_pqadd (now : Int) (info todo ch0 ch1 : StatRes) (id : Nat) (h : Heaps)
    (h0 : Heap h.q0) (h1 : Heap h.q1) (hd : Heap h.done) (hf : Heap h.fail) :
    (Heap (pqaddF now info todo ch0 ch1 id h).q0 ∧ Heap (pqaddF now info todo ch0 ch1 id h).q1 ∧
      Heap (pqaddF now info todo ch0 ch1 id h).done ∧ Heap (pqaddF now info todo ch0 ch1 id h).fail) ∧
    (info ≠ .noent → (∀ t, todo ≠ .found t) →
      id ∈ ids (pqaddF now info todo ch0 ch1 id h).q0 ∨ id ∈ ids (pqaddF now info todo ch0 ch1 id h).q1 ∨
      id ∈ ids (pqaddF now info todo ch0 ch1 id h).done ∨ id ∈ ids (pqaddF now info todo ch0 ch1 id h).fail) ∧
    (∀ ti t0, info = .found ti → todo = .noent → ch0 = .found t0 → ch1 ≠ .err →
      (pqaddF now info todo ch0 ch1 id h).q0 = h.q0.insert { dt := t0, id := id }) ∧
    (∀ ti t1, info = .found ti → todo = .noent → ch1 = .found t1 → ch0 ≠ .err →
      (pqaddF now info todo ch0 ch1 id h).q1 = h.q1.insert { dt := t1, id := id }) ∧
    ((pqaddF now info todo ch0 ch1 id h).q0 = h.q0 ∨
      ∃ t0, ch0 = .found t0 ∧ (pqaddF now info todo ch0 ch1 id h).q0 = h.q0.insert { dt := t0, id := id }) ∧
    ((pqaddF now info todo ch0 ch1 id h).q1 = h.q1 ∨
      ∃ t1, ch1 = .found t1 ∧ (pqaddF now info todo ch0 ch1 id h).q1 = h.q1.insert { dt := t1, id := id }) ∧
    ((pqaddF now info todo ch0 ch1 id h).done = h.done ∨
      (pqaddF now info todo ch0 ch1 id h).done = h.done.insert { dt := now, id := id }) ∧
    ((pqaddF now info todo ch0 ch1 id h).fail = h.fail ∨
      (pqaddF now info todo ch0 ch1 id h).fail = h.fail.insert { dt := now + SLEEP_SYSFAIL, id := id }) := by
  rcases pqaddF_cases now info todo ch0 ch1 id h with ⟨e, hc⟩ | ⟨e, hc⟩ | ⟨⟨ti, hi⟩, ht, n0, n1, e⟩
  · -- nothing inserted: no info file, or a todo file — which the premises of the second, third and fourth clause exclude
    rw [e]
    refine ⟨⟨h0, h1, hd, hf⟩, fun a b => ?_, fun ti t0 a b _ _ => ?_, fun ti t1 a b _ _ => ?_, .inl rfl, .inl rfl, .inl rfl, .inl rfl⟩
    all_goals rcases hc with hc | ⟨t, hc⟩ <;> simp_all
  · -- `fail:` — only pqfail grows; the third and fourth clause assume that no `stat` failed
    rw [e]
    refine ⟨⟨h0, h1, hd, (insert_spec _ _ hf).1⟩, fun _ _ => .inr (.inr (.inr (ids_insert_self _ _))),
      fun ti t0 a b c d => ?_, fun ti t1 a b c d => ?_, .inl rfl, .inl rfl, .inl rfl, .inr rfl⟩
    all_goals simp_all
  · rw [e]
    refine ⟨⟨addIf_heap id ch0 _ h0, addIf_heap id ch1 _ h1, ?_, hf⟩, fun _ _ => ?_, fun _ t0 _ _ a _ => by rw [a]; rfl,
      fun _ t1 _ _ a _ => by rw [a]; rfl, ?_, ?_, ?_, .inl rfl⟩
    · show Heap (if _ then _ else _)
      split
      · exact (insert_spec _ _ hd).1
      · exact hd
    · -- never lost: a channel file puts the message on that heap, none puts it into pqdone
      cases ch0 with
      | found t => exact .inl (ids_insert_self _ _)
      | err => exact absurd rfl n0
      | noent =>
        cases ch1 with
        | found t => exact .inr (.inl (ids_insert_self _ _))
        | err => exact absurd rfl n1
        | noent =>
          refine .inr (.inr (.inl ?_))
          show id ∈ ids (if _ then _ else _)
          rw [if_pos ⟨rfl, rfl⟩]; exact ids_insert_self _ _
    · cases ch0 <;> first | exact .inl rfl | exact .inr ⟨_, rfl, rfl⟩
    · cases ch1 <;> first | exact .inl rfl | exact .inr ⟨_, rfl, rfl⟩
    · show (if _ then _ else _) = _ ∨ (if _ then _ else _) = _
      split
      · exact .inr rfl
      · exact .inl rfl

/-- **pqfail is drained only by re-adding.**  One `pass_do()`: every pqfail entry either stays in pqfail, or it
is the due minimum and the state afterwards is exactly `pqadd(id)` applied to the heaps without it — which by
`C15_pqadd` keeps the message in one of the heaps, with the persisted due time if it goes to a channel. -/
theorem C15_pqfail (recent now : Int) (files : Nat → Files) (h : Heaps)
    (h0 : Heap h.q0) (h1 : Heap h.q1) (hd : Heap h.done) (hf : Heap h.fail) (e : Elt)
    (he : e ∈ h.fail.toList) :
    e ∈ (passDoFail recent now files h).fail.toList ∨
    (e.dt ≤ recent ∧ (∀ x ∈ h.fail.toList, e.dt ≤ x.dt) ∧ h.fail.min = some e ∧
      h.fail.toList.Perm (e :: h.fail.delmin.toList) ∧ Heap h.fail.delmin ∧
      passDoFail recent now files h =
        pqaddF now (files e.id).info (files e.id).todo (files e.id).ch0 (files e.id).ch1 e.id { h with fail := h.fail.delmin }) := by
  unfold passDoFail
  cases hm : h.fail.min with
  | none =>
    rw [toList_of_size_zero _ (min_none _ hm)] at he; cases he
  | some pe =>
    simp only
    have hmin := min_le_mem h.fail hf hm
    obtain ⟨hh', hperm⟩ := delmin_of_min h.fail hf hm
    by_cases hdue : pe.dt ≤ recent
    · rw [if_pos hdue]
      by_cases hpe : e = pe
      · right; subst hpe; exact ⟨hdue, hmin, rfl, hperm, hh', rfl⟩
      · left
        have he' : e ∈ h.fail.delmin.toList := by
          rcases List.mem_cons.mp ((hperm.mem_iff).mp he) with h | h
          · exact absurd h hpe
          · exact h
        -- pqadd only ever adds to pqfail
        obtain ⟨_, _, _, _, _, _, _, hfail⟩ := C15_pqadd now (files pe.id).info (files pe.id).todo (files pe.id).ch0
          (files pe.id).ch1 pe.id { h with fail := h.fail.delmin } h0 h1 hd hh'
        rcases hfail with hh | hh
        · rw [hh]; exact he'
        · rw [hh]; exact (mem_insert _ _ _).mpr (Or.inr he')
    · rw [if_neg hdue]; left; exact he

/-! ### Non-vacuity: concrete inputs meeting the hypotheses -/

example : squareroot 1000000 = 1000 ∧ squareroot 999999 = 999 ∧ squareroot 4294967295 = 65535 := by decide
/-- a remote message born 1 000 000 s ago: next try 1020² s after its birth -/
example : nextretry 1759000000 1758000000 .rem = 1758000000 + 1020 * 1020 := by decide
example : (4294967295 : Int) - 0 < 4294967296 := by decide
example : (PQ.run #[] [.ins ⟨5, 1⟩, .ins ⟨3, 2⟩, .ins ⟨9, 3⟩, .ins ⟨3, 4⟩, .del]).toList
    = [⟨3, 4⟩, ⟨5, 1⟩, ⟨9, 3⟩] := by decide
example : passStart 10 true #[⟨3, 4⟩, ⟨5, 1⟩, ⟨9, 3⟩] = some (⟨3, 4⟩, #[⟨5, 1⟩, ⟨9, 3⟩]) := by decide
example : passStart 2 true #[⟨3, 4⟩, ⟨5, 1⟩, ⟨9, 3⟩] = none := by decide
/-- the default lifetime 604800 has root 777: the expiring attempt is due within 797² s of birth (remote) -/
example : IsSqrt 604800 777 := by decide
example : (jobOpen 1000 100 800 .loc).dying = true ∧ (jobOpen 900 100 800 .loc).dying = false := by decide

/-! ### the history-level invariant at the start; histories on concrete states -/

/-- the empty queue is well-formed, nothing is lost in it, and nothing is overdue -/
theorem C15_hist_init (lifetime clock L : Int) :
    DInv L ({ lifetime := lifetime, clock := clock } : HSt) := by
  refine ⟨⟨fun c => by cases c <;> exact heap_empty, heap_empty, List.nodup_nil, fun c => by cases c <;> exact List.nodup_nil,
    fun c e he => by cases c <;> cases he⟩, (fun m hm => by cases hm), (fun c e he => by cases c <;> cases he)⟩

/-- **Base case after `pqstart()`**: on any queue directory with unique message numbers whose persisted due times (the
mtimes of the channel files) are not beyond the expiry bound of their message or not in the future (`MtimesDueBy` — true
of every queue the daemon itself wrote while the invariant held: pqfinish persists heap entries), the new process
satisfies the whole invariant: well-formed, nothing lost, every entry due by the bound.  Complement: without the
hypothesis it fails — a channel file with an mtime far in the future (written from outside) is scheduled at that time
(`example` below). -/
theorem C15_hist_load_inv (s : HSt) (L : Int) (hn : (s.msgs.map (·.id)).Nodup) (hmt : MtimesDueBy L s) :
    DInv L (step s .load).1 :=
  ⟨wf_loadSt hn, tracked_loadSt s, dueby_loadSt hn hmt⟩

/-- **An arriving message keeps the invariant** (todo_do: info/<id> created now, `pe.dt = now()`, into pqchan[c] for each
channel with recipients, into pqdone if none): well-formedness, nothing-is-lost and the expiry bound — the new entries are
already due. -/
theorem C15_hist_arrive (s : HSt) (L : Int) (hinv : DInv L s) (id n0 n1 : Nat) : DInv L (step s (.arrive id n0 n1)).1 :=
  ⟨wf_arriveSt hinv.1 id n0 n1, tracked_arriveSt hinv.2.1 id n0 n1, dueby_arriveSt hinv.1 hinv.2.2 id n0 n1⟩

/-- **From the empty queue**: every fault-free history of arrivals, time, wake-ups, ALRM, passes answered K/Z/D and clean
restarts — starting with nothing queued — satisfies the invariant at every point; so `C15_hist_leaves` applies to every
message such a history ever takes in. -/
theorem C15_hist_bounded_from_empty (lifetime clock L : Int) (h32 : lifetime < 4294967296) (hL : IsSqrt lifetime L)
    (l : List BStep) (hk : allKZD l) : DInv L (runB ({ lifetime := lifetime, clock := clock } : HSt) l) :=
  (C15_hist_bounded _ L h32 hL (C15_hist_init lifetime clock L) l hk).1

/-- non-vacuity: two messages arrive (one with recipients on both channels, one with none), a pass defers, time passes;
and the counterexample to `C15_hist_load_inv` without its hypothesis: a persisted due time beyond the bound breaks
`MtimesDueBy` and `DueBy` after pqstart -/
example : let s := runB ({ lifetime := 604800, clock := 5000 } : HSt) [.arrive 7 2 1, .arrive 9 0 0, .pass .loc [90, 75], .tick 100]
    s.q0.toList = [⟨5100, 7⟩] ∧ s.q1.toList = [⟨5000, 7⟩] ∧ s.done.toList = [⟨5000, 9⟩] ∧ (s.find 7).map (·.birth) = some 5000 := by decide
example : let s := run ({ lifetime := 604800 } : HSt) [.mk 7 .loc 1000 99999999 2, .load, .clock 5000]
    s.q0.toList = [⟨99999999, 7⟩] ∧ expiryBound 777 1000 .loc = 620369 ∧ IsSqrt 604800 777 := by decide

/-- a history: message 7 (local, born at 1000, 2 recipients, due at 2000) and message 9 (due at 1990) -/
def exS : HSt := run { lifetime := 604800 } [.mk 7 .loc 1000 2000 2, .mk 9 .loc 1500 1990 1, .load, .clock 2000]

example : started exS .loc = some ⟨1990, 9⟩ ∧ rank exS .loc 2000 = 2 ∧
    started (step exS (.pass .loc [90] .none)).1 .loc = some ⟨2000, 7⟩ := by decide
def exS1 : HSt := (step exS (.pass .loc [90] .none)).1
example : (exS1.find 7).map (·.birth) = some 1000 ∧ exS1.clock - 1000 < 4294967296 := by decide
example : ((step exS1 (.pass .loc [90, 75] .none)).1.find 7).map (·.recs .loc) = some (some [true, false]) ∧
    nextretry 2000 1000 .loc = 2681 := by decide
example : started (runQ (step exS1 (.pass .loc [90, 75] .none)).1 [.clock 2680, .pass .loc [75] .none, .restart, .pass .rem [90] .openf]) .loc = none ∧
    started (runQ (step exS1 (.pass .loc [90, 75] .none)).1 [.clock 2680, .pass .loc [75] .none, .restart, .clock 2681]) .loc = some ⟨2681, 7⟩ := by decide
/-- expiry: lifetime 100, message born at 1000, now 2000: one pass answered Z removes it and puts it into pqdone -/
def exE : HSt := run { lifetime := 100 } [.mk 7 .rem 1000 1500 3, .load, .clock 2000]
example : started exE .rem = some ⟨1500, 7⟩ ∧ ((step exE (.pass .rem [90] .none)).1.find 7).map (·.recs .rem) = some none ∧
    ids (step exE (.pass .rem [90] .none)).1.done = [7] ∧ expiryBound 10 1000 .rem = 1900 ∧ IsSqrt 100 10 := by decide
/-- system failures: open failure keeps the message, 123 s later; unlink failure keeps the all-done file scheduled -/
example : ((step exE (.pass .rem [90] .openf)).1.q .rem).toList = [⟨2123, 7⟩] ∧
    ((step exE (.pass .rem [75] .unlink)).1.q .rem).toList = [⟨2123, 7⟩] ∧
    ((step exE (.pass .rem [75] .unlink)).1.find 7).map (·.recs .rem) = some (some [false, false, false]) := by decide
example : (pqaddF 50 (.found 1) .noent (.found 40) .err 7 {}).fail.toList = [⟨173, 7⟩] ∧
    (pqaddF 50 (.found 1) .noent (.found 40) .noent 7 {}).q0.toList = [⟨40, 7⟩] ∧
    (pqaddF 50 (.found 1) .noent .noent .noent 7 {}).done.toList = [⟨50, 7⟩] := by decide
example : (passDoFail 60 61 (fun _ => { info := .found 1, ch1 := .found 44 }) { fail := #[⟨55, 7⟩] }).q1.toList = [⟨44, 7⟩] ∧
    (passDoFail 54 55 (fun _ => { info := .found 1, ch1 := .found 44 }) { fail := #[⟨55, 7⟩] }).fail.toList = [⟨55, 7⟩] := by decide
/-- overflow: inside the range, and a birth time 51 s below 2⁶³ where `birth + n*n` wraps to a negative time -/
example : nextretryOk 1759000000 1758000000 .rem = true ∧
    nextretryOk 9223372036854775757 9223372036854775757 .loc = false ∧
    nextretry 9223372036854775757 9223372036854775757 .loc = 9223372036854775857 ∧
    nextretryW 9223372036854775757 9223372036854775757 .loc = -9223372036854775759 := by decide +kernel

/-! ### Promptness of the sleep: "is retried promptly once that time has passed"

`pass_dochan` starts a due message whenever it runs (`C15_order_prompt`, `C15_hist_prompt`); it runs once per iteration of
main()'s loop, and between two iterations the daemon sleeps in `select()` with the timeout computed by the select preparation
(`Nq.SelPrep.timeout`: `wakeup = recent + SLEEP_FOREVER`, pass_selprep, todo_selprep, cleanup_selprep,
`tv.tv_sec = wakeup <= recent ? 0 : wakeup - recent + SLEEP_FUZZ`; the model belongs to C16 and is compared with the real
daemon at every select there and in the `W` scenarios of this check).  The `C15_sleep_*` theorems say that this sleep never carries
the daemon past the due time of an entry it could start, by more than SLEEP_FUZZ — whatever the rest of the daemon is doing:
in particular while another channel is in the middle of a pass with every delivery slot taken. -/

open Nq.Lemmas.SchedSleep in
/-- **The sleep is prompt.**  For every snapshot of the daemon's globals (clock at or after the epoch) and every startable
due time `d` (head of the heap of a channel that is not mid-pass, with a job slot free; head of pqfail; head of pqdone; no exit
requested): if `d` has been reached the timeout is 0, otherwise it is at most `d - recent + SLEEP_FUZZ`.  No hypothesis on
the other channel: it may be mid-pass and saturated, have writes pending, or its spawner may be dead. -/
theorem C15_sleep_prompt (s : Nq.SelPrep.Snap) (h0 : 0 ≤ s.recent) (d : Int) (hd : d ∈ startableDues s) :
    (d ≤ s.recent → Nq.SelPrep.timeout s = 0) ∧
    (s.recent < d → Nq.SelPrep.timeout s ≤ d - s.recent + Nq.SelPrep.SLEEP_FUZZ) :=
  timeout_prompt s h0 hd (Int.le_refl d)

open Nq.Lemmas.SchedSleep in
/-- the oracle of the select-loop scenarios is the negation of this theorem's conclusion: a `select()` that returns no later
than `recent + timeout` (it may return earlier: a descriptor became ready, a signal) never "sleeps through a due time". -/
theorem C15_sleep_not_through (s : Nq.SelPrep.Snap) (h0 : 0 ≤ s.recent) (tafter : Int)
    (hret : tafter ≤ s.recent + Nq.SelPrep.timeout s) : sleptThrough s tafter = false := by
  unfold sleptThrough
  rw [List.any_eq_false]
  intro d hd
  obtain ⟨a, b⟩ := timeout_prompt s h0 hd (Int.le_refl d)
  simp only [Bool.and_eq_true, decide_eq_true_eq, not_and]
  intro h1
  by_cases hds : d ≤ s.recent
  · rw [a hds] at hret; omega
  · have := b (by omega); omega

open Nq.Lemmas.SchedSleep in
/-- **History level**: in a well-formed daemon state, for EVERY message scheduled on a channel that is not in the middle of a
pass (not only the head of the heap) the daemon does not sleep past its due time by more than SLEEP_FUZZ, and does not sleep
at all once it is due — whatever the other channel, pqfail, the todo and cleanup timers look like.  With
`C15_hist_prompt` (the pass that then runs starts an entry due no later) and `C15_hist_no_starvation`: woken in time, then started. -/
theorem C15_sleep_hist (s : HSt) (sn : Nq.SelPrep.Snap) (hwf : WF s) (hs : SnapOf s sn) (h0 : 0 ≤ s.clock)
    (c : Chan) (hc : midPass sn c = false) (e : Elt) (he : e ∈ (s.q c).toList) :
    (e.dt ≤ s.clock → Nq.SelPrep.timeout sn = 0) ∧
    (s.clock < e.dt → Nq.SelPrep.timeout sn ≤ e.dt - s.clock + Nq.SelPrep.SLEEP_FUZZ) := by
  rw [← hs.recent] at h0 ⊢
  refine timeout_prompt_heap sn h0 (hwf.heap c) (fun m hm => ?_) he
  obtain ⟨c0, c1, hch, h0m, h1m⟩ := hs.chans
  rw [mem_startableDues]
  refine ⟨hs.running, Or.inl ⟨hs.job, ?_⟩⟩
  cases c with
  | loc =>
    refine ⟨c0, by simp [hch], ?_, by rw [h0m]; exact hm⟩
    simpa [midPass, hch] using hc
  | rem =>
    refine ⟨c1, by simp [hch], ?_, by rw [h1m]; exact hm⟩
    simpa [midPass, hch] using hc

open Nq.Lemmas.SchedSleep in
/-- the same for a finished message waiting in pqdone (e.g. after a failed bounce injection: `now + SLEEP_SYSFAIL`) -/
theorem C15_sleep_hist_done (s : HSt) (sn : Nq.SelPrep.Snap) (hwf : WF s) (hs : SnapOf s sn) (h0 : 0 ≤ s.clock)
    (e : Elt) (he : e ∈ s.done.toList) :
    (e.dt ≤ s.clock → Nq.SelPrep.timeout sn = 0) ∧
    (s.clock < e.dt → Nq.SelPrep.timeout sn ≤ e.dt - s.clock + Nq.SelPrep.SLEEP_FUZZ) := by
  rw [← hs.recent] at h0 ⊢
  refine timeout_prompt_heap sn h0 hwf.heapDone (fun m hm => ?_) he
  rw [mem_startableDues]
  exact ⟨hs.running, Or.inr (Or.inr (by rw [hs.done]; exact hm))⟩

/-- non-vacuity, and the excluded case.  Local channel mid-pass with its only slot taken, remote message due at +400, todo
rescan at +1500: the daemon sleeps 401 s; returning at +401 is prompt, returning at +1000 (what a select preparation that
gives up as soon as any channel is mid-pass would do) is "slept through".  Complement: the head of the heap of the channel
that IS mid-pass is not startable and does not shorten the sleep. -/
def exSnap : Nq.SelPrep.Snap :=
  { recent := 1000000000, chans := [{ used := 1, conc := 1, passOpen := true }, { conc := 2, pqMin := some 1000000400 }],
    jobRefs := [1, 0, 0], nexttodorun := 1000001500, cleanuptime := 1000076431 }
example : startableDues exSnap = [1000000400] ∧ Nq.SelPrep.timeout exSnap = 401 ∧
    sleptThrough exSnap 1000000401 = false ∧ sleptThrough exSnap 1000001000 = true := by decide
example : let s : Nq.SelPrep.Snap := { exSnap with chans := [{ used := 1, conc := 1, passOpen := true, pqMin := some 1000000100 }, { conc := 2 }] }
    startableDues s = [] ∧ Nq.SelPrep.timeout s = 1501 := by decide
example : SnapOf { clock := 1000000000, q1 := #[⟨1000000400, 9⟩] } exSnap ∧ midPass exSnap .rem = false ∧ midPass exSnap .loc = true :=
  ⟨⟨rfl, rfl, by decide, ⟨_, _, rfl, by decide, by decide⟩, by decide⟩, by decide, by decide⟩

/-! ### Passes that are not atomic (`Nq.SchedPass`): open / one record / one report / job_close as separate steps

The `C15_hist_*` theorems are about `Nq.SchedHist.step`, where a pass is ONE step (opened, every recipient started
and answered, job_close — at one clock value): they cover *uninterrupted* passes.  The real daemon spreads a pass over many
iterations of its loop; the clock moves, the other channel works, reports of earlier jobs arrive, TERM arrives in
between.  The `C15_pass_*` theorems are about `Nq.SchedPass.pstep`, which has those interleavings.  Two things change:

* the retry time of a pass is computed from `recent` when the job is OPENED (`jo[].retry = nextretry(birth,c)` in
  pass_dochan), not when a recipient fails and not when the message is re-inserted.  "Strictly in the future" holds
  at the moment the job is opened; when the pass lasts longer than the back-off the re-inserted due time is already past
  (complement `example` below) — the guarantee is "not before the back-off time computed at open".
* a pass can be cut short by TERM: pass_dochan returns at once under flagexitasap, the daemon waits only for deliveries
  in flight (del_canexit), the pass keeps its job reference so job_close never re-inserts, and pqfinish() walks only
  pqchan[].  Before /repo be3a18d the channel file then kept its old mtime and the recipients deferred in that pass were
  retried right after the restart (`C15_term_midpass_mutant`; found by the `W` scenarios of this check).  Since be3a18d
  `pass_finish()` stamps the file with `jo[].retry` iff recipients were deferred (`numtodo != 0`): `persist = true`,
  `Nq.SchedPass.codeNow`. -/

open Nq.SchedPass Nq.Lemmas.SchedPass

/-- **Well-formedness of the fine-grained state is an invariant** of every quiet step (clock tick, TERM, exit, restart,
opening a pass, reading one record, one report — on either channel), for the exit as it is and as it was. -/
theorem C15_pass_wf (persist : Bool) (s : PSt) (hw : WFp s) (x : PStep) (hq : x.quiet = true) : WFp (pstep persist s x) :=
  wfp_pstep hw persist x hq

/-- **No early retry with interrupted passes** (general form).  In a well-formed state a report for record `pos` of the open
job `j` of message `i` on channel `c` leaves the record 'T' (deferral, or a mangled report).  Then for EVERY quiet
continuation `mid` — clock ticks, TERM at any moment, the exit of the daemon as soon as nothing is in flight, restart,
further opens / records / reports on either channel for any message, in any order and number — whenever `pass_dochan(c)`
starts message `i` again the clock has reached `j.job.retry`, which is `nextretry` of the time the job was OPENED, was
strictly in the future at that time and has the quadratic form.  For the exit as it was before be3a18d
(`persist = false`) this needs `NoCut`: the daemon never exits while a job of `i` is open on `c`. -/
theorem C15_pass_backoff_gen (persist : Bool) (s : PSt) (hw : WFp s) (c : Chan) (i pos : Nat) (letter : Byte) (j : OJob) (m : Msg)
    (hup : s.up = true) (hj : s.job? c i = some j) (hin : j.inflight.contains pos = true) (hm : s.h.find i = some m)
    (hstay : (report j.job.dying letter (str "report\n")).staysTodo = true)
    (hage : j.opened - m.birth < 4294967296)
    (mid : List PStep) (hq : allQuiet mid)
    (hcut : persist = true ∨ NoCut persist i c (reportSt s c i pos letter) mid)
    (pe : Elt) (hagain : startedP (prun persist (reportSt s c i pos letter) mid) c = some pe) (hid : pe.id = i) :
    j.job.retry = nextretry j.opened m.birth c ∧ j.opened < j.job.retry ∧
    (m.birth ≤ j.opened → IsRetry j.opened m.birth c j.job.retry) ∧
    j.job.retry ≤ (prun persist (reportSt s c i pos letter) mid).h.clock := by
  obtain ⟨hjm, hji⟩ := job?_some hj
  obtain ⟨m', hm', _, hret⟩ := hw.jobFile c j hjm
  rw [hji, hm] at hm'; cases hm'
  obtain ⟨hfut, hform⟩ := C15_future j.opened m.birth c hage
  refine ⟨hret, by rw [hret]; exact hfut, by rw [hret]; exact hform, ?_⟩
  have ho := owedP_init_report hw hup hj hin hm hstay
  have hw2 := wfp_prun persist mid _ (wfp_reportSt hw c i pos letter) hq
  have ho2 := owedP_prun persist mid _ (wfp_reportSt hw c i pos letter) ho hq hcut
  exact owedP_started hw2 ho2 hagain hid

/-- **No early retry with interrupted passes, for qmail-send.c as it is** (`codeNow`: the repaired exit): no side
condition — the schedule of a message whose pass was cut short by TERM survives the clean restart. -/
theorem C15_pass_backoff (s : PSt) (hw : WFp s) (c : Chan) (i pos : Nat) (letter : Byte) (j : OJob) (m : Msg)
    (hup : s.up = true) (hj : s.job? c i = some j) (hin : j.inflight.contains pos = true) (hm : s.h.find i = some m)
    (hstay : (report j.job.dying letter (str "report\n")).staysTodo = true)
    (hage : j.opened - m.birth < 4294967296)
    (mid : List PStep) (hq : allQuiet mid)
    (pe : Elt) (hagain : startedP (prun codeNow (reportSt s c i pos letter) mid) c = some pe) (hid : pe.id = i) :
    j.job.retry = nextretry j.opened m.birth c ∧ j.opened < j.job.retry ∧
    (m.birth ≤ j.opened → IsRetry j.opened m.birth c j.job.retry) ∧
    j.job.retry ≤ (prun codeNow (reportSt s c i pos letter) mid).h.clock :=
  C15_pass_backoff_gen codeNow s hw c i pos letter j m hup hj hin hm hstay hage mid hq (Or.inl rfl) pe hagain hid

/-- **A cut pass without a deferral: the exit leaves the channel file alone.**  When the daemon exits while the pass on message
`i` is still open and no recipient was deferred in it (`numtodo = 0`), the exit does not touch the mtime of its channel file —
pqstart() of the next process schedules it where the file says, so the recipients that were not tried yet are not delayed by
the back-off.  (That the message is then due at once is not part of the statement: in the real file system that mtime is the
time of the last mark or of the last pqfinish, not later than now; the `example` after `C15_term_midpass_mutant` shows it.) -/
theorem C15_cut_no_deferral_unchanged (s : PSt) (hw : WFp s) (c : Chan) (i : Nat) (j : OJob) (m : Msg)
    (hup : s.up = true) (hex : s.exitasap = true) (hnf : nothingInFlight s = true)
    (hj : s.job? c i = some j) (hd : j.deferred = 0) (hm : s.h.find i = some m) :
    ∃ m', (pfinSt codeNow s).h.find i = some m' ∧ m'.mt c = m.mt c ∧ m'.recs c = m.recs c ∧ (pfinSt codeNow s).up = false := by
  obtain ⟨hjm, hji⟩ := job?_some hj
  have hnq : i ∉ ids (s.h.q c) := by rw [← hji]; exact hw.jobNotQ c j hjm
  rcases pfinSt_cases codeNow s with ⟨_, hno⟩ | ⟨_, _, _, h⟩
  · exact absurd ⟨hup, hex, hnf⟩ hno
  · rw [h]
    -- no `utimes` of `pass_finish()` goes to the file: its job has nothing deferred
    have hni : i ∉ (cutList codeNow (s.jobs c)).map (·.id) := by
      intro hin
      obtain ⟨e, he, hei⟩ := List.mem_map.mp hin
      obtain ⟨_, x, hx, ⟨_, hxd⟩, rfl⟩ := mem_cutList.mp he
      have hxj : x = j := eq_of_nodup_map (·.id) _ (hw.jobNodup c) x hx j hjm (hei.trans hji.symm)
      subst hxj; omega
    refine ⟨_, by rw [touch_find, finSt_eq, finWith_find, hm]; rfl, ?_, by rw [touched_recs, touched_recs], rfl⟩
    -- nor does `pqfinish()` touch it: the message is not on the heap
    rw [touched_mt, mtOf_notin i _ _ hni, touched_mt]
    exact (exitCalls_mt hw.wf _ c i _).2 (Or.inl hnq)

/-- the queue of the minimal scenario of the finding: one local message (born at T0−50, due), one recipient; daemon started at T0 -/
def exP0 : PSt := prun true { h := { lifetime := 604800 } } [.mk 213 .loc 999999950 999999995 1, .tick 1000000000, .load]
/-- pass opened at T0 (retry T0+239), the delivery started; TERM at T0+10; the report Z arrives at T0+50; the daemon exits; restart -/
def exCut : List PStep := [.open .loc, .next .loc, .tick 10, .term, .tick 40, .report .loc 213 0 90, .fin, .load]

/-- **The pre-fix behaviour, as a documented mutant** (`persist = false`, qmail-send.c before be3a18d): the same history on
which the repaired exit keeps the message scheduled at its back-off time T0+239 lets the old exit start the deferred
recipient again at T0+50 — in the second of the deferral, 189 s early.  (Observed on the real code by the `W` scenario
`cl=1/end=600/term=10/out=Z/dur=50/m=p1.0.50.-5.0`; reverting be3a18d in a scratch copy makes the check report it.) -/
theorem C15_term_midpass_mutant :
    allQuiet exCut ∧
    (startedP (prun false exP0 exCut) .loc = some ⟨999999995, 213⟩ ∧ (prun false exP0 exCut).h.clock = 1000000050 ∧
      ((prun false exP0 [.open .loc, .next .loc]).job? .loc 213).map (·.job.retry) = some 1000000239) ∧
    (startedP (prun true exP0 exCut) .loc = none ∧ (prun true exP0 exCut).h.q0.toList = [⟨1000000239, 213⟩] ∧
      startedP (prun true exP0 (exCut ++ [.tick 189])) .loc = some ⟨1000000239, 213⟩) := by
  refine ⟨?_, by decide, by decide⟩
  unfold allQuiet; decide

/-- no deferral in the cut pass (two recipients, the first one delivered): due at once after the restart -/
example : startedP (prun codeNow (prun true { h := { lifetime := 604800 } } [.mk 213 .loc 999999950 999999995 2, .tick 1000000000, .load])
    [.open .loc, .next .loc, .tick 10, .term, .tick 40, .report .loc 213 0 75, .fin, .load]) .loc = some ⟨999999995, 213⟩ := by decide

/-- complement to "strictly in the future": the retry time is computed when the job is opened; a pass that lasts longer than
the back-off (here the report arrives 300 s after the open, back-off 239 s) re-inserts the message with a due time that is
already past, and it is started again at once -/
example : let s := prun codeNow exP0 [.open .loc, .next .loc, .tick 300, .report .loc 213 0 90, .next .loc]
    s.h.q0.toList = [⟨1000000239, 213⟩] ∧ s.h.clock = 1000000300 ∧ startedP s .loc = some ⟨1000000239, 213⟩ := by decide

/-- the atomic pass of `Nq.SchedHist` is the uninterrupted special case: open, every record read and answered at once, EOF -/
example : (prun codeNow exP0 (atomicPass .loc 213 [true] [90])).h.q0.toList =
    (Nq.SchedHist.step exP0.h (.pass .loc [90])).1.q0.toList := by decide
example : let s := prun true { h := { lifetime := 604800 } } [.mk 7 .rem 1000 2000 3, .tick 5000, .load]
    (prun codeNow s (atomicPass .rem 7 [true, true, true] [75, 90, 68])).h.q1.toList = (Nq.SchedHist.step s.h (.pass .rem [75, 90, 68])).1.q1.toList ∧
    ((prun codeNow s (atomicPass .rem 7 [true, true, true] [75, 90, 68])).h.find 7).map (·.recs1) =
      ((Nq.SchedHist.step s.h (.pass .rem [75, 90, 68])).1.find 7).map (·.recs1) := by decide

/-! ## The failure paths as history events (`Nq.SchedFail.fstep`)

`messdone` with its pqdone re-insertion, the "trouble reading" / "unknown record type" exits of `pass_dochan`, `utimes` failure
in `pqfinish` are further events of the atomic-pass history model (`FStep` = every `Step` + `done f` + `passCut c l k` +
`finF bad`); the history theorems hold over the larger event set.  (`job_close`'s unlink failure is `Fault.unlink`,
part of `Step.pass` already.) -/

open Nq.SchedFail Nq.Lemmas.SchedFail

/-- **Well-formedness over the larger event set**: every `Step` (`FStep.old`), a `messdone` run with ANY failing call, a pass cut
short at ANY record, `pqfinish` with `utimes` failing on ANY set of files. -/
theorem C15_fail_wf (s : HSt) (x : FStep) (hwf : WF s) : WF (fstep s x).1 := by
  cases x with
  | old y => exact C15_hist_wf s y hwf
  | done f => exact wf_doneSt hwf f
  | passCut c l k => exact wf_passCutSt hwf c l k
  | finF bad => exact wf_finFSt hwf bad

theorem C15_fail_wf_run (l : List FStep) : ∀ s : HSt, WF s → WF (frun s l) :=
  fun _ h => List.foldlRecOn l _ h fun s hs x _ => C15_fail_wf s x hs

/-- **Nothing is lost, with the failure paths.**  `Tracked` (every existing channel file is on its channel heap, every message
without channel files is in pqdone) is kept by a `messdone` run whatever call fails — a failure puts the message back into
pqdone, a "false alarm" (channel file still there, HOPEFULLY) drops the pqdone entry of a message that is on a channel heap —,
by a pass cut short at any record, and is re-established by `pqstart` after an exit with failing `utimes`.  A message record
disappears from the disk in a `messdone` run only if NO call failed, it had no channel file left and its pqdone entry was due;
a cut pass and an exit with failing `utimes` keep every message record. -/
theorem C15_fail_noloss (s : HSt) (hwf : WF s) (ht : Tracked s) :
    (∀ f, Tracked (fstep s (.done f)).1) ∧ (∀ c l k, Tracked (fstep s (.passCut c l k)).1) ∧
    (∀ bad, Tracked (frun s [.finF bad, .old .load])) ∧
    (∀ f m, s.find m.id = some m → (fstep s (.done f)).1.find m.id = none →
      f = .none ∧ m.recs0 = none ∧ m.recs1 = none ∧ ∃ e ∈ s.done.toList, e.id = m.id ∧ e.dt ≤ s.clock) ∧
    (∀ c l k i m, s.find i = some m → ∃ m', (fstep s (.passCut c l k)).1.find i = some m' ∧ m'.birth = m.birth) ∧
    (∀ bad, (fstep s (.finF bad)).1.msgs.map (·.id) = s.msgs.map (·.id)) :=
  ⟨fun f => tracked_doneSt hwf ht f, fun c l k => tracked_passCutSt hwf ht c l k, fun bad => tracked_loadSt (finFSt s bad),
   fun f m hm hg => doneSt_gone hwf f m hm hg, fun c l k i m hm => passCutSt_birth hwf c l k i m hm,
   fun bad => finWith_ids (fun c i => decide ((c, i) ∉ bad)) s⟩

/-- **`messdone` in full: a failure only delays, earliest-due first.**  The pqdone part of `pass_do()` touches pqdone only when
its minimum `pe` is due (`pe.dt ≤ clock`, and no entry is due earlier); then pqdone is either the rest (message finished, false
alarm, or info file already gone) or the rest plus `⟨now + SLEEP_SYSFAIL, pe.id⟩` — strictly in the future —, and after ANY
failing call (`f ≠ none`) whose message exists without channel files it is the latter: the message is still there and still in
pqdone.  The channel heaps are never touched. -/
theorem C15_fail_messdone (s : HSt) (hwf : WF s) (f : MdFault) :
    (∀ c, (fstep s (.done f)).1.q c = s.q c) ∧
    (passStart s.clock true s.done = none → (fstep s (.done f)).1 = s) ∧
    (∀ pe d', passStart s.clock true s.done = some (pe, d') →
      pe.dt ≤ s.clock ∧ (∀ e ∈ s.done.toList, pe.dt ≤ e.dt) ∧ s.done.toList.Perm (pe :: d'.toList) ∧
      ((fstep s (.done f)).1.done = d' ∨
       ((fstep s (.done f)).1.done = d'.insert { dt := s.clock + SLEEP_SYSFAIL, id := pe.id } ∧ s.clock < s.clock + SLEEP_SYSFAIL)) ∧
      (f ≠ .none → ∀ m, s.find pe.id = some m → m.recs0 = none → m.recs1 = none →
        (fstep s (.done f)).1.find pe.id = some m ∧
        (fstep s (.done f)).1.done = d'.insert { dt := s.clock + SLEEP_SYSFAIL, id := pe.id })) := by
  refine ⟨doneSt_q s f, fun hp => doneSt_none f hp, fun pe d' hp => ?_⟩
  have hst := passStart_spec s.clock true s.done d' pe hwf.heapDone hp
  have hsf : s.clock < s.clock + SLEEP_SYSFAIL := by have := sysfail_pos; omega
  have hds : (fstep s (.done f)).1 = messdone (setDone s d') pe.id f := doneSt_some f hp
  rw [hds]
  refine ⟨hst.due, hst.min, hst.perm, ?_⟩
  rcases messdone_cases (setDone s d') pe.id f with ⟨h, hwhy⟩ | h | ⟨h, hnone, _⟩
  · rw [h]; exact ⟨Or.inl rfl, fun _ m hm n0 n1 => absurd ⟨n0, n1⟩ (hwhy m (by rw [setDone_find]; exact hm))⟩
  · rw [h]; exact ⟨Or.inr ⟨rfl, hsf⟩, fun _ m hm _ _ => ⟨hm, rfl⟩⟩
  · rw [h]; exact ⟨Or.inl rfl, fun hf => absurd hnone hf⟩

/-- **"Trouble reading" / "unknown record type": the pass is cut short, the message comes back at its back-off time.**  A pass
that starts message `pe.id` (the due minimum of the channel heap: earliest-due first, as for every pass) and cannot read record
`k` of the channel file re-inserts the message at `nextretry(birth)` — strictly in the future, the quadratic formula — whatever
was reported for the records before `k`, even if none is left to do; the channel file stays, pqdone and the other channel are
untouched, nothing else moves. -/
theorem C15_fail_cut (s : HSt) (hwf : WF s) (c : Chan) (letters : List Byte) (k : Nat) (pe : Elt) (q' : PQ) (m : Msg) (recs : List Bool)
    (hp : passStart s.clock true (s.q c) = some (pe, q')) (hm : s.find pe.id = some m) (hr : m.recs c = some recs)
    (hk : k < recs.length) (hage : s.clock - m.birth < 4294967296) :
    started s c = some pe ∧ pe.dt ≤ s.clock ∧ (∀ e ∈ (s.q c).toList, pe.dt ≤ e.dt) ∧
    s.clock < nextretry s.clock m.birth c ∧
    ((fstep s (.passCut c letters k)).1.q c).toList.Perm ({ dt := nextretry s.clock m.birth c, id := pe.id } :: q'.toList) ∧
    (fstep s (.passCut c letters k)).1.q (other c) = s.q (other c) ∧
    (fstep s (.passCut c letters k)).1.done = s.done ∧
    ∃ m', (fstep s (.passCut c letters k)).1.find pe.id = some m' ∧ (m'.recs c).isSome = true ∧
      m'.recs (other c) = m.recs (other c) := by
  have hst := starts hwf hp
  have hs := sameBut_cutMsg m c recs k (cutAnswer s c letters k m recs)
  refine ⟨by unfold started; rw [hp]; rfl, hst.due, hst.min, (C15_future s.clock m.birth c hage).1, ?_⟩
  show ((passCutSt s c letters k).q c).toList.Perm _ ∧ (passCutSt s c letters k).q (other c) = _ ∧
    (passCutSt s c letters k).done = _ ∧ ∃ m', (passCutSt s c letters k).find pe.id = some m' ∧ _
  rw [passCutSt_run letters k hp hm hr hk]
  exact ⟨by rw [update_q, mkSt_q_same]; exact insert_perm q' _,
    by rw [update_q, mkSt_q_other _ _ _ _ _ (other_ne c)], by rw [update_done, mkSt_done],
    _, by rw [find_chg hm hs, if_pos rfl], by rw [cutMsg_recs_same]; rfl, hs.other_eq⟩

/-- **No early retry, over all quiet histories WITH the failure paths.**  As `C15_hist_backoff`, but the continuation `mid` may also
contain `messdone` runs with any failing call, passes cut short by trouble reading / an unknown record at any record (on either
channel, for any message), and TERM + restart where `utimes` FAILS on any files other than this message's channel file
(`utimesKept`); and the first pass may itself be a cut pass (`first = .passCut`, which always leaves the message to do) instead
of a completed pass that left a recipient to do.  Whenever `pass_dochan(c)` starts the message again, the entry carries a due time
`≥ nextretry(t)` and the clock has reached it: none of these failures makes a retry EARLIER.  The excluded case — `utimes`
failing on this very file — is `C15_fail_utimes` / `C15_fail_utimes_early`. -/
theorem C15_fail_backoff (s : HSt) (hwf : WF s) (c : Chan) (pe : Elt) (m : Msg) (first : FStep)
    (hstart : started s c = some pe) (hm : s.find pe.id = some m)
    (hage : s.clock - m.birth < 4294967296)
    (hfirst : (∃ letters f, first = .old (.pass c letters f) ∧ f.trouble = false ∧
                ∃ m2 recs2, (fstep s first).1.find pe.id = some m2 ∧ m2.recs c = some recs2 ∧ true ∈ recs2) ∨
              (∃ letters k recs, first = .passCut c letters k ∧ m.recs c = some recs ∧ k < recs.length))
    (mid : List QFStep) (hut : utimesKept c pe.id mid) (pe2 : Elt)
    (hagain : started (runQF (fstep s first).1 mid) c = some pe2) (hid : pe2.id = pe.id) :
    s.clock < nextretry s.clock m.birth c ∧ (m.birth ≤ s.clock → IsRetry s.clock m.birth c (nextretry s.clock m.birth c)) ∧
    nextretry s.clock m.birth c ≤ pe2.dt ∧ pe2.dt ≤ (runQF (fstep s first).1 mid).clock := by
  obtain ⟨q', hp⟩ := started_some hstart
  obtain ⟨hfut, hform⟩ := C15_future s.clock m.birth c hage
  refine ⟨hfut, hform, ?_⟩
  have hmono : ∀ t', nextretry s.clock m.birth c ≤ t' → nextretry s.clock m.birth c ≤ nextretry t' m.birth c :=
    fun t' ht => C15_retry_mono s.clock t' m.birth c (by omega)
  have ho : Owed pe.id c m.birth (nextretry s.clock m.birth c) (fstep s first).1 := by
    rcases hfirst with ⟨letters, f, rfl, hf, hleft⟩ | ⟨letters, k, recs, rfl, hr, hk⟩
    · exact owed_init hwf letters hp hm hf hleft
    · exact owed_init_cut letters k hp hm hr hk
  obtain ⟨hwf3, ho3⟩ := owed_runQF hmono mid _ (C15_fail_wf s first hwf) ho hut
  exact owed_started hwf3 ho3 hagain hid

/-- **No early retry, over all quiet histories of UNINTERRUPTED passes.**  A pass on channel `c` at time `t = s.clock`
starts message `pe.id` (born at `m.birth`) and leaves a recipient to do (a temporary failure, or a mangled report).
Then in every continuation made of the `QStep`s — clock changes (forwards or backwards), wake-up computations,
further uninterrupted passes on either channel with arbitrary reports and arbitrary injected system failures
(open/getinfo "trouble", unlink failure, stat failure), and clean restarts (TERM `pqfinish`, new process `pqstart`)
BETWEEN passes — of any length —, whenever `pass_dochan(c)` starts that message again, the entry it starts carries a
due time `≥ birth + (⌊√(t-birth)⌋+skip)²`, and the clock has reached it; that back-off time was strictly in the
future at `t`.
Scope: a pass is ONE step of this model — opened, every recipient answered and job_close at one clock value —
so `t` is at once the time the job is opened, the time of the failure and the time of the re-insertion, and nothing
(in particular no TERM) happens while a pass is open; the first two conjuncts are `C15_future`, the substance is
conjuncts 3–4.  `QStep` has no step that creates or takes in another message (`BStep.arrive` exists for the bounded-time
theorems).  Passes that are interrupted — clock ticks, the other channel, reports of other jobs, TERM + exit + restart while
the pass is open — are covered by `C15_pass_backoff` over `Nq.SchedPass.pstep`, where the back-off time is the one
computed when the job was OPENED.  Not covered, on purpose: ALRM — see `C15_hist_alrm` —, files changed from outside,
crash restarts. -/
theorem C15_hist_backoff (s : HSt) (hwf : WF s) (c : Chan) (letters : List Byte) (f : Fault) (pe : Elt) (m : Msg)
    (hstart : started s c = some pe) (hm : s.find pe.id = some m) (hf : f.trouble = false)
    (hage : s.clock - m.birth < 4294967296)
    (hleft : ∃ m2 recs2, (step s (.pass c letters f)).1.find pe.id = some m2 ∧ m2.recs c = some recs2 ∧ true ∈ recs2)
    (mid : List QStep) (pe2 : Elt)
    (hagain : started (runQ (step s (.pass c letters f)).1 mid) c = some pe2) (hid : pe2.id = pe.id) :
    s.clock < nextretry s.clock m.birth c ∧ (m.birth ≤ s.clock → IsRetry s.clock m.birth c (nextretry s.clock m.birth c)) ∧
    nextretry s.clock m.birth c ≤ pe2.dt ∧ pe2.dt ≤ (runQ (step s (.pass c letters f)).1 mid).clock := by
  rw [← runQF_q] at hagain ⊢
  exact C15_fail_backoff s hwf c pe m (.old (.pass c letters f)) hstart hm hage (Or.inl ⟨letters, f, rfl, hf, hleft⟩)
    (mid.map .q) (fun bad hb => by simp at hb) pe2 hagain hid

/-- **What a failing `utimes` at exit does to the schedule after the restart** (what the code really does; its own warning says
"message will be retried too soon").  After TERM (`pqfinish` with `utimes` failing on the files in `bad`) and a new process
(`pqstart`), channel `c` holds exactly one entry per entry it held before, for the same message; where `utimes` succeeded it has
the same due time (the schedule survives), where it FAILED the entry carries the mtime the channel file had BEFORE the exit — the
time of the last successful `utimes`, of the file's creation, or of the last `markdone` write — and NOT the due time in the heap.
Nothing is lost either way. -/
theorem C15_fail_utimes (s : HSt) (hwf : WF s) (ht : Tracked s) (bad : List (Chan × Nat)) (c : Chan) (e : Elt) :
    e ∈ ((frun s [.finF bad, .old .load]).q c).toList ↔
      ∃ e0 ∈ (s.q c).toList, e0.id = e.id ∧
        (((c, e.id) ∉ bad ∧ e.dt = e0.dt) ∨ ((c, e.id) ∈ bad ∧ ∃ m, s.find e.id = some m ∧ e.dt = m.mt c)) := by
  show e ∈ ((loadSt (finFSt s bad)).q c).toList ↔ _
  rw [finFSt_eq, load_finWith_mem hwf ht]
  simp only [decide_eq_true_eq, decide_eq_false_iff_not, Decidable.not_not]

def exF : HSt := run { lifetime := 604800 } [.mk 7 .loc 1000 2000 2, .load, .clock 2000]
def exF1 : HSt := (fstep exF (.old (.pass .loc [90]))).1

/-- **Complement of `C15_fail_backoff` (the clause "the schedule survives a clean restart" does NOT hold under a failing utimes)**,
by evaluation: message 7 (born 1000) is deferred at 2000, its back-off time is 1000 + (31 + 10)² = `nextretry 2000 1000 loc` = 2681 and it
is scheduled there; TERM with `utimes` failing on local/7, restart: the entry is back at the file's old mtime 2000 and the very
next pass — one second after the deferral — starts it again, 680 s before its back-off time.  With `utimes` succeeding it stays
at 2681. -/
theorem C15_fail_utimes_early :
    exF1.q0.toList = [⟨2681, 7⟩] ∧ nextretry 2000 1000 .loc = 2681 ∧
    (frun exF1 [.finF [(.loc, 7)], .old .load]).q0.toList = [⟨2000, 7⟩] ∧
    started (frun exF1 [.finF [(.loc, 7)], .old .load, .old (.clock 2001)]) .loc = some ⟨2000, 7⟩ ∧
    (frun exF1 [.finF [], .old .load]).q0.toList = [⟨2681, 7⟩] ∧
    started (frun exF1 [.finF [], .old .load, .old (.clock 2001)]) .loc = none := by decide

example : WF exF ∧ Tracked exF := by
  exact ⟨C15_hist_wf_run _ _ (C15_hist_init 604800 0 0).1, tracked_clock (tracked_loadSt _) 2000⟩
/-- a cut pass: record 0 delivered, record 1 unreadable: the message is back on the heap at 2681 with its one `T` record left;
with k = 0 nothing is tried and it is back at 2681 as well -/
example : ((fstep exF (.passCut .loc [75] 1)).1.q0.toList = [⟨2681, 7⟩]) ∧
    ((fstep exF (.passCut .loc [75] 1)).1.find 7).map (·.recs0) = some (some [false, true]) ∧
    ((fstep exF (.passCut .loc [75] 0)).1.q0.toList = [⟨2681, 7⟩]) ∧
    ((fstep exF (.passCut .loc [75] 0)).1.find 7).map (·.recs0) = some (some [true, true]) := by decide
/-- messdone: message 7 finishes (both delivered) → pqdone at 2000; messdone with a failing unlink of info/7 → back into pqdone at
2123, message still on disk; without failure → gone from disk, pqdone empty; not yet due → nothing happens -/
example : let s := (fstep exF (.old (.pass .loc [75]))).1
    s.done.toList = [⟨2000, 7⟩] ∧ (fstep s (.done .unlinkInfo)).1.done.toList = [⟨2123, 7⟩] ∧
    ((fstep s (.done .unlinkInfo)).1.find 7).isSome = true ∧
    (fstep s (.done .none)).1.done.toList = [] ∧ ((fstep s (.done .none)).1.find 7).isNone = true ∧
    (frun s [.done .statLoc, .done .none]).done.toList = [⟨2123, 7⟩] ∧
    (frun s [.done .bounce, .old (.clock 2123), .done .none]).msgs.length = 0 := by decide
example : utimesKept .loc 7 [.restartF [(.rem, 7), (.loc, 9)], .done .statTodo, .passCut .rem [90] 0, .q (.clock 5)] := by
  intro bad hb
  simp only [List.mem_cons, List.mem_nil_iff, or_false] at hb
  rcases hb with h | h | h | h
  · cases h; decide
  all_goals cases h

end Nq.Props.C15
