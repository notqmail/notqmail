/-
  C16 — New mail wakes the daemon: no lost trigger, no busy loop, never sleeps past its earliest due event.

  Part 1 (trigger protocol).  Model: `Nq.Trigger`.  Tie: the real qmail-queue (two instances) and the real
  qmail-send run as threads under qsim with every interleaving of their trigger-related system calls
  enumerated (`harness/c16_trigger.c`); each trace is abstracted to `Trigger.Ev` and replayed through
  `Trigger.accept`.  Safety: `C16_no_lost_wakeup`, `C16_covered`, `C16_scan_complete`, `C16_order`.
  Liveness in a bounded number of steps: `C16_bounded`, `C16_progress`, `C16_bounded_run`.
  Which guards of the acceptor the invariant rests on: `C16_order_opendir_guard_removed`, `C16_guards_necessary`, over
  the acceptor with single guards dropped (`Nq.TriggerRelaxed`).

  Part 2 (select preparation).  Model: `Nq.SelPrep` — `main()`'s `wakeup`/`timeout` computation through
  pass_selprep, todo_selprep, cleanup_selprep and the descriptor sets of comm_selprep, del_selprep,
  trigger_selprep, as a function of a snapshot of the daemon's globals.  Tie: `harness/c16_selprep.c` and
  `harness/c16_trigger.c` read that snapshot out of the running qmail-send at every `select` and print it with
  the timeout and descriptor sets the real code passed.  Theorems: `C16_no_spin`, `C16_early_return_acts`,
  `C16_sleep_justified`, `C16_exit_when_drained`, `C16_pre_epoch`.
  "Earliest due event" independently of the heap root: `C16_never_past_any_queued` (over ALL entries of the four
  priority queues, `Nq.Spec.SelQueued`; premise `HeapRoots`, discharged for prioq.c's model by `C16_roots_of_heap`
  from C15's heap invariant and checked on the implementation's arrays by the driver).
  The todo scan in the timeout: `C16_first_scan_unconditional`, `C16_rescan_backstop`.

  Part 3 (descriptor numbers, `Nq.SelFds`): the sets handed to select() as numbers and `nfds`: `C16_nfds_covers`,
  `C16_wake_fds_watched`, `C16_wake_fds_exact`, `C16_wake_oracle`.
-/
import Nq.Trigger
import Nq.Lemmas.TriggerLive
import Nq.Lemmas.SelPrep
import Nq.Lemmas.SelQueued
import Nq.Lemmas.SchedHeap
import Nq.Gen.SendLoop
import Nq.Lemmas.SelFds
import Nq.TriggerRelaxed

namespace Nq.Props.C16
open Nq Nq.Trigger

/-- a wake-up is pending or a scan that will find `n` is under way -/
def Covered (s : St) (n : Nat) : Prop :=
  s.buf = true ∨ s.d = .closed ∨ s.d = .reopened ∨ ∃ rem, s.d = .scanning rem ∧ n ∈ rem

/-- `open_iff`: the daemon holds the FIFO open except between the close and the open of a re-arm (`closed`). -/
structure Inv (s : St) : Prop where
  cov : ∀ n, pulled (s.pc n) = true → n ∈ s.todo → Covered s n
  open_iff : s.dOpen = false ↔ s.d = .closed
  nodup : s.todo.Nodup

theorem inv_init : Inv {} := by
  refine ⟨?_, by simp, by simp⟩
  intro n h; simp [pulled] at h

theorem covered_idle {s : St} {n : Nat} (hd : s.d = .idle) : Covered s n ↔ s.buf = true := by
  simp [Covered, hd]

theorem covered_scanning {s : St} {n : Nat} {rem : List Nat} (hd : s.d = .scanning rem) :
    Covered s n ↔ s.buf = true ∨ n ∈ rem := by
  simp [Covered, hd]

/-- an injector's step leaves the daemon where it is -/
theorem covered_mono {s s' : St} {n : Nat} (hd : s'.d = s.d) (hb : s.buf = true → s'.buf = true) :
    Covered s n → Covered s' n := by
  unfold Covered; rw [hd]; exact Or.imp_left hb

theorem covered_closed {s : St} {n : Nat} (hd : s.d = .closed) : Covered s n := .inr (.inl hd)

theorem inv_opendir {s : St} (hi : Inv s) (hd : s.d ≠ .closed) : Inv { s with d := .scanning s.todo } :=
  ⟨fun k _ hm => (covered_scanning rfl).2 (.inr hm), by rw [hi.open_iff]; simp [hd], hi.nodup⟩

theorem step_inv (s s' : St) (e : Ev) (hi : Inv s) (h : accept s e = some s') : Inv s' := by
  have ⟨hcov, hopen, _⟩ := hi
  have hnd := nodup_step h hi.nodup
  cases accept_step s s' e h with
  | iLink n hg =>
    refine ⟨fun k hk hmem => ?_, hopen, hnd⟩
    rcases pulled_upd hk with ⟨_, hv⟩ | ⟨hkn, hk⟩
    · cases hv
    · exact covered_mono rfl id (hcov k hk ((List.mem_cons.1 hmem).resolve_left hkn))
  | iOpen n ok hg =>
    cases ok
    · -- ENXIO: no reader, i.e. the daemon is inside trigger_set
      exact ⟨fun k _ _ => covered_closed (hopen.1 hg.2.symm), hopen, hnd⟩
    · refine ⟨fun k hk hmem => ?_, hopen, hnd⟩
      rcases pulled_upd hk with ⟨_, hv⟩ | ⟨_, hk⟩
      · cases hv
      · exact covered_mono rfl id (hcov k hk hmem)
  | iWrite n ok hg =>
    -- EPIPE: the daemon is inside trigger_set; otherwise the byte makes the FIFO readable: either way every entry is covered
    refine ⟨fun k _ _ => ?_, hopen, hnd⟩
    cases ok
    · exact covered_closed (hopen.1 hg.2.symm)
    · exact .inl (Bool.or_true _)
  | iClose n hg =>
    refine ⟨fun k hk hmem => ?_, hopen, hnd⟩
    cases hdo : s.dOpen
    · exact covered_closed (hopen.1 hdo)
    · have hk' : pulled (s.pc k) = true := by
        rcases pulled_upd hk with ⟨rfl, _⟩ | ⟨_, hk⟩
        · rw [hg.1]; rfl
        · exact hk
      exact covered_mono (s := s) rfl (by simp) (hcov k hk' hmem)
  | dClose => exact ⟨fun k _ _ => covered_closed rfl, by simp, hnd⟩
  | dOpen => exact ⟨fun k _ _ => .inr (.inr (.inl rfl)), by simp, hnd⟩
  | dOpendir hg => exact inv_opendir hi (by simp [hg])
  | dSeeNew n rem hd hg =>
    refine ⟨fun k hk hmem => ?_, by rw [hopen, hd]; simp, hnd⟩
    exact (covered_scanning rfl).2 (((covered_scanning hd).1 (hcov k hk hmem)).imp_right (List.mem_cons_of_mem _))
  | dRead n rem hd hg =>
    refine ⟨fun k hk hmem => ?_, by rw [hopen, hd]; simp, hnd⟩
    have hkn : k ≠ n := fun he => List.Nodup.not_mem_erase hi.nodup (he ▸ hmem)
    exact (covered_scanning rfl).2
      (((covered_scanning hd).1 (hcov k hk (List.mem_of_mem_erase hmem))).imp_right (List.mem_erase_of_ne hkn).2)
  | dEnd hd =>
    refine ⟨fun k hk hmem => ?_, by rw [hopen, hd]; simp, hnd⟩
    exact .inl (((covered_scanning hd).1 (hcov k hk hmem)).resolve_right List.not_mem_nil)

theorem inv_idle_buf {s : St} (hi : Inv s) {n : Nat} (hp : pulled (s.pc n) = true) (hm : n ∈ s.todo)
    (hd : s.d = .idle) : s.buf = true :=
  (covered_idle hd).1 (hi.cov n hp hm)

def Reach (s : St) : Prop := ∃ evs, acceptAll {} evs = some s

theorem reach_inv (s : St) (h : Reach s) : Inv s := by
  obtain ⟨evs, h⟩ := h
  exact Acceptor.foldlM_induct Inv (fun s e s' => step_inv s s' e) evs {} s inv_init (acceptAll_eq evs {} ▸ h)

/-- **No lost wake-up**, for every interleaving of any number of injectors with the daemon: whenever
the daemon is outside a todo scan and some injector has completed its publish-then-signal steps for
an entry that is still unprocessed, the trigger descriptor is readable — `select` returns at once,
without the periodic rescan. -/
theorem C16_no_lost_wakeup (s : St) (h : Reach s) (n : Nat) (hp : pulled (s.pc n) = true) (hm : n ∈ s.todo)
    (hd : s.d = .idle) : s.buf = true :=
  inv_idle_buf (reach_inv s h) hp hm hd

/-- **A scan in progress covers it**: if the wake-up is not pending, the daemon is inside
`trigger_set()`/before `opendir` (so the coming scan starts after the link), or its open directory
stream will still return the entry. -/
theorem C16_covered (s : St) (h : Reach s) (n : Nat) (hp : pulled (s.pc n) = true) (hm : n ∈ s.todo) : Covered s n :=
  (reach_inv s h).cov n hp hm

/-- ACCEPTOR GUARD, not a proved consequence: this restates the guard of `Trigger.accept` for `dEnd` ("readdir returns
NULL only after it has returned every entry the stream covers": `closedir` needs `rem = []`).  It is an ASSUMPTION of
the model that the invariant rests on; its support is the trace replay — every enumerated interleaving of the real
programs must be accepted by `Trigger.accept` (driver: DISAGREE on a rejected event).  It additionally assumes that
readdir does not skip entries while the daemon itself unlinks todo/ entries in the middle of the scan (true of
harness/sim.c, which is the only file system it is exercised on).  That it cannot be more than a guard is proved:
with this guard alone removed a lost wake-up is reachable (`C16_guards_necessary`, `endEarly`). -/
theorem C16_scan_complete (s s' : St) (h : accept s .dEnd = some s') : s.d = .scanning [] := by
  cases accept_step s s' _ h with
  | dEnd hd => exact hd

/-- ACCEPTOR GUARDS, not proved consequences: this restates two guards of `Trigger.accept`.  **Order in the daemon**:
`opendir` is accepted only right after the FIFO was reopened (`trigger_set` precedes `opendir`); **order in the
injector**: the trigger is opened only after the link.  These are the two ASSUMPTIONS about the programs the invariant
rests on; they are validated by replaying every enumerated trace of the real programs through the acceptor (a program
that swaps them produces a rejected event: DISAGREE, and the oracle then finds the lost wake-up).
Precisely: the invariant does NOT need "opendir only right after trigger_set" (`C16_order_opendir_guard_removed`: it
holds for every trace with that guard removed; the order matters for the no-spin half); it DOES need "link before pull" and "a
re-arm is followed by a scan" (`C16_guards_necessary`: a lost wake-up is reachable with either removed). -/
theorem C16_order (s s' : St) :
    (accept s .dOpendir = some s' → s.d = .reopened) ∧ (∀ n ok, accept s (.iOpen n ok) = some s' → s.pc n = .linked) := by
  constructor
  · intro h
    cases accept_step s s' _ h with
    | dOpendir hd => exact hd
  · intro n ok h
    cases accept_step s s' _ h with
    | iOpen _ _ hg => exact hg.1

/-! ### Which guards does the invariant rest on? (`Nq.TriggerRelaxed`) -/

/-- of the steps the relaxations add, `opendir` straight from `idle` keeps the invariant: the stream it opens holds all of todo/ -/
theorem extra_inv (r : Relax) (hp : r.pullBeforeLink = false) (hs : r.skipScan = false) (he : r.endEarly = false)
    (s s' : St) (e : Ev) (hi : Inv s) (h : extra r s e = some s') : Inv s' := by
  cases e <;> simp only [extra, hp, hs, he, Bool.false_eq_true, false_and, if_false, reduceCtorEq] at h
  case dOpendir =>
    obtain ⟨hg, rfl⟩ := Lemmas.of_ite_some h
    exact inv_opendir hi (by simp [hg.2])
  case dEnd => split at h <;> cases h

theorem stepX_inv (r : Relax) (hp : r.pullBeforeLink = false) (hs : r.skipScan = false) (he : r.endEarly = false)
    (s s' : St) (e : Ev) (hi : Inv s) (h : acceptX r s e = some s') : Inv s' := by
  unfold acceptX at h
  cases h1 : accept s e with
  | some s2 => rw [h1] at h; cases h; exact step_inv s s' e hi h1
  | none => rw [h1] at h; exact extra_inv r hp hs he s s' e hi h

/-- **The daemon half of `C16_order` with the guard REMOVED.**  Over the traces of the acceptor in which `opendir(todo)` is
accepted WITHOUT a preceding `trigger_set()` as well (`opendirAnywhere`; the language contains every trace of `accept`), the
invariant still holds in every reachable state, hence no wake-up is lost: "trigger_set precedes opendir" is not an assumption
the no-lost-wake-up theorem rests on.  What the program's order buys is the other half of the property (no busy loop: a scan
that does not re-arm first leaves the FIFO readable); the half that matters for safety is "never AFTER" — see
`C16_guards_necessary`, `skipScan`. -/
theorem C16_order_opendir_guard_removed (evs : List Ev) (s : St)
    (h : acceptAllX { opendirAnywhere := true } {} evs = some s) :
    Inv s ∧ ∀ n, pulled (s.pc n) = true → n ∈ s.todo → s.d = .idle → s.buf = true := by
  have hi := Acceptor.foldlM_induct Inv (fun s e s' => stepX_inv _ rfl rfl rfl s s' e) evs {} s inv_init
    (acceptAllX_eq _ evs {} ▸ h)
  exact ⟨hi, fun n => inv_idle_buf hi⟩

/-- **The other guards cannot be more than guards**: with any ONE of them removed a lost wake-up (`Trigger.lost`: daemon
outside a scan, injection 5 complete and unprocessed, FIFO not readable) is reachable — so they are not consequences of
anything else in the model; they are assumptions about the programs (order of the calls in qmail-queue.c `main` and
qmail-send.c `todo_do`) and about the file system (readdir), and their only possible support is the replay of the real
programs' traces through `Trigger.accept` (DISAGREE on a rejected event).
* `pullBeforeLink` (injector half of `C16_order` removed): the injector pulls, the daemon re-arms and scans an empty todo,
  then the injector links;
* `skipScan` ("trigger_set … never after": re-arm not followed by a scan — `todo_do` re-arming after its scan): the entry is
  linked and the pull lands during the scan that does not see it, then the re-arm clears the FIFO;
* `endEarly` (`C16_scan_complete` removed): injection while the daemon is between close and reopen (ENXIO), the scan covers the
  entry but readdir returns NULL first. -/
theorem C16_guards_necessary :
    (∃ evs, (acceptAllX { pullBeforeLink := true } {} evs).any (fun s => lost s 5) = true)
    ∧ (∃ evs, (acceptAllX { skipScan := true } {} evs).any (fun s => lost s 5) = true)
    ∧ (∃ evs, (acceptAllX { endEarly := true } {} evs).any (fun s => lost s 5) = true) := by
  refine ⟨⟨[.dOpen, .dClose, .dOpen, .dOpendir, .dEnd, .iOpen 5 true, .iWrite 5 true, .iClose 5,
            .dClose, .dOpen, .dOpendir, .dEnd, .iLink 5], by decide⟩,
          ⟨[.dOpen, .dClose, .dOpen, .dOpendir, .iLink 5, .iOpen 5 true, .iWrite 5 true, .iClose 5, .dEnd,
            .dClose, .dOpen, .dEnd], by decide⟩,
          ⟨[.dOpen, .dClose, .iLink 5, .iOpen 5 false, .dOpen, .dOpendir, .dEnd], by decide⟩⟩

/-- none of these traces is accepted by the real acceptor (the guards are what rejects them); that without relaxation the
relaxed acceptor is the real one is `Trigger.acceptX_none` -/
example : acceptAll {} [.dOpen, .dClose, .dOpen, .dOpendir, .dEnd, .iOpen 5 true] = none := by decide
example : acceptAll {} [.dOpen, .dClose, .dOpen, .dOpendir, .iLink 5, .iOpen 5 true, .iWrite 5 true, .iClose 5, .dEnd, .dClose, .dOpen, .dEnd] = none := by decide
example : acceptAll {} [.dOpen, .dClose, .iLink 5, .iOpen 5 false, .dOpen, .dOpendir, .dEnd] = none := by decide
/-- `C16_order_opendir_guard_removed` is not vacuous: a scan without a re-arm is in the relaxed language (and not in the real
one); the pull that arrived stays visible -/
example : (acceptAllX { opendirAnywhere := true } {} [.dOpen, .dClose, .dOpen, .dOpendir, .dEnd, .iLink 5, .iOpen 5 true, .iWrite 5 true, .iClose 5,
            .dOpendir, .dRead 5, .dEnd]).map (fun s => (s.buf, s.todo)) = some (true, []) := by decide
example : acceptAll {} [.dOpen, .dClose, .dOpen, .dOpendir, .dEnd, .dOpendir] = none := by decide

/-! ### Bounded-steps liveness of the trigger protocol -/

theorem reach_scanInv (s : St) (h : Reach s) : ScanInv s := by
  obtain ⟨evs, h⟩ := h
  exact Acceptor.foldlM_induct ScanInv (fun s e s' => scanInv_step s s' e) evs {} s scanInv_init (acceptAll_eq evs {} ▸ h)

/-- **Bounded steps** (decreasing measure `Trigger.phi`): from any state satisfying the scan invariant in
which entry `n` is unprocessed, every run of the daemon *on its own* — no injector step, no 25-minute
timer, whatever order readdir returns the entries in and whether or not it reports entries linked after
opendir — that is `2·|todo| + 3` steps long has processed `n`.  (The bound is attained: `n` missing from the
stream of a scan in progress costs the rest of that scan, closedir, close, open, opendir and a second scan.)
Scope: this is a statement about daemon-only suffixes (`drun`: no injector step in between).  With injector steps
interleaved the measure can grow (todo grows, `dSeeNew`), so "within 2·|todo|+3 own steps counted across an interleaved
run" is NOT claimed; the driver's budget is renewed by every injector step.  "Processed" = the name was returned by
readdir and handed to todo_do (`dRead`), see `C16_rescan_backstop` for what lies beyond. -/
theorem C16_bounded (s s' : St) (hi : ScanInv s) (n : Nat) (hm : n ∈ s.todo) (boot : Bool) (evs : List Ev)
    (hrun : drun boot s evs = some s') (hlen : 2 * s.todo.length + 3 ≤ evs.length) : n ∉ s'.todo := by
  intro hn'
  have h1 := drun_short n evs boot s s' hi hm hrun hn'
  have h2 := phi_le boot s n
  omega

/-- **Progress without the timer**: while an entry whose injector has completed its publish-then-signal steps
is unprocessed, the daemon is never blocked — the step its code takes next is enabled and is one of its own
steps (in `idle` that is because the FIFO is readable: select returns). -/
theorem C16_progress (s : St) (hi : Inv s) (n : Nat) (hp : pulled (s.pc n) = true) (hm : n ∈ s.todo) :
    ∃ e, dnext s = some e ∧ dAllowed false s e = true ∧ (accept s e).isSome = true := by
  cases hd : s.d with
  | idle =>
    have hb : s.buf = true := inv_idle_buf hi hp hm hd
    have ho : s.dOpen = true := by
      cases hdo : s.dOpen with
      | true => rfl
      | false => have := hi.open_iff.1 hdo; rw [hd] at this; cases this
    exact ⟨.dClose, by simp [dnext, hd, hb], by simp [dAllowed, hd, hb], by simp [accept, hd, ho]⟩
  | closed => exact ⟨.dOpen, by simp [dnext, hd], rfl, by simp [accept, hd]⟩
  | reopened => exact ⟨.dOpendir, by simp [dnext, hd], rfl, by simp [accept, hd]⟩
  | scanning rem =>
    cases rem with
    | nil => exact ⟨.dEnd, by simp [dnext, hd], rfl, by simp [accept, hd]⟩
    | cons x r => exact ⟨.dRead x, by simp [dnext, hd], rfl, by simp [accept, hd]⟩

theorem drun_inv (evs : List Ev) : ∀ (boot : Bool) (s s' : St), Inv s → drun boot s evs = some s' → Inv s' := by
  induction evs with
  | nil => intro _ s s' hi h; cases h; exact hi
  | cons e es ih =>
    intro boot s s' hi h
    obtain ⟨_, s1, h1, h2⟩ := drun_cons_some h
    exact ih _ s1 s' (step_inv s s1 e hi h1) h2

/-- **Bounded steps, executable form**: the daemon's code running alone (`dauto`: close, open, opendir, readdir …,
closedir, in program order) from any state satisfying the invariants in which `n` is unprocessed and its
injector has finished (or at least written its byte) processes `n` within `2·|todo| + 3` steps. -/
theorem C16_bounded_run (s : St) (hi : Inv s) (hs : ScanInv s) (n : Nat) (hp : pulled (s.pc n) = true)
    (hm : n ∈ s.todo) : n ∉ (dauto (2 * s.todo.length + 3) s).todo := by
  obtain ⟨evs, hrun, hlen | hstuck⟩ := dauto_drun (2 * s.todo.length + 3) s
  · exact C16_bounded s _ hs n hm false evs hrun (Nat.le_of_eq hlen.symm)
  · intro hn
    obtain ⟨e, he, _, hsome⟩ := C16_progress _ (drun_inv evs false s _ hi hrun) n
      (by rw [(drun_frame evs false s _ hrun).2]; exact hp) hn
    rw [hstuck e he] at hsome; cases hsome

/-! ### The select preparation of qmail-send's main loop -/

open Nq.SelPrep in
/-- "something is pending now", spelled out: a pass has a free delivery slot and may proceed, or a todo scan is
in progress (neither counts once exit was requested), or a cleanup scan is in progress, or one of the due
times the daemon can act on (`SelPrep.dueTimes`, spelled out by `SelPrep.mem_dueTimes`) has been reached. -/
def Pending (s : SelPrep.Snap) : Prop :=
  (s.exitasap = false ∧ ∃ c, c ∈ s.chans ∧ c.passOpen = true ∧ delAvail c = true)
  ∨ (s.exitasap = false ∧ s.tododir = true)
  ∨ s.flagcleanup = true
  ∨ ∃ t, t ∈ dueTimes s ∧ t ≤ s.recent

open Nq.SelPrep in
/-- the executable `SelPrep.pending` (the driver's oracle) is `Pending` -/
theorem pending_iff (s : Snap) : pending s = true ↔ Pending s := by
  simp only [pending, immediate, Pending, Bool.or_eq_true, Bool.and_eq_true, Bool.not_eq_true', List.any_eq_true,
    decide_eq_true_eq, or_assoc]

open Nq.SelPrep in
theorem pending_iff_immediate (s : Snap) : Pending s ↔ immediate s = true ∨ ∃ t, t ∈ dueTimes s ∧ t ≤ s.recent := by
  rw [← pending_iff]; simp [pending]

open Nq.SelPrep in
theorem Pending.of_due {s : Snap} {t : Int} (hm : t ∈ dueTimes s) (hle : t ≤ s.recent) : Pending s :=
  Or.inr (Or.inr (Or.inr ⟨t, hm, hle⟩))

open Nq.SelPrep in
/-- **No spin, no oversleeping** (the whole chain `wakeup = recent + SLEEP_FOREVER`, pass_selprep, todo_selprep,
cleanup_selprep, `tv.tv_sec = wakeup <= recent ? 0 : wakeup - recent + SLEEP_FUZZ`), for a clock at or after
the epoch: the timeout is 0 exactly when something is pending now; otherwise it is positive, equals
`wakeup - recent + SLEEP_FUZZ`, and `wakeup` is the *minimum* of `recent + SLEEP_FOREVER` and the due times the
daemon can act on — it never sleeps past its earliest due event by more than the fuzz, never longer than
`SLEEP_FOREVER + SLEEP_FUZZ`, and never wakes for a time that is not due. -/
theorem C16_no_spin (s : Snap) (h0 : 0 ≤ s.recent) :
    (timeout s = 0 ↔ Pending s) ∧
    (¬ Pending s →
      0 < timeout s ∧ timeout s = wakeup s - s.recent + SLEEP_FUZZ ∧
      (∀ t, t ∈ dueTimes s → wakeup s ≤ t) ∧ wakeup s ≤ s.recent + SLEEP_FOREVER ∧
      (wakeup s = s.recent + SLEEP_FOREVER ∨ wakeup s ∈ dueTimes s) ∧
      timeout s ≤ SLEEP_FOREVER + SLEEP_FUZZ) := by
  rw [pending_iff_immediate]; exact timeout_spec s h0 _ (Cover.refl _)

open Nq.SelPrep in
/-- **Never past ANY queued message.**  `C16_no_spin` speaks about the due times the code reads — the ROOT of each
priority queue.  This is the property over everything that is queued (`Queued`: the due times of all entries of
`pqchan[c]`, `pqfail`, `pqdone`; `queuedDue`: those the daemon can act on, plus the two timers): provided every
`prioq_min` the loop read is a minimum of its queue (`HeapRoots`), the timeout is 0 exactly when immediate work
exists or SOME queued entry / timer has been reached, and otherwise the wake-up time the select call asks for,
`recent + timeout - SLEEP_FUZZ`, is at or before EVERY queued entry and timer, and is one of them (or
`recent + SLEEP_FOREVER`).  The driver evaluates exactly these predicates on the implementation's timeout and
the implementation's arrays (ORACLE) and the premise on the arrays (DISAGREE); the premise is what prioq.c
guarantees (`C16_roots_of_heap`).  Without the premise the conclusion fails (example below). -/
theorem C16_never_past_any_queued (s : Snap) (q : Queued) (h0 : 0 ≤ s.recent) (hr : HeapRoots s q) :
    (timeout s = 0 ↔ pendingQ s q = true) ∧
    (pendingQ s q = false →
      0 < timeout s ∧
      (∀ t, t ∈ queuedDue s q → s.recent + timeout s - SLEEP_FUZZ ≤ t) ∧
      (s.recent + timeout s - SLEEP_FUZZ = s.recent + SLEEP_FOREVER ∨
        s.recent + timeout s - SLEEP_FUZZ ∈ queuedDue s q)) := by
  have hq : pendingQ s q = true ↔ immediate s = true ∨ ∃ t, t ∈ queuedDue s q ∧ t ≤ s.recent := by simp [pendingQ]
  obtain ⟨h1, h2⟩ := timeout_spec s h0 _ (cover_due s q hr)
  refine ⟨h1.trans hq.symm, fun hn => ?_⟩
  obtain ⟨hpos, hto, hle, _, hmem, _⟩ := h2 (fun hp => by rw [hq.2 hp] at hn; cases hn)
  have hw : s.recent + timeout s - SLEEP_FUZZ = wakeup s := by omega
  rw [hw]; exact ⟨hpos, hle, hmem⟩

open Nq.SelPrep in
/-- the premise `HeapRoots` is what prioq.c provides: for the model of prioq.c (`Nq.Sched.PQ`, C15) in heap order —
which every sequence of `prioq_insert`/`prioq_delmin` preserves (`C15_heap`) — `prioq_min` fails exactly on the
empty queue and otherwise returns an entry that no queued entry precedes. -/
theorem C16_roots_of_heap (pq : Nq.Sched.PQ) (h : Nq.Sched.Heap pq) :
    RootIsMin (pq.min.map (·.dt)) (pq.toList.map (·.dt)) := by
  rcases Nq.Lemmas.Sched.heap_min_spec pq h with ⟨hm, hl⟩ | ⟨pe, hm, hmem, hle⟩
  · rw [hm, hl]; exact Or.inl ⟨rfl, rfl⟩
  · rw [hm]
    refine Or.inr ⟨pe.dt, rfl, List.mem_map.2 ⟨pe, hmem, rfl⟩, fun t ht => ?_⟩
    obtain ⟨e, he, rfl⟩ := List.mem_map.1 ht
    exact hle e he

open Nq.SelPrep in
/-- **The first scan is unconditional** (start-up of the trigger protocol).  The trigger only works between an injector and
the process that holds the FIFO open at the moment of the pull; every injection whose publish-then-signal steps ran before
the new daemon's first `open(lock/trigger)` — daemon down (ENXIO), previous daemon draining after TERM (the byte dies with
that process), new daemon still in `pqstart()` — is covered by the scan of the first loop iteration alone.  In `Trigger`
this is the ASSUMPTION that the daemon leaves its start-up state `.reopened` only into a scan (there is no step from
`.reopened` to `.idle`; `dnext .reopened = dOpendir`; `Reach` contains every interleaving of complete injections with the
start-up events, so `C16_no_lost_wakeup`/`C16_covered` speak about them).  Here it is discharged from the code: the
translator reads `nexttodorun = now() + TODO_INIT_DELAY` and the `trigger_set()` call out of `todo_init()`
(`Nq.Gen.SendLoop`, regenerated every run), and for EVERY snapshot taken while `nexttodorun` still has its initial value
(it is only rewritten when a scan starts) at a clock that has not run backwards, the loop asks select for timeout 0 and
`todo_do` passes its guard without any pull.  The proof needs `TODO_INIT_DELAY = 0`: with `now() + SLEEP_TODO` it fails. -/
theorem C16_first_scan_unconditional (s : Snap) (t0 : Int) (h0 : 0 ≤ s.recent) (ht : t0 ≤ s.recent)
    (hn : s.nexttodorun = t0 + ((Nq.Gen.SendLoop.TODO_INIT_DELAY : Nat) : Int)) (he : s.exitasap = false) :
    timeout s = 0 ∧ (∀ ready, todoDoActs s ready = true) ∧ Nq.Gen.SendLoop.TODO_INIT_ARMS = true := by
  have hd : ((Nq.Gen.SendLoop.TODO_INIT_DELAY : Nat) : Int) = 0 := by decide
  have hle : s.nexttodorun ≤ s.recent := by rw [hn, hd]; omega
  refine ⟨?_, ?_, rfl⟩
  · exact (C16_no_spin s h0).1.2 (.of_due (nexttodorun_mem_dueTimes he) hle)
  · intro ready
    simp [todoDoActs, he, hle]

open Nq.SelPrep in
/-- **Rescan backstop** (complement for what the trigger model leaves out).  `Trigger.Ev.dRead n` stands for "readdir
returned the name `n` and handed it to todo_do"; the failure paths of todo_do — `opendir` failing after `trigger_set()`
has consumed the pull, and every `return`/`goto fail` after readdir, which leaves todo/n in place with no wake-up
pending — are outside the property's quantifier (no faults) and outside `Trigger`.  What the code guarantees for them is
the timer: as long as exit was not requested, select is never asked to sleep beyond `nexttodorun` (plus the fuzz), and
the first loop body that runs at or after `nexttodorun` gets past todo_do's guard without any pull.  `nexttodorun` is
only ever set to `recent + SLEEP_TODO` at the start of a scan, so such an entry waits at most SLEEP_TODO (+ fuzz) after
the start of the last successful scan — never for ever. -/
theorem C16_rescan_backstop (s : Snap) (h0 : 0 ≤ s.recent) (he : s.exitasap = false) :
    (timeout s = 0 ∨ s.recent + timeout s - SLEEP_FUZZ ≤ s.nexttodorun) ∧
    (∀ r' ready, s.nexttodorun ≤ r' → todoDoActs { s with recent := r' } ready = true) := by
  refine ⟨?_, ?_⟩
  · obtain ⟨h1, h2⟩ := C16_no_spin s h0
    by_cases hp : Pending s
    · exact Or.inl (h1.2 hp)
    · obtain ⟨_, hto, hle, _, _, _⟩ := h2 hp
      have := hle _ (nexttodorun_mem_dueTimes he)
      exact Or.inr (by omega)
  · intro r' ready hr
    simp [todoDoActs, he, hr]

open Nq.SelPrep in
/-- pending work passes the guards of the loop body, whatever descriptors are ready and however far the clock
has moved on -/
theorem pending_acts (s : Snap) (r' : Int) (hr : s.recent ≤ r') (ready : Fd → Bool) (hp : Pending s) :
    bodyActs { s with recent := r' } ready = true := by
  simp only [bodyActs, Bool.or_eq_true]
  rcases hp with ⟨he, c, hc, hp, hd⟩ | ⟨he, ht⟩ | hcl | ⟨t, ht, hle⟩
  · left; right
    simp only [passDoActs, Bool.or_eq_true, List.any_eq_true]
    exact Or.inl (Or.inl ⟨c, hc, by simp [passChanActs, he, hp, hd]⟩)
  · left; left; right; simp [todoDoActs, he, ht]
  · right; simp [cleanupDoActs, hcl]
  · rcases (mem_dueTimes s t).1 ht with ⟨he, hj, c, hc, hp, hq⟩ | ⟨he, hq⟩ | ⟨he, hq⟩ | ⟨he, rfl⟩ | rfl
    · left; right
      simp only [passDoActs, Bool.or_eq_true, List.any_eq_true]
      refine Or.inl (Or.inl ⟨c, hc, ?_⟩)
      have hdue : due r' c.pqMin = true := (due_iff _ _).2 ⟨t, hq, Int.le_trans hle hr⟩
      simp only [passChanActs, hp, hdue, Bool.and_true, Bool.false_eq_true, if_false, Bool.and_eq_true,
        Bool.not_eq_true']
      exact ⟨he, hj⟩
    · left; right
      simp only [passDoActs, Bool.or_eq_true]
      exact Or.inl (Or.inr ((due_iff _ _).2 ⟨t, hq, Int.le_trans hle hr⟩))
    · left; right
      simp only [passDoActs, Bool.or_eq_true]
      exact Or.inr ((due_iff _ _).2 ⟨t, hq, Int.le_trans hle hr⟩)
    · left; left; right
      simp only [todoDoActs, he, Bool.not_false, Bool.true_and, Bool.or_eq_true, decide_eq_true_eq]
      right; omega
    · right
      simp only [cleanupDoActs, Bool.or_eq_true, decide_eq_true_eq]
      right; omega

open Nq.SelPrep in
/-- **A select that does not sleep is followed by work**: if the timeout was 0, or select returned because a
descriptor of the prepared sets was ready, then (whatever the clock reads afterwards) at least one of comm_do,
del_do, todo_do, pass_do, cleanup_do gets past its guards — in particular the FIFO is only watched while
todo_do will act on it (not after exit was requested), so a pulled trigger cannot make the loop spin. -/
theorem C16_early_return_acts (s : Snap) (h0 : 0 ≤ s.recent) (r' : Int) (hr : s.recent ≤ r') (ready : Fd → Bool)
    (h : timeout s = 0 ∨ ∃ f, f ∈ rfds s ++ wfds s ∧ ready f = true) :
    bodyActs { s with recent := r' } ready = true := by
  rcases h with h | ⟨f, hf, hrd⟩
  · exact pending_acts s r' hr ready ((C16_no_spin s h0).1.1 h)
  · simp only [bodyActs, Bool.or_eq_true]
    rcases List.mem_append.1 hf with hf | hf
    · rcases List.mem_append.1 hf with hf | hf
      · left; left; left; right
        rw [delDoActs_eq]; exact List.any_eq_true.2 ⟨f, hf, hrd⟩
      · left; left; right
        simp only [todoWatch] at hf
        split at hf
        · rename_i hc
          simp only [List.mem_singleton] at hf; subst hf
          simp only [Bool.and_eq_true, Bool.not_eq_true'] at hc
          simp [todoDoActs, hc.1, hc.2, hrd]
        · simp at hf
    · left; left; left; left
      rw [commDoActs_eq]; exact List.any_eq_true.2 ⟨f, hf, hrd⟩

open Nq.SelPrep in
/-- **A sleep is justified**: with no descriptor ready, the loop body would act exactly when something is
pending — so (by `C16_no_spin`) a positive timeout is only ever requested when none of the five `*_do`
functions has anything to do.  The one exception is stated, not hidden: once exit was requested pass_selprep
ignores pqfail/pqdone, although pass_do would still process them; the daemon then wakes for the reports of the
deliveries still in flight (and for cleanup) only. -/
theorem C16_sleep_justified (s : Snap) :
    bodyActs s (fun _ => false) = true ↔
      Pending s ∨ (s.exitasap = true ∧ (due s.recent s.pqfailMin = true ∨ due s.recent s.pqdoneMin = true)) := by
  have hq : ∀ l : List Fd, (l.any fun _ => false) = false := fun l => List.any_eq_false.2 fun _ _ => Bool.false_ne_true
  simp only [bodyActs, commDoActs_eq, delDoActs_eq, hq, Bool.false_or, Bool.or_eq_true]
  constructor
  · -- comm_do/del_do need a ready descriptor.  todo_do (`ht`): scan in progress or `nexttodorun`; cleanup_do (`hc`): its scan or `cleanuptime`;
    -- pass_do (`hp`): open pass with a free slot, or a due head of `pqchan[c]`/`pqfail`/`pqdone` (the last two also after exit: second disjunct)
    rintro ((ht | hp) | hc)
    · simp only [todoDoActs, Bool.and_eq_true, Bool.not_eq_true', Bool.or_eq_true, Bool.and_false, Bool.false_eq_true,
        or_false, decide_eq_true_eq] at ht
      obtain ⟨he, ht | ht⟩ := ht
      · exact Or.inl (Or.inr (Or.inl ⟨he, ht⟩))
      · exact Or.inl (.of_due (nexttodorun_mem_dueTimes he) ht)
    · simp only [passDoActs, Bool.or_eq_true, List.any_eq_true] at hp
      rcases hp with (⟨c, hc, hp⟩ | hp) | hp
      · simp only [passChanActs, Bool.and_eq_true, Bool.not_eq_true'] at hp
        obtain ⟨he, hp⟩ := hp
        cases hpo : c.passOpen with
        | true =>
          simp only [hpo, if_true] at hp
          exact Or.inl (Or.inl ⟨he, c, hc, hpo, hp⟩)
        | false =>
          simp only [hpo, Bool.false_eq_true, if_false, Bool.and_eq_true] at hp
          obtain ⟨t, hq, hle⟩ := (due_iff _ _).1 hp.2
          exact Or.inl (.of_due (pqchan_mem_dueTimes he hp.1 hc hpo hq) hle)
      · cases he : s.exitasap with
        | true => exact Or.inr ⟨rfl, Or.inl hp⟩
        | false =>
          obtain ⟨t, hq, hle⟩ := (due_iff _ _).1 hp
          exact Or.inl (.of_due (pqfail_mem_dueTimes he hq) hle)
      · cases he : s.exitasap with
        | true => exact Or.inr ⟨rfl, Or.inr hp⟩
        | false =>
          obtain ⟨t, hq, hle⟩ := (due_iff _ _).1 hp
          exact Or.inl (.of_due (pqdone_mem_dueTimes he hq) hle)
    · simp only [cleanupDoActs, Bool.or_eq_true, decide_eq_true_eq] at hc
      rcases hc with hc | hc
      · exact Or.inl (Or.inr (Or.inr (Or.inl hc)))
      · exact Or.inl (.of_due (cleanuptime_mem_dueTimes s) hc)
  · rintro (hp | ⟨he, hd⟩)
    · have := pending_acts s s.recent (Int.le_refl _) (fun _ => false) hp
      simpa only [bodyActs, commDoActs_eq, delDoActs_eq, hq, Bool.false_or, Bool.or_eq_true] using this
    · left; right
      simp only [passDoActs, Bool.or_eq_true]
      rcases hd with hd | hd
      · exact Or.inl (Or.inr hd)
      · exact Or.inr hd

open Nq.SelPrep in
/-- **Exit**: the loop is left exactly when exit was requested and no live spawner has a delivery in flight; until
then `C16_no_spin` applies with the exit-requested reading of `dueTimes` (only the cleanup timer). -/
theorem C16_exit_when_drained (s : Snap) :
    loopContinues s = false ↔ s.exitasap = true ∧ ∀ c, c ∈ s.chans → c.spawnAlive = true → c.used = 0 := by
  simp only [loopContinues, delCanexit, Bool.or_eq_false_iff, Bool.not_eq_false', List.all_eq_true, Bool.or_eq_true,
    Bool.not_eq_true', beq_iff_eq]
  constructor
  · rintro ⟨he, h⟩
    refine ⟨he, fun c hc ha => ?_⟩
    rcases h c hc with h1 | h1
    · rw [ha] at h1; cases h1
    · exact h1
  · rintro ⟨he, h⟩
    refine ⟨he, fun c hc => ?_⟩
    cases ha : c.spawnAlive with
    | false => exact Or.inl rfl
    | true => exact Or.inr (h c hc ha)

open Nq.SelPrep in
/-- **The excluded inputs** (`recent < 0`, a system clock before 1970): `*wakeup = 0` is the literal epoch, not
`recent`, so with immediate work pending and no negative due time the code asks select for `-recent + SLEEP_FUZZ`
seconds instead of 0 — it sleeps with work pending.  Not reachable with a sane clock; stated so that the
hypothesis `0 ≤ recent` of `C16_no_spin` is not a silent restriction. -/
theorem C16_pre_epoch (s : Snap) (hneg : s.recent < 0) (him : immediate s = true)
    (hd : ∀ t, t ∈ dueTimes s → 0 ≤ t) (hr : 0 ≤ s.recent + SLEEP_FOREVER) :
    timeout s = 0 - s.recent + SLEEP_FUZZ ∧ 0 < timeout s := by
  have hw := wakeup_immediate_eq_zero s him hd
  have hfz := fuzz_nonneg
  have : timeout s = 0 - s.recent + SLEEP_FUZZ := by
    unfold timeout; rw [hw, if_neg (by omega)]
  exact ⟨this, by omega⟩

/-! ### Non-vacuity -/

section
open Nq.SelPrep

/-- nothing queued, no scan: the daemon sleeps until the forced todo rescan, `SLEEP_TODO + SLEEP_FUZZ` -/
example : timeout { recent := 1000000000, chans := [{ conc := 5 }, { conc := 5 }], jobRefs := [0, 0], nexttodorun := 1000001500, cleanuptime := 1000076431 } = 1501 := by decide

/-- a deferred message on the remote channel is the earliest event; the local pass has no free slot -/
example : timeout { recent := 1000000000, chans := [{ conc := 1, used := 1, passOpen := true, pqMin := some 1000000100 }, { conc := 5, pqMin := some 1000000400 }], jobRefs := [1, 0], nexttodorun := 1000001500, cleanuptime := 1000076431 } = 401 := by decide

/-- the same with a free local slot: the pass proceeds, timeout 0 -/
example : timeout { recent := 1000000000, chans := [{ conc := 2, used := 1, passOpen := true }, { conc := 5, pqMin := some 1000000400 }], jobRefs := [1, 0], nexttodorun := 1000001500, cleanuptime := 1000076431 } = 0 := by decide

/-- exit requested with a delivery in flight: only the cleanup timer counts, the FIFO is not watched -/
example : (fun s => (loopContinues s, timeout s, rfds s)) { recent := 1000000000, exitasap := true, chans := [{ conc := 2, used := 1 }, { conc := 5, pqMin := some 999999999 }], jobRefs := [1, 0], tododir := true, nexttodorun := 999999000, cleanuptime := 1000000010 } = (true, 11, [.delIn 0, .delIn 1]) := by decide

/-- `Pending` and its negation are both inhabited -/
example : Pending { recent := 10, tododir := true } := Or.inr (Or.inl ⟨rfl, rfl⟩)
example : ¬ Pending { recent := 10, nexttodorun := 20, cleanuptime := 30 } := by
  rw [← pending_iff]; decide

/-- the pre-epoch case really sleeps -/
example : timeout { recent := -5, flagcleanup := true, nexttodorun := 0, cleanuptime := 3 } = 6 := by decide

-- why the oracle judges the timeout at the SIMULATOR's clock: the same correct computation on a `recent` that is 700 s stale
-- (not refreshed after an interrupted select) asks for 1501 s, which at the real time reaches 700 s past the forced rescan
open Nq.SelPrep in
example :
    let stale : Snap := { recent := 1000000000, chans := [{ conc := 5 }, { conc := 5 }], jobRefs := [0, 0], nexttodorun := 1000001500, cleanuptime := 1000076431 }
    let now : Int := 1000000700
    timeout stale = 1501 ∧ (dueTimes { stale with recent := now }).any (fun t => decide (now + timeout stale - SLEEP_FUZZ > t)) = true ∧
      timeout { stale with recent := now } = 801 := by decide

-- complement of C16_never_past_any_queued (why its premise is checked on the implementation): a channel queue whose
-- array is [t+3000, t+7] — the root is not the minimum, as after a sift-down that stops one level early — makes the
-- same, correct, select preparation ask for 1501 s although a queued message is due in 7 s
open Nq.SelPrep in
example :
    let s : Snap := { recent := 1000000000, chans := [{ conc := 5, pqMin := some 1000003000 }, { conc := 5 }], jobRefs := [0, 0],
                      nexttodorun := 1000001500, cleanuptime := 1000076431 }
    let q : Queued := { chans := [[1000003000, 1000000007], []] }
    timeout s = 1501 ∧ heapRoots s q = false ∧ pendingQ s q = false ∧
      (queuedDue s q).any (fun t => decide (s.recent + timeout s - SLEEP_FUZZ > t)) = true := by decide
-- ... and with the root in place (array [t+7, t+3000]) the premise holds and the daemon wakes for the message: 8 s
open Nq.SelPrep in
example :
    let s : Snap := { recent := 1000000000, chans := [{ conc := 5, pqMin := some 1000000007 }, { conc := 5 }], jobRefs := [0, 0],
                      nexttodorun := 1000001500, cleanuptime := 1000076431 }
    let q : Queued := { chans := [[1000000007, 1000003000], []] }
    timeout s = 8 ∧ heapRoots s q = true ∧ (queuedDue s q).all (fun t => decide (s.recent + timeout s - SLEEP_FUZZ ≤ t)) = true := by decide
end

/-- the bound of `C16_bounded` is attained: entry 5 is linked and signalled while a scan that does not see it is
under way (todo = [5], bound 2·1+3 = 5); four daemon steps (closedir, close, open, opendir) do not suffice, the
fifth (readdir) processes it -/
example : (acceptAll {} [.dOpen, .dClose, .dOpen, .dOpendir, .iLink 5, .iOpen 5 true, .iWrite 5 true, .iClose 5]).bind
      (fun s => (drun false s [.dEnd, .dClose, .dOpen, .dOpendir]).bind
        (fun s4 => (drun false s4 [.dRead 5]).map (fun s5 => (s.todo, s4.todo, s5.todo, phi false s 5))))
    = some ([5], [5], [], 5) := by
  decide

/-- … and the code's own order (`dauto`) takes exactly those steps -/
example : (acceptAll {} [.dOpen, .dClose, .dOpen, .dOpendir, .iLink 5, .iOpen 5 true, .iWrite 5 true, .iClose 5]).map
      (fun s => ((dauto 4 s).todo, (dauto 5 s).todo)) = some ([5], []) := by
  decide

/-- without a pull the daemon's own steps do not include re-arming: the timer-driven close is not `dAllowed` -/
example : (acceptAll {} [.dOpen, .dClose, .dOpen, .dOpendir, .dEnd, .iLink 5]).bind (fun s => drun false s [.dClose]) = none := by
  decide


/-- two injectors; the second links and pulls while the daemon is between close and reopen (ENXIO):
still covered, and picked up by the scan that follows -/
example : (acceptAll {} [.dOpen, .dClose, .dOpen, .dOpendir, .dEnd,
    .iLink 5, .iOpen 5 true, .iWrite 5 true, .dClose, .iLink 6, .iOpen 6 false, .dOpen, .iClose 5, .dOpendir,
    .dRead 6, .dRead 5, .dEnd]).map (fun s => (s.todo, s.buf)) = some ([], true) := by
  decide

/-- the wrong order (scan, then re-arm) is not the model's daemon -/
example : acceptAll {} [.dOpen, .dClose, .dOpendir] = none := by decide

-- start-up leg: an injection that completed before the daemon's first step (link, open fails with ENXIO) is accepted from the
-- initial state, the daemon's start-up (open; first todo_do: close, open, opendir) follows, and the first scan returns the entry
example : (acceptAll {} [.iLink 5, .iOpen 5 false, .dOpen, .dClose, .dOpen, .dOpendir, .dRead 5, .dEnd]).map
    (fun s => (s.todo, s.d)) = some ([], .idle) := by decide
-- ... and from the start-up state `.reopened` there is no way to `idle` that skips the scan: closedir is rejected
example : (acceptAll {} [.iLink 5, .iOpen 5 false, .dOpen]).bind (fun s => accept s .dEnd) = none := by decide


/-! ### Descriptor numbers and `nfds` -/

open Nq.SelPrep Nq.SelFds in
/-- **`nfds` covers the sets exactly.**  For every snapshot and every assignment of descriptor numbers: `nfds ≥ 1`; every
descriptor that comm_selprep / del_selprep / trigger_selprep `FD_SET` is `< nfds`, so `select` examines all of them
(`watched` = the whole set); and `nfds` is tight: it is 1 (nothing above descriptor 0 set) or `max + 1` of what was set. -/
theorem C16_nfds_covers (s : Snap) (f : FdNums) :
    1 ≤ nfds s f ∧ (∀ fd, fd ∈ rset s f ++ wset s f → fd < nfds s f)
    ∧ (nfds s f = 1 ∨ ∃ fd, fd ∈ rset s f ++ wset s f ∧ nfds s f = fd + 1)
    ∧ watched (nfds s f) (rset s f) = rset s f ∧ watched (nfds s f) (wset s f) = wset s f := by
  have hlt : ∀ fd, fd ∈ rset s f ++ wset s f → fd < nfds s f := by
    intro fd h
    rw [nfds_eq]
    apply foldl_bump_gt
    simp only [List.mem_append] at h ⊢
    exact h.symm
  refine ⟨by rw [nfds_eq]; exact foldl_bump_ge _ 1, hlt, ?_, ?_, ?_⟩
  · rcases foldl_bump_tight (wset s f ++ rset s f) 1 with h | ⟨x, hx, h⟩
    · left; rw [nfds_eq]; exact h
    · right
      refine ⟨x, ?_, by rw [nfds_eq]; exact h⟩
      simp only [List.mem_append] at hx ⊢
      exact hx.symm
  · simp only [watched, List.filter_eq_self]
    intro fd h
    exact decide_eq_true (hlt fd (List.mem_append_left _ h))
  · simp only [watched, List.filter_eq_self]
    intro fd h
    exact decide_eq_true (hlt fd (List.mem_append_right _ h))

open Nq.SelPrep Nq.SelFds in
/-- **Every descriptor the daemon must wake up on is watched**: in the right set AND below `nfds` (`watched`).
(a) the report pipe `chanfdin[i]` of every live spawner — in particular whenever deliveries are outstanding on a live spawner;
(b) the command pipe `chanfdout[i]` of every live spawner with commands buffered; (c) the trigger FIFO while it is armed
(open, exit not requested).  Complement (nothing else is watched, and the excluded cases — dead spawner, empty buffer, exit
requested, FIFO not open — are NOT watched): `C16_wake_fds_exact`. -/
theorem C16_wake_fds_watched (s : Snap) (f : FdNums) :
    (∀ i c, s.chans[i]? = some c → c.spawnAlive = true → f.inn i ∈ watched (nfds s f) (rset s f))
    ∧ (∀ i c, s.chans[i]? = some c → c.spawnAlive = true → c.commPending = true → f.out i ∈ watched (nfds s f) (wset s f))
    ∧ (s.exitasap = false → s.triggerFd = true → f.trig ∈ watched (nfds s f) (rset s f)) := by
  obtain ⟨_, _, _, hr, hw⟩ := C16_nfds_covers s f
  rw [hr, hw, rset_eq_mustRead, wset_eq_mustWrite]
  refine ⟨?_, ?_, ?_⟩
  · intro i c hc ha
    exact (mem_mustRead s f _).2 (Or.inl ⟨i, c, hc, ha, rfl⟩)
  · intro i c hc ha hp
    exact (mem_mustWrite s f _).2 ⟨i, c, hc, ha, hp, rfl⟩
  · intro he ht
    exact (mem_mustRead s f _).2 (Or.inr ⟨he, ht, rfl⟩)

open Nq.SelPrep Nq.SelFds in
/-- **… and nothing else** (complement of `C16_wake_fds_watched`): a number is in `rfds` only as the report pipe of a live
spawner or as the armed trigger; in `wfds` only as the command pipe of a live spawner with buffered commands.  (Together with
`C16_early_return_acts` — stated over the symbolic descriptors `SelPrep.Fd`, of which `rset`/`wset` are the images under
`num` — no watched descriptor is one the loop body ignores.) -/
theorem C16_wake_fds_exact (s : Snap) (f : FdNums) (fd : Nat) :
    (fd ∈ rset s f ↔ (∃ i c, s.chans[i]? = some c ∧ c.spawnAlive = true ∧ fd = f.inn i)
                      ∨ (s.exitasap = false ∧ s.triggerFd = true ∧ fd = f.trig))
    ∧ (fd ∈ wset s f ↔ ∃ i c, s.chans[i]? = some c ∧ c.spawnAlive = true ∧ c.commPending = true ∧ fd = f.out i) := by
  rw [rset_eq_mustRead, wset_eq_mustWrite]
  exact ⟨mem_mustRead s f fd, mem_mustWrite s f fd⟩

open Nq.SelPrep Nq.SelFds in
/-- the driver's executable oracle `wakeOracle` says what `C16_wake_fds_watched` says (for arbitrary `nfds` and sets — it is
evaluated on the implementation's), and it holds on the model -/
theorem C16_wake_oracle (s : Snap) (f : FdNums) (nf : Nat) (rs ws : List Nat) :
    (wakeOracle s f nf rs ws = none ↔
      (∀ fd, fd ∈ mustRead s f → fd ∈ watched nf rs) ∧ (∀ fd, fd ∈ mustWrite s f → fd ∈ watched nf ws))
    ∧ wakeOracle s f (nfds s f) (rset s f) (wset s f) = none := by
  have key : ∀ nf rs ws, (wakeOracle s f nf rs ws = none ↔
      (∀ fd, fd ∈ mustRead s f → fd ∈ watched nf rs) ∧ (∀ fd, fd ∈ mustWrite s f → fd ∈ watched nf ws)) := by
    intro nf rs ws
    rw [← find?_unwatched, ← find?_unwatched]
    unfold wakeOracle
    split
    · next h1 => simp only [h1, reduceCtorEq, false_and]
    · next h1 =>
      split
      · next h2 => simp only [h2, reduceCtorEq, and_false]
      · next h2 => simp only [h1, h2, and_self]
  refine ⟨key nf rs ws, (key _ _ _).2 ?_⟩
  obtain ⟨_, _, _, hr, hw⟩ := C16_nfds_covers s f
  rw [hr, hw, rset_eq_mustRead, wset_eq_mustWrite]
  exact ⟨fun _ h => h, fun _ h => h⟩

/-- qmail-send's descriptor numbers: chanfdout = {1,3}, chanfdin = {2,4}; the FIFO was opened as descriptor 7 -/
def exFds : Nq.SelFds.FdNums := { out := fun c => 2 * c + 1, inn := fun c => 2 * c + 2, trig := 7 }

/-- idle daemon, both spawners alive, a command buffered for qmail-rspawn: rfds = {2,4,7}, wfds = {3}, nfds = 8 -/
example : (fun s => (Nq.SelFds.rset s exFds, Nq.SelFds.wset s exFds, Nq.SelFds.nfds s exFds))
    { recent := 10, chans := [{ conc := 5 }, { conc := 5, commPending := true }] } = ([2, 4, 7], [3], 8) := by decide
/-- exit requested (FIFO no longer watched), qmail-rspawn dead, a delivery outstanding on qmail-lspawn: rfds = {2}, nfds = 3 -/
example : (fun s => (Nq.SelFds.rset s exFds, Nq.SelFds.wset s exFds, Nq.SelFds.nfds s exFds))
    { recent := 10, exitasap := true, chans := [{ conc := 5, used := 1 }, { conc := 5, spawnAlive := false, commPending := true }] } = ([2], [], 3) := by decide
/-- nothing set at all: nfds stays 1 -/
example : Nq.SelFds.nfds { recent := 10, exitasap := true, chans := [{ spawnAlive := false }, { spawnAlive := false }] } exFds = 1 := by decide
/-- the oracle is not vacuous: with nfds one too small the trigger (7) is in the set but not examined by select -/
example : Nq.SelFds.wakeOracle { recent := 10, chans := [{ conc := 5 }, { conc := 5 }] } exFds 7 [2, 4, 7] [] ≠ none := by decide
example : Nq.SelFds.wakeOracle { recent := 10, chans := [{ conc := 5 }, { conc := 5 }] } exFds 8 [2, 4, 7] [] = none := by decide

end Nq.Props.C16
