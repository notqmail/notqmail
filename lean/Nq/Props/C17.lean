/-
  C17 — Address quoting and parsing agree; header recipients become the envelope.

  Models: `Nq.Quote` (quote.c), `Nq.Token822` (token822.c), `Nq.SmtpAddr` (qmail-remote.c addrmangle,
  commands.c, qmail-smtpd.c addrparse), `Nq.Inject` (qmail-inject.c, headerbody.c, hfield.c); tied to
  the source by the translator (`Nq.Gen.QuoteOk/AtomOk/Hfield`) and by the differential harnesses
  `harness/c17_quote.c`, `harness/c17_inject.c`.  Here: the property theorems, the example data (`ex*`) and `FieldD`.
  The other definitions their statements need stand with their lemmas: the address-list grammar (`El`, `Item`, `Addr`,
  `validEls`, `mboxes`, `flatAddrs`, `bodyRev`, `bodyRevI`, `notComment`, `sepOkC`, `goodTok`) in Lemmas/C17Addrlist.lean,
  `sepOk` and `hostTok` in Lemmas/C17Write.lean, `CfgSpec`, `specString`, `specShape` in Lemmas/C17Rewrite.lean,
  `hrContribution`, `savedContribution`, `isResentField` in Lemmas/C17Inject.lean, `wfField` in Lemmas/C17HeaderBody.lean.
-/
import Nq.Lemmas.C17Smtp
import Nq.Lemmas.C17Rewrite
import Nq.Lemmas.C17Inject
import Nq.Lemmas.C17Hidden

namespace Nq.Props.C17
open Nq Nq.Quote Nq.Token822 Nq.SmtpAddr Nq.Inject Nq.Spec.Addr Nq.Spec.Lex822 Nq.Lemmas.C17

/-- **The quoter's table is inside the parser's.**  Every byte that `quote_need` leaves unquoted (the
`ok[]` table of quote.c, regenerated from the source), other than '.', is for token822.c an ordinary
atom byte: not a single-character token, not white space, not a delimiter, accepted by `atomok`, not
objected to by `atomcheck`; and for qmail-smtpd's `addrparse` it is neither `>` nor `"` nor `\`.
('.' itself is the DOT token and ends an atom; '@' is never left unquoted.) -/
theorem C17_ok_subset_atomok (c : Byte) (h : okChar c = true) (hd : c ≠ DOT) :
    specialTok c = none ∧ isWs c = false ∧ c ≠ RPAR ∧ c ≠ RBRK ∧ c ≠ LPAR ∧ c ≠ Token822.DQ ∧ c ≠ LBRK ∧
    c ≠ Token822.BSL ∧ atomok c = true ∧ atomBad c = false ∧ c ≠ 62 ∧ c ≠ AT ∧ c ≠ LF := by
  have f := atomByte_facts (ok_atomByte h hd)
  exact ⟨f.special, f.ws, f.rpar, f.rbrk, f.lpar, f.dq, f.lbrk, f.bsl, f.ok, f.notBad, f.gt, f.atSign, f.lf⟩

/-- **Header round trip.**  For EVERY local part (any bytes at all, including NUL, LF, quotes,
backslashes, 8-bit) and every sane domain (dot-atom of `ok[]` bytes, or one domain literal): the address
quoted by `quote2` and tokenized by `token822_parse` is accepted, `token822_unquote` gives back exactly
`local@domain`, and the tokens have the shape `word(.word)* @ domain`. -/
theorem C17_header_roundtrip (loc dom : Bytes) (hd : saneDomain dom = true) :
    ∃ ts, parse (quote2 (loc ++ AT :: dom)) = some ts ∧ unquote ts = loc ++ AT :: dom ∧ mailboxShape ts = true := by
  obtain ⟨ts, h1, h2, h3, _⟩ := header_roundtrip_full loc dom hd
  exact ⟨ts, h1, h2, h3⟩

/-- Complement (a lone box name, as `dorecip`/`-f` may be given): without any '@' the whole string is the box. -/
theorem C17_header_roundtrip_nohost (s : Bytes) (h : AT ∉ s) :
    ∃ ts, parse (quote2 s) = some ts ∧ unquote ts = s := by
  cases s with
  | nil => exact ⟨[], by simp [quote2, parse, prun, pfinish], rfl⟩
  | cons x xs =>
    have hq : quote2 (x :: xs) = quote (x :: xs) := by
      simp [quote2, splitLast_eq, splitLastB_none AT (x :: xs) h]
    rw [hq]
    exact ⟨localToks (x :: xs), parse_quote _, unquote_localToks _⟩

/-- **SMTP round trip.**  For every box (any bytes) and every host without `"`, `\`, `>`, `@`, LF that is
not a bracketed address of this host, total length at most 899: what qmail-remote's `addrmangle` writes
between `<` and `>` is read back by qmail-smtpd's `addrparse` as exactly `box@host`, whatever precedes
the `<` in the argument (`FROM:`, `TO:`), provided that prefix has no `<`. -/
theorem C17_smtp_roundtrip (cfg : Cfg) (pre box host : Bytes) (hpre : (60 : Byte) ∉ pre)
    (hh : smtpDomain host = true) (hl : isLocalLiteral cfg host = false)
    (hlen : (box ++ AT :: host).length ≤ 899) :
    addrparse cfg (pre ++ 60 :: addrmangle (box ++ AT :: host) ++ [62]) = some (box ++ AT :: host) := by
  rw [addrparse_mangled cfg pre box host hpre hh hl, if_neg (by omega)]

/-- Complement: an address of 900 bytes or more is refused (`addrparse` returns 0, the server answers 501). -/
theorem C17_smtp_toolong (cfg : Cfg) (pre box host : Bytes) (hpre : (60 : Byte) ∉ pre)
    (hh : smtpDomain host = true) (hl : isLocalLiteral cfg host = false)
    (hlen : 900 ≤ (box ++ AT :: host).length) :
    addrparse cfg (pre ++ 60 :: addrmangle (box ++ AT :: host) ++ [62]) = none := by
  rw [addrparse_mangled cfg pre box host hpre hh hl, if_pos (by omega)]

/-- Complement: an address without '@' is sent as it is (no quoting at all). -/
theorem C17_smtp_nohost (s : Bytes) (h : AT ∉ s) : addrmangle s = s := by
  simp [addrmangle, splitLast_eq, splitLastB_none AT s h]

/-- **…and through the command line.**  When the box has no LF and the host is as in `C17_smtp_roundtrip`
(`smtpDomain`, so without LF too), the line qmail-remote sends is read by `commands()` as ONE command line, with verb `MAIL` and argument `FROM:<mangled>` —
to which `C17_smtp_roundtrip` applies (`FROM:` has no `<`). -/
theorem C17_smtp_commandline (box host rest : Bytes) (hb : LF ∉ box) (hh : smtpDomain host = true) :
    readLine (mailFromLine (box ++ AT :: host) ++ rest)
        = some (verbMail ++ SP :: argFrom ++ 60 :: addrmangle (box ++ AT :: host) ++ [62, CR], rest) ∧
    splitCmd (verbMail ++ SP :: argFrom ++ 60 :: addrmangle (box ++ AT :: host) ++ [62, CR])
        = (verbMail, argFrom ++ 60 :: addrmangle (box ++ AT :: host) ++ [62]) ∧
    (60 : Byte) ∉ argFrom := by
  obtain ⟨h1, h2⟩ := mangled_command_line verbMail argFrom box host rest (by decide) (by decide) hb hh
  exact ⟨h1, h2, by decide⟩

/-- **…and RCPT TO** (the twin of `C17_smtp_commandline`, for `rcptToLine`).  The line
qmail-remote sends for a recipient is read by `commands()` as ONE command line with verb `RCPT` and argument
`TO:<mangled>` — to which `C17_smtp_roundtrip` applies (`TO:` has no `<`). -/
theorem C17_smtp_commandline_rcpt (box host rest : Bytes) (hb : LF ∉ box) (hh : smtpDomain host = true) :
    readLine (rcptToLine (box ++ AT :: host) ++ rest)
        = some (verbRcpt ++ SP :: argTo ++ 60 :: addrmangle (box ++ AT :: host) ++ [62, CR], rest) ∧
    splitCmd (verbRcpt ++ SP :: argTo ++ 60 :: addrmangle (box ++ AT :: host) ++ [62, CR])
        = (verbRcpt, argTo ++ 60 :: addrmangle (box ++ AT :: host) ++ [62]) ∧
    (60 : Byte) ∉ argTo := by
  obtain ⟨h1, h2⟩ := mangled_command_line verbRcpt argTo box host rest (by decide) (by decide) hb hh
  exact ⟨h1, h2, by decide⟩

/-! ### The envelope

The property: for every address list (mailboxes, `Name <route-addr>`, groups, comments, quoted strings, domain
literals, missing commas) in every legal rendering (white space, comments, folding) the callbacks of
`token822_addrlist` receive exactly the listed mailboxes, and the rewritten field, parsed again, yields the same
addresses.  The callback order, hence the envelope order, is right to left within a field.

First half, from BYTES to callbacks: `C17_envelope` (every element list accepted by the grammar automaton
`validEls`, every legal rendering) and `C17_envelope_ast` (address-list trees).  Its parts: `C17_parse_render`
(lexer), `C17_comments_ignored` (comment tokens never influence the parser), `C17_envelope_groups` (token level;
special cases `C17_envelope_items`, `C17_envelope_plain`).  `C17_envelope_field` carries it into `doheaderfield`:
the strings appended to `hrlist`/`hrrlist` are the unquoted `rwgeneric`-rewritten listed mailboxes; `C17_modes`
says which list is the envelope, `C17_rewrite_*` what `rwgeneric` does; `C17_rewrite_spec*`, `C17_rewrite_spec_any`
and `C17_arg_spec` link the token-level `rwgeneric` to the string-level `Spec.Addr.rewriteMailbox`;
`C17_field_end_to_end` assembles TEXT → STRINGS.

Second half: `C17_unparse_parse` — for EVERY line length (so whatever the folding macro does)
`parse (unparse n ts) = ts` on clean token lists — and `C17_rewritten_clean` — the rewritten field is clean, from
INPUT-level hypotheses (good input tokens, clean configuration); so the rewritten field (`C17_envelope_field`, third
conjunct) is read back as the same TOKENS.

NOT proved (oracle `Ireparse` of the differential harness only): that a second `token822_addrlist` pass over
those rewritten tokens yields the same ADDRESSES (needs the shape of `rwgeneric`'s output for arbitrary
addresses and its idempotence). -/

/-- **Envelope, token level, full grammar** (groups, repeated and missing commas).  `els` lists the field's
elements right to left: mailboxes (`addr-spec` with comments anywhere, or `phrase <…>` with anything but `<`
inside), commas, `;`, `: display-name`.  If the grammar automaton `validEls` accepts it — a comma may be
MISSING to the right of a mailbox that ends in a word or `>` when its right neighbour is an addr-spec
beginning with a word (`To: djb fred`, `<a@b> c@d`), commas may be repeated, a group opens with `;`, closes
with `: name` and must be followed by a comma or the beginning of the field, groups do not nest — then
`token822_addrlist` succeeds and invokes the callback exactly once per mailbox, with the mailbox's address
(comments removed), last to first. -/
theorem C17_envelope_groups (cb : List Tok → List Tok) (name colon : Tok) (els : List El)
    (hv : validEls false .fresh els = true) (hel : ∀ el ∈ els, el.ok) :
    let r := addrlist cb (name :: colon :: (els.flatMap El.toks).reverse)
    r.ok = true ∧ r.got = (mboxes els).map cb := by
  have := fold_els cb els {} false .fresh ⟨rfl, rfl, rfl, rfl, rfl⟩ hv hel
  simp only [addrlist, List.drop_succ_cons, List.drop_zero, List.reverse_reverse]
  simpa [owed] using this

/-- Complement (why a real comma is needed before `phrase <…>`): in `a@b Joe <c@d>` the tokens of `a@b` are
read as part of the display name; the callback sees `c@d` only.  `validEls` rejects this element list. -/
example : (addrlist id [.atom [84], .colon, .atom [97], .at, .atom [98], .atom [74], .left, .atom [99], .at, .atom [100], .right]).got
    = [[.atom [100], .at, .atom [99]]] := by decide +kernel
example : validEls false .fresh [.mbox (.angle [.atom [100], .at, .atom [99]] [.atom [74]]), .mbox (.plain [.atom [98], .at, .atom [97]])]
    = false := by decide

/-- **Envelope, comments and angle addresses.**  A field `name: i₁, …, iₙ` whose items are plain mailboxes
with comments anywhere between their tokens (`sepOkC`) or `display-name <…>` with ANYTHING but `<` between
the brackets (routes, comments, quoted strings, literals) and a display name of words/comments:
`token822_addrlist` succeeds and calls the callback exactly once per item, last to first, with the item's
address with the comments removed — in particular a comment inside `<…>` is not part of the address
(token822.c as of a66f18c).  `its` lists the items right to left. -/
theorem C17_envelope_items (cb : List Tok → List Tok) (name colon : Tok) (its : List Item)
    (h : ∀ it ∈ its, it.ok) :
    let r := addrlist cb (name :: colon :: (bodyRevI its).reverse)
    r.ok = true ∧ r.got = its.map (fun it => cb it.addr) := by
  have := C17_envelope_groups cb name colon (flatItems its) (validEls_items its) (ok_items its h)
  rwa [flatItems_toks, mboxes_items, List.map_map] at this

/-- **Envelope, restricted grammar.**  A field `name: m₁, m₂, …, mₙ` whose mailboxes are plain
(non-empty; words and `@`/`.` only; no two words adjacent — `sepOk`): `token822_addrlist` succeeds and
calls the callback exactly once per mailbox, with the whole mailbox, from the last to the first.  (`rs`
lists the mailboxes right to left, each reversed, exactly as the C callback receives them.) -/
theorem C17_envelope_plain (cb : List Tok → List Tok) (name colon : Tok) (rs : List (List Tok))
    (h : ∀ m ∈ rs, m ≠ [] ∧ sepOk true m = true) :
    let r := addrlist cb (name :: colon :: (bodyRev rs).reverse)
    r.ok = true ∧ r.got = rs.map cb := by
  have hf : ∀ m ∈ rs, m.filter notComment = m := fun m hm => (sepOkC_of_sepOk m true (h m hm).2).2
  have := C17_envelope_items cb name colon (rs.map .plain) (by
    intro it hit
    obtain ⟨m, hm, rfl⟩ := List.mem_map.mp hit
    exact ⟨by rw [hf m hm]; exact (h m hm).1, (sepOkC_of_sepOk m true (h m hm).2).1⟩)
  rw [bodyRevI_plain, List.map_map] at this
  refine ⟨this.1, this.2.trans (List.map_congr_left fun m hm => ?_)⟩
  simp only [Function.comp, Item.addr, hf m hm]

/-- **Header round trip, through the address-list parser.**  For EVERY local part (any bytes at all, including
NUL, LF, quotes, backslashes, 8-bit) and every sane domain (dot-atom of `ok[]` bytes, or one domain literal):
the address quoted by `quote2` and tokenized by `token822_parse` is accepted, `token822_unquote` gives back
exactly `local@domain`, the tokens have the shape `word(.word)* @ domain`, AND `token822_addrlist` (after any
two prefix tokens, as in a header field) accepts them as an address list and invokes the callback exactly
once, with the whole address.  (`mailboxShape` alone, as in `C17_header_roundtrip`, does not imply what
`token822_addrlist` needs.) -/
theorem C17_header_roundtrip_addrlist (loc dom : Bytes) (hd : saneDomain dom = true) :
    ∃ ts, parse (quote2 (loc ++ AT :: dom)) = some ts ∧ unquote ts = loc ++ AT :: dom ∧ mailboxShape ts = true ∧
      ∀ (cb : List Tok → List Tok) (name colon : Tok),
        (addrlist cb (name :: colon :: ts)).ok = true ∧ (addrlist cb (name :: colon :: ts)).got = [cb ts.reverse] := by
  obtain ⟨ts, h1, h2, h3, h4, h5⟩ := header_roundtrip_full loc dom hd
  refine ⟨ts, h1, h2, h3, ?_⟩
  intro cb name colon
  have := C17_envelope_plain cb name colon [ts.reverse] (by
    intro m hm
    simp only [List.mem_cons, List.not_mem_nil, or_false] at hm
    subst hm
    exact ⟨by simpa using h4, h5⟩)
  simpa [bodyRev] using this

/-- what then reaches the envelope: with qmail-inject's callback for To/Cc/Bcc (`rwgeneric`, then
`rwappend`), the recipient strings are the unquoted rewritten mailboxes -/
theorem C17_envelope_recipients (c : RwCfg) (name colon : Tok) (rs : List (List Tok))
    (h : ∀ m ∈ rs, m ≠ [] ∧ sepOk true m = true) :
    (addrlist (rwgeneric c) (name :: colon :: (bodyRev rs).reverse)).got.map addrString
      = rs.map (fun m => unquote (rwgeneric c m).reverse) := by
  have := (C17_envelope_plain (rwgeneric c) name colon rs h).2
  rw [this]
  simp [addrString]

/-- **The tokenizer on ANY legal rendering** (lexical level of RFC 822 §3, as a generator independent of
the parser — `Nq.Spec.Lex822`): tokens written as specials, atoms of atom bytes, quoted strings and domain
literals with any mixture of plain bytes and quoted-pairs, comments with quoted-pairs and balanced nested
parentheses; between, before and after them any runs of SP TAB CR LF (so also folds), provided two atoms
are not adjacent.  `token822_parse` succeeds and returns exactly the tokens (a comment becomes ONE comment
token, wherever it stands; the inner parentheses of nested comments are dropped, as in C). -/
theorem C17_parse_render (cts : List (Bytes × CTok)) (tr : Bytes)
    (hok : cts.all (fun p => p.2.ok) = true) (hsep : sepsOk false cts = true) (htr : tr.all isWs = true) :
    parse (render cts tr) = some (cts.map (fun p => p.2.tok)) :=
  parse_render cts tr htr hok hsep

/-- **Comments are white space for `token822_addrlist`** (token822.c as of a66f18c), for EVERY token
list: the return value and the sequence of callback invocations (addresses handed over, in order) are
those of the same field with all comment tokens removed.  With `C17_parse_render` (a comment in the text
becomes one comment token and changes no other token) this is insensitivity to inter-token comments. -/
theorem C17_comments_ignored (cb : List Tok → List Tok) (name colon : Tok) (body : List Tok) :
    (addrlist cb (name :: colon :: body)).ok = (addrlist cb (name :: colon :: body.filter notComment)).ok ∧
    (addrlist cb (name :: colon :: body)).got = (addrlist cb (name :: colon :: body.filter notComment)).got := by
  have h := foldl_filter_comments cb body.reverse {} {} (SameButOut.refl _)
  rw [List.filter_reverse] at h
  have h2 := afinish_sameButOut cb _ _ h
  obtain ⟨_, _, _, _, g, f⟩ := h2
  simp only [addrlist, List.drop_succ_cons, List.drop_zero]
  exact ⟨by rw [f], g⟩

/-- **`token822_parse ∘ token822_unparse = id`, folding included**: for every line length `n` (0 = never
fold, `LINELEN` = 80 in qmail-inject, or anything else — whatever the `NSUW` macro decides about its
tentative folds) and every token list whose atoms are legal atoms (quoted strings, literals and comments
may hold ANY bytes), what `token822_unparse` writes is read back as the same token list. -/
theorem C17_unparse_parse (n : Nat) (ts : List Tok) (hc : ts.all cleanTok = true) :
    parse (unparse n ts) = some ts := by
  obtain ⟨items, b, hi, _, e⟩ := unparse_weave n ts
  rw [← hi] at hc
  obtain ⟨h1, h2, h3⟩ := weaveCts_ok items hc none false (fun h => by cases h)
  have htr : (foldOf b ++ [LF]).all isWs = true := by cases b <;> decide
  rw [e, weave_render items _ hc none, parse_render _ _ htr h1 h3, h2, hi]

/-- Complement: an atom that is not a legal atom does not survive (`a\ b@c`: the quoted-pair inside an
atom yields the atom `a b`, written back as two atoms) — the hypothesis cannot be dropped. -/
example : parse (unparse 80 [.atom [97, 32, 98]]) = some [.atom [97], .atom [98]] := by decide +kernel

/-- **The envelope, from bytes to callbacks** (first half of the property, full strength).  For
every element list `els` accepted by the grammar (`C17_envelope_groups`) and EVERY legal rendering of the
field — concrete tokens `cts` (any quoting, `C17_parse_render`) with any white space / folding between
them, whose tokens are the field name, the colon, and a body that is `els` (left to right) with comment
tokens inserted or removed ANYWHERE — `token822_parse` accepts the text, `token822_addrlist` accepts the
tokens, and the callback is invoked exactly on the listed mailboxes, right to left. -/
theorem C17_envelope (cb : List Tok → List Tok) (els : List El) (cts : List (Bytes × CTok)) (tr : Bytes)
    (name colon : Tok) (body : List Tok)
    (hv : validEls false .fresh els = true) (hel : ∀ el ∈ els, el.ok)
    (hok : cts.all (fun p => p.2.ok) = true) (hsep : sepsOk false cts = true) (htr : tr.all isWs = true)
    (htoks : cts.map (fun p => p.2.tok) = name :: colon :: body)
    (hskel : body.filter notComment = ((els.flatMap El.toks).reverse).filter notComment) :
    ∃ ts, parse (render cts tr) = some ts ∧ (addrlist cb ts).ok = true ∧ (addrlist cb ts).got = (mboxes els).map cb := by
  have hc := C17_comments_ignored cb name colon
  refine ⟨name :: colon :: body, by rw [C17_parse_render cts tr hok hsep htr, htoks], ?_⟩
  rw [(hc body).1, (hc body).2, hskel, ← (hc _).1, ← (hc _).2]
  exact C17_envelope_groups cb name colon els hv hel

/-- **The envelope for an address-list TREE** (RFC 822 `#address`): `L` is any list of addresses — a mailbox
(`addr-spec` or `phrase <route-addr>`) or a group `name : mailboxes ;` — separated by commas (listed right
to left, token lists reversed, as the C callback sees them).  Every such list is accepted by the grammar
automaton, so: for EVERY legal rendering of the field (any quoting, white space, folding; comments inserted
anywhere in the body) `token822_parse` and `token822_addrlist` succeed and the callback is invoked exactly on
the mailboxes of the tree — group members included — last to first.  (Missing commas: `C17_envelope`.) -/
theorem C17_envelope_ast (cb : List Tok → List Tok) (L : List Addr) (cts : List (Bytes × CTok)) (tr : Bytes)
    (name colon : Tok) (body : List Tok) (hL : ∀ a ∈ L, a.ok)
    (hok : cts.all (fun p => p.2.ok) = true) (hsep : sepsOk false cts = true) (htr : tr.all isWs = true)
    (htoks : cts.map (fun p => p.2.tok) = name :: colon :: body)
    (hskel : body.filter notComment = (((flatAddrs L).flatMap El.toks).reverse).filter notComment) :
    ∃ ts, parse (render cts tr) = some ts ∧ (addrlist cb ts).ok = true ∧
      (addrlist cb ts).got = (L.flatMap Addr.mailboxes).map cb := by
  have := C17_envelope cb (flatAddrs L) cts tr name colon body (validEls_addrs L) (ok_addrs L hL) hok hsep htr htoks hskel
  rwa [mboxes_addrs] at this

/-- **The rewritten field stays clean** (an INPUT-level condition for the re-parse conjunct of
`C17_envelope_field`; the derived value `out.all cleanTok` fails for `To: u@+` although its input tokens are
clean).  If every token of the field is good — a clean token (atoms are non-empty runs of RFC 822 atom bytes)
other than the atom `+` alone — and the configuration tokens are clean (`defaulthost`'s good), then every
token `token822_addrlist` + `rwgeneric` put into `taout` is clean. -/
theorem C17_rewritten_clean (c : RwCfg) (hc : CleanCfg c) (ts : List Tok) (hts : ts.all goodTok = true) :
    (addrlist (rwgeneric c) ts).out.all cleanTok = true :=
  addrlist_clean (rwgeneric c) (rwgeneric_clean c hc) ts hts

/-- Complement: the atom `+` alone as a host (`To: u@+`) has clean input tokens, but `rwplus` leaves an EMPTY
atom, which `token822_unparse` writes as nothing: the rewritten field is `To: u@.p` and does not parse back to
`taout` — the hypothesis `goodTok` cannot be weakened to `cleanTok`.  (The envelope address is `u@.p` both times.) -/
example :
    let c : RwCfg := { defaulthost := [.at, .atom [104]], defaultdomain := [.dot, .atom [100]], plusdomain := [.dot, .atom [112]] }
    let ts : List Tok := [.atom [84, 111], .colon, .atom [117], .at, .atom [43]]
    ts.all cleanTok = true ∧ ts.all goodTok = false ∧ (addrlist (rwgeneric c) ts).out.all cleanTok = false ∧
    parse (unparse 80 (addrlist (rwgeneric c) ts).out) ≠ some (addrlist (rwgeneric c) ts).out := by decide +kernel

/-- **…and into qmail-inject's lists and saved header.**  A header field `h` that `token822_parse` accepts and
on which `token822_addrlist` succeeds with qmail-inject's callback — by `C17_envelope` every legal rendering of a
grammatical list, with `got = (mboxes els).map (rwgeneric c)` —: if it is a To, Cc, Bcc or Apparently-To field
the strings appended to `hrlist` are exactly the unquoted rewritten mailboxes (for Resent-To/Cc/Bcc: to
`hrrlist`), qmail-inject does not die on it, and the saved header grows by exactly the rewritten text
`(rewriteField c true h).1` — by nothing for Bcc / Resent-Bcc.  That text is `unparse LINELEN out`, and it is read
back by `token822_parse` as the same tokens `out` whenever the field's INPUT tokens are good and the
configuration is clean (`C17_rewritten_clean`). -/
theorem C17_envelope_field (e : Env) (c : RwCfg) (st : ISt) (h : Bytes) (ts : List Tok) (hd : st.dead = none)
    (hp : parse h = some ts) (hok : (addrlist (rwgeneric c) ts).ok = true) :
    ((hfieldKnown h = Gen.H_TO ∨ hfieldKnown h = Gen.H_CC ∨ hfieldKnown h = Gen.H_BCC ∨ hfieldKnown h = Gen.H_APPARENTLYTO) →
      (doheaderfield e c st h).hrlist = st.hrlist ++ (addrlist (rwgeneric c) ts).got.map addrString ∧
      (doheaderfield e c st h).hrrlist = st.hrrlist ∧ (doheaderfield e c st h).dead = none ∧
      (doheaderfield e c st h).savedh = st.savedh ++ (if hfieldKnown h = Gen.H_BCC then [] else [(rewriteField c true h).1])) ∧
    ((hfieldKnown h = Gen.H_R_TO ∨ hfieldKnown h = Gen.H_R_CC ∨ hfieldKnown h = Gen.H_R_BCC) →
      (doheaderfield e c st h).hrrlist = st.hrrlist ++ (addrlist (rwgeneric c) ts).got.map addrString ∧
      (doheaderfield e c st h).hrlist = st.hrlist ∧ (doheaderfield e c st h).dead = none ∧
      (doheaderfield e c st h).savedh = st.savedh ++ (if hfieldKnown h = Gen.H_R_BCC then [] else [(rewriteField c true h).1])) ∧
    ((rewriteField c true h).1 = unparse Gen.LINELEN (addrlist (rwgeneric c) ts).out ∧
      (CleanCfg c → ts.all goodTok = true →
        parse (rewriteField c true h).1 = some (addrlist (rwgeneric c) ts).out)) := by
  have hr := rewriteField_ok hp hok
  refine ⟨?_, ?_, ?_, ?_⟩
  · intro hk
    have hcls : fieldClass (hfieldKnown h) = (1, true) := by
      rcases hk with hk | hk | hk | hk <;> rw [hk] <;> rfl
    have hdrop : fieldDropped (hfieldKnown h) = decide (hfieldKnown h = Gen.H_BCC) := by
      rcases hk with hk | hk | hk | hk <;> rw [hk] <;> rfl
    simp [doheaderfield_rcpt_state e c st h hd hcls (Or.inl rfl), hrContribution_eq, hrContribution_ne, hcls, hr, hdrop]
  · intro hk
    have hcls : fieldClass (hfieldKnown h) = (2, true) := by
      rcases hk with hk | hk | hk <;> rw [hk] <;> rfl
    have hdrop : fieldDropped (hfieldKnown h) = decide (hfieldKnown h = Gen.H_R_BCC) := by
      rcases hk with hk | hk | hk <;> rw [hk] <;> rfl
    simp [doheaderfield_rcpt_state e c st h hd hcls (Or.inr rfl), hrContribution_eq, hrContribution_ne, hcls, hr, hdrop]
  · rw [hr]
  · intro hc hts
    rw [hr]
    exact C17_unparse_parse Gen.LINELEN _ (C17_rewritten_clean c hc ts hts)

/-- **Rewriting, fully qualified host**: `local@host` whose host (rightmost token an atom not ending in
`+`) has a dot is left alone. -/
theorem C17_rewrite_qualified (c : RwCfg) (s : Bytes) (r : List Tok)
    (hat : (Tok.atom s :: r).contains .at = true) (hlast : (Tok.atom s :: r).getLast? ≠ some .at)
    (hplus : s.getLast? ≠ some 43) (hdot : beforeAt (· = .dot) (Tok.atom s :: r) = true) :
    rwgeneric c (.atom s :: r) = .atom s :: r := by
  rw [rwgeneric_atomHost c s r hat hlast, rwnodot_rwplus_atom c s r [] (fun h => absurd h hplus), if_neg hplus, hdot]
  rfl

/-- **Rewriting, default domain**: a host without dots (and not a literal, not ending in `+`) gets
`.defaultdomain` appended (prepended in the reversed list). -/
theorem C17_rewrite_defaultdomain (c : RwCfg) (s : Bytes) (r : List Tok)
    (hat : (Tok.atom s :: r).contains .at = true) (hlast : (Tok.atom s :: r).getLast? ≠ some .at)
    (hplus : s.getLast? ≠ some 43) (hdot : beforeAt (· = .dot) (Tok.atom s :: r) = false)
    (hlit : beforeAt isLiteral (Tok.atom s :: r) = false) :
    rwgeneric c (.atom s :: r) = c.defaultdomain.reverse ++ (.atom s :: r) := by
  rw [rwgeneric_atomHost c s r hat hlast, rwnodot_rwplus_atom c s r [] (fun h => absurd h hplus), if_neg hplus, hdot, hlit]
  rfl

/-- **Rewriting, plus domain**: a host ending in `+` loses the plus sign and gets `.plusdomain`
(`plusdomain` = DOT followed by tokens without '@'), and then no default domain. -/
theorem C17_rewrite_plusdomain (c : RwCfg) (s : Bytes) (r pt : List Tok)
    (hat : (Tok.atom s :: r).contains .at = true) (hlast : (Tok.atom s :: r).getLast? ≠ some .at)
    (hplus : s.getLast? = some 43) (hpd : c.plusdomain = .dot :: pt) (hpt : ∀ t ∈ pt, t ≠ Tok.at) :
    rwgeneric c (.atom s :: r) = c.plusdomain.reverse ++ (.atom s.dropLast :: r) := by
  rw [rwgeneric_atomHost c s r hat hlast, rwnodot_rwplus_atom c s r pt (fun _ => ⟨hpd, hpt⟩), if_pos hplus]

/-- **Rewriting, lone box name**: an address without '@' (not ending in a dot) gets `@defaulthost`,
to which the plus-domain and default-domain rules are then applied. -/
theorem C17_rewrite_defaulthost (c : RwCfg) (t : Tok) (r : List Tok)
    (hno : (t :: r).contains .at = false) (ht : t ≠ .dot) :
    rwgeneric c (t :: r) = rwnodot c (rwplus c (c.defaulthost.reverse ++ (t :: r))) := by
  have hmem : Tok.at ∉ (t :: r) := by simpa using hno
  rw [rwgeneric_plain c t r (fun e => hmem (List.mem_of_getLast? e)) ht (fun e => hmem (by simp [e]))
    (fun y e => hmem (by simp [e])), rwnoat, if_neg (by rw [hno]; decide)]

/-- **The same, as envelope strings.**  With `defaultdomain`/`plusdomain` token lists that unquote to
`.dd` / `.pd`: a dotless host gives `addr ++ ".dd"`; a host `…h+` gives `…h ++ ".pd"` (the plus sign
removed); a dotted host gives the address unchanged. -/
theorem C17_rewrite_strings (c : RwCfg) (s : Bytes) (r pt : List Tok)
    (hat : (Tok.atom s :: r).contains .at = true) (hlast : (Tok.atom s :: r).getLast? ≠ some .at) :
    (s.getLast? ≠ some 43 → beforeAt (· = .dot) (Tok.atom s :: r) = true →
        addrString (rwgeneric c (.atom s :: r)) = addrString (.atom s :: r)) ∧
    (s.getLast? ≠ some 43 → beforeAt (· = .dot) (Tok.atom s :: r) = false → beforeAt isLiteral (Tok.atom s :: r) = false →
        addrString (rwgeneric c (.atom s :: r)) = addrString (.atom s :: r) ++ unquote c.defaultdomain) ∧
    (s.getLast? = some 43 → c.plusdomain = .dot :: pt → (∀ t ∈ pt, t ≠ Tok.at) →
        addrString (rwgeneric c (.atom s :: r)) = addrString r ++ s.dropLast ++ unquote c.plusdomain) := by
  refine ⟨?_, ?_, ?_⟩
  · intro h1 h2; rw [C17_rewrite_qualified c s r hat hlast h1 h2]
  · intro h1 h2 h3
    rw [C17_rewrite_defaultdomain c s r hat hlast h1 h2 h3]
    simp [addrString, unquote_append, unquote]
  · intro h1 h2 h3
    rw [C17_rewrite_plusdomain c s r pt hat hlast h1 h2 h3]
    simp [addrString, unquote_append, unquote, unqTok]

/-- **The token-level rewriting IS the documented string-level rewriting** (`Spec.Addr.rewriteMailbox`, written
from qmail-header(5) / qmail-inject(8) independently of the token model; it is what the harness oracle
compares the real envelope with).  For a mailbox `local@host` — local part ANY non-empty token list not
beginning with `@` (so not a source route), host a dot-atom of legal atoms ending in an atom — and
control values whose tokens unquote to `.defaultdomain` / `.plusdomain` (`C17_control_tokens`): the string
qmail-inject appends to its recipient list is `local@qualifyHost host`: a host ending in `+` loses the plus
and gets `.plusdomain`, else a dotted host is unchanged, else `.defaultdomain` is appended. -/
theorem C17_rewrite_spec (c : RwCfg) (sp : RwSpec) (ls h0 pt : List Tok) (s : Bytes)
    (hh : (h0 ++ [Tok.atom s]).all hostTok = true) (hne : ls ≠ []) (hroute : ls.head? ≠ some .at)
    (hdd : unquote c.defaultdomain = DOT :: sp.defaultdomain)
    (hpd : c.plusdomain = .dot :: pt) (hpt : ∀ t ∈ pt, t ≠ Tok.at) (hpu : unquote c.plusdomain = DOT :: sp.plusdomain) :
    addrString (rwgeneric c ((h0 ++ [Tok.atom s]).reverse ++ .at :: ls.reverse))
      = rewriteMailbox sp (unquote ls) (some (unquote (h0 ++ [Tok.atom s]))) := by
  have e : (h0 ++ [Tok.atom s]).reverse ++ .at :: ls.reverse = .atom s :: (h0.reverse ++ .at :: ls.reverse) := by simp
  have hat : (Tok.atom s :: (h0.reverse ++ .at :: ls.reverse)).contains .at = true := by simp
  have hlast : (Tok.atom s :: (h0.reverse ++ .at :: ls.reverse)).getLast? ≠ some .at :=
    not_route (.atom s :: h0.reverse) ls hne hroute
  have h1 := rwgeneric_atomHost c s (h0.reverse ++ .at :: ls.reverse) hat hlast
  have h2 := rw_host_strings c sp h0 s ls.reverse pt hh hdd hpd hpt hpu
  rw [e] at h2 ⊢
  rw [h1, h2]
  simp [rewriteMailbox]

/-- **Source routes are stripped** ("strips all source routes", qmail-header(5)): `@route:inner` (the route has
no colon of its own; `inner` is not empty, is not itself a route, and is not an address ending in `@[]`) is
rewritten exactly as `inner` is — to which `C17_rewrite_spec_any` applies.  (`inner` need not end
in an atom: `<@r:u@[1.2.3.4]>` is covered.  The one exception in the C code, an address
ending in `@[]`, is left completely alone, route included — complement `example` below.) -/
theorem C17_rewrite_route (c : RwCfg) (rt inner : List Tok)
    (hrt : Tok.colon ∉ rt) (hne : inner ≠ []) (hnr : inner.head? ≠ some .at)
    (hnl : ∀ y, inner.reverse ≠ .literal [] :: .at :: y) :
    rwgeneric c ((.at :: rt ++ .colon :: inner).reverse) = rwgeneric c inner.reverse := by
  have hlast : (Tok.at :: rt ++ .colon :: inner).reverse.getLast? = some .at := by
    rw [List.getLast?_reverse]; rfl
  have hr1 : rwroute (Tok.at :: rt ++ .colon :: inner).reverse = inner.reverse := by
    rw [rwroute, if_pos hlast, List.reverse_reverse, dropThroughColon_append _ _ (by simpa using hrt)]
  have hr2 : rwroute inner.reverse = inner.reverse :=
    rwroute_not_route (by rw [List.getLast?_reverse]; exact hnr)
  -- the routed address is not the `…@[]` exception either: it would have to begin like `inner` does
  have hnl2 : ∀ y, (Tok.at :: rt ++ .colon :: inner).reverse ≠ .literal [] :: .at :: y := by
    intro y hy
    cases hin : inner.reverse with
    | nil => exact hne (by simpa using hin)
    | cons t r =>
      simp only [List.cons_append, List.reverse_append, List.reverse_cons, hin, List.cons.injEq] at hy
      cases r with
      | nil => simp at hy
      | cons u r' =>
        simp only [List.cons_append, List.cons.injEq] at hy
        exact hnl r' (by rw [hin, hy.1, hy.2.1])
  rw [rwgeneric_body c _ (by simp) hnl2, rwgeneric_body c _ (by simpa using hne) hnl, hr1, hr2]

/-- Complement: `<@r:u@[]>` keeps its route (the C code returns before `rwroute`). -/
example : rwgeneric { defaulthost := [.at, .atom [104]], defaultdomain := [.dot, .atom [100]], plusdomain := [.dot, .atom [112]] }
      ([Tok.at, .atom [114], .colon, .atom [117], .at, .literal []].reverse)
    = [Tok.at, .atom [114], .colon, .atom [117], .at, .literal []].reverse := by decide +kernel
/-- `<@r:u@[1.2.3.4]>` (literal host) is covered -/
example : addrString (rwgeneric { defaulthost := [.at, .atom [104]], defaultdomain := [.dot, .atom [100]], plusdomain := [.dot, .atom [112]] }
      ([Tok.at, .atom [114], .colon, .atom [117], .at, .literal [49]].reverse)) = [117, 64, 91, 49, 93] := by decide +kernel
/-- `C17_rewrite_spec` for a host that is one domain literal: it is left alone. -/
theorem C17_rewrite_spec_literal (c : RwCfg) (sp : RwSpec) (ls : List Tok) (x : Bytes)
    (hne : ls ≠ []) (hroute : ls.head? ≠ some .at) :
    addrString (rwgeneric c (.literal x :: .at :: ls.reverse))
      = rewriteMailbox sp (unquote ls) (some (LBRK :: (x ++ [RBRK]))) := by
  have hlast : (Tok.literal x :: .at :: ls.reverse).getLast? ≠ some .at := not_route [.literal x] ls hne hroute
  have hq : qualifyHost sp (LBRK :: (x ++ [RBRK])) = LBRK :: (x ++ [RBRK]) := by simp [qualifyHost, LBRK]
  have hres : rwgeneric c (.literal x :: .at :: ls.reverse) = .literal x :: .at :: ls.reverse := by
    cases x with
    | nil => simp [rwgeneric]
    | cons b x =>
      rw [rwgeneric_plain c _ _ hlast (by simp) (by simp) (by simp)]
      simp [rwnoat, rwplus, rwnodot, beforeAt, isLiteral]
  rw [hres]
  simp [addrString, rewriteMailbox, hq, unquote_append, unquote, unqTok, AT]

/-- `C17_rewrite_spec` for a lone box name (no `@`, not ending in a dot): it gets `@defaulthost`, qualified by the
same rules. -/
theorem C17_rewrite_spec_nohost (c : RwCfg) (sp : RwSpec) (ls d0 pt : List Tok) (s : Bytes)
    (hdh : c.defaulthost = .at :: (d0 ++ [Tok.atom s])) (hh : (d0 ++ [Tok.atom s]).all hostTok = true)
    (hdu : unquote (d0 ++ [Tok.atom s]) = sp.defaulthost)
    (hne : ls ≠ []) (hno : Tok.at ∉ ls) (hdot : ls.getLast? ≠ some .dot)
    (hdd : unquote c.defaultdomain = DOT :: sp.defaultdomain)
    (hpd : c.plusdomain = .dot :: pt) (hpt : ∀ t ∈ pt, t ≠ Tok.at) (hpu : unquote c.plusdomain = DOT :: sp.plusdomain) :
    addrString (rwgeneric c ls.reverse) = rewriteMailbox sp (unquote ls) none := by
  obtain ⟨t, r, hr⟩ := List.exists_cons_of_ne_nil (l := ls.reverse) (by simpa using hne)
  have ht : t ≠ .dot := by
    intro e
    apply hdot
    rw [← List.head?_reverse, hr, e]
    rfl
  have hno' : (t :: r).contains .at = false := by
    rw [← hr]; simpa using hno
  have h1 := C17_rewrite_defaulthost c t r hno' ht
  have e : c.defaulthost.reverse ++ (t :: r) = (d0 ++ [Tok.atom s]).reverse ++ .at :: ls.reverse := by
    rw [hdh, hr]; simp
  rw [hr, h1, e, rw_host_strings c sp d0 s ls.reverse pt hh hdd hpd hpt hpu, hdu]
  simp [rewriteMailbox]

/-- **Sane control values parse to what the rewriting theorems assume**: for a `defaultdomain`/`plusdomain`
value `d` of unquoted-safe bytes, `token822_parse("." d)` (what `getcontrols` stores) is a DOT followed by
tokens without '@', and unquotes to `.d`; likewise `"@" d` for `defaulthost`. -/
theorem C17_control_tokens (d : Bytes) (hd : d.all okChar = true) :
    (∃ pt, parse (DOT :: d) = some (.dot :: pt) ∧ (∀ t ∈ pt, t ≠ Tok.at) ∧ unquote (.dot :: pt) = DOT :: d) ∧
    (∃ pt, parse (AT :: d) = some (.at :: pt) ∧ (∀ t ∈ pt, t ≠ Tok.at) ∧ unquote (.at :: pt) = AT :: d) := by
  refine ⟨⟨dotAtomsAux d [], parse_sep_plain d hd DOT .dot specialTok_dot rfl, dotAtomsAux_noAt d [], ?_⟩,
    ⟨dotAtomsAux d [], parse_sep_plain d hd AT .at specialTok_at rfl, dotAtomsAux_noAt d [], ?_⟩⟩
  · simp [unquote, unqTok, unquote_dotAtomsAux, DOT]
  · simp [unquote, unqTok, unquote_dotAtomsAux, AT]

/-- **The atom bytes of the theorems are exactly RFC 822's** (`atomByte` is defined through the
tables regenerated from token822.c, so without this a mutated `atomok` would move the hypothesis of
`C17_parse_render` along with the code).  `rfc822Atom` is written from the RFC: CHAR except specials, SPACE and CTLs. -/
theorem C17_atomByte_rfc822 (c : Byte) : atomByte c = rfc822Atom c := by
  simpa using atomByte_rfc822_all c

/-- **`hfield_known` is the independent field-name matcher plus a table lookup** (links the
model's `hfieldKnown`, transcribed from hfield.c, to `Spec.Addr.fieldName`, the matcher the driver's Bcc oracle
uses).  For EVERY line: the H_* number is the position in `hname[]` of the line's name — the bytes before the
first colon, trailing SP/TAB removed, lower-cased — or 0. -/
theorem C17_hfield_known_spec (line : Bytes) : hfieldKnown line = knownField line :=
  hfieldKnown_spec line

/-- the table positions of the names the envelope and Bcc theorems speak about -/
theorem C17_hfield_names :
    rcptFields.map (fun n => knownIndexFrom n 1 (Gen.hname.drop 1)) = [Gen.H_TO, Gen.H_CC, Gen.H_BCC, Gen.H_APPARENTLYTO] ∧
    resentRcptFields.map (fun n => knownIndexFrom n 1 (Gen.hname.drop 1)) = [Gen.H_R_TO, Gen.H_R_CC, Gen.H_R_BCC] ∧
    resentFields.map (fun n => knownIndexFrom n 1 (Gen.hname.drop 1)) = resentTypes ∧
    hiddenFields.map (fun n => knownIndexFrom n 1 (Gen.hname.drop 1))
      = [Gen.H_BCC, Gen.H_R_BCC, Gen.H_RETURNPATH, Gen.H_CONTENTLENGTH] :=
  ⟨rcptTypes_eq, resentRcptTypes_eq, resentTypes_eq, hiddenTypes_eq⟩

/-- **Sane control values give the configuration the rewriting theorems assume**
(`C17_control_tokens` does not deliver the `defaulthost` shape `C17_rewrite_spec_nohost` needs — it fails for
`dh.`).  For `defaultdomain`, `plusdomain` of `ok[]` bytes and a `defaulthost` of `ok[]` bytes that is not
empty and does not end in a dot, the token lists `getcontrols` stores satisfy `CfgSpec`. -/
theorem C17_control_cfg (ddv dhv pdv : Bytes) (dd dh pd : List Tok)
    (h1 : ddv.all okChar = true) (h2 : dhv.all okChar = true) (h3 : pdv.all okChar = true)
    (hne : dhv ≠ []) (hl : dhv.getLast? ≠ some DOT)
    (hdd : parse ([46] ++ ddv) = some dd) (hdh : parse ([AT] ++ dhv) = some dh) (hpd : parse ([46] ++ pdv) = some pd) :
    CfgSpec ⟨dh, dd, pd⟩ ⟨dhv, ddv, pdv⟩ := by
  obtain ⟨⟨pt1, p1, _, p3⟩, _⟩ := C17_control_tokens ddv h1
  obtain ⟨⟨pt3, q1, q2, q3⟩, _⟩ := C17_control_tokens pdv h3
  obtain ⟨h0, s, e, hh, hu⟩ := host_tokens dhv h2 hne hl
  have r1 : dd = .dot :: pt1 := Option.some.inj (hdd.symm.trans p1)
  have r3 : pd = .dot :: pt3 := Option.some.inj (hpd.symm.trans q1)
  have r2 : dh = .at :: (h0 ++ [Tok.atom s]) := by
    have : parse (AT :: dhv) = some dh := hdh
    rw [parse_sep_plain dhv h2 AT .at specialTok_at rfl, e] at this
    exact (Option.some.inj this).symm
  exact ⟨by rw [r1]; exact p3, ⟨pt3, r3, q2, by rw [r3]; exact q3⟩, ⟨h0, s, r2, hh, hu⟩⟩

/-- **One statement for every mailbox shape** (`specShape`: lone box name; `local@dot-atom-host`;
`local@[literal]`; local part any non-empty token list that is not a route): the string qmail-inject appends to
its recipient list for the callback argument `m` is `specString sp m` — the documented string-level rewriting
`Spec.Addr.rewriteMailbox` of the unquoted local part and host. -/
theorem C17_rewrite_spec_any (c : RwCfg) (sp : RwSpec) (hc : CfgSpec c sp) (m : List Tok) (hs : specShape m = true) :
    addrString (rwgeneric c m) = specString sp m := by
  obtain ⟨hdd, ⟨pt, hpd, hpt, hpu⟩, ⟨d0, s0, hdh, hdhh, hdhu⟩⟩ := hc
  unfold specShape at hs
  unfold specString
  cases hsp : splitAtTok m with
  | none =>
    simp only [hsp, Bool.and_eq_true, Bool.not_eq_true', List.isEmpty_eq_false_iff, bne_iff_ne, ne_eq] at hs ⊢
    have hno := splitAtTok_none m hsp
    have := C17_rewrite_spec_nohost c sp m.reverse d0 pt s0 hdh hdhh hdhu (by simpa using hs.1) (by simpa using hno)
      (by rw [List.getLast?_reverse]; exact hs.2) hdd hpd hpt hpu
    simpa using this
  | some p =>
    obtain ⟨hr, lr⟩ := p
    simp only [hsp, Bool.and_eq_true, Bool.not_eq_true', List.isEmpty_eq_false_iff, bne_iff_ne, ne_eq] at hs ⊢
    obtain ⟨⟨hlne, hlr⟩, hhost⟩ := hs
    obtain ⟨hm, _⟩ := splitAtTok_some m hr lr hsp
    have hne : lr.reverse ≠ [] := by simpa using hlne
    have hroute : lr.reverse.head? ≠ some .at := by rw [List.head?_reverse]; exact hlr
    cases hr with
    | nil => simp at hhost
    | cons t hr' =>
      cases t with
      | literal x =>
        cases hr' with
        | nil =>
          have := C17_rewrite_spec_literal c sp lr.reverse x hne hroute
          rw [hm]
          simpa [unquote, unqTok] using this
        | cons u v => simp at hhost
      | atom s =>
        have hh : (hr'.reverse ++ [Tok.atom s]).all hostTok = true := by
          simp only [List.all_cons, Bool.and_eq_true] at hhost
          simp only [List.all_append, List.all_reverse, List.all_cons, List.all_nil, Bool.and_true, Bool.and_eq_true]
          exact ⟨hhost.2, hhost.1⟩
        have := C17_rewrite_spec c sp lr.reverse hr'.reverse pt s hh hne hroute hdd hpd hpt hpu
        rw [hm]
        simpa using this
      | _ => simp at hhost

/-- **…and with a source route in front**: for ANY callback argument `m` (routed or not) that is not the C code's
`…@[]` exception, if `rwroute m` — `m` without its route: everything through the first colon of an address that
begins with `@` (`C17_rewrite_route`) — has one of the shapes of `specShape`, the envelope string is the documented
rewriting of that route-free mailbox. -/
theorem C17_rewrite_spec_route_any (c : RwCfg) (sp : RwSpec) (hc : CfgSpec c sp) (m : List Tok)
    (hs : specShape (rwroute m) = true) (hnl : ∀ y, m ≠ .literal [] :: .at :: y) :
    addrString (rwgeneric c m) = specString sp (rwroute m) := by
  obtain ⟨hne, hlast⟩ := specShape_not_route hs
  rw [rwgeneric_rwroute c m hne hlast hnl]
  exact C17_rewrite_spec_any c sp hc _ hs

/-- **Command-line recipients** (`dorecip`: `quote2`, `token822_parse`, `rwgeneric`, `token822_unquote`) **= the
documented rewriting**.  For EVERY local part (any bytes) and every sane host name (`ok[]` bytes,
non-empty, not ending in a dot): the recipient `local@host` given on the command line enters the envelope as
`rewriteMailbox sp local (some host)`. -/
theorem C17_arg_spec (c : RwCfg) (sp : RwSpec) (hc : CfgSpec c sp) (loc dom : Bytes)
    (hd : dom.all okChar = true) (hne : dom ≠ []) (hl : dom.getLast? ≠ some DOT) :
    argAddress c (loc ++ AT :: dom) = some (rewriteMailbox sp loc (some dom)) := by
  obtain ⟨hdd, ⟨pt, hpd, hpt, hpu⟩, _⟩ := hc
  obtain ⟨ls, h0, s, hp, hu, hlne, hlh, hh, hhu⟩ := arg_tokens loc dom hd hne hl
  unfold argAddress
  rw [hp]
  simp only []
  have e : (ls ++ Tok.at :: (h0 ++ [Tok.atom s])).reverse = (h0 ++ [Tok.atom s]).reverse ++ .at :: ls.reverse := by simp
  rw [e, C17_rewrite_spec c sp ls h0 pt s hh hlne hlh hdd hpd hpt hpu, hu, hhu]

/-- **The whole message: what reaches qmail-queue** (no intermediate state is quantified over: "`hrrlist` if a
Resent- field was seen" is a statement about the fields of the input).  For EVERY input message and option set with which
qmail-inject exits 0 (and queues, `-N`): every command-line recipient parses (unless the strategy is `-h`), and
the recipients handed to `qmail_to` are, in this order, the rewritten arguments (`-a`, `-H`, default with
arguments) followed (`-h`, `-H`, default without arguments) by the concatenation over the header fields
`headerbody` delivers, in their order, of each field's contribution — the contributions of the Resent-To/Cc/Bcc
fields if ANY of the fields is one of the eight Resent- fields (`isResentField`), else those of the
To/Cc/Bcc/Apparently-To fields.  A field's contribution (`hrContribution`) is the unquoted callback results of
`token822_addrlist` on it — by `C17_field_end_to_end` the documented rewriting of the listed mailboxes. -/
theorem C17_envelope_inject (e : Env) (a : Args) (inp : Bytes) (dd dh pd : List Tok)
    (hdd : parse ([46] ++ e.defaultdomain) = some dd) (hdh : parse ([AT] ++ e.defaulthost) = some dh)
    (hpd : parse ([46] ++ e.plusdomain) = some pd)
    (hex : (inject e a inp).exit = 0) (hq : a.queue = true) :
    (effStrategy a ≠ 3 → ∀ r ∈ a.recips, (argAddress ⟨dh, dd, pd⟩ r).isSome = true) ∧
    (inject e a inp).recips =
      ((if effStrategy a = 3 then [] else a.recips.filterMap (argAddress ⟨dh, dd, pd⟩)) ++
       (if effStrategy a = 2 then []
        else if (headerbody inp).fields.any isResentField then (headerbody inp).fields.flatMap (hrContribution ⟨dh, dd, pd⟩ 2)
        else (headerbody inp).fields.flatMap (hrContribution ⟨dh, dd, pd⟩ 1))).map cstr := by
  obtain ⟨reciplist, st, gen, hrl, hL1, hL2, hr1, _, _, hinj⟩ := inject_exit0 e a inp dd dh pd hdd hdh hpd hex
  rw [hinj]
  simp only [hq, if_true]
  by_cases h3 : effStrategy a = 3
  · simp only [h3, ne_eq, not_true_eq_false, if_false, Option.some.injEq] at hrl
    subst hrl
    refine ⟨fun h => absurd h3 h, ?_⟩
    simp [envelopeRecips, h3, hr1, hL1, hL2]
  · rw [if_pos h3] at hrl
    obtain ⟨e1, e2⟩ := mapOpt_some _ a.recips reciplist hrl
    refine ⟨fun _ => e2, ?_⟩
    subst e1
    by_cases h2 : effStrategy a = 2
    · simp [envelopeRecips, h2]
    · simp [envelopeRecips, h2, h3, hr1, hL1, hL2]

/-- "one of the eight Resent- fields", "a To/Cc/Bcc/Apparently-To field", "a Resent-To/Cc/Bcc field", "a dropped
field" — by NAME: the model's tests on `hfield_known`'s number are the independent matcher's tests on the field's
own name (`Spec.Addr.fieldName`: bytes before the first colon, trailing blanks removed, lower-cased). -/
theorem C17_field_types_by_name (h : Bytes) :
    isResentField h = nameIn resentFields h ∧
    ((fieldClass (hfieldKnown h)).1 = 1 ↔ nameIn rcptFields h = true) ∧
    ((fieldClass (hfieldKnown h)).1 = 2 ↔ nameIn resentRcptFields h = true) ∧
    fieldDropped (hfieldKnown h) = nameIn hiddenFields h :=
  ⟨isResentField_name h, rcpt_class_name h, resent_class_name h, dropped_name h⟩

/-- **From header TEXT to envelope STRINGS** (the end-to-end claim, assembled).  `h` is the text of
one header field: ANY legal rendering (`C17_parse_render`: any quoting, white space, folding, comments anywhere
in the body) of `name : address-list`, where the address list is the tree `L` (`C17_envelope_ast`) whose
mailboxes — after removal of a source route, `rwroute` — have one of the shapes of `specShape` (and are not the C
code's `…@[]` exception), the field's own name (independent matcher) is To, Cc, Bcc or
Apparently-To (`cls = 1`; Resent-To, Resent-Cc, Resent-Bcc for `cls = 2`), and the control values are sane
(`CfgSpec`, delivered by `C17_control_cfg`).  Then what the field contributes to qmail-inject's recipient list
`hrlist` (`hrrlist`) — by `C17_envelope_inject` a segment of the envelope — is exactly the list of the tree's
mailboxes, right to left, each — its source route stripped — rewritten by the DOCUMENTED string-level rule
`Spec.Addr.rewriteMailbox` (`specString`); and it contributes nothing to the other list. -/
theorem C17_field_end_to_end (c : RwCfg) (sp : RwSpec) (hc : CfgSpec c sp) (cls : Nat) (L : List Addr)
    (cts : List (Bytes × CTok)) (tr : Bytes) (name colon : Tok) (body : List Tok) (hL : ∀ a ∈ L, a.ok)
    (hok : cts.all (fun p => p.2.ok) = true) (hsep : sepsOk false cts = true) (htr : tr.all isWs = true)
    (htoks : cts.map (fun p => p.2.tok) = name :: colon :: body)
    (hskel : body.filter notComment = (((flatAddrs L).flatMap El.toks).reverse).filter notComment)
    (hshape : ∀ m ∈ L.flatMap Addr.mailboxes, specShape (rwroute m) = true ∧ ∀ y, m ≠ .literal [] :: .at :: y)
    (hname : (cls = 1 ∧ nameIn rcptFields (render cts tr) = true) ∨ (cls = 2 ∧ nameIn resentRcptFields (render cts tr) = true)) :
    hrContribution c cls (render cts tr) = (L.flatMap Addr.mailboxes).map (fun m => specString sp (rwroute m)) ∧
    hrContribution c (3 - cls) (render cts tr) = [] := by
  obtain ⟨ts, hp, hk, hg⟩ := C17_envelope_ast (rwgeneric c) L cts tr name colon body hL hok hsep htr htoks hskel
  have hcls : (fieldClass (hfieldKnown (render cts tr))).1 = cls := by
    rcases hname with ⟨rfl, hn⟩ | ⟨rfl, hn⟩
    · exact (rcpt_class_name _).mpr hn
    · exact (resent_class_name _).mpr hn
  have hr := rewriteField_ok hp hk true
  constructor
  · rw [hrContribution_eq c hcls, hr, hg, List.map_map]
    apply List.map_congr_left
    intro m hm
    exact C17_rewrite_spec_route_any c sp hc m (hshape m hm).1 (hshape m hm).2
  · apply hrContribution_ne
    rw [hcls]
    rcases hname with ⟨rfl, _⟩ | ⟨rfl, _⟩ <;> decide

/-- **Bcc removal, whole message** (`C17_bcc` is one model step).  For EVERY message
and option set with which qmail-inject exits 0, the output message is
`rp ++ generated fields ++ saved header ++ body`, where `rp` is empty when the message is queued (with `-n` the
Return-Path line stands there; the statement leaves `rp` open in that case) and the saved header is the
concatenation, over the header fields `headerbody` delivers and in their order, of each field's
`savedContribution` — and a field whose own NAME (independent matcher `Spec.Addr.fieldName`) is Bcc, Resent-Bcc,
Return-Path or Content-Length contributes NOTHING, while (`C17_envelope_inject`) a Bcc / Resent-Bcc field still
contributes its addresses to the envelope.  The generated part consists of at most a Date, a Message-ID, a From
and a `Cc: recipient list not shown: ;` field (with `Resent-` in front of each for a resent message).
PARTIAL with respect to the full claim "`fieldNames msg` (every header line of the final TEXT, as an independent
reader splits it) contains no hidden name": this theorem does not say that no line INSIDE a kept or rewritten
field, inside the generated From field or of the body is read as a header line named Bcc.  That is the subject of
`C17_bcc_text_partial` / `C17_bcc_text_tokens_partial` (a queued message with safe Date and Message-ID texts:
proved for the body and the kept fields; for the rewritten fields and the generated From under conditions on their
token lists, among them that no token holds a LF: `C17_unparse_logical_line`, `C17_unparse_safe`); for arbitrary
token contents (e.g. a quoted string holding LF) it is the oracle `Ihidden` of the harness only, evaluated on
every produced message. -/
theorem C17_bcc_message_partial (e : Env) (a : Args) (inp : Bytes) (dd dh pd : List Tok)
    (hdd : parse ([46] ++ e.defaultdomain) = some dd) (hdh : parse ([AT] ++ e.defaulthost) = some dh)
    (hpd : parse ([46] ++ e.plusdomain) = some pd)
    (hex : (inject e a inp).exit = 0) :
    (∃ rp d m f cc, (a.queue = true → rp = []) ∧
      (inject e a inp).msg = rp ++ (d ++ m ++ f ++ cc) ++
        ((headerbody inp).fields.flatMap (savedContribution e ⟨dh, dd, pd⟩)).flatten ++ (headerbody inp).body.flatten ∧
      (d = [] ∨ d = e.date ∨ d = str "Resent-" ++ e.date) ∧
      (m = [] ∨ m = msgid e ∨ m = str "Resent-" ++ msgid e) ∧
      (f = [] ∨ ∃ t, defaultFrom e ⟨dh, dd, pd⟩ = some t ∧ (f = t ∨ f = str "Resent-" ++ t)) ∧
      (cc = [] ∨ cc = str "Cc: recipient list not shown: ;\n" ∨ cc = str "Resent-Cc: recipient list not shown: ;\n")) ∧
    (∀ h, nameIn hiddenFields h = true → savedContribution e ⟨dh, dd, pd⟩ h = []) := by
  constructor
  · obtain ⟨_, st, gen, _, _, _, _, hsv, hg, hinj⟩ := inject_exit0 e a inp dd dh pd hdd hdh hpd hex
    obtain ⟨d, m, f, cc, eg, g1, g2, g3, g4⟩ := generatedFields_shape hg
    rw [hinj]
    by_cases hq : a.queue = true
    · refine ⟨[], d, m, f, cc, fun _ => rfl, ?_, g1, g2, g3, g4⟩
      simp [hq, eg, hsv]
    · refine ⟨str "Return-Path: <" ++ quote2 (cstr (st.sender.getD [])) ++ str ">\n", d, m, f, cc, fun h => absurd h hq, ?_, g1, g2, g3, g4⟩
      simp only [hq, Bool.false_eq_true, if_false, eg, hsv]
  · exact fun h hn => savedContribution_hidden e _ hn

/-- **White space and folding between tokens are ignored** by the tokenizer: any run of SP, TAB, CR, LF
(so also a fold `LF SP`) at token level disappears, and such a byte ends an atom (`atomok` is false for
it), so `a@b ,` LF SP `c` tokenizes like `a@b,c`. -/
theorem C17_parse_blanks (ws rest : Bytes) (h : ws.all isWs = true) :
    prun .top (ws ++ rest) = prun .top rest ∧ (∀ c ∈ ws, atomok c = false) := by
  refine ⟨?_, fun c hc => (ws_facts (List.all_eq_true.mp h c hc)).2⟩
  rw [prun_plex, plex_ws ws h]
  cases prun .top rest <;> rfl

/-- **Bcc removal, one field** (the whole-message statement is `C17_bcc_message_partial`).  A `Bcc` (resp. `Resent-Bcc`) field never reaches the saved header — the output
message is `generated fields ++ savedh ++ body` — while the addresses its callback collected are
appended to `hrlist` (resp. `hrrlist`), the lists the envelope is taken from. -/
theorem C17_bcc (e : Env) (c : RwCfg) (st : ISt) (h : Bytes) (hd : st.dead = none) :
    (hfieldKnown h = Gen.H_BCC →
      (doheaderfield e c st h).savedh = st.savedh ∧
      (doheaderfield e c st h).hrlist = st.hrlist ++ (rewriteField c true h).2.1.map addrString) ∧
    (hfieldKnown h = Gen.H_R_BCC →
      (doheaderfield e c st h).savedh = st.savedh ∧
      (doheaderfield e c st h).hrrlist = st.hrrlist ++ (rewriteField c true h).2.1.map addrString) := by
  constructor
  · intro hk
    have hcls : fieldClass (hfieldKnown h) = (1, true) := by rw [hk]; rfl
    have hdrop : fieldDropped (hfieldKnown h) = true := by rw [hk]; rfl
    simp [doheaderfield_rcpt_state e c st h hd hcls (Or.inl rfl), hrContribution_eq, hcls, hdrop]
  · intro hk
    have hcls : fieldClass (hfieldKnown h) = (2, true) := by rw [hk]; rfl
    have hdrop : fieldDropped (hfieldKnown h) = true := by rw [hk]; rfl
    simp [doheaderfield_rcpt_state e c st h hd hcls (Or.inr rfl), hrContribution_eq, hcls, hdrop]

/-- **Recipient strategies and which fields feed which list.**  `-a`: the arguments only; `-h`/`-H` and the
default: header recipients — `hrrlist` (Resent-To/Cc/Bcc) if any Resent- field was seen, else `hrlist`
(To/Cc/Bcc/Apparently-To) — after the arguments; the default strategy is `-a` when there are arguments and
`-h` otherwise.  To, Cc, Bcc, Apparently-To feed `hrlist`; Resent-To, Resent-Cc, Resent-Bcc feed `hrrlist`;
Return-Path gets the callback that sets the sender (class 3); Subject, Date, Received, Mail-Followup-To and
unknown names get none; Bcc, Resent-Bcc, Return-Path and Content-Length are dropped from the header. -/
theorem C17_modes (rl : List Bytes) (st : ISt) (a : Args) :
    envelopeRecips 2 rl st = rl ∧
    envelopeRecips 3 rl st = rl ++ (if isResent st then st.hrrlist else st.hrlist) ∧
    envelopeRecips 4 rl st = rl ++ (if isResent st then st.hrrlist else st.hrlist) ∧
    (a.strategy = 1 → effStrategy a = if a.recips.isEmpty then 3 else 2) ∧
    (a.strategy ≠ 1 → effStrategy a = a.strategy) ∧
    [Gen.H_TO, Gen.H_CC, Gen.H_BCC, Gen.H_APPARENTLYTO].map fieldClass = [(1, true), (1, true), (1, true), (1, true)] ∧
    [Gen.H_R_TO, Gen.H_R_CC, Gen.H_R_BCC].map fieldClass = [(2, true), (2, true), (2, true)] ∧
    fieldClass Gen.H_RETURNPATH = (3, false) ∧
    [Gen.H_SUBJECT, Gen.H_DATE, Gen.H_RECEIVED, Gen.H_MAILFOLLOWUPTO, 0].map fieldClass
      = [(0, false), (0, false), (0, false), (0, false), (0, false)] ∧
    (List.range Gen.H_NUM).filter fieldDropped = [Gen.H_BCC, Gen.H_R_BCC, Gen.H_RETURNPATH, Gen.H_CONTENTLENGTH] := by
  refine ⟨by simp [envelopeRecips], by simp [envelopeRecips], by simp [envelopeRecips], ?_, ?_, by decide +kernel, by decide +kernel,
    by decide +kernel, by decide +kernel, by decide +kernel⟩
  · intro h; simp [effStrategy, h]
  · intro h; simp [effStrategy, h]

/-! ### Non-vacuity: concrete inputs meeting the hypotheses (bytes written out) -/

/-- the local part `a b"\` CR (needs quoting) at domain `x.y`: quoted as `"a b\"\\\<CR>"@x.y` -/
example : quote2 [97, 32, 98, 34, 92, 13, 64, 120, 46, 121]
    = [34, 97, 32, 98, 92, 34, 92, 92, 92, 13, 34, 64, 120, 46, 121] := by decide +kernel
example : parse [34, 97, 32, 98, 92, 34, 92, 92, 92, 13, 34, 64, 120, 46, 121]
    = some [.quote [97, 32, 98, 34, 92, 13], .at, .atom [120], .dot, .atom [121]] := by decide +kernel
example : saneDomain [120, 46, 121] = true := by decide +kernel
example : saneDomain [91, 49, 46, 50, 46, 51, 46, 52, 93] = true := by decide +kernel
example : smtpDomain [120, 46, 121] = true := by decide
example : isLocalLiteral { liphost := some [108], ipme := [[127, 0, 0, 1]] } [120, 46, 121] = false := by decide
/-- `[127.0.0.1]` IS a local literal for that configuration (the excluded case) -/
example : isLocalLiteral { liphost := some [108], ipme := [[127, 0, 0, 1]] } [91, 49, 50, 55, 46, 48, 46, 48, 46, 49, 93] = true := by decide +kernel
/-- `a.b@x` needs no quoting and has the dot-atom shape -/
example : parse (quote2 [97, 46, 98, 64, 120]) = some [.atom [97], .dot, .atom [98], .at, .atom [120]] := by decide +kernel

/-- `To: a@b, c` as tokens; the callback sees `c` first, then `a@b` (reversed: b @ a) -/
example : (addrlist id [.atom [84, 111], .colon, .atom [97], .at, .atom [98], .comma, .atom [99]]).got
    = [[.atom [99]], [.atom [98], .at, .atom [97]]] := by decide +kernel
example : bodyRev [[.atom [99]], [.atom [98], .at, .atom [97]]] = [.atom [99], .comma, .atom [98], .at, .atom [97]] := by decide +kernel
example : sepOk true [.atom [98], .at, .atom [97]] = true := by decide
/-- `a@b+` with plusdomain `.p.q` becomes `a@b.p.q` -/
example : rwgeneric { defaulthost := [.at, .atom [104]], defaultdomain := [.dot, .atom [100]],
                      plusdomain := [.dot, .atom [112], .dot, .atom [113]] } [.atom [98, 43], .at, .atom [97]]
    = [.atom [113], .dot, .atom [112], .dot, .atom [98], .at, .atom [97]] := by decide +kernel

/-- `To: a@b, J (x) <(c)@r:u@h>`: the callback gets `@r:u@h` (reversed) without the comment `(c)`, then `a@b` -/
example : (addrlist id [.atom [84, 111], .colon, .atom [97], .at, .atom [98], .comma, .atom [74], .comment [120], .left,
      .comment [99], .at, .atom [114], .colon, .atom [117], .at, .atom [104], .right]).got
    = [[.atom [104], .at, .atom [117], .colon, .atom [114], .at], [.atom [98], .at, .atom [97]]] := by decide +kernel
example : (Item.angle [.atom [104], .at, .atom [117], .colon, .atom [114], .at, .comment [99]] [.comment [120], .atom [74]]).toks
    = [.right, .atom [104], .at, .atom [117], .colon, .atom [114], .at, .comment [99], .left, .comment [120], .atom [74]] := by decide +kernel
/-- with qmail-inject's callback the route is stripped and the host qualified: `u@h.d` -/
example : rwgeneric { defaulthost := [.at, .atom [104]], defaultdomain := [.dot, .atom [100]], plusdomain := [.dot, .atom [112]] }
      [.atom [104], .at, .atom [117], .colon, .atom [114], .at]
    = [.atom [100], .dot, .atom [104], .at, .atom [117]] := by decide +kernel

/-! non-vacuity of `C17_parse_render`, `C17_envelope_groups`, `C17_envelope_ast`, `C17_unparse_parse`, `C17_rewrite_spec` -/

/-- a legal rendering: `To:` SP `(c(n)\))` LF SP `"q\""<a@` TAB `[1]>` LF — nested comment with a quoted-pair,
fold, quoted-pair in a quoted string, literal -/
def exCts : List (Bytes × CTok) :=
  [([], .atom [84, 111]), ([], .special 58), ([32], .comment [.ch 99 false, .op, .ch 110 false, .cl, .ch 41 true]),
   ([10, 32], .quote [(113, false), (34, true)]), ([], .special 60), ([], .atom [97]), ([], .special 64),
   ([9], .literal [(49, false)]), ([], .special 62)]
example : exCts.all (fun p => p.2.ok) = true ∧ sepsOk false exCts = true := by decide +kernel
example : render exCts [10]
    = [84, 111, 58, 32, 40, 99, 40, 110, 41, 92, 41, 41, 10, 32, 34, 113, 92, 34, 34, 60, 97, 64, 9, 91, 49, 93, 62, 10] := by decide +kernel
example : parse (render exCts [10])
    = some [.atom [84, 111], .colon, .comment [99, 110, 41], .quote [113, 34], .left, .atom [97], .at, .literal [49], .right] := by decide +kernel

/-- `To: g: a@b c;, J <@r:u@h> d` right to left: `d`, missing comma, `J <@r:u@h>`, comma, `;`, `c`, missing
comma, `a@b`, `: g` -/
def exEls : List El :=
  [.mbox (.plain [.atom [100]]), .mbox (.angle [.atom [104], .at, .atom [117], .colon, .atom [114], .at] [.atom [74]]),
   .comma, .gclose, .mbox (.plain [.atom [99]]), .mbox (.plain [.atom [98], .at, .atom [97]]), .gopen [.atom [103]]]
example : validEls false .fresh exEls = true := by decide
example : ∀ el ∈ exEls, el.ok := by
  intro el h
  simp only [exEls, List.mem_cons, List.not_mem_nil, or_false] at h
  rcases h with rfl | rfl | rfl | rfl | rfl | rfl | rfl <;>
    simp [El.ok, Item.ok, sepOkC, notComment, isWordTok, isSepTok, isPhraseTok]
example : (exEls.flatMap El.toks).reverse
    = [.atom [103], .colon, .atom [97], .at, .atom [98], .atom [99], .semi, .comma, .atom [74], .left,
       .at, .atom [114], .colon, .atom [117], .at, .atom [104], .right, .atom [100]] := by decide +kernel
example : mboxes exEls = [[.atom [100]], [.atom [104], .at, .atom [117], .colon, .atom [114], .at], [.atom [99]],
    [.atom [98], .at, .atom [97]]] := by decide +kernel
/-- the same field with comments sprinkled in (between the words of an address, inside `<…>`, in the group
name): same callbacks -/
example : (addrlist id [.atom [84, 111], .colon, .atom [103], .comment [120], .colon, .atom [97], .comment [121], .at, .atom [98], .atom [99], .semi,
      .comma, .atom [74], .left, .at, .atom [114], .colon, .comment [122], .atom [117], .at, .atom [104], .right, .atom [100]]).got
    = [[.atom [100]], [.atom [104], .at, .atom [117], .colon, .atom [114], .at], [.atom [99]], [.atom [98], .at, .atom [97]]] := by decide +kernel
/-- the tree `g: a@b, c;, J <@r:u@h>` (right to left: the angle address, then the group with members c, a@b) -/
def exTree : List Addr :=
  [.mbox (.angle [.atom [104], .at, .atom [117], .colon, .atom [114], .at] [.atom [74]]),
   .group [.atom [103]] [.plain [.atom [99]], .plain [.atom [98], .at, .atom [97]]]]
example : ((flatAddrs exTree).flatMap El.toks).reverse
    = [.atom [103], .colon, .atom [97], .at, .atom [98], .comma, .atom [99], .semi, .comma, .atom [74], .left,
       .at, .atom [114], .colon, .atom [117], .at, .atom [104], .right] := by decide +kernel
example : exTree.flatMap Addr.mailboxes
    = [[.atom [104], .at, .atom [117], .colon, .atom [114], .at], [.atom [99]], [.atom [98], .at, .atom [97]]] := by decide +kernel
example : ∀ a ∈ exTree, a.ok := by
  intro a h
  simp only [exTree, List.mem_cons, List.not_mem_nil, or_false] at h
  rcases h with rfl | rfl <;>
    simp [Addr.ok, Item.ok, sepOkC, notComment, isWordTok, isSepTok, isPhraseTok]
/-- folding at a short line length: `a,b,c` with line length 3 is written `a,` LF SP SP `b,` LF SP SP `c` LF …
and parses back -/
example : unparse 3 [.atom [97], .comma, .atom [98], .comma, .atom [99]] = [97, 44, 10, 32, 32, 98, 44, 10, 32, 32, 99, 10] := by decide +kernel
example : unparse 80 [.atom [97], .comma, .atom [98], .comma, .atom [99]] = [97, 44, 32, 98, 44, 32, 99, 10] := by decide +kernel
example : parse [97, 44, 10, 32, 32, 98, 44, 10, 32, 32, 99, 10] = some [.atom [97], .comma, .atom [98], .comma, .atom [99]] := by decide +kernel

/-- the field `To:a@b, c` LF contributes `c@h.d`, `a@b.d` to `hrlist` and nothing to `hrrlist` -/
example : hrContribution { defaulthost := [.at, .atom [104]], defaultdomain := [.dot, .atom [100]], plusdomain := [.dot, .atom [112]] } 1
    [84, 111, 58, 97, 64, 98, 44, 32, 99, 10] = [[99, 64, 104, 46, 100], [97, 64, 98, 46, 100]] := by decide +kernel
example : hrContribution { defaulthost := [.at, .atom [104]], defaultdomain := [.dot, .atom [100]], plusdomain := [.dot, .atom [112]] } 2
    [84, 111, 58, 97, 64, 98, 44, 32, 99, 10] = [] := by decide +kernel
/-- `@r:u@h`: same result as `u@h` -/
example : rwgeneric { defaulthost := [.at, .atom [104]], defaultdomain := [.dot, .atom [100]], plusdomain := [.dot, .atom [112]] }
      ([Tok.at, .atom [114], .colon, .atom [117], .at, .atom [104]].reverse)
    = [.atom [100], .dot, .atom [104], .at, .atom [117]] := by decide +kernel
/-- `u@h` with defaultdomain `d`: tokens of host `h` are a legal dot-atom host; result `u@h.d` -/
example : ([] ++ [Tok.atom [104]]).all hostTok = true := by decide +kernel
example : addrString (rwgeneric { defaulthost := [.at, .atom [104]], defaultdomain := [.dot, .atom [100]], plusdomain := [.dot, .atom [112]] }
      [.atom [104], .at, .atom [117]]) = [117, 64, 104, 46, 100] := by decide +kernel
example : rewriteMailbox { defaulthost := [104], defaultdomain := [100], plusdomain := [112] } [117] (some [104]) = [117, 64, 104, 46, 100] := by decide +kernel

/-! non-vacuity of `C17_rewrite_spec_any`, `C17_field_end_to_end`, `C17_arg_spec`, `C17_field_types_by_name` -/

/-- the configuration `defaulthost = h`, `defaultdomain = d`, `plusdomain = p` meets `CfgSpec` and `CleanCfg` -/
def exCfg : RwCfg := { defaulthost := [.at, .atom [104]], defaultdomain := [.dot, .atom [100]], plusdomain := [.dot, .atom [112]] }
def exSp : RwSpec := { defaulthost := [104], defaultdomain := [100], plusdomain := [112] }
example : CfgSpec exCfg exSp :=
  ⟨by decide +kernel, ⟨[.atom [112]], rfl, by decide +kernel, by decide +kernel⟩, ⟨[], [104], rfl, by decide +kernel, by decide +kernel⟩⟩
example : CleanCfg exCfg := ⟨by decide +kernel, by decide +kernel, by decide +kernel⟩
/-- `Resent-To:x` is a Resent- field, by number and by name; `Bcc :x` is hidden by name -/
example : isResentField [82, 101, 115, 101, 110, 116, 45, 84, 111, 58, 120, 10] = true ∧
    nameIn resentFields [82, 101, 115, 101, 110, 116, 45, 84, 111, 58, 120, 10] = true ∧
    nameIn hiddenFields [66, 99, 99, 32, 58, 120, 10] = true ∧ hfieldKnown [66, 99, 99, 32, 58, 120, 10] = Gen.H_BCC := by decide +kernel
/-- the field `To: a@b,` LF SP `c@x+` LF as a legal rendering of the tree (right to left) `c@x+` (plus domain), `a@b` (default domain) -/
def exCts2 : List (Bytes × CTok) :=
  [([], .atom [84, 111]), ([], .special 58), ([32], .atom [97]), ([], .special 64), ([], .atom [98]), ([], .special 44),
   ([10, 32], .atom [99]), ([], .special 64), ([], .atom [120, 43])]
def exTree2 : List Addr := [.mbox (.plain [.atom [120, 43], .at, .atom [99]]), .mbox (.plain [.atom [98], .at, .atom [97]])]
example : exCts2.all (fun p => p.2.ok) = true ∧ sepsOk false exCts2 = true := by decide +kernel
example : nameIn rcptFields (render exCts2 [10]) = true := by decide
example : exTree2.flatMap Addr.mailboxes = [[.atom [120, 43], .at, .atom [99]], [.atom [98], .at, .atom [97]]] := by decide +kernel
example : ∀ m ∈ ([[.atom [120, 43], .at, .atom [99]], [.atom [98], .at, .atom [97]]] : List (List Tok)),
    specShape (rwroute m) = true ∧ ∀ y, m ≠ .literal [] :: .at :: y := by
  intro m hm
  simp only [List.mem_cons, List.not_mem_nil, or_false] at hm
  rcases hm with rfl | rfl <;> exact ⟨by decide +kernel, fun y h => by simp at h⟩
example : (exTree2.flatMap Addr.mailboxes).map (fun m => specString exSp (rwroute m)) = [[99, 64, 120, 46, 112], [97, 64, 98, 46, 100]] := by decide +kernel
/-- a routed mailbox `J <@r:u@h>` (callback argument `h @ u : r @`): the route is stripped, then `u@h.d` -/
example : specShape (rwroute [.atom [104], .at, .atom [117], .colon, .atom [114], .at]) = true ∧
    specString exSp (rwroute [.atom [104], .at, .atom [117], .colon, .atom [114], .at]) = [117, 64, 104, 46, 100] ∧
    addrString (rwgeneric exCfg [.atom [104], .at, .atom [117], .colon, .atom [114], .at]) = [117, 64, 104, 46, 100] := by decide +kernel
example : hrContribution exCfg 1 (render exCts2 [10]) = [[99, 64, 120, 46, 112], [97, 64, 98, 46, 100]] := by decide +kernel
/-- good tokens: `To: a@b+` -/
example : ([.atom [84, 111], .colon, .atom [97], .at, .atom [98, 43]] : List Tok).all goodTok = true := by decide +kernel
/-- a command-line recipient `a b@x` (local part needs quoting): `a b@x.d` -/
example : argAddress exCfg [97, 32, 98, 64, 120] = some [97, 32, 98, 64, 120, 46, 100] := by decide +kernel
example : rewriteMailbox exSp [97, 32, 98] (some [120]) = [97, 32, 98, 64, 120, 46, 100] := by decide +kernel
/-- `RCPT TO:<a@x>` CR LF -/
example : rcptToLine [97, 64, 120] = [82, 67, 80, 84, 32, 84, 79, 58, 60, 97, 64, 120, 62, 13, 10] := by decide +kernel

/-! ### headerbody.c / getln.c against an independent description (`Nq.Spec.HeaderBody`) -/

section HeaderBody
open Nq.Spec.HeaderBody Nq.Lemmas.C17HB

/-- **getln/getsa: the lines of the message.**  The model's left-to-right accumulator loop delivers exactly
the lines of the right-to-left description `linesOf`; and these are characterised declaratively: concatenated
they give the input back with a final LF supplied when it was missing (`norm`, the first documented
alteration), and each holds exactly one LF, at its end. -/
theorem C17_lines_spec (inp : Bytes) :
    splitLines inp = linesOf inp ∧ (linesOf inp).flatten = norm inp ∧ ∀ l ∈ linesOf inp, isLine l = true :=
  ⟨splitLines_eq inp, linesOf_flatten inp, linesOf_isLine inp⟩

example : linesOf [97, 58, 10, 32, 98, 10, 10, 99] = [[97, 58, 10], [32, 98, 10], [10], [99, 10]] := by decide +kernel
example : norm [97, 58, 10, 32, 98, 10, 10, 99] = [97, 58, 10, 32, 98, 10, 10, 99, 10] := by decide +kernel
example : norm [97, 10] = [97, 10] ∧ norm [] = [] := by decide

/-- **headerbody() = its description, for EVERY input.**  The fields handed to `dohf` are: take the longest
prefix of the lines that begins with a field start (`From ` line or `hfield_valid`) and consists of field
starts and continuation lines (`hdr`: it ends before the first empty line or the first line that is neither),
cut it into the maximal groups "line + the continuation lines that follow" (`groups`), concatenate each group
and put `MBOX-Line: ` in front of a `From ` line (`fieldOf`); the pieces handed to `dobl` are the remaining
lines, preceded by an inserted empty line when the first of them is not one (`bodyOf`). -/
theorem C17_headerbody_spec (inp : Bytes) :
    (headerbody inp).fields = specFields inp ∧ (headerbody inp).body = specBody inp := by
  rw [headerbody_eq]; exact ⟨rfl, rfl⟩

/-- `a:` LF SP `b` LF LF `c`: one field `a:\n b\n`, body = the empty line and `c\n` (LF supplied) -/
example : specFields [97, 58, 10, 32, 98, 10, 10, 99] = [[97, 58, 10, 32, 98, 10]] ∧
    specBody [97, 58, 10, 32, 98, 10, 10, 99] = [[10], [99, 10]] := by decide +kernel
/-- `From x` LF `a:` LF `zz` LF: fields `MBOX-Line: From x\n`, `a:\n`; the line `zz` ends the header and an
empty line is inserted -/
example : specFields [70, 114, 111, 109, 32, 120, 10, 97, 58, 10, 122, 122, 10]
      = [[77, 66, 79, 88, 45, 76, 105, 110, 101, 58, 32, 70, 114, 111, 109, 32, 120, 10], [97, 58, 10]] ∧
    specBody [70, 114, 111, 109, 32, 120, 10, 97, 58, 10, 122, 122, 10] = [[10], [122, 122, 10]] := by decide +kernel

/-- **Partition laws of the description** (on the lines `ls` of any input): (1) order preserved, nothing
lost or duplicated — the groups of the header, concatenated, followed by the rest, are the lines; (2) every
group is a field start followed by continuation lines only (so, a field start not being a continuation line,
the groups are maximal); (3) maximality of the header — the first line after it is not a field start, and it is
a continuation line only when there is no header at all (a message beginning with SP/TAB). -/
theorem C17_headerbody_partition (inp : Bytes) :
    (groups (hdr (linesOf inp))).flatten ++ rest (linesOf inp) = linesOf inp ∧
    (∀ g ∈ groups (hdr (linesOf inp)), ∃ s cs, g = s :: cs ∧ isStart s = true ∧ ∀ c ∈ cs, isCont c = true) ∧
    (∀ s, isStart s = true → isCont s = false) ∧
    (∀ x, (rest (linesOf inp)).head? = some x → isStart x = false ∧ (isCont x = true → hdr (linesOf inp) = [])) :=
  ⟨groups_hdr_rest _, groups_shape _, start_not_cont, rest_head _⟩

/-- **Concatenation law and shape of the fields, on what `headerbody` delivers.**  For every input:
(1) `reassembles` — walking along the input (final LF supplied), each field, or for a field
`MBOX-Line: From …` the `From …` line it was made from, is the next piece, in order, and what is left is the
body, the body having one extra LF in front exactly when that remainder is non-empty and does not begin with
an empty line; (2) the same as an equation on the un-altered groups; (3) every field begins with a valid field
name (`hfield_valid` accepts it — so qmail-inject's "bad header field" exit is unreachable from `headerbody`)
and (4) is ONE logical line: it ends in LF and every other LF in it is followed by SP or TAB — in particular
no field contains an empty line or a second field. -/
theorem C17_headerbody_laws (inp : Bytes) :
    reassembles inp (headerbody inp).fields (headerbody inp).body = true ∧
    ((groups (hdr (linesOf inp))).map List.flatten).flatten ++ (rest (linesOf inp)).flatten = norm inp ∧
    (∀ f ∈ (headerbody inp).fields, hfieldValid f = true ∧ logicalLine f = true ∧ f.getLast? = some LF ∧
      ∀ pre post, f = pre ++ LF :: post → post = [] ∨ post.head? = some SP ∨ post.head? = some TAB) := by
  rw [headerbody_eq]
  refine ⟨spec_reassembles inp, spec_concat inp, ?_⟩
  intro f hf
  simp only [specFields, List.mem_map] at hf
  obtain ⟨g, hg, rfl⟩ := hf
  have := fields_ok (linesOf inp) (linesOf_isLine inp) g hg
  exact ⟨this.1, this.2, logicalLine_lf _ this.2⟩

example : reassembles [70, 114, 111, 109, 32, 120, 10, 97, 58, 10, 122, 122, 10]
    [[77, 66, 79, 88, 45, 76, 105, 110, 101, 58, 32, 70, 114, 111, 109, 32, 120, 10], [97, 58, 10]] [[10], [122, 122, 10]] = true := by
  decide +kernel
/-- complement: a field list that drops a field, or a body without the inserted empty line, is refused -/
example : reassembles [70, 114, 111, 109, 32, 120, 10, 97, 58, 10, 122, 122, 10]
    [[77, 66, 79, 88, 45, 76, 105, 110, 101, 58, 32, 70, 114, 111, 109, 32, 120, 10], [97, 58, 10]] [[122, 122, 10]] = false := by
  decide +kernel
example : logicalLine [97, 58, 10, 32, 98, 10] = true ∧ logicalLine [97, 58, 10, 10] = false ∧ logicalLine [97, 58, 10, 98, 58, 10] = false := by
  decide +kernel

/-- **The envelope, from the raw input bytes** (`C17_envelope_inject` composed with `C17_headerbody_spec`):
for every message and option set with which qmail-inject exits 0 and queues, the recipients handed to
qmail-queue are the rewritten arguments followed by the concatenation of the contributions of the fields of the
DESCRIPTION `specFields inp` — the header lines of the input bytes, grouped — the Resent- ones if any of these
fields is one of the eight Resent- fields, else the To/Cc/Bcc/Apparently-To ones. -/
theorem C17_envelope_from_bytes (e : Env) (a : Args) (inp : Bytes) (dd dh pd : List Tok)
    (hdd : parse ([46] ++ e.defaultdomain) = some dd) (hdh : parse ([AT] ++ e.defaulthost) = some dh)
    (hpd : parse ([46] ++ e.plusdomain) = some pd)
    (hex : (inject e a inp).exit = 0) (hq : a.queue = true) :
    (inject e a inp).recips =
      ((if effStrategy a = 3 then [] else a.recips.filterMap (argAddress ⟨dh, dd, pd⟩)) ++
       (if effStrategy a = 2 then []
        else if (specFields inp).any isResentField then (specFields inp).flatMap (hrContribution ⟨dh, dd, pd⟩ 2)
        else (specFields inp).flatMap (hrContribution ⟨dh, dd, pd⟩ 1))).map cstr := by
  have := (C17_envelope_inject e a inp dd dh pd hdd hdh hpd hex hq).2
  rw [(C17_headerbody_spec inp).1] at this
  exact this

end HeaderBody

/-! ### Bcc removal on the final TEXT, reduced to the line structure of the rewritten pieces -/

section HiddenText
open Nq.Spec.HeaderBody Nq.Spec.Hidden Nq.Lemmas.C17HB Nq.Lemmas.C17Hid

/-- **A field that qmail-inject keeps verbatim cannot smuggle a hidden field** (the first two hypotheses are what
`C17_headerbody_laws` gives for every field `headerbody` delivers): a
field text that `hfield_valid` accepts, that is one logical line, and whose own name is not
Bcc/Resent-Bcc/Return-Path/Content-Length is a *safe piece* — it ends in LF, and each of its lines, as the
independent reader `Spec.Addr.splitLF` cuts them, is a continuation line or does not carry a hidden name (the
first physical line carries the field's own name, every other line begins with SP/TAB). -/
theorem C17_verbatim_field_safe (h : Bytes) (hv : hfieldValid h = true) (hl : logicalLine h = true)
    (hn : nameIn hiddenFields h = false) : pieceSafe h = true :=
  verbatim_safe h hv hl hn

/-- `Subject: a` LF SP `Bcc: x` LF — the second line looks like a Bcc field but is a continuation line -/
example : pieceSafe [83, 117, 98, 106, 101, 99, 116, 58, 32, 97, 10, 32, 66, 99, 99, 58, 32, 120, 10] = true := by decide +kernel
/-- complement: the same without the SP is not one logical line, and not a safe piece -/
example : logicalLine [83, 117, 98, 106, 101, 99, 116, 58, 32, 97, 10, 66, 99, 99, 58, 32, 120, 10] = false ∧
    pieceSafe [83, 117, 98, 106, 101, 99, 116, 58, 32, 97, 10, 66, 99, 99, 58, 32, 120, 10] = false := by decide +kernel

/-- **Bcc removal on the final text, PARTIAL** (extends `C17_bcc_message_partial`; the full statement is the same
without the hypotheses `hfrom` and `hrw`).  For every message and option set with which qmail-inject exits 0 and
queues: if the Date and Message-ID texts of the environment are safe pieces (input-level), and the generated From
field and every REWRITTEN field text (fields of class ≠ 0: the address-bearing fields, re-written by
`token822_unparse`) are safe pieces, then the independent reader `Spec.Addr.fieldNames` finds NO
Bcc/Resent-Bcc/Return-Path/Content-Length name in the message handed to qmail-queue.  Proved here, not assumed:
the message is header pieces followed by nothing or by a body that begins with an empty line (`headerbody` always
delivers one: `bodyOf`), so the reader's header is made of lines of the pieces only; every field kept VERBATIM
(class 0, e.g. Subject, Received, unknown names — whatever LF/continuations it holds) is a safe piece by
`C17_headerbody_laws` + `C17_verbatim_field_safe`; dropped fields contribute nothing; the generated
`Cc: recipient list not shown: ;` is safe.  NOT proved here (so `_partial`): `pieceSafe (token822_unparse …)` for
the rewritten fields and the generated From — the hypotheses `hrw` and `hfrom`.  `C17_unparse_logical_line` and
`C17_unparse_safe` prove the line structure of `token822_unparse`'s output, and that its first line carries the
field's name, for token lists without LF in a token (used in `C17_bcc_text_tokens_partial`); a quoted string may
hold `\` LF, and for such tokens it is still the oracle `Ihidden` on every produced message. -/
theorem C17_bcc_text_partial (e : Env) (a : Args) (inp : Bytes) (dd dh pd : List Tok)
    (hdd : parse ([46] ++ e.defaultdomain) = some dd) (hdh : parse ([AT] ++ e.defaulthost) = some dh)
    (hpd : parse ([46] ++ e.plusdomain) = some pd)
    (hex : (inject e a inp).exit = 0) (hq : a.queue = true)
    (hdate : pieceSafe e.date = true ∧ pieceSafe (str "Resent-" ++ e.date) = true)
    (hmsgid : pieceSafe (msgid e) = true ∧ pieceSafe (str "Resent-" ++ msgid e) = true)
    (hfrom : ∀ t, defaultFrom e ⟨dh, dd, pd⟩ = some t → pieceSafe t = true ∧ pieceSafe (str "Resent-" ++ t) = true)
    (hrw : ∀ h ∈ specFields inp, (fieldClass (hfieldKnown h)).1 ≠ 0 →
      ∀ p ∈ savedContribution e ⟨dh, dd, pd⟩ h, pieceSafe p = true) :
    ∀ n ∈ fieldNames (inject e a inp).msg, n ∉ hiddenFields := by
  obtain ⟨⟨rp, d, m, f, cc, hrp, hmsg, hd, hm, hf, hcc⟩, _⟩ := C17_bcc_message_partial e a inp dd dh pd hdd hdh hpd hex
  have hrp0 := hrp hq
  subst hrp0
  have hfields := (C17_headerbody_spec inp).1
  have hlaws := (C17_headerbody_laws inp).2.2
  have hbody : (headerbody inp).body.flatten = [] ∨ ∃ b', (headerbody inp).body.flatten = LF :: b' := by
    rw [(C17_headerbody_spec inp).2]; exact bodyOf_head _
  have hre : (inject e a inp).msg =
      ([d, m, f, cc] ++ (headerbody inp).fields.flatMap (savedContribution e ⟨dh, dd, pd⟩)).flatten ++ (headerbody inp).body.flatten := by
    rw [hmsg]; simp
  rw [hre]
  apply fieldNames_safe _ _ ?_ hbody
  intro p hp
  simp only [List.mem_append, List.mem_cons, List.mem_flatMap, List.not_mem_nil, or_false] at hp
  rcases hp with (hp | hp | hp | hp) | ⟨h, hh, hp⟩
  · subst hp
    rcases hd with hd | hd | hd <;> subst hd
    · exact pieceSafe_nil
    · exact hdate.1
    · exact hdate.2
  · subst hp
    rcases hm with hm | hm | hm <;> subst hm
    · exact pieceSafe_nil
    · exact hmsgid.1
    · exact hmsgid.2
  · subst hp
    rcases hf with hf | ⟨t, ht, hf | hf⟩
    · rw [hf]; exact pieceSafe_nil
    · rw [hf]; exact (hfrom t ht).1
    · rw [hf]; exact (hfrom t ht).2
  · subst hp
    rcases hcc with hcc | hcc | hcc <;> subst hcc
    · exact pieceSafe_nil
    · exact cc_safe.1
    · exact cc_safe.2
  · obtain ⟨hn, ⟨_, rfl⟩ | ⟨hcls, _⟩⟩ := savedContribution_mem hp
    · have hl := hlaws p hh
      exact verbatim_safe p hl.1 hl.2.1 hn
    · exact hrw h (hfields ▸ hh) hcls p hp

/-- non-vacuity of `C17_bcc_text_partial`: `To: a@b` / `Bcc: k@l` / `Subject: s` LF SP `Bcc: x` / empty line / `z` -/
def exEnv4 : Env :=
  { mailuser := [117]
    defaultdomain := [100]
    defaulthost := [104]
    plusdomain := [112]
    idhost := [105]
    date := [68, 97, 116, 101, 58, 32, 120, 10]
    stamp := [49] }
def exInp4 : Bytes := [84, 111, 58, 32, 97, 64, 98, 10, 66, 99, 99, 58, 32, 107, 64, 108, 10,
  83, 117, 98, 106, 101, 99, 116, 58, 32, 115, 10, 32, 66, 99, 99, 58, 32, 120, 10, 10, 122, 10]
example :
    parse ([46] ++ exEnv4.defaultdomain) = some exCfg.defaultdomain ∧ parse ([AT] ++ exEnv4.defaulthost) = some exCfg.defaulthost ∧
    parse ([46] ++ exEnv4.plusdomain) = some exCfg.plusdomain ∧
    (inject exEnv4 {} exInp4).exit = 0 ∧
    pieceSafe exEnv4.date = true ∧ pieceSafe (msgid exEnv4) = true ∧
    (defaultFrom exEnv4 exCfg).all (fun t => pieceSafe t) = true ∧
    (∀ h ∈ specFields exInp4, (fieldClass (hfieldKnown h)).1 ≠ 0 → ∀ p ∈ savedContribution exEnv4 exCfg h, pieceSafe p = true) ∧
    (inject exEnv4 {} exInp4).recips = [[97, 64, 98, 46, 100], [107, 64, 108, 46, 100]] ∧
    fieldNames (inject exEnv4 {} exInp4).msg = [[100, 97, 116, 101], [109, 101, 115, 115, 97, 103, 101, 45, 105, 100], [102, 114, 111, 109], [116, 111], [115, 117, 98, 106, 101, 99, 116]] := by
  decide +kernel

end HiddenText

/-! ### The converse of the header splitting, and the envelope from the raw bytes of a well-formed message -/

section WellFormed
open Nq.Spec.HeaderBody Nq.Lemmas.C17HB

/-- **Every well-formed message is split into exactly its fields.**  Write a message as field texts, each
well-formed (`wfField`: one logical line — it ends in LF and every other LF is followed by SP/TAB —, accepted by
`hfield_valid`, not a `From ` line), followed by nothing or by an empty line and ANY bytes.  Then `headerbody`
hands `dohf` exactly these texts, in order, and `dobl` the empty line and the bytes after it (a final LF supplied
if missing).  With `C17_headerbody_laws` (every delivered field IS well-formed up to the `From ` case) this makes
the description an exact inverse of concatenation. -/
theorem C17_headerbody_wellformed (texts : List Bytes) (tail : Bytes) (hw : ∀ t ∈ texts, wfField t = true)
    (htail : tail = [] ∨ ∃ b, tail = LF :: b) :
    (headerbody (texts.flatten ++ tail)).fields = texts ∧
    (headerbody (texts.flatten ++ tail)).body = linesOf tail ∧
    (headerbody (texts.flatten ++ tail)).body.flatten = norm tail := by
  obtain ⟨h1, h2⟩ := spec_wellformed texts tail hw htail
  have hb : (headerbody (texts.flatten ++ tail)).body = linesOf tail := by
    rw [(C17_headerbody_spec _).2, specBody, h2]
    rcases htail with h | ⟨b, h⟩
    · subst h; rfl
    · subst h; simp [linesOf, bodyOf]
  refine ⟨by rw [(C17_headerbody_spec _).1]; exact h1, hb, ?_⟩
  rw [hb, linesOf_flatten]

/-- `To: a` LF SP `b` LF and `X:` LF are well-formed -/
example : wfField [84, 111, 58, 32, 97, 10, 32, 98, 10] = true ∧ wfField [88, 58, 10] = true := by decide +kernel
/-- complements: a text holding two fields, a `From ` line, a text without colon are not -/
example : wfField [84, 111, 58, 32, 97, 10, 98, 58, 10] = false ∧ wfField [70, 114, 111, 109, 32, 58, 10] = false ∧
    wfField [97, 10] = false := by decide +kernel
/-- … and `To: a` LF `b:` LF is indeed delivered as two fields -/
example : specFields [84, 111, 58, 32, 97, 10, 98, 58, 10] = [[84, 111, 58, 32, 97, 10], [98, 58, 10]] := by decide +kernel

/-- description of one header field for `C17_envelope_end_to_end`: its text and what it must contribute to the
To/Cc/Bcc/Apparently-To list (`c1`) and to the Resent-To/Cc/Bcc list (`c2`) -/
structure FieldD where
  text : Bytes
  c1 : List Bytes
  c2 : List Bytes

/-- the field is EITHER a legal rendering (any quoting, white space, comments: the hypotheses of
`C17_field_end_to_end`) of `name : address-list tree L` whose own name is To/Cc/Bcc/Apparently-To (`cls = 1`) or
Resent-To/Cc/Bcc (`cls = 2`), and then contributes, to the list of its class, the tree's mailboxes rewritten by the
documented string-level rule and nothing to the other list; OR its name is none of these seven, and it contributes nothing -/
def FieldD.ok (c : RwCfg) (sp : RwSpec) (d : FieldD) : Prop :=
  (∃ (cls : Nat) (L : List Addr) (cts : List (Bytes × CTok)) (tr : Bytes) (name colon : Tok) (body : List Tok),
      d.text = render cts tr ∧ (∀ a ∈ L, a.ok) ∧ cts.all (fun p => p.2.ok) = true ∧ sepsOk false cts = true ∧ tr.all isWs = true ∧
      cts.map (fun p => p.2.tok) = name :: colon :: body ∧
      body.filter notComment = (((flatAddrs L).flatMap El.toks).reverse).filter notComment ∧
      (∀ m ∈ L.flatMap Addr.mailboxes, specShape (rwroute m) = true ∧ ∀ y, m ≠ .literal [] :: .at :: y) ∧
      ((cls = 1 ∧ nameIn rcptFields d.text = true ∧
          d.c1 = (L.flatMap Addr.mailboxes).map (fun m => specString sp (rwroute m)) ∧ d.c2 = []) ∨
       (cls = 2 ∧ nameIn resentRcptFields d.text = true ∧
          d.c2 = (L.flatMap Addr.mailboxes).map (fun m => specString sp (rwroute m)) ∧ d.c1 = []))) ∨
  (nameIn rcptFields d.text = false ∧ nameIn resentRcptFields d.text = false ∧ d.c1 = [] ∧ d.c2 = [])

/-- **The envelope from the raw bytes of a well-formed message** (`C17_headerbody_wellformed` ∘
`C17_envelope_from_bytes` ∘ `C17_field_end_to_end`): the input is the concatenation of well-formed field texts,
each described by a `FieldD` (a legal rendering of a recipient field, or not a recipient field), followed by nothing
or by an empty line and any body; the control values are sane (`CfgSpec`).  If qmail-inject exits 0 and queues, the
recipients handed to qmail-queue are the rewritten command-line arguments (per strategy) followed by the
concatenation, in field order, of the DOCUMENTED string-level rewritings of the listed mailboxes — those of the
Resent-To/Cc/Bcc fields if any field is one of the eight Resent- fields, else those of the
To/Cc/Bcc/Apparently-To fields.  No model function of headerbody.c / token822.c / the rewriting code appears in the
conclusion. -/
theorem C17_envelope_end_to_end (e : Env) (a : Args) (fs : List FieldD) (tail : Bytes) (dd dh pd : List Tok) (sp : RwSpec)
    (hdd : parse ([46] ++ e.defaultdomain) = some dd) (hdh : parse ([AT] ++ e.defaulthost) = some dh)
    (hpd : parse ([46] ++ e.plusdomain) = some pd) (hc : CfgSpec ⟨dh, dd, pd⟩ sp)
    (hwf : ∀ d ∈ fs, wfField d.text = true) (hok : ∀ d ∈ fs, d.ok ⟨dh, dd, pd⟩ sp)
    (htail : tail = [] ∨ ∃ b, tail = LF :: b)
    (hex : (inject e a ((fs.map (·.text)).flatten ++ tail)).exit = 0) (hq : a.queue = true) :
    (inject e a ((fs.map (·.text)).flatten ++ tail)).recips =
      ((if effStrategy a = 3 then [] else a.recips.filterMap (argAddress ⟨dh, dd, pd⟩)) ++
       (if effStrategy a = 2 then []
        else if (fs.map (·.text)).any (nameIn resentFields) then fs.flatMap (·.c2)
        else fs.flatMap (·.c1))).map cstr := by
  have hcontrib : ∀ d ∈ fs, hrContribution ⟨dh, dd, pd⟩ 1 d.text = d.c1 ∧ hrContribution ⟨dh, dd, pd⟩ 2 d.text = d.c2 := by
    intro d hd
    rcases hok d hd with ⟨cls, L, cts, tr, name, colon, body, ht, hL, hokc, hsep, htr, htoks, hskel, hshape, hcls⟩ | ⟨h1, h2, e1, e2⟩
    · rcases hcls with ⟨rfl, hn, e1, e2⟩ | ⟨rfl, hn, e2, e1⟩
      · have := C17_field_end_to_end ⟨dh, dd, pd⟩ sp hc 1 L cts tr name colon body hL hokc hsep htr htoks hskel hshape
          (Or.inl ⟨rfl, ht ▸ hn⟩)
        rw [ht, e1, e2]; exact this
      · have := C17_field_end_to_end ⟨dh, dd, pd⟩ sp hc 2 L cts tr name colon body hL hokc hsep htr htoks hskel hshape
          (Or.inr ⟨rfl, ht ▸ hn⟩)
        rw [ht, e1, e2]; exact ⟨this.2, this.1⟩
    · have n1 : ¬ (fieldClass (hfieldKnown d.text)).1 = 1 := fun h => by
        have := (rcpt_class_name d.text).mp h; rw [h1] at this; exact absurd this (by simp)
      have n2 : ¬ (fieldClass (hfieldKnown d.text)).1 = 2 := fun h => by
        have := (resent_class_name d.text).mp h; rw [h2] at this; exact absurd this (by simp)
      rw [hrContribution_ne _ n1, hrContribution_ne _ n2, e1, e2]
      exact ⟨rfl, rfl⟩
  have hflat : ∀ (k : Nat) (g : FieldD → List Bytes), (∀ d ∈ fs, hrContribution ⟨dh, dd, pd⟩ k d.text = g d) →
      (fs.map (·.text)).flatMap (hrContribution ⟨dh, dd, pd⟩ k) = fs.flatMap g := by
    intro k g hg
    rw [List.flatMap_map]
    exact flatMap_congr' _ _ _ hg
  have hfields := (spec_wellformed (fs.map (·.text)) tail (by
    intro t ht
    simp only [List.mem_map] at ht
    obtain ⟨d, hd, rfl⟩ := ht
    exact hwf d hd) htail).1
  have := C17_envelope_from_bytes e a _ dd dh pd hdd hdh hpd hex hq
  rw [this]
  simp only [specFields, hfields]
  rw [hflat 1 (·.c1) (fun d hd => (hcontrib d hd).1), hflat 2 (·.c2) (fun d hd => (hcontrib d hd).2)]
  have hany : (fs.map (·.text)).any isResentField = (fs.map (·.text)).any (nameIn resentFields) := by
    congr 1; funext h; exact isResentField_name h
  rw [hany]

/-- non-vacuity of `C17_envelope_end_to_end`: the message `To: a@b,` LF SP `c@x+` LF `Subject: s` LF LF `z` -/
def exFieldTo : FieldD := ⟨render exCts2 [10], [[99, 64, 120, 46, 112], [97, 64, 98, 46, 100]], []⟩
def exFieldSubj : FieldD := ⟨[83, 117, 98, 106, 101, 99, 116, 58, 32, 115, 10], [], []⟩
example : wfField exFieldTo.text = true ∧ wfField exFieldSubj.text = true := by decide +kernel
example : exFieldSubj.ok exCfg exSp := Or.inr (by decide +kernel)
example : exFieldTo.ok exCfg exSp :=
  Or.inl ⟨1, exTree2, exCts2, [10], .atom [84, 111], .colon, _, rfl,
    (by intro a h
        simp only [exTree2, List.mem_cons, List.not_mem_nil, or_false] at h
        rcases h with rfl | rfl <;> simp [Addr.ok, Item.ok, sepOkC, notComment, isWordTok, isSepTok]),
    by decide +kernel, by decide +kernel, by decide +kernel, rfl, by decide +kernel,
    (by intro m hm
        have : exTree2.flatMap Addr.mailboxes = [[.atom [120, 43], .at, .atom [99]], [.atom [98], .at, .atom [97]]] := by decide +kernel
        rw [this] at hm
        simp only [List.mem_cons, List.not_mem_nil, or_false] at hm
        rcases hm with rfl | rfl <;> exact ⟨by decide +kernel, fun y h => by simp at h⟩),
    Or.inl ⟨rfl, by decide +kernel, by decide +kernel, rfl⟩⟩
example : (inject exEnv4 {} (([exFieldTo, exFieldSubj].map (·.text)).flatten ++ [10, 122])).exit = 0 ∧
    (inject exEnv4 {} (([exFieldTo, exFieldSubj].map (·.text)).flatten ++ [10, 122])).recips = [[99, 64, 120, 46, 112], [97, 64, 98, 46, 100]] := by
  decide +kernel

end WellFormed

/-! ### The line structure of `token822_unparse`'s output, and Bcc removal on the final text from token-level conditions -/

section UnparseLines
open Nq.Spec.HeaderBody Nq.Spec.Hidden Nq.Lemmas.C17HB Nq.Lemmas.C17Hid Nq.Lemmas.C17UL

/-- **`token822_unparse` writes ONE logical line** — for every line length (whatever the `NSUW` folding macro
deletes or keeps) and every token list in which no token holds a LF: the output ends in LF and every other LF in it
is followed by SP (the folds): in the closed form `unparse_weave` the only LFs written are the folds `LF SP` and the final LF. -/
theorem C17_unparse_logical_line (n : Nat) (ts : List Tok) (h : ts.all lfFree = true) :
    logicalLine (unparse n ts) = true :=
  unparse_logical n ts h

example : unparse 3 [.atom [97], .comma, .atom [98], .comma, .atom [99]] = [97, 44, 10, 32, 32, 98, 44, 10, 32, 32, 99, 10] ∧
    logicalLine [97, 44, 10, 32, 32, 98, 44, 10, 32, 32, 99, 10] = true := by decide +kernel
/-- complement: a quoted string holding LF `B` is written `"\` LF `B"` — the second line begins with `B`; the
hypothesis cannot be dropped -/
example : lfFree (.quote [10, 66]) = false ∧ unparse 80 [.atom [84], .colon, .quote [10, 66]] = [84, 58, 32, 34, 92, 10, 66, 34, 10] ∧
    logicalLine [84, 58, 32, 34, 92, 10, 66, 34, 10] = false := by decide +kernel

/-- **For `name : tokens` the output of `token822_unparse` is a safe piece**: if no token holds a LF, the token list
begins with an atom and a colon, and the atom's text (optionally with `pre`, e.g. `Resent-`, in front) is not a
hidden field name (`toksSafe`), then no
line of `pre ++ token822_unparse(tokens)` can be taken for a Bcc/Resent-Bcc/Return-Path/Content-Length field by the
independent reader: its first line carries that name, every other line begins with SP. -/
theorem C17_unparse_safe (pre : Bytes) (hpre : LF ∉ pre) (n : Nat) (ts : List Tok) (h : toksSafe pre ts = true) :
    pieceSafe (pre ++ unparse n ts) = true :=
  unparse_safe_pre pre hpre n ts h

example : toksSafe [] [.atom [84, 111], .colon, .atom [97], .at, .quote [98, 32, 99]] = true := by decide +kernel
/-- complement: `Bcc : x` as tokens is not `toksSafe` (hidden name), nor is a list that does not begin `atom :` -/
example : toksSafe [] [.atom [66, 99, 99], .colon, .atom [120]] = false ∧ toksSafe [] [.quote [84], .colon] = false := by decide +kernel

/-- **Bcc removal on the final text from TOKEN-level conditions, PARTIAL** (`C17_bcc_text_partial` with conditions
on the token lists handed to `token822_unparse` in place of its hypotheses about the TEXT of the rewritten fields and
of the generated From).  For every message and option set with which qmail-inject exits 0 and queues:
if the Date and Message-ID texts of the environment are safe pieces, and for the generated From field (`fromOk`) and
for every address-bearing field of the input that is not itself dropped (`rewrittenOk`; class ≠ 0, name not hidden) the token list that `token822_addrlist`
produces — when it accepts — begins with `atom :`, holds no LF in any token and names no hidden field, then the
independent reader finds no Bcc/Resent-Bcc/Return-Path/Content-Length name in the message handed to qmail-queue.
Still NOT proved (hence `_partial`; oracle `Ihidden` covers it on every produced message): (i) that
`token822_addrlist`/`rwgeneric` keep the field's first two tokens and put no LF into a token — i.e. `rewrittenOk` from
a condition on the INPUT field text; (ii) the case of a token that does hold a LF (a quoted-pair `\` LF in a quoted
string, comment, literal, or after an atom), where `token822_unparse` writes `\` LF and the next line begins with
whatever follows. -/
theorem C17_bcc_text_tokens_partial (e : Env) (a : Args) (inp : Bytes) (dd dh pd : List Tok)
    (hdd : parse ([46] ++ e.defaultdomain) = some dd) (hdh : parse ([AT] ++ e.defaulthost) = some dh)
    (hpd : parse ([46] ++ e.plusdomain) = some pd)
    (hex : (inject e a inp).exit = 0) (hq : a.queue = true)
    (hdate : pieceSafe e.date = true ∧ pieceSafe (str "Resent-" ++ e.date) = true)
    (hmsgid : pieceSafe (msgid e) = true ∧ pieceSafe (str "Resent-" ++ msgid e) = true)
    (hfrom : fromOk e ⟨dh, dd, pd⟩ = true)
    (hrw : ∀ h ∈ specFields inp, (fieldClass (hfieldKnown h)).1 ≠ 0 → nameIn hiddenFields h = false →
      rewrittenOk ⟨dh, dd, pd⟩ h = true) :
    ∀ n ∈ fieldNames (inject e a inp).msg, n ∉ hiddenFields := by
  apply C17_bcc_text_partial e a inp dd dh pd hdd hdh hpd hex hq hdate hmsgid
  · exact fun t ht => defaultFrom_safe e _ hfrom t ht
  · intro h hh hcls p hp
    have hl := (C17_headerbody_laws inp).2.2 h ((C17_headerbody_spec inp).1 ▸ hh)
    obtain ⟨hn, ⟨h0, _⟩ | ⟨_, rfl⟩⟩ := savedContribution_mem hp
    · exact absurd h0 hcls
    · exact rewriteField_safe _ _ h hl.1 hl.2.1 hn (hrw h hh hcls hn)

/-- non-vacuity (the message of `exInp4`): the token-level conditions hold -/
example : fromOk exEnv4 exCfg = true ∧
    (∀ h ∈ specFields exInp4, (fieldClass (hfieldKnown h)).1 ≠ 0 → nameIn hiddenFields h = false → rewrittenOk exCfg h = true) :=
  ⟨by decide +kernel, by decide +kernel⟩

end UnparseLines

end Nq.Props.C17
