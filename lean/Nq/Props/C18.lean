/-
  C18 — Helpers at trust boundaries act only on validated requests.

  Models: `Nq.Clean` (qmail-clean.c main), `Nq.Spawn` (spawn.c getcmd/docmd/main loop with the
  report() of qmail-lspawn.c / qmail-rspawn.c), `Nq.SendReport` (qmail-send.c del_dochan), tied to
  the sources by the harnesses `harness/c18_clean.c`, `c18_spawn.c`, `c18_send.c` and the translator
  `tools/extractors/c18.py` (report texts and tables).  The predicates of `Nq.Spec.TB` in the statements — `allowed`,
  `pidOld`, `cleanOK`, `okPath`, `opensOK` over `parseCmds`, `sendStrictDecl`, `subMultiset … inflight` and `writesOK`
  (two of the three conjuncts of the driver's `sendOK`; the third is named at the end of the send section), `truncOK`,
  `cleanIOOK` — are the ones the driver evaluates on the real code's traces.  The statements also use `textOK`,
  `nReports`, `countCmds`, `fixedTexts`, `childOp` (`Nq.Lemmas.SpawnL`) and `WARN` (`Nq.Lemmas.SendL`).
  Failing calls: `Nq.CleanIO` (qmail-clean with short reads, EINTR, read errors and failing writes on its two
  descriptors; oracle `cleanIOOK`), `Nq.SpawnOOM` (spawn.c `getcmd()` with `flagabort`: a failing `stralloc_append`).
-/
import Nq.Lemmas.CleanL
import Nq.Lemmas.CleanIOL
import Nq.Lemmas.SpawnOOML
import Nq.Lemmas.SpawnL
import Nq.Lemmas.SpawnStreamL
import Nq.Lemmas.SendTruncL
import Nq.Lemmas.SendL
import Nq.Lemmas.SendRefL

namespace Nq.Props.C18
open Nq Nq.Spec.TB

/-! ## qmail-clean -/
section clean
open Nq.Clean Nq.Lemmas.CleanL

/-- **Exactly one status byte per request** — whatever the request and whatever `unlink` returns;
it is the last thing the request causes. -/
theorem C18_clean_one (line : Bytes) (plan : List Nat) :
    (statuses (handleReq line plan).1).length = 1 ∧
    ∃ s, (handleReq line plan).1.getLast? = some (.status s) := by
  obtain ⟨qs, s, h1, _, _⟩ := handleReq_shape line plan
  rw [h1, statuses_append, statuses_unlinks]
  exact ⟨rfl, s, by simp⟩

/-- **A rejected request changes nothing**: status `x` ⇒ no `unlink` at all. -/
theorem C18_clean_reject (line : Bytes) (plan : List Nat)
    (h : statuses (handleReq line plan).1 = [stX]) : paths (handleReq line plan).1 = [] := by
  obtain ⟨qs, s, h1, _, h3⟩ := handleReq_shape line plan
  rw [h1, statuses_append, statuses_unlinks] at h
  have hs : s = stX := by simpa [statuses] using h
  rw [h1, paths_append, paths_unlinks, h3 hs]; rfl

/-- **Only the named files**: every path passed to `unlink` is one of the (at most two) paths the
property allows for this request — `intd/N` and `mess/(N mod split)/N` for `foop/N`, `intd/N` and
`todo/N` for `todo/N`, `N` the (unbounded) decimal value — never any other path. -/
theorem C18_clean_only (line : Bytes) (plan : List Nat) :
    ∀ p ∈ paths (handleReq line plan).1, p ∈ allowed line :=
  paths_handleReq line plan

/-- **Characterisation of the requests that are acted upon**: if anything is unlinked then the
request is `"foop/" ++ ds ++ [0]` or `"todo/" ++ ds ++ [0]` with `ds` a non-empty string of decimal
digits, 7 ≤ length ≤ 100, whose value is below 2^64 (no wrap-around) and which is the canonical
spelling of that value. -/
theorem C18_clean_valid (line : Bytes) (plan : List Nat) (h : paths (handleReq line plan).1 ≠ []) :
    ∃ ds, (line = FOOP ++ ds ++ [0] ∨ line = TODO ++ ds ++ [0]) ∧ ds ≠ [] ∧ ds.all isDigit = true ∧
      7 ≤ line.length ∧ line.length ≤ 100 ∧ decVal ds < 2 ^ 64 ∧ fmtUlong (decVal ds) = ds := by
  rcases handleReq_cases line plan with hx | ⟨ds, pfx, ps, ha, _, _⟩
  · rw [hx] at h; simp [paths] at h
  · refine ⟨ds, ?_, ha.nonempty, ha.digits, ha.len_lo, ha.len_hi, ha.nowrap, ha.canonical⟩
    rcases ha.pfx_ok with hp | hp
    · left; rw [← hp]; exact ha.shape
    · right; rw [← hp]; exact ha.shape

/-- **Complement — a well-formed request is honoured**: canonical digits below 2^64, total length
at most 100, both `unlink`s succeeding (or ENOENT) ⇒ exactly the two files are removed, in order,
and the answer is `+`. -/
theorem C18_clean_accepts (ds : Bytes) (plan : List Nat) (hne : ds ≠ []) (hd : ds.all isDigit = true)
    (hlen : ds.length ≤ 94) (hv : decVal ds < 2 ^ 64) (hc : fmtUlong (decVal ds) = ds)
    (hplan : ∀ r ∈ plan.take 2, r = 0 ∨ r = 1) :
    (handleReq (FOOP ++ ds ++ [0]) plan).1 =
      [.unlink (fmtqfn INTD (decVal ds) false), .unlink (fmtqfn MESS (decVal ds) true), .status stOK] ∧
    (handleReq (TODO ++ ds ++ [0]) plan).1 =
      [.unlink (fmtqfn INTD (decVal ds) false), .unlink (fmtqfn TODO (decVal ds) false), .status stOK] := by
  have hl : 0 < ds.length := List.length_pos_iff.mpr hne
  have acc : ∀ pfx : Bytes, pfx = FOOP ∨ pfx = TODO → Accepted (pfx ++ ds ++ [0]) ds pfx := by
    intro pfx hp
    have e : (pfx ++ ds ++ [0]).length = 5 + ds.length + 1 := by
      rcases hp with h | h <;> rw [h, List.length_append, List.length_append] <;> rfl
    exact ⟨rfl, hp, hne, hd, by omega, by omega, hv, hc⟩
  constructor
  · rw [handleReq_accepted (acc FOOP (.inl rfl)) (if_pos rfl)]
    exact unlinks_ok _ plan hplan
  · rw [handleReq_accepted (acc TODO (.inr rfl)) ((if_neg (by decide)).trans (if_pos rfl))]
    exact unlinks_ok _ plan hplan

/-- **`cleanuppid()` removes only old `pid/` files**: whatever `now()`, `readdir` and `stat` present,
every path the periodic sweep unlinks is `pid/<name>` for an entry `<name>` of the directory that is
not `.`/`..`, whose `stat` succeeded and whose access time lies at least OSSIFIED (36 h) before
`now()` — never a path outside `pid/`-plus-a-listed-name, never a fresh entry. -/
theorem C18_clean_pid (sc : Scan) :
    ∀ p ∈ paths (cleanuppid sc), ∃ es e, sc.ents = some es ∧ e ∈ es ∧ p = PIDDIR ++ e.name ∧
      e.name ≠ DOT1 ∧ e.name ≠ DOT2 ∧ ∃ t, e.atime = some t ∧ t + OSSIFIED ≤ sc.now := by
  intro p hp
  obtain ⟨es, h, hp⟩ := mem_paths_cleanuppid.1 hp
  obtain ⟨e, he, r⟩ := mem_pidUnlinks.1 hp
  exact ⟨es, e, h, he, r⟩

/-- complement: an entry that is not `.`/`..`, can be `stat`ed and is at least OSSIFIED old is
removed by the sweep; and the sweep answers nothing on the status channel. -/
theorem C18_clean_pid_complete (sc : Scan) (es : List PidEnt) (e : PidEnt) (h : sc.ents = some es) (he : e ∈ es)
    (h1 : e.name ≠ DOT1) (h2 : e.name ≠ DOT2) (t : Nat) (ha : e.atime = some t) (ht : t + OSSIFIED ≤ sc.now) :
    PIDDIR ++ e.name ∈ paths (cleanuppid sc) ∧ statuses (cleanuppid sc) = [] :=
  ⟨mem_paths_cleanuppid.2 ⟨es, h, mem_pidUnlinks.2 ⟨e, he, rfl, h1, h2, t, ha, ht⟩⟩, statuses_cleanuppid sc⟩

/-- **The whole input stream**: for every byte stream on the request descriptor, every behaviour
of `unlink` and everything `pid/` may contain, the program's event trace consists, request by
request in order, of (at most one) `cleanuppid()` window that removes only old `pid/` entries of
the directory it was shown, then unlinks of files that request names followed by exactly one status
byte (`x` only without unlinks), and nothing else.  (`cleanOK` is the oracle the driver runs on the
real program.) -/
theorem C18_clean_stream (input : Bytes) (plan : List Nat) (scans : List Scan) :
    cleanOK (splitReqs [] input) scans (run input plan scans) = true :=
  cleanOK_runReqs _ _ _ _

/-- **Never any other path** (the flat form of the stream theorem): every path the program ever
passes to `unlink` during a whole run is one of the two files named by a complete request of the
input (`allowed`, empty unless the request is valid) or `pid/<name>` for an entry at least OSSIFIED
old of one of the directory listings it was shown. -/
theorem C18_clean_paths (input : Bytes) (plan : List Nat) (scans : List Scan) :
    ∀ p ∈ paths (run input plan scans),
      (∃ q ∈ splitReqs [] input, p ∈ allowed q) ∨ (∃ sc ∈ scans, pidOld sc p = true) :=
  paths_runReqs _ _ _ _

end clean

/-! ## qmail-lspawn / qmail-rspawn (spawn.c) -/
section spawn
open Nq.Spawn Nq.Lemmas.SpawnL Nq.Lemmas.SpawnStreamL Nq.Gen.SpawnTexts

/-- **The only path opened is the message id of the command, and it is a well-formed queue file
name**: non-empty, at most 99 bytes, decimal digits and `/` only, not starting with `/` (so never
absolute, never containing `.`).  `m` is the message id as `getcmd` collected it (NUL-free, NUL
appended). -/
theorem C18_spawn_open (st : St) (m : Bytes) (hm : st.messid = m ++ [0]) (h0 : ∀ c ∈ m, c ≠ 0) :
    ∀ p, Ev.openRead p ∈ (docmd st).2 → p = m ∧ okPath p = true := by
  intro p hp
  have hdl : st.messid.dropLast = m := by rw [hm, List.dropLast_concat]
  have h := docmd_cases st
  generalize docmd st = r at h hp
  cases h with
  | early => simp at hp
  | late hc | nofork hc | started hc =>
    have : p = m := by simpa [hdl] using hp
    exact ⟨this, this ▸ okPath_of_checks hc m hm h0⟩

/-- **A message file that is not a regular file owned by the queue user is never handed to a
child**: no `spawn()`, the slot table is unchanged, and if the file is opened at all (the command was not
refused before) the events are exactly that open and one temporary (`Z`) report carrying the command's
delivery number. -/
theorem C18_spawn_guard (st : St)
    (h : st.plan.headD 0 = 3 ∨ st.plan.headD 0 = 4 ∨ st.plan.headD 0 = 7 ∨ st.plan.headD 0 = 8) :
    (docmd st).1.slots = st.slots ∧
    (∀ s a b c, Ev.spawnCall s a b c ∉ (docmd st).2) ∧
    (∀ p, Ev.openRead p ∈ (docmd st).2 →
      ∃ t, (docmd st).2 = [.openRead p, .report st.delnum t] ∧ t.head? = some 90) := by
  have h1 := docmd_cases st
  generalize docmd st = r at h1 ⊢
  cases h1 with
  | early => exact ⟨rfl, by simp, by simp⟩
  | late _ t ht =>
    refine ⟨rfl, by simp, ?_⟩
    intro p hp
    have hp' : p = st.messid.dropLast := by simpa using hp
    exact ⟨t, by rw [hp'], guard_text_Z h ht⟩
  | nofork _ _ _ h6 => exact absurd (h6 ▸ h) (by decide)
  | started _ _ _ h0 => rcases h with h | h | h | h <;> rw [h] at h0 <;> exact absurd h0 (by decide)

/-- **Exactly one answer per command, now or later**: over `docmd`,  reports written + children running
grows by exactly one; every report it writes carries the command's delivery number and a fixed text that
starts with K/Z/D and is free of NUL; the slot table keeps its length.  (The statement gives the sum.  That the
one is either a single report with the slots left alone, or a child started in the command's slot and no report,
is `SpawnL.docmd_cases`.) -/
theorem C18_spawn_one_cmd (st : St) (hl : st.slots.length = Nq.Gen.auto_spawn) :
    nReports (docmd st).2 + usedCount (docmd st).1 = usedCount st + 1 ∧
    (∀ d b, Ev.report d b ∈ (docmd st).2 → d = st.delnum ∧ textOK b = true) ∧
    (docmd st).1.slots.length = st.slots.length :=
  docmd_balance st hl

/-- **One report per exited child** (whether or not the slot is in use): a child-exit event for `slot`
changes no other slot (`slots.set slot none`), keeps  reports written + children running  unchanged,
writes a report only if the slot was in use — then exactly one — and every report it writes carries
the number of that slot and a body that starts with K/Z/D and has no NUL; it writes nothing but
reports. -/
theorem C18_spawn_one_exit (k : Kind) (st : St) (slot wstat : Nat) (hl : st.slots.length = Nq.Gen.auto_spawn) :
    (childExit k st slot wstat).1.slots = st.slots.set slot none ∧
    nReports (childExit k st slot wstat).2 + usedCount (childExit k st slot wstat).1 = usedCount st ∧
    nReports (childExit k st slot wstat).2 = (if slotUsed st.slots slot then 1 else 0) ∧
    (∀ d b, Ev.report d b ∈ (childExit k st slot wstat).2 → d = slot ∧ textOK b = true) ∧
    (∀ e ∈ (childExit k st slot wstat).2, ∃ d b, e = Ev.report d b) := by
  unfold slotUsed
  rcases childExit_cases k st slot wstat with ⟨h, e⟩ | ⟨out, h, e⟩ <;> rw [e, h]
  · exact ⟨(set_none_same _ _ h).symm, Nat.zero_add _, rfl, nofun, nofun⟩
  · refine ⟨rfl, (Nat.add_comm _ _).trans (usedCount_set_none st.slots slot out h), rfl, fun d b hb => ?_,
      fun e he => ⟨_, _, List.mem_singleton.mp he⟩⟩
    cases List.mem_singleton.mp hb
    exact ⟨rfl, reportBody_textOK k wstat out⟩

/-- **A child's report carries only the child's own output**: the body written for an exited child
is either one of the fixed texts of `report()` (extracted from the source), or a status letter
followed by at most two contiguous pieces of the child's output, both free of NUL — never a byte
from beyond the output (qmail-rspawn.c's `report()` prints the second piece with a bounded `substdio_put`,
up to the next NUL or the end of the output; a `substdio_puts` there would read on beyond it).  In every case
the body starts with K, Z or D and contains no NUL, so the report stream stays parseable. -/
theorem C18_spawn_body (k : Kind) (wstat : Nat) (out : Bytes) :
    textOK (reportBody k wstat out) = true ∧
    (reportBody k wstat out ∈ fixedTexts ∨
     ∃ l a b, isLetter l = true ∧ reportBody k wstat out = [l] ++ a ++ b ∧ a <:+: out ∧ b <:+: out ∧
       (∀ c ∈ a, c ≠ 0) ∧ (∀ c ∈ b, c ≠ 0)) :=
  ⟨reportBody_textOK k wstat out, reportBody_shape k wstat out⟩

/-- **One report per command over a whole session**: for every script of events (bytes arriving on
descriptor 0 in any chunking, descriptor 0 reaching EOF at any point — also while deliveries are in
flight —, children writing, and dying in any order, each death seen either as SIGCHLD + EOF on the
pipe in one wake-up or as SIGCHLD first (`select` returning -1) with the EOF on the pipe read any
number of wake-ups later; any file-system behaviour), when the program has run to its end the
number of reports written equals the number of complete commands received before the end of input
(`inputOf`), and no slot is left in use.  `countCmds` counts with the bare framing automaton;
`C18_spawn_grammar` says what it counts. -/
theorem C18_spawn_one (k : Kind) (plan : List Nat) (script : List Op) :
    nReports (run k plan script).2 = countCmds .delnum (inputOf script) ∧ usedCount (run k plan script).1 = 0 := by
  obtain ⟨hi, hu, hr, hs⟩ := init_facts plan
  have h := session_balance k _ script hi hr hu
  rw [hs] at h
  exact h

/-- **Every accepted command has its report before the spawner leaves** — the exit test of the main
loop (`exited`: end of input seen and no slot `used`).  (1) At every point of every session, reports
written + slots in use = complete commands received; a slot stays in use from `spawn()` until its
report is written, in particular while its child has been reaped (`pid = 0`) and the EOF on its pipe
has not been read yet.  (2) Hence whenever the exit test holds, exactly one report per received
command has been written.  (3) A slot in use — running or reaped — makes the exit test fail.
(4) Once the test holds no event has any effect, so the model that runs the whole script equals the
one that stops at the exit point `consumed` (which the driver compares with the real program's). -/
theorem C18_spawn_exit (k : Kind) (plan : List Nat) (script : List Op) :
    nReports (orun k { plan := plan } script).2 + usedCount (orun k { plan := plan } script).1
      = countCmds .delnum (inputOf script) ∧
    (exited (orun k { plan := plan } script).1 = true →
      nReports (orun k { plan := plan } script).2 = countCmds .delnum (inputOf script)) ∧
    (∀ (st : St) i out, st.slots.getD i none = some out → exited st = false) ∧
    (∀ (st : St) op, exited st = true → ostep k st op = (st, [])) ∧
    orun k { plan := plan } (script.take (runConsumed k plan script)) = orun k { plan := plan } script := by
  have hb := run_prefix_balance k plan script
  refine ⟨hb, ?_, not_exited_of_used, ostep_exited k,
    orun_take_consumed k _ script⟩
  intro he
  rw [((exited_iff _).mp he).2, Nat.add_zero] at hb
  exact hb

/-- **A reaped child still owes its report**: the SIGCHLD handler (`reap`) leaves the slot table as it is and
writes nothing; the EOF on the pipe of a child (`pipeEof`) keeps  reports written + slots in use; every report it
writes carries the slot's number and the body `report()` makes of the slot's output and the wait status the
handler stored (it starts with K/Z/D and has no NUL); if it writes nothing it changes nothing.  (Not in the
statement: for a reaped slot in use it is exactly one report and exactly that slot is released, `SpawnL.pipeEof_cases`.) -/
theorem C18_spawn_reap (k : Kind) (st : St) (slot wstat : Nat) (hl : st.slots.length = Nq.Gen.auto_spawn) :
    (reap st slot wstat).slots = st.slots ∧ (ostep k st (.reap slot wstat)).2 = [] ∧
    nReports (pipeEof k st slot).2 + usedCount (pipeEof k st slot).1 = usedCount st ∧
    (∀ d b, Ev.report d b ∈ (pipeEof k st slot).2 → d = slot ∧ textOK b = true ∧
      ∃ out ws, st.slots.getD slot none = some out ∧ st.dead.getD slot none = some ws ∧ b = reportBody k ws out) ∧
    ((pipeEof k st slot).2 = [] → (pipeEof k st slot).1 = st) := by
  refine ⟨reap_slots st slot wstat, rfl, ?_⟩
  rcases pipeEof_cases k st slot with ⟨e, _⟩ | ⟨out, ws, h1, h2, e⟩ <;> rw [e]
  · exact ⟨Nat.zero_add _, nofun, fun _ => rfl⟩
  · refine ⟨(Nat.add_comm _ _).trans (usedCount_set_none st.slots slot out h1), fun d b hb => ?_, nofun⟩
    cases List.mem_singleton.mp hb
    exact ⟨rfl, reportBody_textOK k ws out, out, ws, h1, h2, rfl⟩

/-- **The report reflects how the child ended — never an earlier child's status, never a guess.**
Of the events on the children's side, a child that merely closes its output descriptors and
lives on (`cclose`) changes nothing and writes nothing: `docmd()` keeps the pipe's write end `d[i].fdout`
open until `sigchld()` has stored the wait status, so the pipe cannot reach EOF before. Every report such an
event causes is the report of the slot's collected output under a wait status that *this* child delivered:
the status of the very death event (`exit`), or the one the handler stored when it reaped this child (`peof`
after `reap`). And whatever the child wrote — a complete success report included — a child killed by a signal
is reported `Z`, and a report `K` requires exit code 0 without a signal for qmail-rspawn (`k = .r`). -/
theorem C18_spawn_report_after_status (k : Kind) (st : St) (op : Op) (hc : childOp op = true) :
    (∀ slot, op = .cclose slot → ostep k st op = (st, [])) ∧
    (∀ e ∈ (ostep k st op).2, ∃ slot ws out, e = Ev.report slot (reportBody k ws out) ∧
        st.slots.getD slot none = some out ∧
        (op = .exit slot ws ∨ (op = .peof slot ∧ st.dead.getD slot none = some ws))) ∧
    (∀ ws out, ws % 128 ≠ 0 → (reportBody k ws out).head? = some 90) ∧
    (∀ ws out, (reportBody .r ws out).head? = some 75 → ws % 128 = 0 ∧ ws / 256 = 0) := by
  refine ⟨fun _ h => h ▸ rfl, childOp_reports k st op hc, ?_, ?_⟩
  · intro ws out h
    cases k with
    | l => rw [show reportBody .l ws out = L_CRASHED from if_pos h]; decide
    | r => rw [show reportBody .r ws out = R_CRASHED from if_pos h]; decide
  · intro ws out
    -- of the cases of `rreport` the three that follow a signal or a non-zero exit code write a fixed text starting with Z or D
    show (rreport ws out).head? = some 75 → _
    fun_cases rreport ws out <;> intro h
    case case4 h1 _ h3 _ | case5 h1 _ h3 _ => exact ⟨Decidable.not_not.mp h1, Decidable.not_not.mp h3⟩
    all_goals exact absurd h (by decide)

/-- **The open/spawn discipline over a whole session** (the oracle `opensOK` the driver runs on the
real programs): for every script of events — any bytes on descriptor 0 in any chunking, children
writing and exiting in any order, any file-system behaviour `plan` — with `cmds` the complete
commands of the input stream according to the independent grammar `parseCmds`: every path opened is
the message id of one of these commands and satisfies `okPath`; `spawn()` is called only directly
after an open, in the slot and with the sender and recipient of a command naming that file, and never
after the open of a file that `fstat` shows not to be regular or not owned by the queue user (`plan` 3, 4, 7, 8):
after such an open the very next event is a `Z` report for a command naming it.  (After an open that fails, or
whose `fstat`, `pipe()` or `fork()` fails — `plan` 1, 2, 5, 6 — `opensOK` asks nothing of the next event.)
Proof: the invariant `SpawnStreamL.Rel` — `getcmd()` hands `docmd()` a message id that is NUL-free with exactly
one NUL appended, the hypothesis of `C18_spawn_open`. -/
theorem C18_spawn_stream (k : Kind) (plan : List Nat) (script : List Op) :
    opensOK (parseCmds ((inputOf script).length + 1) (inputOf script)) plan (run k plan script).2 = true :=
  run_opensOK k plan script _ (Nat.lt_succ_self _)

/-- the command grammar of the oracle does not depend on its fuel once that exceeds the length of the
stream (either side is the framing automaton `SpawnStreamL.cmdsFrom`).  Nothing relates `parseCmds` to `countCmds`,
the count of `C18_spawn_one`; what that one counts is `C18_spawn_grammar`. -/
theorem C18_spawn_cmds (f1 f2 : Nat) (s : Bytes) (h1 : s.length < f1) (h2 : s.length < f2) :
    parseCmds f1 s = parseCmds f2 s := by
  rw [parseCmds_eq f1 s h1, parseCmds_eq f2 s h2]

/-- a delivery-number byte followed by three NUL-free, NUL-terminated fields is exactly one command,
after which the reader is at the start of the next one (an incomplete tail: the example `countCmds … = 1` below) -/
theorem C18_spawn_grammar (d : Byte) (m sd rc : Bytes) (hm : ∀ c ∈ m, c ≠ 0) (hs : ∀ c ∈ sd, c ≠ 0)
    (hr : ∀ c ∈ rc, c ≠ 0) (rest : Bytes) :
    countCmds .delnum (d :: (m ++ 0 :: (sd ++ 0 :: (rc ++ 0 :: rest)))) = 1 + countCmds .delnum rest := by
  simp only [countCmds, stageStep]
  rw [count_field .messid nofun m _ hm]
  simp only [countCmds, stageStep, if_true]
  rw [count_field .sender nofun sd _ hs]
  simp only [countCmds, stageStep, if_true]
  rw [count_field .recip nofun rc _ hr]
  simp [countCmds, stageStep]

/-- a child writing output leaves the number of slots in use as it is and writes nothing to the parent.  (Not in
the statement: the same slots stay in use, and output for a slot without a child is dropped — `ostep`.) -/
theorem C18_spawn_out (k : Kind) (st : St) (slot : Nat) (bytes : Bytes) :
    usedCount (ostep k st (.out slot bytes)).1 = usedCount st ∧ (ostep k st (.out slot bytes)).2 = [] := by
  cases h : st.slots.getD slot none with
  | none => simp only [ostep, h, and_self]
  | some out =>
    simp only [ostep, h, and_true]
    exact usedCount_set_same st.slots slot out _ h

end spawn

/-! ## qmail-send report reader (del_dochan) -/
section send
open Nq.SendReport Nq.Lemmas.SendL

/-- **The report line stays within REPORTMAX**: whatever bytes arrive, the length `dlen` of the report line
(`dline[c].len`) never exceeds REPORTMAX.  (That `dlen` is the number of bytes held is `SendTruncL.LineInv`; what the
cut means for the text a report is accepted with is `C18_send_trunc`.) -/
theorem C18_send_bound (env : Env) (st : St) (s : Bytes) (h : st.dlen ≤ Nq.Gen.REPORTMAX) :
    (feed env st s).1.dlen ≤ Nq.Gen.REPORTMAX := by
  induction s generalizing st with
  | nil => exact h
  | cons c r ih => unfold feed; exact ih _ (step_dlen env st c h)

/-- **Out-of-range and unused delivery numbers change nothing**: a report whose first byte names
a slot beyond `concurrency[c]` or a slot not in use only produces the warning line; slots, jobs,
recipient files and bounce files are untouched. -/
theorem C18_send_ignored (env : Env) (st : St) (dl : Bytes)
    (h : st.slots.getD (dl.headD 0).toNat none = none) :
    processLine env st dl = (st, [.log WARN]) := processLine_unused env st dl h

/-- **A report for a delivery in flight changes at most that delivery's record, once**: the slot
is freed (so a second report for it falls under `C18_send_ignored`), no other slot changes;
at most one recipient record is marked — the one at the slot's own
`mpos` in the slot's own message — by writing the single byte `D`; at most one bounce is
appended, to that message's bounce file; and a report with an unknown status letter (malformed)
marks nothing and bounces nothing. -/
theorem C18_send_flip (env : Env) (st : St) (dl : Bytes) (sl : Slot)
    (h : st.slots.getD (dl.headD 0).toNat none = some sl) :
    (processLine env st dl).1.slots = st.slots.set (dl.headD 0).toNat none ∧
    (marksOf (processLine env st dl).2 = [] ∨
     marksOf (processLine env st dl).2 =
       [(Clean.fmtqfn (chanaddr env.chan) (st.jobs.getD sl.j ⟨0, 0, 0, false, false, 0, 0⟩).id true, sl.mpos)]) ∧
    (bouncesOf (processLine env st dl).2 = [] ∨
     bouncesOf (processLine env st dl).2 =
       [Clean.fmtqfn (str "bounce/") (st.jobs.getD sl.j ⟨0, 0, 0, false, false, 0, 0⟩).id false]) ∧
    writesOK (processLine env st dl).2 = true ∧
    ((dl.getD 1 0 ≠ 75 ∧ dl.getD 1 0 ≠ 90 ∧ dl.getD 1 0 ≠ 68) →
      marksOf (processLine env st dl).2 = [] ∧ bouncesOf (processLine env st dl).2 = []) := by
  have p := processLine_spec env st dl st.jobs sl (JobsSame.refl _) h rfl
  refine ⟨p.slots, ?_, p.bounces, p.writes, fun hl => (p.unmarked ?_).2⟩
  · by_cases hw : wantsMark st.jobs sl (dl.getD 1 0)
    · exact (p.marked hw).2.symm
    · exact .inl (p.unmarked hw).2.1
  · exact fun hw => hw.elim hl.1 fun hw => hw.elim hl.2.2 fun hw => hl.2.1 hw.1

/-- **Every byte stream on a report descriptor** (`C18_send_robust` of the design): starting from
an empty report line, for all bytes `s`, all worlds (slots, jobs) and every outcome of the system calls the model
takes as input (`open_write`, `unlink`, `stat`; in `markdone` a failing `fstat`, `seek_set` or `write`, and in
`addbounce` a failing `open_append` or `write`, are not modelled),
(1) the records marked are exactly those the stream asks for according to the *declarative*
reference `refMarksDecl` (`Spec/ReportRef.lean`: the stream is cut by the writer's grammar
`delnum text NUL`, no buffer, no REPORTMAX, no byte loop; the first report naming a delivery in
flight decides it, every other report is ignored; the slot table is never mutated) — the same files
in the same order, a mark being lost only when its `open_write` fails (`sendStrictDecl`, the oracle
run on the real code); (2) they form a sub-multiset of the deliveries in flight at the start: a
record is only ever marked for a delivery that was in flight, and at most once per such delivery —
whatever out-of-range, unused, duplicated or mangled reports the stream contains; (3) every write
into a recipient file is the single byte `D` of such a mark. -/
theorem C18_send_robust (env : Env) (st : St) (s : Bytes) (h0 : st.drev = []) (h1 : st.dlen = 0) :
    sendStrictDecl env.chan st.jobs st.slots s (feed env st s).2 = true ∧
    subMultiset (marksOf (feed env st s).2) (inflight env.chan st.jobs st.slots) = true ∧
    writesOK (feed env st s).2 = true :=
  ⟨Nq.Lemmas.SendRefL.feed_stream_decl env st s h0 h1, (feed_stream env st s h0 h1).2, feed_writesOK env st s⟩

/-- the step-based reader `refMarks` (which shares the model's framing: REPORTMAX cut, `n > 1`
trigger, slot table update) and the declarative reader agree on every stream — so the REPORTMAX
truncation can never change which delivery a report names or its status letter (REPORTMAX ≥ 2 is
the only fact about the constant that is used) -/
theorem C18_send_reference (c : Nat) (jobs : List Job) (slots : List (Option Slot)) (s : Bytes) :
    refMarks c jobs slots s = refMarksDecl c jobs slots s :=
  Nq.Lemmas.SendRefL.refMarks_eq_decl c jobs slots s

/-- **An accepted report never exceeds REPORTMAX bytes** (the oracle `truncOK` the driver runs on the
real program's log): for every byte stream, in whatever pieces it is read, from any state whose
report line holds at most REPORTMAX bytes, every log line `delivery <n>: success|failure|deferral:
<text>` carries at most REPORTMAX − 2 bytes of report text — REPORTMAX less the delivery number and
the status letter — or at most REPORTMAX − 3 bytes followed by the fixed sentence qmail-send itself
appends for a message past its queue lifetime (`truncOK` allows the longer bound to every text that ends with that
sentence, dying message or not; per case: `SendTruncL.fits_plain`, `fits_dying`).  (`feed` is a fold over single bytes: the model has no
notion of `read()` chunks, so the bound holds for every chunking; the harness delivers the same
stream in reads of 1, 2, 3, 7, 1023, 1024, 2047, 2048 and random sizes and the driver compares.) -/
theorem C18_send_trunc (env : Env) (st : St) (s : Bytes) (h1 : st.dlen ≤ Nq.Gen.REPORTMAX)
    (h2 : st.drev.length = st.dlen) : truncOK (feed env st s).2 = true :=
  Nq.Lemmas.SendTruncL.feed_truncOK env st s h1 h2

/- Not proved, checked by the oracle only: the bounce half of `sendOK` (bounce appends form a sub-multiset of the
   in-flight messages' bounce files) over a whole stream; `C18_send_flip` is its per-report step. -/

end send

/-! ## Non-vacuity: qmail-clean, the spawners, the report reader (bytes written out: "foop/12\0", "todo/7\0", …) -/
section examples
open Nq.Clean

/-- "foop/12" NUL removes intd/12 and mess/12/12 (12 mod 23 = 12) and answers '+' -/
example : (handleReq [102, 111, 111, 112, 47, 49, 50, 0] []).1 =
    [.unlink [105, 110, 116, 100, 47, 49, 50], .unlink [109, 101, 115, 115, 47, 49, 50, 47, 49, 50], .status 43] := by decide +kernel
/-- "foop/12x" NUL is answered 'x' once, nothing removed (a rejection that left only the digit loop would go on to
unlink and answer '+': DESIGN §9) -/
example : (handleReq [102, 111, 111, 112, 47, 49, 50, 120, 0] []).1 = [.status 120] := by decide +kernel
/-- "todoX77" NUL is rejected (a comparison of only 4 of the 5 keyword bytes accepts it: DESIGN §9) -/
example : (handleReq [116, 111, 100, 111, 88, 55, 55, 0] []).1 = [.status 120] := by decide +kernel
/-- "foop/18446744073709551617" NUL is rejected (2^64 + 1, which `scan_ulong` reads as 1; the canonical-spelling
test catches it: DESIGN §9) -/
example : (handleReq [102, 111, 111, 112, 47, 49, 56, 52, 52, 54, 55, 52, 52, 48, 55, 51, 55, 48, 57, 53, 53, 49, 54, 49, 55, 0] []).1
    = [.status 120] := by decide +kernel
/-- a failing unlink (EIO) answers '!' after the first attempt -/
example : (handleReq [116, 111, 100, 111, 47, 55, 0] [2]).1 =
    [.unlink [105, 110, 116, 100, 47, 55], .status 33] := by decide +kernel
example : allowed [116, 111, 100, 111, 47, 55, 0] = [[105, 110, 116, 100, 47, 55], [116, 111, 100, 111, 47, 55]] := by decide +kernel

/-- `cleanuppid()` at time 1700000000 on a directory "1" (atime exactly OSSIFIED old), "2" (one second
fresher), ".", "..", "3" (stat fails), "4" (atime 0): removes pid/1 and pid/4 only -/
example : cleanuppid ⟨1700000000, some [⟨[49], some 1699870400⟩, ⟨[50], some 1699870401⟩, ⟨[46], some 0⟩, ⟨[46, 46], some 0⟩,
      ⟨[51], none⟩, ⟨[52], some 0⟩]⟩ =
    [.cleanup, .unlink [112, 105, 100, 47, 49], .unlink [112, 105, 100, 47, 52], .cleanupEnd] := by decide +kernel
/-- the oracle rejects a sweep that removes the fresh entry "2", and one that removes a path outside `pid/` -/
example : cleanOK [] [⟨1700000000, some [⟨[50], some 1699870401⟩]⟩] [.cleanup, .unlink [112, 105, 100, 47, 50], .cleanupEnd] = false := by
  decide +kernel
example : cleanOK [] [⟨1700000000, some [⟨[50], some 0⟩]⟩] [.cleanup, .unlink [105, 110, 116, 100, 47, 50], .cleanupEnd] = false := by
  decide +kernel
example : cleanOK [] [⟨1700000000, some [⟨[50], some 0⟩]⟩] [.cleanup, .unlink [112, 105, 100, 47, 50], .cleanupEnd] = true := by
  decide +kernel
/-- a whole run: the sweep, then the request "todo/7" -/
example : run [116, 111, 100, 111, 47, 55, 0] [] [⟨200000, some [⟨[120], some 5⟩]⟩] =
    [.cleanup, .unlink [112, 105, 100, 47, 120], .cleanupEnd, .unlink [105, 110, 116, 100, 47, 55],
     .unlink [116, 111, 100, 111, 47, 55], .status 43, ] := by decide +kernel

/-- the open/spawn oracle is not trivially true: an open of a path no command names, a spawn after the open of a
foreign-owned file (plan 4), a spawn with another recipient than the command's are all rejected; the honest trace is accepted -/
example : opensOK [] [] [.openRead [49]] = false := by decide +kernel
example : opensOK [⟨3, [49], [115], [64]⟩] [4] [.openRead [49], .spawnCall 3 [115] [64] 0] = false := by decide +kernel
example : opensOK [⟨3, [49], [115], [64]⟩] [0] [.openRead [49], .spawnCall 3 [115] [64, 120] 0] = false := by decide +kernel
example : opensOK [⟨3, [49], [115], [64]⟩] [0] [.openRead [49], .spawnCall 3 [115] [64] 0] = true := by decide +kernel
example : opensOK [⟨3, [49], [115], [64]⟩] [4] [.openRead [49], .report 3 [90, 120]] = true := by decide +kernel
/-- the command grammar of the oracle: two commands, the second cut short -/
example : parseCmds 11 [3, 49, 0, 0, 64, 0, 4, 50, 0, 115] = [⟨3, [49], [], [64]⟩] := by decide +kernel

/-- spawn: delivery 3, message id "1/24", sender "s", recipient "r@h", file regular and owned: opened and spawned -/
example : (Nq.Spawn.cfeed {} [3, 49, 47, 50, 52, 0, 115, 0, 114, 64, 104, 0]).2 =
    [.openRead [49, 47, 50, 52], .spawnCall 3 [115] [114, 64, 104] 1] := by decide +kernel
/-- the same with message id "/1" (absolute path): refused before any open -/
example : ((Nq.Spawn.cfeed {} [3, 47, 49, 0, 115, 0, 114, 64, 104, 0]).2.any
    (fun e => match e with | .openRead _ => true | _ => false)) = false := by decide +kernel
/-- rspawn: child output "rh" NUL "K" without a final NUL (the second piece ends with the output, not with a NUL;
see `C18_spawn_body`): report "Dh" -/
example : Nq.Spawn.rreport 0 [114, 104, 0, 75] = [68, 104] := by decide +kernel
/-- rspawn: "r" "ok" NUL "K" "accepted" NUL: report "K" "ok" "accepted" -/
example : Nq.Spawn.rreport 0 [114, 111, 107, 0, 75, 97, 0] = [75, 111, 107, 97] := by decide +kernel
/-- end of input with a delivery in flight whose child is reaped first: after `c`, `e`, `k` the exit test fails (the
slot still owes its report); the EOF on the pipe writes the report and only then the program may leave -/
example : Nq.Spawn.exited (Nq.Spawn.orun .l {} [.cmd [0, 49, 0, 0, 64, 0], .eof, .reap 0 0]).1 = false := by decide +kernel
example : (Nq.Spawn.orun .l {} [.cmd [0, 49, 0, 0, 64, 0], .eof, .reap 0 0, .peof 0]).2 =
    [Nq.Spawn.Ev.openRead [49], .spawnCall 0 [] [64] 0, .report 0 [75]] := by decide +kernel
example : Nq.Spawn.exited (Nq.Spawn.orun .l {} [.cmd [0, 49, 0, 0, 64, 0], .eof, .reap 0 0, .peof 0]).1 = true := by decide +kernel
example : Nq.Spawn.runConsumed .l [] [.cmd [0, 49, 0, 0, 64, 0], .eof, .reap 0 0, .peof 0, .cmd [1]] = 4 := by decide +kernel
/- a child that wrote a complete success report (`r…\0K…\0`), closed its output
   descriptors (`cclose`: nothing happens) and is later killed by signal 11 is relayed as `Zqmail-remote crashed.` -/
example : (Nq.Spawn.orun .r {} [.cmd [0, 49, 0, 0, 64, 0], .out 0 [114, 0, 75, 111, 107, 10, 0], .cclose 0]).2 =
    [.openRead [49], .spawnCall 0 [] [64] 0] := by decide +kernel
example : (Nq.Spawn.orun .r {} [.cmd [0, 49, 0, 0, 64, 0], .out 0 [114, 0, 75, 111, 107, 10, 0], .cclose 0, .exit 0 11]).2 =
    [.openRead [49], .spawnCall 0 [] [64] 0, .report 0 Nq.Gen.SpawnTexts.R_CRASHED] := by decide +kernel
/-- the driver's oracle `lifeOK` (in no theorem; the model's side is `C18_spawn_report_after_status`) rejects a
`report()` call before `wait()` has handed over the child's status, a call with another status than that one, and a
`K` relayed for a child killed by a signal; it accepts the honest order, and a report without a call (`docmd()`'s own) -/
example : Nq.Spec.TB.lifeOK [.born 0, .call 0 0, .report 0 [75, 111, 107, 10]] = false ∧
    Nq.Spec.TB.lifeOK [.born 0, .reaped 0 0, .call 0 0, .report 0 [75, 111, 107, 10]] = true ∧
    Nq.Spec.TB.lifeOK [.born 0, .reaped 0 11, .call 0 0, .report 0 [75, 111, 107, 10]] = false ∧
    Nq.Spec.TB.lifeOK [.born 0, .reaped 0 11, .call 0 11, .report 0 [75, 111, 107, 10]] = false ∧
    Nq.Spec.TB.lifeOK [.born 0, .report 0 [90, 10], .reaped 0 11, .call 0 11, .report 0 [90, 10]] = true := by decide +kernel
/-- the truncation oracle reads the report text of a log line: "delivery 7: success: ok\n" carries "ok\n";
a status line carries none -/
example : reportTextOf [100, 101, 108, 105, 118, 101, 114, 121, 32, 55, 58, 32, 115, 117, 99, 99, 101, 115, 115, 58, 32, 111, 107, 10]
    = some [111, 107, 10] := by decide +kernel
example : reportTextOf [115, 116, 97, 116, 117, 115, 58, 32, 108, 111, 99, 97, 108, 32, 48, 47, 49, 10] = none := by decide +kernel
/-- the truncation oracle is a real bound: a text (with its newline) that fits has at most TEXTMAX + 1 bytes unless it
ends with the fixed sentence, and never more than TEXTMAX − 1 + 74 -/
example (t : Bytes) (h : textFits t = true) :
    t.length ≤ TEXTMAX + 1 ∨ (DYINGLOG <:+ t ∧ t.length ≤ TEXTMAX - 1 + 74) := by
  have hl : DYINGLOG.length = 74 := by decide
  unfold textFits at h
  simp only [Bool.or_eq_true, Bool.and_eq_true, decide_eq_true_eq, hl] at h
  rcases h with h | ⟨h, hs⟩
  · exact Or.inl h
  · exact Or.inr ⟨List.isSuffixOf_iff_suffix.mp hs, h⟩
/-- two commands, the second cut short: one complete command -/
example : Nq.Lemmas.SpawnL.countCmds .delnum [3, 49, 0, 0, 64, 0, 4, 50, 0, 115] = 1 := by decide +kernel
/-- okPath accepts "1/24", rejects "/1", "1/.", "" -/
example : okPath [49, 47, 50, 52] = true ∧ okPath [47, 49] = false ∧ okPath [49, 47, 46] = false ∧ okPath [] = false := by decide +kernel

end examples

/-! ## qmail-clean with read and write faults: no request is acted on twice or half -/
section cleanio
open Nq.Clean Nq.CleanIO Nq.Lemmas.CleanL Nq.Lemmas.CleanIOL

/-- **The whole run under every I/O behaviour satisfies the oracle `cleanIOOK`**: whatever each `read()`
of the request pipe returns (any short read, EINTR, an error, end of file), whatever `unlink` returns,
whatever `pid/` contains and whatever each `write()` of an answer returns (delivered, EINTR, error):
an interrupted write is retried at once with the same byte; exit code 0 ⇒ no write failed for good and
every complete request that arrived got exactly one answer, after its own unlinks only (`cleanOK`);
exit code 100 ⇒ the last event is the failed write, the request whose answer was lost was handled
completely and once, every earlier one was answered, no later one was touched (`cleanCut`). -/
theorem C18_clean_io_stream (rds : List Rd) (plan : List Nat) (scans : List Scan) (wplan : List Nat) :
    cleanIOOK (splitReqs [] (arrived rds)) scans (runT rds plan scans wplan) (runCode rds plan scans wplan) = true := by
  unfold cleanIOOK
  -- `cleanIOOK` branches on the last event, `runT_cases` on the exit code. Exit 0: no event is a `wfail` (`h2`) and the
  -- erased trace is the fault-free run (`cleanOK_runReqs`). Exit 100: the trace is `tr ++ [wfail b]`, and `erase tr`
  -- with `status b` is the fault-free run cut right after a status byte (`cleanCut_runReqs`)
  rw [show attemptsOK (runT rds plan scans wplan) = true from (emit_spec _ _).1, Bool.true_and]
  rcases runT_cases rds plan scans wplan with ⟨hc, h1, h2⟩ | ⟨hc, pre, b, post, tr, h1, h2, h3⟩ <;> rw [hc]
  · have hok : cleanOK (splitReqs [] (arrived rds)) scans (erase (runT rds plan scans wplan)) = true := by
      rw [h1]; exact cleanOK_runReqs _ _ _ _
    cases hl : (runT rds plan scans wplan).getLast? with
    | none => simp [hok]
    | some x =>
      have hm := List.mem_of_getLast? hl
      cases x with
      | ev e => simp [hok]
      | wintr c => simp [hok]
      | wfail c => exact absurd hm (h2 c)
  · rw [h2]
    simp only [List.getLast?_append, List.getLast?_singleton, Option.some_or, erase_append, erase, List.append_nil, h3]
    simp only [beq_self_eq_true, Bool.true_and]
    exact cleanCut_runReqs _ _ _ _ _ _ _ h1

/-- **Nothing twice, nothing after a failed write**: the events that took effect are the fault-free run
of the requests that arrived (exit 0, and then no write failed), or (exit 100) exactly its events before
some status byte `b`, whose write is the failed last event — so the files unlinked and the answers
delivered are always a prefix of those of the fault-free run. -/
theorem C18_clean_io_once (rds : List Rd) (plan : List Nat) (scans : List Scan) (wplan : List Nat) :
    ((runCode rds plan scans wplan = 0 ∧ erase (runT rds plan scans wplan) = run (arrived rds) plan scans ∧
        ∀ c, IOEv.wfail c ∉ runT rds plan scans wplan) ∨
     (runCode rds plan scans wplan = 100 ∧ ∃ pre b post tr, run (arrived rds) plan scans = pre ++ Ev.status b :: post ∧
        runT rds plan scans wplan = tr ++ [IOEv.wfail b] ∧ erase tr = pre)) ∧
    paths (erase (runT rds plan scans wplan)) <+: paths (run (arrived rds) plan scans) ∧
    statuses (erase (runT rds plan scans wplan)) <+: statuses (run (arrived rds) plan scans) := by
  have mono : ∀ a b : List Ev, a <+: b → paths a <+: paths b ∧ statuses a <+: statuses b := by
    rintro a _ ⟨t, rfl⟩
    rw [paths_append, statuses_append]
    exact ⟨List.prefix_append _ _, List.prefix_append _ _⟩
  refine ⟨runT_cases rds plan scans wplan, mono _ _ ?_⟩
  rcases runT_cases rds plan scans wplan with ⟨_, h1, _⟩ | ⟨_, pre, b, post, tr, h1, h2, h3⟩
  · rw [h1]
    exact List.prefix_refl _
  · rw [h2, erase_append, h3, h1, show erase [IOEv.wfail b] = [] from rfl, List.append_nil]
    exact List.prefix_append _ _

/-- **Reads**: what reaches the request loop does not depend on EINTR or on how `read()` cuts the
stream; nothing after a read error or end of file is seen. -/
theorem C18_clean_io_reads (r1 r2 : List Rd) :
    arrived (r1 ++ .eintr :: r2) = arrived (r1 ++ r2) ∧
    arrived (r1 ++ .err :: r2) = arrived r1 ∧
    arrived (r1 ++ .data [] :: r2) = arrived r1 ∧
    ∀ a b : Bytes, a ≠ [] → b ≠ [] → arrived (r1 ++ .data (a ++ b) :: r2) = arrived (r1 ++ .data a :: .data b :: r2) :=
  ⟨arrived_congr r1 rfl, by rw [arrived_congr r1 (x := .err :: r2) (y := []) rfl, List.append_nil],
   by rw [arrived_congr r1 (x := .data [] :: r2) (y := []) rfl, List.append_nil],
   fun a b ha hb => arrived_congr r1 (by simp [arrived, ha, hb])⟩

/-- **No request is acted on half**: bytes without a NUL at the end of what arrived (a request cut by end
of file — or, with `C18_clean_io_reads`, by a read error) change nothing: same trace, same exit code as
if they had never been sent. -/
theorem C18_clean_io_half (r1 : List Rd) (tail : Bytes) (h : ∀ c ∈ tail, c ≠ 0)
    (plan : List Nat) (scans : List Scan) (wplan : List Nat) :
    runT (r1 ++ [.data tail]) plan scans wplan = runT r1 plan scans wplan ∧
    runCode (r1 ++ [.data tail]) plan scans wplan = runCode r1 plan scans wplan := by
  have hs : splitReqs [] (arrived (r1 ++ [.data tail])) = splitReqs [] (arrived r1) := by
    rcases arrived_append r1 [.data tail] with e | e
    · rw [e]
    · rw [e]
      by_cases ht : tail = []
      · simp [arrived, ht]
      · simp only [arrived, ht, if_false, List.append_nil]
        exact splitReqs_tail _ _ _ h
  unfold runT runCode Clean.run
  rw [hs]
  exact ⟨rfl, rfl⟩

/-- complement of the hypothesis of `C18_clean_io_half`: a tail that does contain a NUL completes a
request, which is then answered (here: the smallest case) -/
example : runT [.data [120], .data [0]] [] [] [] = [.ev .cleanup, .ev (.status 120)] := by decide +kernel

/-- "foop/1" | EINTR | "2\0todo/7\0" | read error | (never seen: "todo/9\0"), the first answer interrupted
once, the second failing: both files of 12 removed, '+' delivered at the second attempt, the files of 7
removed, its answer lost, exit 100, request 9 untouched -/
example : runT [.data [102, 111, 111, 112, 47, 49], .eintr, .data [50, 0, 116, 111, 100, 111, 47, 55, 0], .err,
      .data [116, 111, 100, 111, 47, 57, 0]] [] [] [1, 0, 2] =
    [.ev .cleanup, .ev (.unlink [105, 110, 116, 100, 47, 49, 50]), .ev (.unlink [109, 101, 115, 115, 47, 49, 50, 47, 49, 50]),
     .wintr 43, .ev (.status 43), .ev (.unlink [105, 110, 116, 100, 47, 55]), .ev (.unlink [116, 111, 100, 111, 47, 55]), .wfail 43] ∧
    runCode [.data [102, 111, 111, 112, 47, 49], .eintr, .data [50, 0, 116, 111, 100, 111, 47, 55, 0], .err,
      .data [116, 111, 100, 111, 47, 57, 0]] [] [] [1, 0, 2] = 100 := by decide +kernel
/-- the oracle rejects: an unlink after the failed write, a second answer for one request, a retry with
another byte, exit code 0 after a failed write -/
example : cleanIOOK [[120, 0], [116, 111, 100, 111, 47, 55, 0]] [] [.ev (.status 120), .wfail 43, .ev (.unlink [105, 110, 116, 100, 47, 55])] 100 = false ∧
    cleanIOOK [[120, 0]] [] [.ev (.status 120), .ev (.status 120)] 0 = false ∧
    cleanIOOK [[120, 0]] [] [.wintr 43, .ev (.status 120)] 0 = false ∧
    cleanIOOK [[120, 0]] [] [.wfail 120] 0 = false ∧
    cleanIOOK [[120, 0]] [] [.wfail 120] 100 = true := by decide +kernel

end cleanio

/-! ## spawn.c with failing allocations (`flagabort`): an aborted command starts nothing and is reported once -/
section spawnoom
open Nq.Spawn Nq.SpawnOOM Nq.Lemmas.SpawnOOML Nq.Gen.SpawnTexts

/-- **An aborted command never starts a delivery** (per byte): when the `stralloc_append` for this byte fails or
an earlier one of the same command did, the byte opens nothing, spawns nothing, leaves the slot table, the
wait statuses, the delivery number and the file-system plan untouched; the only event possible is the report
`delnum "Zqmail-spawn out of memory. (#4.3.0)\n"`, written exactly at the NUL that ends the recipient, where the
abort flag is cleared and the next command starts; everywhere else nothing is written and the flag stays set. -/
theorem C18_spawn_oom_step (oom : List Nat) (s : StA) (ch : Byte) (hs : s.st.stage ≠ .delnum)
    (h : s.abort = true ∨ oom.contains s.calls = true) :
    (cstepA oom s ch).1.st.slots = s.st.slots ∧ (cstepA oom s ch).1.st.plan = s.st.plan ∧
    (cstepA oom s ch).1.st.dead = s.st.dead ∧ (cstepA oom s ch).1.st.delnum = s.st.delnum ∧
    (cstepA oom s ch).1.calls = s.calls + 1 ∧
    (if s.st.stage = .recip ∧ ch = 0
     then (cstepA oom s ch).2 = [.report s.st.delnum E_NOMEM0] ∧ (cstepA oom s ch).1.abort = false ∧
          (cstepA oom s ch).1.st.stage = .delnum
     else (cstepA oom s ch).2 = [] ∧ (cstepA oom s ch).1.abort = true ∧ (cstepA oom s ch).1.st.stage ≠ .delnum) := by
  have hc : (s.abort || oom.contains s.calls) = true := by
    rcases h with h | h
    · rw [h]; rfl
    · rw [h]; exact Bool.or_true _
  rw [cstepA_abort oom s ch hs hc]
  by_cases h0 : ch = 0
  · cases hst : s.st.stage <;> simp [h0, hst] at hs ⊢
  · simp [h0, hs]

/-- **… and is reported exactly once** (over the rest of the command, any length): once the flag is set, the
remaining bytes of the command — the rest of the message id, the sender and the recipient, whatever they are and
whichever further allocations fail — cause exactly one event, the out-of-memory report carrying the command's
delivery number; no slot, wait status or plan entry changes, and the program is back at the start of a command
with the flag cleared. -/
theorem C18_spawn_oom_cmd (oom : List Nat) (s : StA) (m sd rc : Bytes) (ha : s.abort = true)
    (hm : ∀ c ∈ m, c ≠ 0) (hsd : ∀ c ∈ sd, c ≠ 0) (hr : ∀ c ∈ rc, c ≠ 0) :
    (s.st.stage = .messid → cfeedA oom s (m ++ 0 :: (sd ++ 0 :: (rc ++ [0]))) =
      ({ st := { s.st with stage := .delnum }, abort := false, calls := s.calls + m.length + 1 + sd.length + 1 + rc.length + 1 },
       [.report s.st.delnum E_NOMEM0])) ∧
    (s.st.stage = .sender → cfeedA oom s (sd ++ 0 :: (rc ++ [0])) =
      ({ st := { s.st with stage := .delnum }, abort := false, calls := s.calls + sd.length + 1 + rc.length + 1 },
       [.report s.st.delnum E_NOMEM0])) ∧
    (s.st.stage = .recip → cfeedA oom s (rc ++ [0]) =
      ({ st := { s.st with stage := .delnum }, abort := false, calls := s.calls + rc.length + 1 },
       [.report s.st.delnum E_NOMEM0])) :=
  ⟨fun h => abort_messid oom s m sd rc h ha hm hsd hr, fun h => abort_sender oom s sd rc h ha hsd hr,
   fun h => abort_recip oom s rc h ha hr⟩

/-- **Complement**: while none of the `stralloc_append` calls made fails, `getcmd()` is exactly the fault-free
`Spawn.cfeed` (to which `C18_spawn_stream`, `C18_spawn_one` … apply) and the flag stays clear. -/
theorem C18_spawn_oom_none (oom : List Nat) (bs : Bytes) (s : StA) (ha : s.abort = false)
    (hn : ∀ n, s.calls ≤ n → n < s.calls + bs.length → oom.contains n = false) :
    (cfeedA oom s bs).1.st = (cfeed s.st bs).1 ∧ (cfeedA oom s bs).2 = (cfeed s.st bs).2 ∧
    (cfeedA oom s bs).1.abort = false := by
  induction bs generalizing s with
  | nil => simp [cfeedA, cfeed, ha]
  | cons c bs ih =>
    obtain ⟨h1, h2, h3, h4, h5⟩ := cstepA_ok oom s c ha (hn s.calls (Nat.le_refl _) (by simp))
    have := ih (cstepA oom s c).1 h3 (fun n hl hu => hn n (by omega) (by simp only [List.length_cons]; omega))
    simp only [cfeedA, cfeed]
    rw [← h1, ← h2]
    exact ⟨this.1, by rw [this.2.1], this.2.2⟩

/-- command 05 "1" NUL "" NUL "@" NUL whose third allocation (the sender's NUL) fails: one report, no open -/
example : (cfeedA [2] {} [5, 49, 0, 0, 64, 0]).2 = [.report 5 E_NOMEM0] := by decide +kernel
/-- the same command without a failing allocation is opened and spawned -/
example : (cfeedA [7] {} [5, 49, 0, 0, 64, 0]).2 = [.openRead [49], .spawnCall 5 [] [64] 0] := by decide +kernel
/-- the oracle rejects an open for an aborted command and a missing out-of-memory report -/
example : oomOK [2] [⟨5, [49], [], [64]⟩] [] [.openRead [49], .spawnCall 5 [] [64] 0] = false ∧
    oomOK [2] [⟨5, [49], [], [64]⟩] [] [.report 5 E_TOOBIG] = false ∧
    oomOK [2] [⟨5, [49], [], [64]⟩] [] [.report 5 E_NOMEM0] = true := by decide +kernel

end spawnoom

end Nq.Props.C18
