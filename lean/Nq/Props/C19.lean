/-
  C19 — The POP3 server shows the maildir faithfully and deletes only on request.

  Model: `Nq.Pop3` (qmail-pop3d.c with maildir.c, prioq.c, commands.c; qmail-popup.c), tied to the
  source by the differential harnesses `harness/c19_pop3d.c`, `harness/c19_popup.c` and by the
  translator (`Nq.Gen.Pop3Tab`: command tables, number scanner, tmp/ age).
  Spec: `Nq.Pop3Ref` (RFC 1939 client decoder `popDecode`, `lines`, `topLines`; the reference session `walk`
  with its reply matchers, the oracles `sessionOk` / `popupOk`), `CmdLineSpec` (grammar of a command line, shared
  with C08).  Failing system calls: model `Nq.Pop3F` (`Nq/Pop3Fault.lean`), which without faults is `Nq.Pop3`.
  The statements also use definitions of the lemma files `Nq.Lemmas.Pop3*`: `ident`, `vanished`, `seenName` (`Pop3Sess`),
  `endsOk`, `msgnoSpec`, `topCount` (`Pop3Number`), `eligible`, `startMsg`, `sizeAt` (`Pop3Heap`), `liveTotal`,
  `highMark`, `start`, `stepLine` (`Pop3Stat`), `Sim` (`Pop3Step`), `NamesOk`, `LEv`, `vanishedL`, `numberingOf`, `toR`
  (`Pop3Walk`), `childMsg`, `childOkOf` (`Pop3Popup`), `hideA`, `lift` (`Pop3FaultL`).
-/
import Nq.Lemmas.Pop3Walk
import Nq.Lemmas.Pop3Popup
import Nq.Lemmas.Pop3FaultL
import Nq.Lemmas.SmtpCmdPop3

namespace Nq.Props.C19
open Nq Nq.Pop3 Nq.Pop3Ref Nq.Lemmas.Pop3 Nq.Lemmas.Pop3Heap
open Nq.Pop3F Nq.Lemmas.Pop3F

/-! ### RETR and TOP: what a client decodes is the stored message -/

/-- **RETR.** For every stored message `m` (any bytes) and whatever follows on the connection
(`rest`), an RFC 1939 client decodes what blast() sends with limit 0 to exactly the lines of `m`
followed by the documented extra blank line, and stops exactly at the end of it: every LF sent
follows a CR (else `popDecode` is `none`), every leading dot is stuffed, and the first lone-dot
line is the last thing sent (else `rest` would not come back untouched). -/
theorem C19_retr (m rest : Bytes) :
    popDecode (blast 0 m ++ rest) = some (lines m ++ [[]], rest) :=
  blast_decoded 0 m rest

/-- **TOP msg n** (blast() is called with limit n+1): the header lines, the blank line that ends
them and the first `n` body lines (everything if the message has no blank line), then the extra
blank line. -/
theorem C19_top (n : Nat) (m rest : Bytes) :
    popDecode (blast (n + 1) m ++ rest) = some (topLines n (lines m) ++ [[]], rest) :=
  blast_decoded (n + 1) m rest

/-- The reply to an accepted RETR/TOP is "+OK " CR LF followed by blast() of the file as it is on
disk now, with the limit `limitFor verb arg`: 0 (no limit) for RETR whatever follows the message number
(`C19_limit_retr`), the limit computed from the second number of the argument for TOP (`C19_limit_top`).
(Linking lemma: one branch of `exec`.) -/
theorem C19_retr_reply (s : Sess) (verb arg : Bytes) (i : Nat) (mm : Msg) (f : File)
    (hv : verbIs vRetr verb = true ∨ verbIs vTop verb = true)
    (hn : msgno s arg = .ok i) (hm : s.msgs[i]? = some mm) (hf : fsFind s.fs mm.fn = some f) :
    exec s verb arg = (s, okLine ++ blast (limitFor verb arg) f.data, none) := by
  simp only [exec_retr s verb arg (hv.imp lower_of_verbIs lower_of_verbIs), hn, hm, hf]

/-- **RETR always sends the whole message**: its limit is 0 whatever follows the message number
("RETR 2 0" is message 2, all of it). Proved from `Gen.Pop3Tab.retrWhole = true` by `rfl`: the translator
reads from qmail-pop3d.c on every run that RETR has its own handler dotop(arg,0); this compiles only for such a
source (with RETR sharing pop3_top() with TOP, "RETR n k" behaves as "TOP n k"). -/
theorem C19_limit_retr (verb arg : Bytes) (h : verbIs vRetr verb = true) : limitFor verb arg = 0 := by
  refine limitFor_of_not_top verb arg ?_
  rw [verbIs, lower_of_verbIs h]
  rfl

/-- TOP: the limit is that of its second number -/
theorem C19_limit_top (verb arg : Bytes) (h : verbIs vTop verb = true) : limitFor verb arg = topLimit arg :=
  limitFor_top verb arg h

/-- no second number: limit 0, the whole message (this is what TOP n gets) -/
theorem C19_limit_whole (arg : Bytes)
    (h : (scanUlong ((arg.drop (scanUlong arg).2).dropWhile (· = SP))).2 = 0) :
    topLimit arg = 0 := by
  simp [topLimit, h]

/-- a second number k: limit k+1, i.e. k body lines by `C19_top` -/
theorem C19_limit_count (arg : Bytes)
    (h : (scanUlong ((arg.drop (scanUlong arg).2).dropWhile (· = SP))).2 ≠ 0)
    (hk : (scanUlong ((arg.drop (scanUlong arg).2).dropWhile (· = SP))).1 + 1 < U64) :
    topLimit arg = (scanUlong ((arg.drop (scanUlong arg).2).dropWhile (· = SP))).1 + 1 := by
  simp [topLimit, h, Nat.mod_eq_of_lt hk]

/-- **a count of 2^64 - 1 or more saturates**: `count + 1` would wrap, the limit handed to blast()
is 0 = "no limit", and the whole message is sent — which is what such a count asks for
(`C19_top_decoded`). (`topCount arg` = the unbounded decimal value of the second number.) -/
theorem C19_limit_saturated (arg : Bytes) (k : Nat) (h : topCount arg = some k) (hk : U64 - 1 ≤ k) :
    topLimit arg = 0 := by
  rw [topLimit_spec, h]
  simp only
  rw [if_neg (by omega)]

/-- the limit for every argument: no second number ⇒ 0; second number `k < 2^64 - 1` ⇒ `k + 1`;
larger ⇒ 0 -/
theorem C19_limit_spec (arg : Bytes) :
    topLimit arg = match topCount arg with
      | none => 0
      | some k => if k < U64 - 1 then k + 1 else 0 := topLimit_spec arg

/-- **RETR / TOP for every argument**: a client decodes the payload of an accepted `TOP n k` —
`k` of any size, below or above 2^64 — to the header, the blank line and the first `k` body lines of the
file, and that of `RETR n` / `TOP n` to all its lines; then the documented blank line; and stops
exactly at the end. (The file has fewer than 2^64 - 1 bytes.) -/
theorem C19_top_decoded (arg data rest : Bytes) (h : data.length < U64 - 1) :
    popDecode (blast (topLimit arg) data ++ rest) =
      some ((match topCount arg with
             | none => lines data
             | some k => topLines k (lines data)) ++ [[]], rest) := top_decoded arg data rest h

/-- The file that has vanished is refused, nothing is sent for it. -/
theorem C19_retr_vanished (s : Sess) (verb arg : Bytes) (i : Nat) (mm : Msg)
    (hv : verbIs vRetr verb = true ∨ verbIs vTop verb = true)
    (hn : msgno s arg = .ok i) (hm : s.msgs[i]? = some mm) (hf : fsFind s.fs mm.fn = none) :
    exec s verb arg = (s, errLine "unable to open that message", none) := by
  simp only [exec_retr s verb arg (hv.imp lower_of_verbIs lower_of_verbIs), hn, hm, hf]

/-! ### numbering -/

/-- One command never changes which file (and which announced size) a message number denotes,
nor how many messages there are. -/
theorem C19_numbering_step (s : Sess) (verb arg : Bytes) :
    (exec s verb arg).1.msgs.map ident = s.msgs.map ident := exec_ident s verb arg

/-- **Numbering is fixed at start-up** for the whole session: whatever bytes arrive on
descriptor 0, in whatever pieces, and whatever files other processes remove meanwhile. -/
theorem C19_numbering (evs : List Ev) : ∀ r : Run,
    (evs.foldl feedEv r).s.msgs.map ident = r.s.msgs.map ident := fun r =>
  feedEvs_inv (fun s => s.msgs.map ident = r.s.msgs.map ident) (fun s verb arg h => (exec_ident s verb arg).trans h)
    (fun _ _ h => h) evs r rfl

/-! ### deletion -/

/-- **Nothing is unlinked or renamed before QUIT**, and only QUIT ends the session. -/
theorem C19_only_quit_touches (s : Sess) (verb arg : Bytes) (h : verbIs vQuit verb = false) :
    (exec s verb arg).1.fs = s.fs ∧ (exec s verb arg).2.2 = none := exec_nonquit s verb arg h

/-- **Without QUIT nothing is removed**: if the session ends any other way (the connection is
dropped, the input ends in an unfinished line) the maildir is exactly what the other processes
left — whatever DELE commands were accepted. -/
theorem C19_no_quit_no_delete (evs : List Ev) : ∀ r : Run,
    (evs.foldl feedEv r).exit = none → (evs.foldl feedEv r).s.fs = vanished evs r.s.fs := by
  induction evs with
  | nil => intro r _; rfl
  | cons e evs ih =>
    intro r h
    rw [List.foldl_cons] at h ⊢
    have h1 := exit_none_of_foldl feedEv (fun r e x h => feedEv_exit_some e r x h) evs _ h
    rw [ih _ h]
    cases e with
    | data b => simp only [vanished]; rw [feedEv_data] at h1 ⊢; rw [feedBytes_fs b r h1]
    | vanish p =>
      simp only [vanished]
      rw [feedEv_vanish] at h1 ⊢
      cases hx : r.exit with
      | some x => simp [hx] at h1
      | none => rfl

/-- **QUIT keeps every unmarked message.** A file that is not a marked message (and is not in
new/, where it gets its new name — `C19_quit_renames` — and does not carry the name an unmarked
new/ message is about to get) is found after QUIT exactly as before.
(`h2` is about the names pop3_quit really renames onto: the new names of the unmarked messages of new/.) -/
theorem C19_quit_keeps (s : Sess) (verb arg p : Bytes) (f : File) (hq : verbIs vQuit verb = true)
    (hf : fsFind s.fs p = some f)
    (h1 : ∀ m ∈ s.msgs, m.fn = p → m.del = false ∧ (m.fn.take 4 == newSl) = false)
    (h2 : ∀ m ∈ s.msgs, m.del = false → (m.fn.take 4 == newSl) = true → seenName m.fn ≠ p) :
    fsFind (exec s verb arg).1.fs p = some f := by
  rw [exec_quit_fs s verb arg hq]
  exact quit_keeps s.msgs s.fs p f hf h1 h2

/-- **QUIT keeps every unmarked message of new/ too — under its new name.** An unmarked message
`new/x` whose file `f` is there is found after QUIT as `cur/x:2,` with the same data and times, and
`new/x` is gone. (Message names unique; `cur/x:2,` is not itself a message marked for deletion —
with that, and `C19_quit_keeps`, `C19_quit_removes`: only messages marked by DELE are removed.) -/
theorem C19_quit_renames (s : Sess) (verb arg : Bytes) (m : Msg) (f : File) (hq : verbIs vQuit verb = true)
    (hm : m ∈ s.msgs) (hd : m.del = false) (hn : m.fn.take 4 = newSl) (hf : fsFind s.fs m.fn = some f)
    (hu : (s.msgs.map (·.fn)).Nodup) (h2 : ∀ x ∈ s.msgs, x.fn = seenName m.fn → x.del = false) :
    fsFind (exec s verb arg).1.fs (seenName m.fn) = some { f with path := seenName m.fn } ∧
    fsFind (exec s verb arg).1.fs m.fn = none := by
  rw [exec_quit_fs s verb arg hq]
  exact quit_renames s.msgs s.fs m f hm hd hn hf hu h2

/-- **QUIT removes every marked message** (maildir names being unique: no new/ message is renamed
onto it). -/
theorem C19_quit_removes (s : Sess) (verb arg : Bytes) (m : Msg) (hq : verbIs vQuit verb = true)
    (hm : m ∈ s.msgs) (hd : m.del = true) (h2 : ∀ x ∈ s.msgs, seenName x.fn ≠ m.fn) :
    fsFind (exec s verb arg).1.fs m.fn = none := by
  rw [exec_quit_fs s verb arg hq]
  exact quit_removes s.msgs s.fs m hm hd h2

/-- **The marks are set by an accepted DELE only** … -/
theorem C19_dele_marks (s : Sess) (verb arg : Bytes) (i : Nat) (hv : verbIs vDele verb = true)
    (hn : msgno s arg = .ok i) :
    exec s verb arg = ({ s with msgs := setDel s.msgs i, last := if i + 1 > s.last then i + 1 else s.last }, okLine, none) := by
  simp only [exec_dele s verb arg (lower_of_verbIs hv), hn]

/-- … **RSET clears them all** … -/
theorem C19_rset_unmarks (s : Sess) (verb arg : Bytes) (hv : verbIs vRset verb = true) :
    (exec s verb arg).1.msgs = s.msgs.map (fun m => { m with del := false }) ∧
    (exec s verb arg).1.fs = s.fs ∧ (exec s verb arg).2.1 = okLine := by
  rw [exec_rset s verb arg (lower_of_verbIs hv)]
  exact ⟨rfl, rfl, rfl⟩

/-- … **and no other command touches them.** -/
theorem C19_marks_unchanged (s : Sess) (verb arg : Bytes)
    (h1 : verbIs vDele verb = false) (h2 : verbIs vRset verb = false) :
    (exec s verb arg).1.msgs = s.msgs := by
  match exec_effect s verb arg with
  | .quit (st := e) .. | .same (st := e) .. => rw [e]
  | .dele (hv := hd) .. =>
    rw [verbIs_of_lower hd] at h1
    cases h1
  | .rset (hv := hr) .. =>
    rw [verbIs_of_lower hr] at h2
    cases h2

/-! ### refused message numbers -/

/-- **A refused number has no effect**: for every command that takes a message number, if msgno()
refuses the argument the reply is that "-ERR …" line and the state (marks, `last`, maildir) is
unchanged. -/
theorem C19_refuse (s : Sess) (verb arg r : Bytes) (h : msgno s arg = .err r)
    (hv : verbIs vDele verb = true ∨ verbIs vRetr verb = true ∨ verbIs vTop verb = true ∨
          ((verbIs vList verb = true ∨ verbIs vUidl verb = true) ∧ arg ≠ [])) :
    exec s verb arg = (s, r, none) := by
  rcases hv with hv | hv | hv | ⟨hv, ha⟩
  · simp only [exec_dele s verb arg (lower_of_verbIs hv), h]
  · simp only [exec_retr s verb arg (.inl (lower_of_verbIs hv)), h]
  · simp only [exec_retr s verb arg (.inr (lower_of_verbIs hv)), h]
  · simp only [exec_list s verb arg (hv.imp lower_of_verbIs lower_of_verbIs), if_pos ha, h]

/-- what msgno() refuses: no digits, digits followed by anything but the end of the argument or a
space ("1x"), zero, beyond the last message, or already marked — always with a "-ERR " line -/
theorem C19_refuse_when (s : Sess) (arg : Bytes)
    (h : (scanUlong arg).2 = 0 ∨ junkAfter arg (scanUlong arg).2 = true ∨ (scanUlong arg).1 = 0 ∨ (scanUlong arg).1 > s.msgs.length ∨
         (∃ m, s.msgs[(scanUlong arg).1 - 1]? = some m ∧ m.del = true)) :
    ∃ r, msgno s arg = .err r ∧ r.take 5 = errSp := by
  refine msgno_err_of_not_ok s arg fun i hm => ?_
  obtain ⟨h0, h1, hv, hl, hi, m, hmi, hd⟩ := (msgno_ok_iff s arg i).mp hm
  have hu : scanUlong arg = (i + 1, (arg.takeWhile isDigit).length) := by
    rw [scan_sat, hv, Nat.min_eq_left (by unfold INT_MAX at hi; unfold U64; omega)]
  rw [hu, junkAfter_eq, h1] at h
  rcases h with h | h | h | h | ⟨m', hm', hd'⟩
  · exact absurd (List.length_eq_zero_iff.mp h) h0
  · cases h
  · cases h
  · exact absurd h (Nat.not_lt.mpr hl)
  · rw [show (i + 1, (arg.takeWhile isDigit).length).1 - 1 = i from rfl, hmi] at hm'
    cases hm'
    rw [hd] at hd'
    cases hd'

/-- a number below 2^64 is read exactly … -/
theorem C19_scan_exact (arg : Bytes) (h : decVal (arg.takeWhile isDigit) < U64) :
    scanUlong arg = (decVal (arg.takeWhile isDigit), (arg.takeWhile isDigit).length) := by
  rw [scan_sat, Nat.min_eq_left (Nat.le_sub_one_of_lt h)]

/-- … and **a number of 2^64 or more is refused like any other number that is too big**
(the source reads numbers with the saturating scanner: `Gen.Pop3Tab.scanSaturates` is regenerated
from qmail-pop3d.c on every run, and this proof compiles only while msgno() scans with `scan_ulong_sat`;
`scan_ulong` takes such numbers modulo 2^64). -/
theorem C19_refuse_huge (s : Sess) (arg : Bytes) (h : decVal (arg.takeWhile isDigit) ≥ U64) :
    ∃ r, msgno s arg = .err r ∧ r.take 5 = errSp := by
  refine msgno_err_of_not_ok s arg fun i hm => ?_
  obtain ⟨_, _, hv, _, hi, _⟩ := (msgno_ok_iff s arg i).mp hm
  unfold U64 at h
  unfold INT_MAX at hi
  omega

/-- **msgno() is the reference reading of a message number**: with `n` the (unbounded) decimal
value of the leading digit run of the argument, it refuses when there is no digit or the digit run is followed
by anything but the end of the argument or a space (`endsOk arg = false`), when `n = 0`, when `n` exceeds the
number of messages (or INT_MAX), or when message `n` is marked; otherwise it accepts and denotes message `n`
(index `n - 1`). No modulus appears. -/
theorem C19_msgno_spec (s : Sess) (arg : Bytes) : msgno s arg = msgnoSpec s arg := msgno_eq_spec s arg

/-- **An accepted number denotes that message**: the argument is a non-empty digit run that ends the
argument or is followed by a space (`endsOk`; "1x" is not a number), `i + 1` is the decimal value written,
message `i + 1` exists and is unmarked — and conversely (the refusal conditions of `C19_refuse_when` are the
only ones, plus the `int` range). -/
theorem C19_msgno_accepts (s : Sess) (arg : Bytes) (i : Nat) :
    msgno s arg = .ok i ↔
      (arg.takeWhile isDigit ≠ [] ∧ endsOk arg = true ∧ decVal (arg.takeWhile isDigit) = i + 1 ∧ i < s.msgs.length ∧ i < INT_MAX ∧
        ∃ m, s.msgs[i]? = some m ∧ m.del = false) :=
  msgno_ok_iff s arg i

/-- **A number followed by junk is refused**: "DELE 1x", "RETR 2abc", "LIST 1x" — digits followed by
anything but the end of the argument or a space — get "-ERR syntax error" (and by `C19_refuse` have no
effect). Proved from `Gen.Pop3Tab.msgnoStrict = true` by `rfl` (in `junkAfter_eq`, which `msgno_eq_spec` uses): the translator reads
the test `arg[len] && arg[len] != ' '` from msgno() on every run; this compiles only for a source whose msgno()
makes that test. -/
theorem C19_refuse_junk (s : Sess) (arg : Bytes) (h : endsOk arg = false) :
    msgno s arg = .err (errLine "syntax error") := by
  rw [msgno_eq_spec]
  simp [msgnoSpec, h]

/-- every refusal of msgno() is a "-ERR " line -/
theorem C19_msgno_err (s : Sess) (arg r : Bytes) (h : msgno s arg = .err r) : r.take 5 = errSp :=
  msgno_err_take h

/-- **DELE n marks message n** (and nothing else): `n` written in decimal with any number of leading
zeros, ending the argument or followed by a space. -/
theorem C19_dele_number (s : Sess) (verb arg : Bytes) (n : Nat) (m : Msg) (hv : verbIs vDele verb = true)
    (h0 : arg.takeWhile isDigit ≠ []) (he : endsOk arg = true) (hn : decVal (arg.takeWhile isDigit) = n + 1)
    (hi : n < INT_MAX) (hm : s.msgs[n]? = some m) (hd : m.del = false) :
    exec s verb arg = ({ s with msgs := setDel s.msgs n, last := if n + 1 > s.last then n + 1 else s.last }, okLine, none) := by
  have hl : n < s.msgs.length := by
    rcases Nat.lt_or_ge n s.msgs.length with h | h
    · exact h
    · rw [List.getElem?_eq_none h] at hm; cases hm
  exact C19_dele_marks s verb arg n hv ((C19_msgno_accepts s arg n).mpr ⟨h0, he, hn, hl, hi, m, hm, hd⟩)

/-! ### sizes and unique ids -/

/-- **LIST n** announces the size the file had at start-up, **UIDL n** the file name below new/
or cur/ up to the first colon. -/
theorem C19_list_reply (s : Sess) (verb arg : Bytes) (i : Nat) (m : Msg) (ha : arg ≠ [])
    (hv : verbIs vList verb = true ∨ verbIs vUidl verb = true)
    (hn : msgno s arg = .ok i) (hm : s.msgs[i]? = some m) :
    exec s verb arg =
      (s, okSp ++ fmtNat (i + 1) ++ [SP] ++
          (if verbIs vUidl verb then (m.fn.drop 4).takeWhile (· ≠ COLON) else fmtNat m.size) ++ [CR, LF], none) := by
  simp only [exec_list s verb arg (hv.imp lower_of_verbIs lower_of_verbIs), if_pos ha, hn, hm, listLine, uidOf,
    List.append_assoc]

/-- the size recorded at start-up is the length of the file of that name then; nothing starts
out marked -/
theorem C19_sizes (now : Nat) (fs : FS) : ∀ m ∈ getlist now fs,
    m.size = (match fsFind fs m.fn with | some f => f.data.length | none => 0) ∧ m.del = false :=
  getlist_entry now fs

/-- LIST / UIDL without argument: one line per unmarked message, in number order, then the dot -/
theorem C19_listing (s : Sess) (verb arg : Bytes) (ha : arg = [])
    (hv : verbIs vList verb = true ∨ verbIs vUidl verb = true) :
    exec s verb arg = (s, okLine ++ listAll (verbIs vUidl verb) 0 s.msgs ++ [DOT, CR, LF], none) := by
  rw [exec_list s verb arg (hv.imp lower_of_verbIs lower_of_verbIs), ha]
  rfl

/-! ### refusing to run as root -/

/-- **uid 0**: exit 1 with the message on descriptor 2, nothing on descriptor 1, and the maildir comes back as it
was: the result depends neither on what it holds nor on the input.  (The model has no trace of accesses; that the
real program does not even `chdir()` is checked by the harness.) -/
theorem C19_root (havedir : Bool) (now : Nat) (fs : FS) (evs : List Ev) :
    Pop3.main 0 havedir now fs evs = { out := [], err := rootMsg, code := 1, fs := fs } := by
  simp [Pop3.main]

/-! ### before authentication (qmail-popup) -/

/-- **Only USER, PASS, APOP, QUIT and NOOP are honoured**: anything else is answered
"-ERR authorization first", changes nothing and starts nothing. -/
theorem C19_preauth_refuse (s : Popup.PSt) (verb arg : Bytes)
    (h : verbIs vUser verb = false ∧ verbIs vPass verb = false ∧ verbIs vApop verb = false ∧
         verbIs vQuit verb = false ∧ verbIs vNoop verb = false) :
    ∃ r, Popup.pexec s verb arg = (s, r, .cont) ∧ r = errLine "authorization first" := by
  obtain ⟨h1, h2, h3, h4, h5⟩ := h
  exact ⟨_, by simp [Popup.pexec, h1, h2, h3, h4, h5], rfl⟩

/-- USER then PASS: the checker is started with exactly the two arguments as given -/
theorem C19_preauth_userpass (s : Popup.PSt) (v1 v2 user pass : Bytes)
    (h1 : verbIs vUser v1 = true) (h2 : verbIs vPass v2 = true) (hu : user ≠ []) (hp : pass ≠ []) :
    Popup.pexec s v1 user = ({ seenuser := true, username := user }, okLine, .cont) ∧
    Popup.pexec { seenuser := true, username := user } v2 pass =
      ({ seenuser := true, username := user }, [], .auth ⟨user, pass⟩) := by
  constructor
  · rw [pexec_user _ _ _ (lower_of_verbIs h1), if_neg hu]
  · simp only [pexec_pass _ _ _ (lower_of_verbIs h2), Bool.not_true, Bool.false_eq_true, if_false, if_neg hp]

/-- APOP name digest: split at the first space, both parts as given -/
theorem C19_preauth_apop (s : Popup.PSt) (verb name digest : Bytes)
    (h : verbIs vApop verb = true) (hn : SP ∉ name) :
    Popup.pexec s verb (name ++ SP :: digest) = (s, [], .auth ⟨name, digest⟩) :=
  pexec_apop_split s verb name digest (lower_of_verbIs h) hn

/-- **Framing of descriptor 3**: whenever the checker is started, descriptor 3 carries
`user NUL pass NUL "<" unique host ">" NUL` (the bytes 60 and 62 are '<' and '>') for the credentials `a` that the command loop stopped
with (`act = .auth a`), and `<unique host>` is the timestamp of the greeting. Which credentials those
are is said by `C19_preauth_main_userpass` / `C19_preauth_main_apop` (from the input bytes) and by
`C19_preauth_userpass` / `C19_preauth_apop` (per command). -/
theorem C19_preauth_fd3 (pid now : Nat) (host : Bytes) (child : Popup.Child) (input b : Bytes)
    (h : (Popup.pmain pid now host child input).fd3 = some b) :
    ∃ a : Popup.Auth, (input.foldl Popup.pfeedByte { out := Popup.greeting pid now host }).act = .auth a ∧
      b = a.user ++ [NUL] ++ a.pass ++ [NUL] ++ [60] ++ Popup.unique pid now ++ host ++ [62, NUL] ∧
      Popup.greeting pid now host = okSp ++ [60] ++ Popup.unique pid now ++ host ++ [62, CR, LF] := by
  obtain ⟨a, ha, hb⟩ := (pfinish_fd3 pid now host child _ b).mp h
  exact ⟨a, ha, hb, rfl⟩

/-- … and conversely nothing is written to descriptor 3 unless the loop stopped in doanddie() -/
theorem C19_preauth_fd3_none (pid now : Nat) (host : Bytes) (child : Popup.Child) (input : Bytes)
    (h : ∀ a, (input.foldl Popup.pfeedByte { out := Popup.greeting pid now host }).act ≠ .auth a) :
    (Popup.pmain pid now host child input).fd3 = none := by
  refine Option.eq_none_iff_forall_ne_some.mpr fun b hb => ?_
  obtain ⟨a, ha, _⟩ := (pfinish_fd3 pid now host child _ b).mp hb
  exact h a ha

/-- **main() of qmail-popup, from the input bytes to descriptor 3 (USER / PASS).** The client sends
`USER u CR LF PASS p CR LF` (verbs in any case, one or more spaces, `u` and `p` any non-empty byte
strings without NUL and LF that do not begin with a space — they may contain spaces and end in CR)
followed by anything at all: the checker receives exactly `u NUL p NUL <unique host> NUL`, the client
sees the greeting, "+OK" for USER and then only what the checker's exit status calls for, and the exit
code is 1. -/
theorem C19_preauth_main_userpass (pid now : Nat) (host : Bytes) (child : Popup.Child) (v1 v2 u p tail : Bytes)
    (k1 k2 : Nat) (h1 : verbIs vUser v1 = true) (h2 : verbIs vPass v2 = true) (hk1 : k1 ≠ 0) (hk2 : k2 ≠ 0)
    (hu : ∀ c ∈ u, c ≠ NUL ∧ c ≠ LF) (hu0 : u ≠ []) (hus : u.head? ≠ some SP)
    (hp : ∀ c ∈ p, c ≠ NUL ∧ c ≠ LF) (hp0 : p ≠ []) (hps : p.head? ≠ some SP) :
    Popup.pmain pid now host child
        (v1 ++ (List.replicate k1 SP ++ u) ++ [CR] ++ [LF] ++ (v2 ++ (List.replicate k2 SP ++ p) ++ [CR] ++ [LF] ++ tail)) =
      { out := Popup.greeting pid now host ++ okLine ++ childMsg child,
        fd3 := some (u ++ [NUL] ++ p ++ [NUL] ++ [60] ++ Popup.unique pid now ++ host ++ [62, NUL]), code := 1 } := by
  have l1 := lower_of_verbIs h1
  have l2 := lower_of_verbIs h2
  unfold Popup.pmain
  rw [pfeed_cmd _ v1 vUser u _ k1 rfl rfl l1 (by decide) hu hus hk1, pexec_user _ _ _ l1, if_neg hu0,
    pfeed_cmd _ v2 vPass p tail k2 rfl rfl l2 (by decide) hp hps hk2, pexec_pass _ _ _ l2, if_neg hp0,
    pfeed_stopped tail _ Popup.Act.noConfusion, pfinish_auth pid now host child _ ⟨u, p⟩ rfl]
  simp [Popup.fd3]

/-- **… and for APOP**: `APOP name digest CR LF` (name non-empty, without space, NUL, LF; digest without
NUL, LF) followed by anything: the checker receives `name NUL digest NUL <unique host> NUL`. -/
theorem C19_preauth_main_apop (pid now : Nat) (host : Bytes) (child : Popup.Child) (v name digest tail : Bytes) (k : Nat)
    (h : verbIs vApop v = true) (hk : k ≠ 0)
    (hn : ∀ c ∈ name, c ≠ NUL ∧ c ≠ LF ∧ c ≠ SP) (hn0 : name ≠ [])
    (hd : ∀ c ∈ digest, c ≠ NUL ∧ c ≠ LF) :
    Popup.pmain pid now host child (v ++ (List.replicate k SP ++ (name ++ SP :: digest)) ++ [CR] ++ [LF] ++ tail) =
      { out := Popup.greeting pid now host ++ childMsg child,
        fd3 := some (name ++ [NUL] ++ digest ++ [NUL] ++ [60] ++ Popup.unique pid now ++ host ++ [62, NUL]), code := 1 } := by
  have l := lower_of_verbIs h
  have ha : ∀ c ∈ name ++ SP :: digest, c ≠ NUL ∧ c ≠ LF := by
    intro c hc
    simp only [List.mem_append, List.mem_cons] at hc
    rcases hc with hc | hc | hc
    · exact ⟨(hn c hc).1, (hn c hc).2.1⟩
    · rw [hc]; decide
    · exact hd c hc
  have hhead : (name ++ SP :: digest).head? ≠ some SP := by
    cases name with
    | nil => exact absurd rfl hn0
    | cons c t =>
      simp only [List.cons_append, List.head?_cons, ne_eq, Option.some.injEq]
      exact (hn c (by simp)).2.2
  unfold Popup.pmain
  rw [pfeed_cmd _ v vApop _ tail k rfl rfl l (by decide) ha hhead hk,
    pexec_apop_split _ _ _ _ l fun hs => (hn SP hs).2.2 rfl,
    pfeed_stopped tail _ Popup.Act.noConfusion, pfinish_auth pid now host child _ ⟨name, digest⟩ rfl]
  simp [Popup.fd3]

/-- **Every pre-authentication dialogue of the model is accepted by the independent reference
`Pop3Ref.popupOk`** (the predicate the driver evaluates on the implementation): main() of qmail-popup on ANY
sequence of NUL- and LF-free command lines, followed by any unfinished last line, with any host name without LF
and any fate of the subprogram — the greeting carries a timestamp `<…@…host>`, every reply is "+OK"/"-ERR" as
the reference `prefStep` requires (USER/PASS/APOP/QUIT/NOOP honoured, everything else refused, PASS before USER
refused), descriptor 3 receives exactly `user NUL pass NUL <that timestamp> NUL` for the credentials the
reference computes (PASS: the last USER argument and the PASS argument; APOP: split at the first space) and
nothing otherwise, and after the checker only what its exit status calls for is written.
(Not in this theorem: the exit code, and lines containing NUL.) -/
theorem C19_preauth_session (pid now : Nat) (host : Bytes) (child : Popup.Child) (lines : List Bytes) (tail : Bytes)
    (hh : LF ∉ host) (hl : ∀ l ∈ lines, ∀ c ∈ l, c ≠ NUL ∧ c ≠ LF) (ht : LF ∉ tail) :
    popupOk host lines (childOkOf child)
      (Popup.pmain pid now host child (lines.flatMap (· ++ [LF]) ++ tail)).out
      (Popup.pmain pid now host child (lines.flatMap (· ++ [LF]) ++ tail)).fd3 = true := by
  obtain ⟨w, hw1, hw2⟩ := pwalk_sim pid now host child lines { out := Popup.greeting pid now host } {} tail rfl rfl
    (Or.inl ⟨rfl, rfl⟩) hl ht
  unfold Popup.pmain
  rw [hw1]
  have hg : Popup.greeting pid now host ++ w = okSp ++ [60] ++ (Popup.unique pid now ++ host) ++ [62, CR, LF] ++ w := by
    simp only [Popup.greeting, List.append_assoc]
  rw [hg]
  refine popupOk_greeting host _ lines _ w _ (List.not_mem_append (unique_noLF pid now) hh) ?_ ?_ hw2
  · rw [List.length_append, Nat.add_sub_cancel]
    exact List.drop_left
  · simp [Popup.unique]

/-! ### the command tables (regenerated from the sources on every run) -/

/-- the verbs and handlers the model implements are those of the two `pop3commands[]` tables -/
theorem C19_tables :
    Gen.Pop3Tab.pop3dCmds = [(vQuit, "pop3_quit"), (vStat, "pop3_stat"), (vList, "pop3_list"), (vUidl, "pop3_uidl"),
      (vDele, "pop3_dele"), (vRetr, "pop3_retr"), (vRset, "pop3_rset"), (vLast, "pop3_last"), (vTop, "pop3_top"),
      (vNoop, "okay")] ∧ Gen.Pop3Tab.pop3dDefault = "err_unimpl" ∧
    Gen.Pop3Tab.popupCmds = [(vUser, "pop3_user"), (vPass, "pop3_pass"), (vApop, "pop3_apop"), (vQuit, "pop3_quit"),
      (vNoop, "okay")] ∧ Gen.Pop3Tab.popupDefault = "err_authoriz" :=
  ⟨rfl, rfl, rfl, rfl⟩

/-! ### start-up: the numbering is the mtime order of the files (prioq.c heap, maildir_scan, getlist)

The heap lemmas are those of property C15 (`Nq.Lemmas.Sched`, array model of prioq.c): the list
model used here is proved equal to it (`toA_pqInsert`, `toA_pqDelmin` in `Nq.Lemmas.Pop3Heap`). -/

/-- **Heap sort.** Draining (prioq_min / prioq_delmin until empty) a heap built by prioq_insert from
any entries, in any order, yields exactly those entries, each once, in non-decreasing order of `dt`. -/
theorem C19_heap_sort (l : List Elt) :
    (pqDrain (l.foldl pqInsert []).length (l.foldl pqInsert [])).Perm l ∧
    (pqDrain (l.foldl pqInsert []).length (l.foldl pqInsert [])).Pairwise (fun a b => a.dt ≤ b.dt) := by
  obtain ⟨h1, h2⟩ := Nq.Lemmas.Sched.foldl_insert_of HeapL id pqInsert pqInsert_spec l [] heapL_nil
  obtain ⟨d1, d2⟩ := pqDrain_spec _ _ (Nat.le_refl _) h1
  exact ⟨d1.trans (by simpa using h2), d2⟩

/-- **getlist()**: for every maildir (any readdir order, any names, any times) the message table is
`L.map (startMsg fs)` for a list of files `L` that is a permutation of the eligible files — entries of
new/ and cur/ whose name does not begin with a dot and whose mtime is before `now` — sorted by mtime,
oldest first.  Message number i+1 is `L[i]`: its path, the size of the file of that name, unmarked. -/
theorem C19_startup_order (now : Nat) (fs : FS) :
    ∃ L : List File, L.Perm (eligible now fs) ∧ L.Pairwise (fun a b => a.mtime ≤ b.mtime) ∧
      getlist now fs = L.map (startMsg fs) :=
  getlist_sorted_perm now fs

/-- with unique names (maildir(5); a directory cannot hold two entries of one name) the size
announced for an eligible file is the length of that very file -/
theorem C19_startup_sizes (now : Nat) (fs : FS) (hu : (fs.map (·.path)).Nodup) :
    ∀ f ∈ eligible now fs, (startMsg fs f).size = f.data.length := by
  intro f hf
  simp only [startMsg, sizeAt, find_of_nodup fs hu f ((mem_eligible now fs f).mp hf).1]

/-- main() for a non-root user with a maildir is: clean tmp/, getlist(), greet, then the command loop -/
theorem C19_main_session (uid now : Nat) (fs : FS) (evs : List Ev) (hu : uid ≠ 0) :
    Pop3.main uid true now fs evs =
      { out := (evs.foldl feedEv (start now fs)).out, err := [], code := 0,
        fs := (evs.foldl feedEv (start now fs)).s.fs } := by
  simp [Pop3.main, hu, start]

/-- **The numbering of a whole session is the mtime order of the maildir at start-up.**  There is a
list `L` of files — a permutation of the eligible files of the maildir as main() found it, sorted by
mtime — such that after any events (bytes in any pieces, files vanishing) message number i+1 still
denotes `L[i]`: that path and the size of that file at start-up.  (maildir_clean, which runs first,
touches tmp/ only, so `eligible` and the sizes are those of the maildir before it.) -/
theorem C19_session_numbering (now : Nat) (fs : FS) :
    ∃ L : List File, L.Perm (eligible now fs) ∧ L.Pairwise (fun a b => a.mtime ≤ b.mtime) ∧
      ∀ evs : List Ev, (evs.foldl feedEv (start now fs)).s.msgs.map ident =
        L.map (fun f => (f.path, sizeAt fs f.path)) := by
  obtain ⟨L, h1, h2, h3, h4⟩ := start_table now fs
  refine ⟨L, h1, h2, ?_⟩
  intro evs
  rw [C19_numbering evs (start now fs)]
  show (getlist now (cleanTmp now fs)).map ident = _
  rw [h3, List.map_map]
  apply List.map_congr_left
  intro f hf
  simp only [Function.comp, ident, startMsg, (h4 f hf).2]

/-! ### STAT and LAST -/

/-- **STAT** answers "+OK count total": `total` is the sum of the announced sizes of the messages not
marked deleted (computed in unsigned long, i.e. modulo 2^64 — exact whenever the sum is below 2^64);
`count` is the number of messages at start-up (marked ones included: outside the property). -/
theorem C19_stat (s : Sess) (verb arg : Bytes) (hv : verbIs vStat verb = true) :
    exec s verb arg = (s, okSp ++ fmtNat (s.msgs.length % U32) ++ [SP] ++ fmtNat (liveTotal s.msgs % U64) ++ [CR, LF], none) ∧
    (liveTotal s.msgs < U64 → liveTotal s.msgs % U64 = liveTotal s.msgs) := by
  refine ⟨?_, Nat.mod_eq_of_lt⟩
  rw [exec_stat s verb arg (lower_of_verbIs hv), stat_total]

/-- **LAST** answers "+OK n" with the session's `last` … -/
theorem C19_last_reply (s : Sess) (verb arg : Bytes) (hv : verbIs vLast verb = true) :
    exec s verb arg = (s, okSp ++ fmtNat s.last ++ [CR, LF], none) := by
  exact exec_last s verb arg (lower_of_verbIs hv)

/-- … **which is, at every point of every session, the highest message number marked by DELE since
the last RSET** (0 if none): `highMark 0 msgs`, characterised by `C19_last_highest`. -/
theorem C19_last_session (now : Nat) (fs : FS) (evs : List Ev) :
    (evs.foldl feedEv (start now fs)).s.last = highMark 0 (evs.foldl feedEv (start now fs)).s.msgs :=
  feedEvs_inv LastInv exec_lastInv (fun _ _ h => h) evs (start now fs) (start_lastInv now fs)

/-- one command keeps `last` = highest marked number -/
theorem C19_last_step (s : Sess) (verb arg : Bytes) (h : s.last = highMark 0 s.msgs) :
    (exec s verb arg).1.last = highMark 0 (exec s verb arg).1.msgs := exec_lastInv s verb arg h

/-- `highMark 0 msgs` is the highest marked message number: every marked message has a number ≤ it,
and it is 0 or the number of a marked message -/
theorem C19_last_highest (msgs : List Msg) :
    (∀ i m, msgs[i]? = some m → m.del = true → i + 1 ≤ highMark 0 msgs) ∧
    (highMark 0 msgs = 0 ∨ ∃ i m, msgs[i]? = some m ∧ m.del = true ∧ highMark 0 msgs = i + 1) := by
  refine ⟨?_, ?_⟩
  · intro i m h1 h2
    have := highMark_ge msgs 0 i m h1 h2
    omega
  · rcases highMark_attained msgs 0 with h | ⟨i, m, h1, h2, h3⟩
    · left; exact h
    · right; exact ⟨i, m, h1, h2, by omega⟩

/-! ### commands(): grammar of a line, one handler per line, independence of read sizes -/

/-- **Grammar of a command line.** A line `verb SP^k arg [CR]` — verb without space or NUL, argument
without NUL and not beginning with a space, at least one space if there is an argument, the text not
itself ending in CR — is dispatched as exactly (verb, arg), with or without the CR. -/
theorem C19_parse_grammar (verb arg : Bytes) (k : Nat)
    (hv : ∀ c ∈ verb, c ≠ SP ∧ c ≠ NUL) (ha : ∀ c ∈ arg, c ≠ NUL) (hh : arg.head? ≠ some SP)
    (hk : arg ≠ [] → k ≠ 0) (hcr : (verb ++ (List.replicate k SP ++ arg)).getLast? ≠ some CR) :
    parseLine (verb ++ (List.replicate k SP ++ arg)) = (verb, arg) ∧
    parseLine (verb ++ (List.replicate k SP ++ arg) ++ [CR]) = (verb, arg) := by
  exact ⟨by simpa using Nq.Lemmas.SmtpCmd.pop3_parse_words verb arg [] k hv ha hh hk (.inr ⟨rfl, hcr⟩),
    Nq.Lemmas.SmtpCmd.pop3_parse_words verb arg [CR] k hv ha hh hk (.inl rfl)⟩

/-- the excluded lines: **a line containing NUL is cut at the first NUL** (the C string ends there;
a CR before the NUL is then not the end of the line and stays) -/
theorem C19_parse_nul (a b : Bytes) (ha : ∀ c ∈ a, c ≠ NUL) :
    parseLine (a ++ NUL :: b) = (a.takeWhile (· ≠ SP), (a.dropWhile (· ≠ SP)).dropWhile (· = SP)) := by
  have hall : ∀ c ∈ a, (fun x : Byte => decide (x ≠ NUL)) c = true := by
    intro c hc; simpa using ha c hc
  have key : ∀ b' : Bytes, (a ++ NUL :: b').takeWhile (fun x : Byte => decide (x ≠ NUL)) = a :=
    fun b' => takeWhile_stop _ a b' NUL hall (by simp)
  unfold parseLine
  split
  · cases b with
    | nil =>
      rename_i h
      rw [List.getLast?_append] at h
      simp at h
      exact absurd h (by decide)
    | cons x b' =>
      have : (a ++ NUL :: x :: b').dropLast = a ++ NUL :: (x :: b').dropLast := by
        rw [List.dropLast_append_of_ne_nil (by simp), List.dropLast_cons_of_ne_nil (by simp)]
      simp only [this, key]
  · simp only [key]

/-- **Linking lemma** (not an independent check: `Pop3Ref.splitCmd`, which the oracle reads the client's
lines with, is a transcription of `parseLine` without the cut at NUL): on every line without NUL the two agree,
the verb up to case. The independent statements about the grammar of a command line are `C19_parse_grammar`,
`C19_parse_spec` and `C19_parse_split`. -/
theorem C19_parse_ref (line : Bytes) (h : ∀ c ∈ line, c ≠ NUL) :
    splitCmd line = (lower (parseLine line).1, (parseLine line).2) := parse_ref line h

/-- **The model's parser is the independently written splitter of `Nq.CmdLineSpec`** (property C08's
specification of commands.c: drop one CR, cut at the first NUL, the word up to the first space, skip the
spaces) on EVERY line — proved in `Nq.Lemmas.SmtpCmdPop3`. -/
theorem C19_parse_spec (line : Bytes) : parseLine line = Nq.CmdLineSpec.specSplit line :=
  Nq.Lemmas.SmtpCmd.pop3_parseLine_spec line

/-- … and is characterised by the relation `IsSplit` (a declarative grammar of the line; the result is
unique) -/
theorem C19_parse_split (line v a : Bytes) : parseLine line = (v, a) ↔ Nq.CmdLineSpec.IsSplit line v a :=
  Nq.Lemmas.SmtpCmd.pop3_parseLine_isSplit line v a

/-- **commands() runs exactly one handler per LF-terminated line**, in order, on the verb and
argument of that line; after the handler that ends the process nothing more is executed. -/
theorem C19_command_loop (lines : List Bytes) (r : Run) (hc : r.cmd = []) (hl : ∀ l ∈ lines, LF ∉ l) :
    (lines.flatMap (· ++ [LF])).foldl feedByte r = lines.foldl stepLine r := by
  induction lines generalizing r with
  | nil => rfl
  | cons l lines ih =>
    rw [List.flatMap_cons, List.foldl_append, feed_line r l hc (hl l (by simp)), List.foldl_cons]
    exact ih _ (stepLine_cmd r l hc) (fun x hx => hl x (by simp [hx]))

/-- **The sizes of the reads do not matter**: the same bytes in two pieces or in one. -/
theorem C19_chunking (r : Run) (a b : Bytes) :
    feedEv (feedEv r (.data a)) (.data b) = feedEv r (.data (a ++ b)) := by
  simp only [feedEv_data, List.foldl_append]

/-! ### the model against the independent reference `Nq.Pop3Ref`

`Sim s rs` (`Nq.Lemmas.Pop3Step`) relates a model state to a reference state: message by message
the same path, announced size = length of the reference's data, marked ⇔ in `rs.marked`; a message's
file is absent ⇔ its path is in `rs.gone`, otherwise it holds the reference's data; `last` is the highest
marked number; plus the static side conditions (no LF in a message path, at most INT_MAX messages, total
size below 2^64 - 1, no modulus).  The theorems of the earlier sections that merely unfold one branch of
`exec` (`C19_listing`, `_list_reply`, `_dele_marks`, `_rset_unmarks`, `_retr_reply`, `_retr_vanished`,
`_last_reply`, `_stat`, `_refuse`) are instances of the equations `exec_*` of `Nq.Lemmas.Pop3Sess`; it is from
those equations, not from these theorems, that the step simulation (`step_sim`, `Nq.Lemmas.Pop3Step`) is assembled. -/

/-- **Step simulation.** For every command other than QUIT, in related states: what the model
writes, followed by anything, is accepted by the reference as the reply RFC 1939 requires for that
command — with exactly the reply consumed — the successor states are related again, and the session
goes on. -/
theorem C19_step_simulation (s : Sess) (rs : RSt) (h : Sim s rs) (verb arg : Bytes) (hq : verbIs vQuit verb = false) :
    (∀ w, matchReply (refStep rs (lower verb) arg).2 ((exec s verb arg).2.1 ++ w) = some w) ∧
    Sim (exec s verb arg).1 (refStep rs (lower verb) arg).1 ∧ (exec s verb arg).2.2 = none := by
  have st := step_sim s rs h verb arg (verbIs_eq_false.mp hq)
  exact ⟨st.reply, st.next, st.goes_on⟩

/-- a file removed by somebody else: the states stay related when the reference is told -/
theorem C19_sim_vanish (s : Sess) (rs : RSt) (h : Sim s rs) (p : Bytes) :
    Sim { s with fs := fsUnlink s.fs p } { rs with gone := p :: rs.gone } := sim_vanish s rs h p

/-- **The start state is related to the reference's initial state** for the numbering read off
the message table (`numberingOf`: path and data of the file of that name). Hypotheses on the maildir:
at most INT_MAX messages, no LF in a path, total size below 2^64 - 1. -/
theorem C19_sim_start (now : Nat) (fs : FS)
    (h1 : (getlist now (cleanTmp now fs)).length ≤ INT_MAX)
    (h2 : ∀ f ∈ fs, LF ∉ f.path)
    (h3 : ((numberingOf (cleanTmp now fs) (getlist now (cleanTmp now fs))).map (fun r => r.data.length)).sum < U64 - 1) :
    Sim (start now fs).s { msgs := numberingOf (cleanTmp now fs) (getlist now (cleanTmp now fs)) } := by
  obtain ⟨L, _, _, hL, hL'⟩ := start_table now fs
  have hmem : ∀ f ∈ L, f ∈ cleanTmp now fs := fun f hf => (hL' f hf).1
  have hsub : ∀ f ∈ cleanTmp now fs, f ∈ fs := by
    intro f hf; unfold cleanTmp at hf; exact (List.mem_filter.mp hf).1
  exact {
    rel := by
      show Rel [] 0 (getlist now (cleanTmp now fs)) _
      rw [hL]; exact rel_start _ 0 L
    modz := rfl
    last := start_lastInv now fs
    small := h1
    inrange := by intro i hi; simp at hi
    noLF := by
      intro r hr
      show LF ∉ r.path
      simp only [numberingOf, hL, List.map_map, List.mem_map, Function.comp] at hr
      obtain ⟨f, hf, rfl⟩ := hr
      exact h2 f (hsub f (hmem f hf))
    total := h3
    file := by
      intro r hr
      refine ⟨fun hg => by simp at hg, fun _ => ?_⟩
      simp only [numberingOf, hL, List.map_map, List.mem_map, Function.comp] at hr
      obtain ⟨f, hf, rfl⟩ := hr
      obtain ⟨g, hg⟩ := find_some_of_mem _ f (hmem f hf)
      refine ⟨g, ?_, ?_⟩
      · show fsFind (cleanTmp now fs) (startMsg (cleanTmp now fs) f).fn = some g
        exact hg
      · show g.data = (match fsFind (cleanTmp now fs) (startMsg (cleanTmp now fs) f).fn with | some f => f.data | none => [])
        have : (startMsg (cleanTmp now fs) f).fn = f.path := rfl
        rw [this, hg] }

/-- … and with unique names that numbering is admissible in the sense of the property (and of the
driver's oracle): the files themselves, a permutation of the eligible ones, oldest first. -/
theorem C19_numbering_admissible (now : Nat) (fs : FS) (hu : (fs.map (·.path)).Nodup) :
    ∃ L : List File, L.Perm (eligible now fs) ∧ L.Pairwise (fun a b => a.mtime ≤ b.mtime) ∧
      numberingOf (cleanTmp now fs) (getlist now (cleanTmp now fs)) = L.map toR := by
  obtain ⟨L, hperm, hs, hL, hmem⟩ := start_table now fs
  have hu' : ((cleanTmp now fs).map (·.path)).Nodup := by
    unfold cleanTmp
    exact (List.filter_sublist.map _).nodup hu
  refine ⟨L, hperm, hs, ?_⟩
  rw [hL]
  simp only [numberingOf, List.map_map]
  apply List.map_congr_left
  intro f hf
  simp only [Function.comp, toR, startMsg, find_of_nodup _ hu' f (hmem f hf).1]

/-- **QUIT does not touch anything that is not a message**: a path that is neither the name of a
message nor the new name of one is looked up after QUIT exactly as before — present with the same file
(data, times) or absent. (tmp/ files, dot files, files delivered after start-up, files with mtime ≥ now.) -/
theorem C19_quit_other_paths (s : Sess) (verb arg p : Bytes) (hq : verbIs vQuit verb = true)
    (h1 : ∀ m ∈ s.msgs, m.fn ≠ p) (h2 : ∀ m ∈ s.msgs, seenName m.fn ≠ p) :
    fsFind (exec s verb arg).1.fs p = fsFind s.fs p := by
  rw [exec_quit_fs s verb arg hq]
  cases hf : fsFind s.fs p with
  | some f => exact quit_keeps s.msgs s.fs p f hf (fun m hm e => absurd e (h1 m hm)) (fun m hm _ _ => h2 m hm)
  | none => exact quit_absent s.msgs s.fs p hf h2

/-- **Session simulation: the reference accepts every transcript of the model** — `_partial`: the reply
stages of the oracle `sessionOk` are proved for the model on all sessions; its last stage is not.

main() as a non-root user on any maildir (side conditions as in `C19_sim_start`; names unique and no message
carrying the name QUIT would give another: `NamesOk`), fed any sequence of NUL- and LF-free command lines and
removals by third parties: its output is the greeting followed by `w`, and the reference session `walk`,
started on the numbering of the maildir, accepts `w` reply by reply (STAT total, LAST, LIST/UIDL values,
RETR/TOP payloads as decoded by a client, refusals, QUIT's lines by `matchQuit`), exit code 0.
The events split into `pre` (no QUIT line) and `post`. The state `s'` after `pre` is determined: related to the
reference's final state (`Sim`: which messages are marked, which files are gone), its maildir is EXACTLY the
maildir main() started from (after maildir_clean) minus the removals in `pre` — every file, message or not,
with its data and times — and its message table denotes the files and sizes of start-up. Without QUIT
(`q = false`) `post = []` and the final maildir is that of `s'`: nothing was removed by the server. With QUIT,
`post` starts with the QUIT line and the final maildir is what pop3_quit's loop makes of `s'`; what that is,
is said path by path by `C19_quit_removes` (marked: gone), `C19_quit_renames` (unmarked in new/: in cur/ with
":2,", same data), `C19_quit_keeps` and `C19_quit_other_paths` (everything else: untouched).

MISSING for the full statement
  `sessionOk numbering (fs1.map toR) (levs.map toREv) main.out (main.fs.map toR) = true`:
the last stage of `sessionOk`, `sortFs (expectFs rs' q …) == sortFs (main.fs.map toR)` — the final maildir as
ONE list equal to the reference's `expectFs` up to order (needs: the path-by-path theorems assembled into a
permutation, and correctness of `Array.qsort`); and a removal in the middle of a command line (the theorem is
at line granularity; `C19_chunking` covers read sizes). -/
theorem C19_session_simulation_partial (uid now : Nat) (fs : FS) (levs : List LEv) (hu : uid ≠ 0)
    (h1 : (getlist now (cleanTmp now fs)).length ≤ INT_MAX)
    (h2 : ∀ f ∈ fs, LF ∉ f.path)
    (h3 : ((numberingOf (cleanTmp now fs) (getlist now (cleanTmp now fs))).map (fun r => r.data.length)).sum < U64 - 1)
    (hn : NamesOk ((getlist now (cleanTmp now fs)).map (·.fn)))
    (hl : ∀ l, LEv.line l ∈ levs → ∀ c ∈ l, c ≠ NUL ∧ c ≠ LF) :
    ∃ w rs' q pre post s', levs = pre ++ post ∧
      (Pop3.main uid true now fs (levs.map LEv.toEv)).out = okLine ++ w ∧
      readLine (okLine ++ w) = some (okSp, w) ∧ isOk okSp = true ∧
      walk { msgs := numberingOf (cleanTmp now fs) (getlist now (cleanTmp now fs)) } (levs.map LEv.toREv) w = some (rs', q) ∧
      (Pop3.main uid true now fs (levs.map LEv.toEv)).code = 0 ∧
      Sim s' rs' ∧ NamesOk (s'.msgs.map (·.fn)) ∧
      s'.fs = vanishedL pre (cleanTmp now fs) ∧
      s'.msgs.map ident = (getlist now (cleanTmp now fs)).map ident ∧
      (∀ l, LEv.line l ∈ pre → verbIs vQuit (parseLine l).1 = false) ∧
      (q = false → post = [] ∧ (Pop3.main uid true now fs (levs.map LEv.toEv)).fs = s'.fs) ∧
      (q = true → (∃ l rest, post = .line l :: rest ∧ verbIs vQuit (parseLine l).1 = true) ∧
        (Pop3.main uid true now fs (levs.map LEv.toEv)).fs = (quitLoop s'.msgs s'.fs []).1) := by
  have hfeed := feed_levs levs (start now fs) rfl (fun l hm hh => (hl l hm LF hh).2 rfl)
  obtain ⟨w, rs', q, pre, post, s', hsplit, hwritten, hwalk, hsim, hnames, hmaildir, htable, hpre, hopen, hquit⟩ :=
    walk_sim levs (start now fs) _ (C19_sim_start now fs h1 h2 h3) rfl hn (fun l hm c hc => (hl l hm c hc).1)
  rw [C19_main_session uid now fs _ hu, hfeed]
  refine ⟨w, rs', q, pre, post, s', hsplit, hwritten, readLine_okLine w, by decide, hwalk, rfl, hsim, hnames,
    hmaildir, htable, ?_, ?_, ?_⟩
  · intro l hm; exact verbIs_eq_false.mpr (hpre l hm)
  · intro hq
    obtain ⟨hpost, hfinal, _⟩ := hopen hq
    exact ⟨hpost, by rw [hfinal]⟩
  · intro hq
    obtain ⟨⟨l, rest, hpost, hverb⟩, _, hfinal⟩ := hquit hq
    exact ⟨⟨l, rest, hpost, verbIs_of_lower hverb⟩, hfinal⟩


/-! ### System calls that fail on files that exist (model `Nq.Pop3F`, file `Nq/Pop3Fault.lean`)

stat() failing in the start-up scan and in getlist(), open_read() and read() failing in RETR/TOP, unlink() and
rename() failing in QUIT — with whatever errno (the code never looks at it). The harness makes exactly these
calls fail in the real program (F lines) and the driver compares `mainF` byte for byte. -/

/-- **Without faults the model with faults is the model all the theorems above speak about.** -/
theorem C19_fault_free (uid : Nat) (havedir : Bool) (now : Nat) (fs : FS) (evs : List Ev) :
    mainF {} uid havedir now fs (evs.map lift) = Pop3.main uid havedir now fs evs := by
  unfold mainF Pop3.main
  split
  · rfl
  · split
    · rfl
    · simp only [getlistF_none]
      rw [feedEvsF_none]

/-- **A failing read never yields a message that looks complete (1).** blast() with read number `k` failing, for
every limit, file and k: either the read was never needed (the limit of TOP was reached before, or k lies beyond
the read that returns 0) and the client gets the complete blast() — which `C19_retr`/`C19_top` decode to the stored
lines —, or the process died (`die()` = `_exit(0)` without flushing) and what reached the client is a PROPER prefix
of it. -/
theorem C19_fault_read (limit : Nat) (data : Bytes) (k : Nat) :
    ((blastF limit data k).2 = false → (blastF limit data k).1 = blast limit data) ∧
    ((blastF limit data k).2 = true → ∃ t, t ≠ [] ∧ (blastF limit data k).1 ++ t = blast limit data) :=
  blastF_spec limit data k

/-- **A failing read never yields a message that looks complete (2).** What the client got before the server died
contains no terminating lone-dot line: an RFC 1939 client reading it to the end of the stream has no complete
multi-line response (`popDecode = none`). There is no "truncated message followed by CR LF . CR LF". -/
theorem C19_fault_read_never_complete (limit : Nat) (data : Bytes) (k : Nat) (h : (blastF limit data k).2 = true) :
    popDecode (blastF limit data k).1 = none :=
  blastF_died_undecodable limit data k h

/-- **RETR/TOP of an accepted message under faults: exactly three outcomes, none of them silent.** The session
state is unchanged, and the reply is (a) `-ERR unable to open that message` and the session goes on — the open was
made to fail, or the file is gone —, or (b) `+OK` and the complete blast() of the file, or (c) a read failed:
`+OK`, a proper prefix `p` of that blast() that does not decode, and the process exits (code 0) — the connection
closes. -/
theorem C19_fault_retr (F : Faults) (s : Sess) (ao : Bool) (ar : Option Nat) (verb arg : Bytes) (i : Nat) (m : Msg)
    (hv : verbIs vRetr verb = true ∨ verbIs vTop verb = true) (hn : msgno s arg = .ok i) (hm : s.msgs[i]? = some m) :
    (execF F s ao ar verb arg).1.1 = s ∧
    (((execF F s ao ar verb arg).1.2.1 = errOpen ∧ (execF F s ao ar verb arg).1.2.2 = none ∧
        (ao = true ∨ fsFind s.fs m.fn = none)) ∨
     (∃ f, fsFind s.fs m.fn = some f ∧ ao = false ∧
        (execF F s ao ar verb arg).1.2.1 = okLine ++ blast (limitFor verb arg) f.data ∧
        (execF F s ao ar verb arg).1.2.2 = none) ∨
     (∃ f p t, fsFind s.fs m.fn = some f ∧ ao = false ∧ ar ≠ none ∧
        (execF F s ao ar verb arg).1.2.1 = okLine ++ p ∧ t ≠ [] ∧ p ++ t = blast (limitFor verb arg) f.data ∧
        popDecode p = none ∧ (execF F s ao ar verb arg).1.2.2 = some 0)) := by
  rw [execF_retr F s ao ar verb arg (hv.imp lower_of_verbIs lower_of_verbIs), hn]
  dsimp only
  rw [hm]
  dsimp only
  cases ao with
  | true => exact ⟨rfl, .inl ⟨rfl, rfl, .inl rfl⟩⟩
  | false =>
    rw [if_neg Bool.false_ne_true]
    cases hf : fsFind s.fs m.fn with
    | none => exact ⟨rfl, .inl ⟨rfl, rfl, .inr rfl⟩⟩
    | some f =>
      cases ar with
      | none => exact ⟨rfl, .inr (.inl ⟨f, rfl, rfl, rfl, rfl⟩)⟩
      | some k =>
        dsimp only
        cases hd : (blastF (limitFor verb arg) f.data k).2 with
        | false =>
          exact ⟨rfl, .inr (.inl ⟨f, rfl, rfl, by rw [(blastF_spec _ _ _).1 hd], rfl⟩)⟩
        | true =>
          obtain ⟨t, ht, he⟩ := (blastF_spec _ _ _).2 hd
          exact ⟨rfl, .inr (.inr ⟨f, _, t, rfl, rfl, nofun, rfl, ht, he, blastF_died_undecodable _ _ _ hd, rfl⟩)⟩

/-- **No command but QUIT touches the maildir, whatever fails** (in particular a session that dies in the middle
of a message has deleted and renamed nothing). -/
theorem C19_fault_only_quit_touches (F : Faults) (s : Sess) (ao : Bool) (ar : Option Nat) (verb arg : Bytes)
    (hq : verbIs vQuit verb = false) : (execF F s ao ar verb arg).1.1.fs = s.fs := by
  unfold execF
  rw [if_neg (ne_true_of_eq_false hq)]
  split
  · repeat' split
    all_goals rfl
  · exact (exec_nonquit s verb arg hq).1

/-- **Deletions only of marked messages, also when some unlink or rename fails.** `C19_quit_keeps` for every set of
failing unlink() and rename() calls: a file that is neither a marked message nor an unmarked message of new/ nor
the new name of one is still there after QUIT, unchanged. -/
theorem C19_fault_quit_keeps (F : Faults) (s : Sess) (ao : Bool) (ar : Option Nat) (verb arg p : Bytes) (f : File)
    (hq : verbIs vQuit verb = true) (hf : fsFind s.fs p = some f)
    (h1 : ∀ m ∈ s.msgs, m.fn = p → m.del = false ∧ (m.fn.take 4 == newSl) = false)
    (h2 : ∀ m ∈ s.msgs, m.del = false → (m.fn.take 4 == newSl) = true → seenName m.fn ≠ p) :
    fsFind (execF F s ao ar verb arg).1.1.fs p = some f := by
  rw [execF_quit_fs F s ao ar verb arg hq]
  have hsub := (effective_sublist F.u F.n s.msgs 0 0).subset
  exact quit_keeps _ s.fs p f hf (fun m hm => h1 m (hsub hm)) (fun m hm => h2 m (hsub hm))

/-- **new → cur renames never lose a message, and a failing unlink never removes one.** For every set of failing
calls, an unmarked message `new/x` whose file `f` is there is after QUIT either still `new/x` (its rename failed)
or `cur/x:2,` with `new/x` gone — the same file in both cases. (Names unique, `cur/x:2,` not a marked message: as
in `C19_quit_renames`.) -/
theorem C19_fault_quit_never_loses (F : Faults) (s : Sess) (ao : Bool) (ar : Option Nat) (verb arg : Bytes) (m : Msg) (f : File)
    (hq : verbIs vQuit verb = true) (hm : m ∈ s.msgs) (hd : m.del = false) (hn : m.fn.take 4 = newSl)
    (hf : fsFind s.fs m.fn = some f) (hu : (s.msgs.map (·.fn)).Nodup)
    (h2 : ∀ x ∈ s.msgs, x.fn = seenName m.fn → x.del = false) :
    fsFind (execF F s ao ar verb arg).1.1.fs m.fn = some f ∨
    (fsFind (execF F s ao ar verb arg).1.1.fs (seenName m.fn) = some { f with path := seenName m.fn } ∧
     fsFind (execF F s ao ar verb arg).1.1.fs m.fn = none) := by
  rw [execF_quit_fs F s ao ar verb arg hq]
  have hsl := effective_sublist F.u F.n s.msgs 0 0
  have hsub := hsl.subset
  by_cases hin : m ∈ effective F.u F.n 0 0 s.msgs
  · right
    exact quit_renames _ s.fs m f hin hd hn hf ((hsl.map (·.fn)).nodup hu) (fun x hx => h2 x (hsub hx))
  · left
    exact quit_keeps_skipped F.u F.n s.msgs s.fs m f hu hm hin hf (fun x _ _ _ => seenName_ne_new x.fn m.fn hn)

/-- **A marked message whose unlink fails is not lost either**: after QUIT it is gone or still exactly there. -/
theorem C19_fault_quit_marked (F : Faults) (s : Sess) (ao : Bool) (ar : Option Nat) (verb arg : Bytes) (m : Msg) (f : File)
    (hq : verbIs vQuit verb = true) (hm : m ∈ s.msgs) (hd : m.del = true) (hf : fsFind s.fs m.fn = some f)
    (hu : (s.msgs.map (·.fn)).Nodup) (h2 : ∀ x ∈ s.msgs, seenName x.fn ≠ m.fn) :
    fsFind (execF F s ao ar verb arg).1.1.fs m.fn = none ∨ fsFind (execF F s ao ar verb arg).1.1.fs m.fn = some f := by
  rw [execF_quit_fs F s ao ar verb arg hq]
  have hsub := (effective_sublist F.u F.n s.msgs 0 0).subset
  by_cases hin : m ∈ effective F.u F.n 0 0 s.msgs
  · left
    exact quit_removes _ s.fs m hin hd (fun x hx => h2 x (hsub hx))
  · right
    exact quit_keeps_skipped F.u F.n s.msgs s.fs m f hu hm hin hf (fun x hx _ _ => h2 x hx)

/-- **Start-up under failing stat() calls.** A file whose stat fails in the scan (`A`) is treated exactly like a
file that is too young: it gets no number in this session (and QUIT will not touch it) — so `C19_startup_order`,
`C19_session_numbering` … apply to the maildir `hideA A now fs`. A message whose second stat, in getlist(), fails
(`G`) is announced with size 0 — the code's `m[i].size = 0` (finding C19-F1 in notes/C19.md); every other size is
the length of the file. -/
theorem C19_fault_startup (A G : List Bytes) (now : Nat) (fs : FS) :
    getlistF A G now fs =
      (getlist now (hideA A now fs)).map (fun m => if G.contains m.fn then { m with size := 0 } else m) :=
  getlistF_eq A G now fs


/-- **Listed sizes are not truncated.** Whatever `st_size` a message has (any natural number: `big` hands over the
sizes of files the driver does not materialise, e.g. 4 GiB + 1234), the start-up table records it, and the size
field LIST / LIST n print for it is its full decimal representation: it reads back (`decVal`) as exactly that
number — not that number modulo 2^32. -/
theorem C19_list_size_unbounded (big : List (Bytes × Nat)) (now : Nat) (fs : FS) (i : Nat) (m : Msg) (n : Nat)
    (hm : (getlist now fs)[i]? = some m) (hb : big.lookup m.fn = some n) :
    (getlistS big now fs)[i]? = some { m with size := n } ∧
    listLine i { m with size := n } false = fmtNat (i + 1) ++ [SP] ++ fmtNat n ++ [CR, LF] ∧
    decVal (fmtNat n) = n := by
  refine ⟨?_, by simp [listLine], Nq.decVal_fmtNat n⟩
  simp [getlistS, hm, hb]

/-! ### Non-vacuity (bytes written out: 10 = LF, 13 = CR, 46 = '.', 97 = 'a', 32 = SP) -/

/-- "a LF LF . LF . . LF b" — header, blank, a lone dot, a dot-dot line, unterminated last line -/
example : blast 0 [97, 10, 10, 46, 10, 46, 46, 10, 98]
    = [97, 13, 10, 13, 10, 46, 46, 13, 10, 46, 46, 46, 13, 10, 98, 13, 10, 13, 10, 46, 13, 10] := by decide +kernel
example : lines [97, 10, 10, 46, 10, 46, 46, 10, 98] = [[97], [], [46], [46, 46], [98]] := by decide
example : popDecode (blast 0 [97, 10, 10, 46, 10, 46, 46, 10, 98] ++ [43])
    = some ([[97], [], [46], [46, 46], [98], []], [43]) := by decide +kernel
/-- TOP … 1 of the same message -/
example : popDecode (blast 2 [97, 10, 10, 46, 10, 46, 46, 10, 98]) = some ([[97], [], [46], []], []) := by decide +kernel
example : topLines 1 [[97], [], [46], [46, 46], [98]] = [[97], [], [46]] := by decide
/-- "DELE 0" (two messages) is refused -/
example : ∃ r, msgno { msgs := [⟨[], 0, false⟩, ⟨[], 0, true⟩], last := 0, fs := [] } [48] = .err r := ⟨_, rfl⟩
/-- the saturating scanner reads "18446744073709551617" (2^64 + 1) as 2^64 - 1 … -/
example : (scanWith true [49, 56, 52, 52, 54, 55, 52, 52, 48, 55, 51, 55, 48, 57, 53, 53, 49, 54, 49, 55]).1 = U64 - 1 := by decide
/-- … while the wrapping scanner reads 2^64+1 as 1 -/
example : (scanWith false [49, 56, 52, 52, 54, 55, 52, 52, 48, 55, 51, 55, 48, 57, 53, 53, 49, 54, 49, 55]).1 = 1 := by decide

/-- heap sort of dt = 5 3 9 3 1 (ids 0..4): the two 3s come out in heap order (the later one first) -/
example : pqDrain 5 ([⟨5, 0⟩, ⟨3, 1⟩, ⟨9, 2⟩, ⟨3, 3⟩, ⟨1, 4⟩].foldl pqInsert [])
    = [⟨1, 4⟩, ⟨3, 3⟩, ⟨3, 1⟩, ⟨5, 0⟩, ⟨9, 2⟩] := by decide +kernel
/-- a maildir in readdir order: cur/b (mtime 7), new/.x (dot file), new/a (mtime 9), new/c (mtime 3),
tmp/t, cur/late (mtime = now): numbering c, b, a -/
example : getlist 10 [⟨[99, 117, 114, 47, 98], [1, 2], 7, 0⟩, ⟨[110, 101, 119, 47, 46, 120], [], 1, 0⟩,
      ⟨[110, 101, 119, 47, 97], [1], 9, 0⟩, ⟨[110, 101, 119, 47, 99], [1, 2, 3], 3, 0⟩,
      ⟨[116, 109, 112, 47, 116], [], 1, 0⟩, ⟨[99, 117, 114, 47, 108], [], 10, 0⟩]
    = [⟨[110, 101, 119, 47, 99], 3, false⟩, ⟨[99, 117, 114, 47, 98], 2, false⟩, ⟨[110, 101, 119, 47, 97], 1, false⟩] := by
  decide +kernel
example : (eligible 10 [⟨[99, 117, 114, 47, 98], [1, 2], 7, 0⟩, ⟨[110, 101, 119, 47, 46, 120], [], 1, 0⟩,
      ⟨[110, 101, 119, 47, 97], [1], 9, 0⟩, ⟨[110, 101, 119, 47, 99], [1, 2, 3], 3, 0⟩,
      ⟨[116, 109, 112, 47, 116], [], 1, 0⟩, ⟨[99, 117, 114, 47, 108], [], 10, 0⟩]).map (·.mtime) = [9, 3, 7] := by decide +kernel
/-- "STAT" is the STAT verb; three messages, the second marked: total 10 -/
example : verbIs vStat [83, 84, 65, 84] = true := by decide
example : liveTotal [⟨[], 3, false⟩, ⟨[], 5, true⟩, ⟨[], 7, false⟩] = 10 := by decide
/-- messages 2 and 3 of 4 marked: LAST reports 3 -/
example : highMark 0 [⟨[], 0, false⟩, ⟨[], 0, true⟩, ⟨[], 0, true⟩, ⟨[], 0, false⟩] = 3 := by decide
example : verbIs vLast [108, 65, 115, 84] = true := by decide
/-- "DELE  1" CR and "QUIT" -/
example : parseLine [68, 69, 76, 69, 32, 32, 49, 13] = ([68, 69, 76, 69], [49]) := by decide
example : parseLine [81, 85, 73, 84] = ([81, 85, 73, 84], []) := by decide
/-- "a" NUL "b": cut at the NUL -/
example : parseLine [97, 0, 98] = ([97], []) := by decide
/-- two lines, the second never runs because the first is QUIT -/
example : ((stepLine (stepLine { s := ⟨[], 0, []⟩ } [113, 117, 105, 116]) [110, 111, 111, 112]).exit = some 0) := by decide

/-- "1x" is not a message number, "1", "1 5" and "1 " are -/
example : endsOk [49, 120] = false ∧ endsOk [49] = true ∧ endsOk [49, 32, 53] = true ∧ endsOk [49, 32] = true := by decide
example : msgArg [49, 120] = none ∧ msgArg [49, 32, 53] = some 1 := by decide
/-- "USER" / "pass" are the verbs; an unmarked new/ message: "new/a" → "cur/a:2," -/
example : verbIs vUser [85, 83, 69, 82] = true ∧ verbIs vPass [112, 97, 115, 115] = true := by decide
example : seenName [110, 101, 119, 47, 97] = [99, 117, 114, 47, 97, 58, 50, 44] := by decide
example : (exec ⟨[⟨[110, 101, 119, 47, 97], 1, false⟩, ⟨[99, 117, 114, 47, 98], 1, true⟩], 2,
      [⟨[110, 101, 119, 47, 97], [120], 1, 1⟩, ⟨[99, 117, 114, 47, 98], [121], 1, 1⟩]⟩ vQuit []).1.fs
    = [⟨[99, 117, 114, 47, 97, 58, 50, 44], [120], 1, 1⟩] := by decide +kernel
/-- "TOP 1 18446744073709551615": the count saturates, the limit is 0 -/
example : topCount [49, 32, 49, 56, 52, 52, 54, 55, 52, 52, 48, 55, 51, 55, 48, 57, 53, 53, 49, 54, 49, 53] = some (U64 - 1) := by decide +kernel

/-- the hypotheses of `C19_session_simulation_partial` hold for the maildir of the example above and the session
"DELE 1", new/a removed by somebody else, "retr 3" CR, "QUIT" -/
def exFs : FS := [⟨[99, 117, 114, 47, 98], [1, 2], 7, 0⟩, ⟨[110, 101, 119, 47, 46, 120], [], 1, 0⟩,
      ⟨[110, 101, 119, 47, 97], [1], 9, 0⟩, ⟨[110, 101, 119, 47, 99], [1, 2, 3], 3, 0⟩,
      ⟨[116, 109, 112, 47, 116], [], 1, 0⟩, ⟨[99, 117, 114, 47, 108], [], 10, 0⟩]
def exLevs : List LEv := [.line [68, 69, 76, 69, 32, 49], .vanish [110, 101, 119, 47, 97], .line [114, 101, 116, 114, 32, 51, 13], .line [81, 85, 73, 84]]
example : (getlist 10 (cleanTmp 10 exFs)).length ≤ INT_MAX := by decide +kernel
example : ∀ f ∈ exFs, LF ∉ f.path := by decide +kernel
example : ((numberingOf (cleanTmp 10 exFs) (getlist 10 (cleanTmp 10 exFs))).map (fun r => r.data.length)).sum < U64 - 1 := by decide +kernel
example : NamesOk ((getlist 10 (cleanTmp 10 exFs)).map (·.fn)) := by unfold NamesOk; decide +kernel
example : ∀ l, LEv.line l ∈ exLevs → ∀ c ∈ l, c ≠ NUL ∧ c ≠ LF := by
  intro l hl
  simp only [exLevs, List.mem_cons, LEv.line.injEq, List.not_mem_nil, or_false, reduceCtorEq, false_or] at hl
  rcases hl with rfl | rfl | rfl <;> decide

/-! ### Non-vacuity of the theorems about failing system calls -/

/-- "a LF b LF c": read 1 (the one that returns 0) fails after both complete lines were put: nothing of them had
been flushed (the 1024-byte buffer was not full), the client gets nothing after "+OK" and the server is dead -/
example : blastF 0 [97, 10, 98, 10, 99] 1 = ([], true) := by decide
/-- read 2 does not exist for a 5-byte file: the complete message -/
example : blastF 0 [97, 10, 98, 10, 99] 2 = (blast 0 [97, 10, 98, 10, 99], false) := by decide
/-- TOP … 0 (limit 1) of "a LF LF b LF": the loop ends at the first body line, read 1 is never needed -/
example : (blastF 1 [97, 10, 10, 98, 10] 1).2 = false := by decide
/-- the 1024-byte buffer: 600 pending + a put of 500 flushes the 600; a put of 9300 leaves 1108 → nothing pending -/
example : putStep 600 500 = 500 ∧ putStep 0 9300 = 0 ∧ putStep 0 (8192 + 500) = 500 ∧ putStep 1000 24 = 1024 := by decide
/-- QUIT with messages 1 (cur/b, marked) and 2 (new/a): unlink 0 fails → cur/b stays, one -ERR line, new/a is renamed;
rename 0 fails → new/a stays -/
example : (execF { u := [0] } ⟨[⟨[99, 117, 114, 47, 98], 1, true⟩, ⟨[110, 101, 119, 47, 97], 1, false⟩], 1,
      [⟨[110, 101, 119, 47, 97], [120], 1, 1⟩, ⟨[99, 117, 114, 47, 98], [121], 1, 1⟩]⟩ false none vQuit []).1.1.fs
    = [⟨[99, 117, 114, 47, 97, 58, 50, 44], [120], 1, 1⟩, ⟨[99, 117, 114, 47, 98], [121], 1, 1⟩] := by decide +kernel
example : (execF { n := [0] } ⟨[⟨[99, 117, 114, 47, 98], 1, true⟩, ⟨[110, 101, 119, 47, 97], 1, false⟩], 1,
      [⟨[110, 101, 119, 47, 97], [120], 1, 1⟩, ⟨[99, 117, 114, 47, 98], [121], 1, 1⟩]⟩ false none vQuit []).1.1.fs
    = [⟨[110, 101, 119, 47, 97], [120], 1, 1⟩] := by decide +kernel
/-- the maildir of `exFs` when the scan cannot stat new/c and getlist() cannot stat cur/b: two messages, b with size 0 -/
example : getlistF [[110, 101, 119, 47, 99]] [[99, 117, 114, 47, 98]] 10 exFs
    = [⟨[99, 117, 114, 47, 98], 0, false⟩, ⟨[110, 101, 119, 47, 97], 1, false⟩] := by decide +kernel
/-- RETR 1 with the next open failing: the arm is used up, the session goes on; with read 0 failing: the server exits -/
example : (execF {} ⟨[⟨[110, 101, 119, 47, 97], 1, false⟩], 0, [⟨[110, 101, 119, 47, 97], [120], 1, 1⟩]⟩ true (some 3) vRetr [49]).2
    = (false, some 3) := by decide +kernel
example : (execF {} ⟨[⟨[110, 101, 119, 47, 97], 1, false⟩], 0, [⟨[110, 101, 119, 47, 97], [120], 1, 1⟩]⟩ false (some 0) vRetr [49]).1.2.2
    = some 0 := by decide +kernel

/-- a message of 4 GiB + 1234 bytes: "4294968530" reads back as that number (and not as 1234) -/
example : decVal [52, 50, 57, 52, 57, 54, 56, 53, 51, 48] = 4294968530 := by decide
example : (getlistS [([110, 101, 119, 47, 97], 4294968530)] 10 [⟨[110, 101, 119, 47, 97], [122], 9, 0⟩])
    = [⟨[110, 101, 119, 47, 97], 4294968530, false⟩] := by decide +kernel

end Nq.Props.C19
