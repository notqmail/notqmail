/-
  C20 — No input can corrupt memory in any program of the suite.          (proof, PARTIAL)

  What is proved here is the **length and index arithmetic** of the code that stands between
  untrusted input and memory:
    (a) gen_alloc / stralloc growth and quote.c doit()           — Nq.Stralloc
    (b) substdio output and input buffers, with the stream laws  — Nq.Substdio
    (c) the fixed buffers filled from network / child input,     — Nq.FixedBuf (+ Nq.Spawn, Nq.Pop3 of C18/C19 for
        the length caps of qmail-qmtpd / qmail-qmqpd `getlen`          slot numbers and message numbers; REPORTMAX
        and of qmail-remote's `smtptext`                               is C18's theorem, cited)
    (d) dns.c record walking over a bounded response             — Nq.Dns
    (e) the cdb reader on arbitrary files                        — Nq.Users.cdbSeek (model of C11)
    (f) token822.c count-allocate-fill: parse pass 1 vs pass 2,  — Nq.TokPass, Nq.TokFill
        unparse / unquote length walk vs fill walk
    (g) qmail-local.c main(): numforward count vs recips[] fill  — Nq.LocalPass
    (h) getln2 / getln / byte_chr over substdio + stralloc       — Nq.Getln
  What is NOT proved (and cannot be carried by these models): absence of undefined behaviour in the
  compiled C outside (a)–(h) — pointer aliasing, signal handlers, libc/libresolv, the other parsers'
  loops (token822_addrlist, headerbody, hfield, control, constmap, ip, scan).  That part of the property is covered only by sanitised execution (harness/c20_*.c and the
  ASan+UBSan builds used by every other property's harness) and is labelled so in the evidence.

  Tie to the source: the models are compared with the real functions by harness/c20_lib.c,
  harness/c20_dns.c, c20_fixed.c, c20_parse.c (kinds tok, utok, gl2, cdb) and c20_local.c on every run (DISAGREE channel); the constants and the presence of each guard are
  regenerated from /repo into Nq.Gen.C20Bounds (translator).
-/
import Nq.Lemmas.C20Stralloc
import Nq.Lemmas.C20Substdio
import Nq.Lemmas.C20Dns
import Nq.Lemmas.C20Fixed
import Nq.Lemmas.C20Cdb
import Nq.Lemmas.C20Caps
import Nq.Lemmas.C20TokPass
import Nq.Lemmas.C20TokFill
import Nq.Lemmas.C20LocalPass
import Nq.Lemmas.C20Getln
import Nq.Gen.QQClose
import Nq.Gen.C20Bounds
import Nq.Lemmas.SpawnL
import Nq.Lemmas.Pop3Number

namespace Nq.Props.C20
open Nq Nq.Lemmas.C20
open Nq.Gen.C20Bounds

/-! ## (T) the sources still have the shape the theorems are about -/

/-- every guard / buffer declaration the translator looks for was found in /repo -/
theorem C20_sources_recognised : unrecognised = [] := by decide

/-- (a tripwire, not a semantic statement: each Boolean says "the translator's pattern for this check matched the
source text"; what the checks achieve is stated by the theorems below over the models) the overflow checks of gen_allocdefs.h, stralloc_catb.c, stralloc_opyb.c, quote.c and the bounds
checks of dns.c, spawn.c, qmail-pop3d.c, qmail-send.c, qmail-remote.c are present in the source, and the counters of
quote.c doit()/quote_need() are unsigned (commit 26e354b); the last three equations: the constants the models are
instantiated with (30 = the base of the stralloc growth rule `30 + n + n/8`, 4 and 3 = the least `rrdlen` that `dns.c`
demands before it reads an address and an MX preference) are those found in the source -/
theorem C20_checks_present :
    allocChecked = true ∧ catbChecked = true ∧ quoteChecked = true ∧ dnsRdataChecked = true ∧
    dnsHeaderChecked = true ∧ spawnDelnumChecked = true ∧ pop3MsgnoChecked = true ∧
    reportmaxCut = true ∧ smtptextCapped = true ∧ quoteSignedCounters = false ∧ strallocBase = 30 ∧ dnsIpLen = 4 ∧ dnsMxLen = 3 := by decide

/-! ## (a) gen_alloc / stralloc / quote -/

section alloc
open Nq.Stralloc

/-- **readyplus / ready.** For every element size, base, allocator behaviour, record and `n`
(including `len`, `n` near 2³²): a successful call leaves a non-null record with `len ≤ a`, `a`
elements inside the block (`a * sizeof ≤ cap`), room for what was asked (`n + pluslen ≤ a`, computed
without wrap-around), and stores nothing. -/
theorem C20_readyplus_sound (sz base : Nat) (grant : Nat → Bool) (x : GA) (n pluslen : Nat)
    (hx : WF sz x) (hn : n < U32)
    (h : (readyplusInternal sz base grant x n pluslen).ret = true) :
    let o := readyplusInternal sz base grant x n pluslen
    WF sz o.x ∧ o.x.nonnull = true ∧ o.st = [] ∧
    (x.nonnull = true → n + pluslen ≤ o.x.a ∧ n + pluslen < U32 ∧ o.x.len = x.len) ∧
    (x.nonnull = false → n ≤ o.x.a ∧ o.x.len = 0) := by
  have p := rpi_ok sz base grant x n pluslen hx hn h
  exact ⟨p.wf, p.nonnull, p.st, p.grown, p.fresh⟩

/-- a failing call leaves a well-formed record, stores nothing and keeps the old block -/
theorem C20_readyplus_fail (sz base : Nat) (grant : Nat → Bool) (x : GA) (n pluslen : Nat)
    (hx : WF sz x) (h : (readyplusInternal sz base grant x n pluslen).ret = false) :
    let o := readyplusInternal sz base grant x n pluslen
    WF sz o.x ∧ o.st = [] ∧ o.x.nonnull = x.nonnull ∧ o.x.a = x.a ∧ o.x.cap = x.cap :=
  rpi_fail sz base grant x n pluslen hx h

/-- **no truncated allocation**: the byte count handed to malloc/realloc fits 32 bits and, on success,
is exactly `a * sizeof(type)` — the multiplication did not wrap. -/
theorem C20_alloc_request_exact (sz base : Nat) (grant : Nat → Bool) (x : GA) (n pluslen r : Nat)
    (h : (readyplusInternal sz base grant x n pluslen).req = some r) :
    let o := readyplusInternal sz base grant x n pluslen
    r < U32 ∧ (o.ret = true → r = o.x.a * sz ∧ r = o.x.cap) := by
  dsimp only
  rcases rpi_cases sz base grant x n pluslen rfl with ⟨q, e, hq⟩ | ⟨_, _, _, e⟩ | ⟨_, _, a, _, _, hz, e⟩ | ⟨_, hz, e⟩
  · rw [e] at h ⊢; exact ⟨hq r h, nofun⟩
  · rw [e] at h; cases h
  · rw [e] at h ⊢; cases h; exact ⟨hz, fun _ => ⟨rfl, rfl⟩⟩
  · rw [e] at h ⊢; cases h; exact ⟨hz, fun _ => ⟨rfl, rfl⟩⟩

/-- **CVE-2005-1513 regime**: if `n + pluslen` does not fit `unsigned int` a non-null record is refused
and left untouched, whatever the allocator would have said. -/
theorem C20_readyplus_overflow_refused (sz base : Nat) (grant : Nat → Bool) (x : GA) (n pluslen : Nat)
    (hnn : x.nonnull = true) (h : n + pluslen ≥ U32) :
    readyplusInternal sz base grant x n pluslen = ⟨false, x, none, [], false⟩ :=
  rpi_overflow sz base grant x n pluslen hnn h

/-- **append**: the one element is stored at an index `< a`; `len` grows by one without wrap. -/
theorem C20_append_sound (sz base : Nat) (grant : Nat → Bool) (x : GA) (hx : WF sz x)
    (h : (append sz base grant x).ret = true) :
    WF sz (append sz base grant x).x ∧ storesIn (append sz base grant x) ∧
    (append sz base grant x).x.len = (if x.nonnull then x.len else 0) + 1 :=
  have s := append_spec sz base grant x hx
  ⟨s.1, s.2.1, s.2.2 h⟩

/-- **stralloc_catb**: both stores (the `n` copied bytes at `len`, the 'Z' after them) are inside
the `a` allocated bytes, `len` becomes `len + n` exactly and stays `< a`. -/
theorem C20_catb_sound (grant : Nat → Bool) (x : GA) (n : Nat) (hx : WF 1 x)
    (h : (catb grant x n).ret = true) :
    WF 1 (catb grant x n).x ∧ storesIn (catb grant x n) ∧
    (catb grant x n).x.len = (if x.nonnull then x.len else 0) + n ∧
    (catb grant x n).x.len < (catb grant x n).x.a :=
  have s := catb_spec grant x n hx
  ⟨s.1, s.2.1, s.2.2 h⟩

/-- **stralloc_copyb** likewise. -/
theorem C20_copyb_sound (grant : Nat → Bool) (x : GA) (n : Nat) (hx : WF 1 x)
    (h : (copyb grant x n).ret = true) :
    WF 1 (copyb grant x n).x ∧ storesIn (copyb grant x n) ∧ (copyb grant x n).x.len = n ∧
    n < (copyb grant x n).x.a :=
  have s := copyb_spec grant x n hx
  ⟨s.1, s.2.1, s.2.2 h⟩

/-- **catb near 2³²**: when `len + n + 1` does not fit, nothing is allocated, copied or changed. -/
theorem C20_catb_overflow_refused (grant : Nat → Bool) (x : GA) (n : Nat) (hnn : x.nonnull = true)
    (h : x.len + n + 1 ≥ U32) : catb grant x n = ⟨false, x, none, [], false⟩ := by
  unfold catb
  simp only [hnn, Bool.not_true, Bool.false_eq_true, if_false]
  by_cases c1 : n + 1 ≥ U32
  · simp [c1]
  · simp only [c1, if_false]
    unfold readyplus
    rw [rpi_overflow 1 30 grant x (n + 1) x.len hnn (by omega)]
    simp

/-- **one operation** out of ready / readyplus / append / catb / copyb / `len := k ≤ a`, applied to a well-formed
record, leaves it well-formed with every store inside the block (sizeof = 1, base 30: the `stralloc` instance).
For a sequence of operations this is the induction step; the induction itself (with `k ≤ a` read at the
intermediate record) is not stated. -/
theorem C20_stralloc_ops_sound (grant : Nat → Bool) (x : GA) (op : Op) (hx : WF 1 x)
    (hop : match op with
      | .ready n => n < U32 | .readyplus n => n < U32 | .catb _ => True | .copyb _ => True | .append => True
      | .setlen k => k ≤ x.a) :
    WF 1 (apply 1 30 grant x op).x ∧ storesIn (apply 1 30 grant x op) := by
  cases op with
  | ready n => exact rpi_sound 1 30 grant x n 0 hx hop rfl
  | readyplus n => exact rpi_sound 1 30 grant x n x.len hx hop rfl
  | append => exact ⟨(append_spec 1 30 grant x hx).1, (append_spec 1 30 grant x hx).2.1⟩
  | catb n => exact ⟨(catb_spec grant x n hx).1, (catb_spec grant x n hx).2.1⟩
  | copyb n => exact ⟨(copyb_spec grant x n hx).1, (copyb_spec grant x n hx).2.1⟩
  | setlen k =>
    exact ⟨wf_setLen hx hop, storesIn_nil rfl⟩

/-- **quote.c doit()** (the code as it is — `quoteSignedCounters` is what the translator saw in quote.c:
unsigned counters since 26e354b) for an input of `inLen` bytes of which `esc` need a backslash, for ALL
lengths that pass the two overflow checks: every byte written is inside the `2·inLen + 2` bytes made ready,
`len` is exactly `inLen + esc + 2`, and no counter overflows. -/
theorem C20_quote_doit_sound (grant : Nat → Bool) (out : GA) (inLen esc : Nat) (hx : WF 1 out)
    (he : esc ≤ inLen) (h : (quoteDoit quoteSignedCounters grant out inLen esc).ret = true) :
    WF 1 (quoteDoit quoteSignedCounters grant out inLen esc).x ∧
    storesIn (quoteDoit quoteSignedCounters grant out inLen esc) ∧
    (quoteDoit quoteSignedCounters grant out inLen esc).x.len = inLen + esc + 2 ∧
    (quoteDoit quoteSignedCounters grant out inLen esc).ub = false := by
  have hs : quoteSignedCounters = false := by decide
  rw [hs] at h ⊢
  obtain ⟨a, b, c, d⟩ := quoteDoit_ok false grant out inLen esc hx he h
  refine ⟨a, b, c, ?_⟩
  cases hu : (quoteDoit false grant out inLen esc).ub
  · rfl
  · have := (d.1 hu).1; cases this

/-- the complement: a length for which `2·len + 2` does not fit 32 bits (len ≥ 2³¹ − 1) is refused
before the output record or any byte is touched. -/
theorem C20_quote_doit_overflow_refused (grant : Nat → Bool) (out : GA) (inLen esc : Nat)
    (h : inLen * 2 + 2 ≥ U32) :
    quoteDoit quoteSignedCounters grant out inLen esc = ⟨false, out, none, [], false⟩ :=
  quoteDoit_refused _ grant out inLen esc h

/-- **quote_need()**: every offset it reads is inside the `n` bytes it was given, and its (unsigned)
counter does not overflow for any `n`. -/
theorem C20_quote_need_reads (n : Nat) :
    (∀ i ∈ quoteNeedReads n, i < n) ∧ quoteNeedUb quoteSignedCounters n = false := by
  refine ⟨quoteNeedReads_in n, ?_⟩
  have hs : quoteSignedCounters = false := by decide
  rw [hs]; rfl

/-- **pre-26e354b (mutant model, `signedCtr = true`)**: with `int i, j` an address of 2³⁰ bytes that all
need escaping passes both overflow checks, is granted 2³¹+2 bytes, and drives `int j` beyond INT_MAX
(undefined behaviour; reproduced under UBSan on the tree before 26e354b); in general the signed counter
overflows exactly when `inLen + esc + 2 > INT_MAX`. -/
theorem C20_quote_int_overflow_pre_26e354b :
    ((quoteDoit true (fun _ => true) {} 1073741824 1073741824).ret = true ∧
     (quoteDoit true (fun _ => true) {} 1073741824 1073741824).ub = true) ∧
    (∀ (grant : Nat → Bool) (out : GA) (inLen esc : Nat), WF 1 out → esc ≤ inLen →
      (quoteDoit true grant out inLen esc).ret = true →
      ((quoteDoit true grant out inLen esc).ub = true ↔ inLen + esc + 2 > INT_MAX)) := by
  refine ⟨by decide, ?_⟩
  intro grant out inLen esc hx he h
  have := (quoteDoit_ok true grant out inLen esc hx he h).2.2.2
  simpa using this

end alloc

/-! ## (b) substdio -/

section substdio
open Nq.Substdio

/-- **output side**: for every write script (short writes, errors), `put` / `bput` / `flush` /
`putflush` keep `0 ≤ p ≤ n`, every byte_copy lies inside `x[0..n)`, and when the call succeeds the
bytes handed to the descriptor followed by the bytes still buffered are exactly what was there before
followed by the argument — nothing lost, duplicated or reordered. -/
theorem C20_substdio_out (s : OSt) (o : OOp) (h : OWF s) (hc : cpIn s) :
    OWF (oapply s o).1 ∧ cpIn (oapply s o).1 ∧ (oapply s o).1.n = s.n ∧
    ((oapply s o).2 = true → (oapply s o).1.out ++ (oapply s o).1.buf = s.out ++ s.buf ++
      (match o with | .put d => d | .bput d => d | .flush => [] | .putflush d => d)) :=
  have p := oapply_post s o h
  ⟨p.wf, p.cp hc, p.n, p.eq⟩

/-- what the descriptor took is always a prefix of what it was offered (also on error), and all of it on success -/
theorem C20_allwrite_prefix (ws : List Nat) (b : Bytes) :
    (∃ t, b = (allwrite ws b).2.1 ++ t) ∧ ((allwrite ws b).2.2 = true → (allwrite ws b).2.1 = b) :=
  allwrite_spec ws b

/-- **input side, feed**: `n + p = size` is kept, the read and the shift stay inside the buffer, and the
stream is unchanged. -/
theorem C20_substdio_feed (s : ISt) (h : IWF s) :
    IWF (feed s).1 ∧ (feed s).1.size = s.size ∧ (icpIn s → icpIn (feed s).1) ∧
    (feed s).1.data ++ (feed s).1.src = s.data ++ s.src := by
  obtain ⟨⟨a, b, c⟩, d, _⟩ := feed_spec s h
  exact ⟨a, b, c, d⟩

/-- **input side, get**: at most `len` bytes are copied to the caller (so a caller buffer of `len`
bytes is never overrun), from inside `x`; they are the next bytes of the stream; end of file is
reported only when the stream is exhausted. -/
theorem C20_substdio_get (s : ISt) (len : Nat) (h : IWF s) :
    IWF (Substdio.get s len).1 ∧ (Substdio.get s len).1.size = s.size ∧ (icpIn s → icpIn (Substdio.get s len).1) ∧
    (match (Substdio.get s len).2 with
     | .got b => b.length ≤ len ∧ b ++ ((Substdio.get s len).1.data ++ (Substdio.get s len).1.src) = s.data ++ s.src ∧ (0 < len → b ≠ [])
     | .eof => (Substdio.get s len).1.data ++ (Substdio.get s len).1.src = s.data ++ s.src ∧ (Substdio.get s len).1.p = 0 ∧
               (0 < len → (Substdio.get s len).1.src = [])
     | .err => (Substdio.get s len).1.data ++ (Substdio.get s len).1.src = s.data ++ s.src) := by
  obtain ⟨⟨a, b, c⟩, d⟩ := get_spec s len h
  exact ⟨a, b, c, d⟩

/-- **stream law**: successive gets return the source bytes in order, for every read chunking; if
the loop ended at end of file the chunks are the whole stream. -/
theorem C20_substdio_in_stream (fuel : Nat) (s : ISt) (len : Nat) (h : IWF s) :
    IWF (drain fuel s len).1 ∧ (icpIn s → icpIn (drain fuel s len).1) ∧
    (drain fuel s len).2.1.flatten ++ ((drain fuel s len).1.data ++ (drain fuel s len).1.src) = s.data ++ s.src ∧
    (∀ b ∈ (drain fuel s len).2.1, b.length ≤ len) ∧
    ((drain fuel s len).2.2 = true → 0 < len → (drain fuel s len).2.1.flatten = s.data ++ s.src) := by
  induction fuel generalizing s with
  | zero => exact ⟨h, id, rfl, nofun, nofun⟩
  | succ fuel ih =>
    obtain ⟨⟨g1, g2, g3⟩, g4⟩ := get_spec s len h
    generalize hr : drain (fuel + 1) s len = r
    rw [drain] at hr
    generalize Substdio.get s len = gr at g1 g2 g3 g4 hr
    obtain ⟨s', rr⟩ := gr
    cases rr with
    | err => subst hr; exact ⟨g1, g3, g4, nofun, nofun⟩
    | eof =>
      subst hr
      refine ⟨g1, g3, g4.1, nofun, fun _ hl => ?_⟩
      have hd : s'.data = [] := List.eq_nil_of_length_eq_zero (g1.2.trans g4.2.1)
      rw [← g4.1, hd, g4.2.2 hl]
      rfl
    | got b =>
      subst hr
      obtain ⟨i1, i2, i3, i4, i5⟩ := ih s' g1
      refine ⟨i1, fun hc => i2 (g3 hc), ?_, List.forall_mem_cons.2 ⟨g4.1, i4⟩, fun hs hl => ?_⟩
      · rw [← g4.2.1, ← i3]; exact List.append_assoc _ _ _
      · rw [← g4.2.1, ← i5 hs hl]; rfl

end substdio

/-! ## (c) fixed buffers -/

section fixed
open Nq.FixedBuf

/-- **qmail-qmqpd `buf[1000]`**: for every declared length and every point at which the stream may end,
every store index is inside `buf`.  (The index list `qmqpdStores` is compared with what the real getbuf()
stores, case by case, by harness/c20_fixed.c — DISAGREE channel.) -/
theorem C20_qmqpd_buf (len avail : Nat) : ∀ i ∈ qmqpdStores qmqpdGuard len avail, i < qmqpdBuf := by
  intro i hi
  have hg : qmqpdGuard ≤ qmqpdBuf := by decide
  have hb : 0 < qmqpdBuf := by decide
  have opt : ∀ (c : Prop) [Decidable c] (x : Nat), i ∈ (if c then [x] else []) → i = x := by
    intro c _ x h
    by_cases hc : c
    · rw [if_pos hc] at h; exact List.mem_singleton.mp h
    · rw [if_neg hc] at h; cases h
  unfold qmqpdStores at hi
  by_cases c : len ≥ qmqpdGuard
  · rw [if_pos c] at hi
    have h0 : i = 0 := (List.mem_append.mp hi).elim (opt _ _) (opt _ _)
    rw [h0]; exact hb
  · rw [if_neg c] at hi
    have hl : len < qmqpdBuf := Nat.lt_of_lt_of_le (Nat.lt_of_not_ge c) hg
    rcases List.mem_append.mp hi with hi | hi
    · exact Nat.lt_trans (Nat.lt_of_lt_of_le (List.mem_range.mp hi) (Nat.min_le_left _ _)) hl
    · rw [opt _ _ hi]; exact hl

/-- **qmail-qmtpd `buf[1000]`, sender** -/
theorem C20_qmtpd_sender_buf (len : Nat) : ∀ i ∈ qmtpdSenderStores qmtpdSenderGuard len, i < qmtpdBuf := by
  intro i hi
  unfold qmtpdSenderStores at hi
  have hg : qmtpdSenderGuard ≤ qmtpdBuf := by decide
  have hb : 0 < qmtpdBuf := by decide
  by_cases c : len ≥ qmtpdSenderGuard
  · rw [if_pos c] at hi; simp at hi; omega
  · rw [if_neg c] at hi; exact mem_range_append_lt (by omega) hi

/-- **qmail-qmtpd `buf[1000]`, recipient**: with `len + relayclientlen < 1000` the address, its NUL
and the appended RELAYCLIENT string with its NUL all fit. -/
theorem C20_qmtpd_rcpt_buf (len rcl : Nat) (relay : Bool) :
    ∀ i ∈ qmtpdRcptStores qmtpdRcptGuard len rcl relay, i < qmtpdBuf := by
  intro i hi
  have hg : qmtpdRcptGuard ≤ qmtpdBuf := by decide
  unfold qmtpdRcptStores at hi
  by_cases c : len + rcl ≥ qmtpdRcptGuard
  · rw [if_pos c] at hi; cases hi
  · rw [if_neg c] at hi
    have hl : len + rcl < qmtpdBuf := Nat.lt_of_lt_of_le (Nat.lt_of_not_ge c) hg
    rcases List.mem_append.mp hi with hi | hi
    · exact mem_range_append_lt (Nat.lt_of_le_of_lt (Nat.le_add_right _ _) hl) hi
    · cases relay
      · cases hi
      · obtain ⟨a, ha, rfl⟩ := List.mem_map.mp hi
        exact Nat.lt_of_le_of_lt (Nat.add_le_add_left (Nat.le_of_lt_succ (List.mem_range.mp ha)) len) hl

/-- **qmail-qmtpd replies**: "Kok <now> qp <pid>" fits `buf2[100]`, and the reply netstring built in
`buf` fits for every result text qmail_close() can return (at most `errstr[256]` − 1 bytes), given
that fmt_ulong writes at most 20 digits for a 64-bit value. -/
theorem C20_qmtpd_reply_bufs (d1 d2 d rl : Nat) (h1 : d1 ≤ 20) (h2 : d2 ≤ 20) (hd : d ≤ 20) (hr : rl < qqErrstr) :
    qmtpdKokLen d1 d2 ≤ qmtpdBuf2 ∧ qmtpdReplyLen d rl ≤ qmtpdBuf := by
  have e1 : qmtpdBuf2 = 100 := by decide
  have e2 : qmtpdBuf = 1000 := by decide
  have e3 : qqErrstr = 256 := by decide
  unfold qmtpdKokLen qmtpdReplyLen
  omega

/-- every result text that can reach the reply composition meets the hypothesis `rl < qqErrstr` of
`C20_qmtpd_reply_bufs`, so the reply fits `buf`: the texts of qmail_close()'s switch, its range defaults and
"crashed" text (all regenerated from qmail.c into Nq.Gen.QQClose by C07's translator), a custom text from the
queue program (at most `errMax` bytes, see `C20_qq_errstr`), and qmail-qmtpd's own two refusals (the byte
strings of the C07 model, tied by C07's correspondence).  Not covered by a generated table: the one-off
"Zqq waitpid surprise (#4.3.0)" (29 bytes). -/
theorem C20_qmtpd_reply_texts :
    (∀ t ∈ Nq.Gen.QQClose.table.map (·.2) ++ [Nq.Gen.QQClose.permText, Nq.Gen.QQClose.tempText, Nq.Gen.QQClose.crashedText,
        Nq.Netstring.Qmtp.sUnacceptable, Nq.Netstring.Qmtp.sTooBig],
      t.length < qqErrstr ∧ qmtpdReplyLen 20 t.length ≤ qmtpdBuf) ∧
    Nq.Gen.QQClose.errMax < qqErrstr ∧ Nq.Gen.QQClose.errMax = qqErrGuard := by
  refine ⟨?_, by decide, by decide⟩
  have h : ((Nq.Gen.QQClose.table.map (·.2) ++ [Nq.Gen.QQClose.permText, Nq.Gen.QQClose.tempText, Nq.Gen.QQClose.crashedText,
        Nq.Netstring.Qmtp.sUnacceptable, Nq.Netstring.Qmtp.sTooBig]).all
      (fun t => decide (t.length < qqErrstr) && decide (qmtpdReplyLen 20 t.length ≤ qmtpdBuf))) = true := by decide +kernel
  intro t ht
  have := List.all_eq_true.mp h t ht
  simpa using this

/-- **qmail-getpw `username[32]`** -/
theorem C20_getpw_username (k : Nat) : ∀ i ∈ getpwStores getpwGuard k, i < getpwUserlen := by
  intro i hi
  unfold getpwStores at hi
  have hg : getpwGuard ≤ getpwUserlen := by decide
  by_cases c : k < getpwGuard
  · rw [if_pos c] at hi; exact mem_range_append_lt (by omega) hi
  · rw [if_neg c] at hi; simp at hi

/-- **userext() as a whole**: for every local part, every copy the backwards scan performs (`getpwProbes`:
the positions where the NUL or a break character stands and `extension - local < sizeof(username)`) stays
inside `username`; positions at or beyond the buffer size are skipped, never truncated into it. -/
theorem C20_getpw_userext (brk : Byte) (loc : Bytes) :
    ∀ k ∈ getpwProbes getpwGuard brk loc, k < getpwUserlen ∧ k ≤ loc.length ∧
      ∀ i ∈ getpwStores getpwGuard k, i < getpwUserlen := by
  intro k hk
  unfold getpwProbes at hk
  simp only [List.mem_filter, List.mem_reverse, List.mem_range, Bool.and_eq_true, decide_eq_true_eq] at hk
  have hg : getpwGuard ≤ getpwUserlen := by decide
  exact ⟨by omega, by omega, C20_getpw_username k⟩

/-- **qmail.c `errstr[256]`**: however many bytes the queue program writes on descriptor 6, every
store (the bytes read and the final NUL) is inside `errstr`. -/
theorem C20_qq_errstr (avail : Nat) :
    (∀ i ∈ errstrStores qqErrGuard avail, i < qqErrstr) ∧ (errstrLoop qqErrGuard avail 0).2 ≤ qqErrGuard := by
  refine ⟨?_, (errstrLoop_bound qqErrGuard avail 0 (Nat.zero_le _)).2⟩
  intro i hi
  unfold errstrStores at hi
  have hg : qqErrGuard < qqErrstr := by decide
  obtain ⟨b1, b2⟩ := errstrLoop_bound qqErrGuard avail 0 (Nat.zero_le _)
  simp only [List.mem_append, List.mem_singleton] at hi
  rcases hi with hi | hi
  · have := b1 i hi; omega
  · omega

/-- **spawn.c slots** (a statement about the C18 model `Nq.Spawn.docmd`, tied to spawn.c by C18's harness): a delivery is started only in a slot `< auto_spawn` (the `d[]` array has
`auto_spawn + 10` elements) that was free, and `read(…,inbuf,128)` asks for no more than `inbuf` holds. -/
theorem C20_spawn_slot (st : Nq.Spawn.St) :
    (∀ slot s r a, Nq.Spawn.Ev.spawnCall slot s r a ∈ (Nq.Spawn.docmd st).2 →
        slot < Nq.Gen.auto_spawn ∧ slot < Nq.Gen.auto_spawn + spawnExtra ∧ Nq.Spawn.slotUsed st.slots slot = false) ∧
    ((Nq.Spawn.docmd st).1.slots ≠ st.slots → st.delnum < Nq.Gen.auto_spawn) ∧
    spawnRead ≤ spawnInbuf := by
  have h := Nq.Lemmas.SpawnL.docmd_cases st
  generalize Nq.Spawn.docmd st = r at h ⊢
  cases h with
  | early => exact ⟨fun slot s r a hm => by simp at hm, fun hne => absurd rfl hne, by decide⟩
  | late hc | nofork hc | started hc =>
    refine ⟨?_, fun _ => hc.inRange, by decide⟩
    intro slot s r a hm
    have hs : slot = st.delnum := by simp at hm <;> exact hm.1
    rw [hs]
    exact ⟨hc.inRange, Nat.lt_add_right _ hc.inRange, hc.free⟩

/-- **qmail-lspawn report truncation** (`truncreport = 3000 > 100`; C18 model `Nq.Spawn.accumulate`): after any
chunk the accumulated child output is at most `truncreport` bytes (whatever it was before), and when the cut
happens it only *lowers* `output.len` (the shortened length lies inside the block already filled). -/
theorem C20_lspawn_truncreport (out chunk : Bytes) :
    (Nq.Spawn.accumulate .l out chunk).length ≤ Nq.Spawn.truncreport .l ∧
    ((out ++ chunk).length > Nq.Spawn.truncreport .l →
      Nq.Spawn.truncreport .l - Nq.Gen.SpawnTexts.TRUNCMESS.length - Nq.Gen.SpawnTexts.TRUNC_SLACK ≤ (out ++ chunk).length ∧
      (Nq.Spawn.accumulate .l out chunk).length = Nq.Spawn.truncreport .l - Nq.Gen.SpawnTexts.TRUNC_SLACK) := by
  have e1 : Nq.Gen.SpawnTexts.TRUNCMESS.length = 31 := by decide
  have e2 : Nq.Gen.SpawnTexts.TRUNC_SLACK = 3 := by decide
  have e3 : Nq.Gen.SpawnTexts.TRUNC_MIN = 100 := by decide
  have e4 : Nq.Spawn.truncreport .l = 3000 := by decide
  unfold Nq.Spawn.accumulate
  simp only
  generalize out ++ chunk = o
  rw [e1, e2, e3, e4]
  by_cases c : 3000 > 100 ∧ o.length > 3000
  · have hk : 3000 - 31 - 3 ≤ o.length := Nat.le_trans (by decide : 3000 - 31 - 3 ≤ 3000) (Nat.le_of_lt c.2)
    rw [if_pos c, List.length_append, List.length_take, e1, Nat.min_eq_left hk]
    exact ⟨by decide, fun _ => ⟨hk, by decide⟩⟩
  · have hle : ¬ o.length > 3000 := fun h => c ⟨by decide, h⟩
    rw [if_neg c]
    exact ⟨Nat.le_of_not_gt hle, fun h => absurd h hle⟩

/-- hence for every sequence of chunks read from the child, starting from the empty output -/
theorem C20_lspawn_output_bounded (chunks : List Bytes) :
    (chunks.foldl (Nq.Spawn.accumulate .l) []).length ≤ Nq.Spawn.truncreport .l := by
  suffices h : ∀ out : Bytes, out.length ≤ Nq.Spawn.truncreport .l →
      (chunks.foldl (Nq.Spawn.accumulate .l) out).length ≤ Nq.Spawn.truncreport .l from h [] (Nat.zero_le _)
  induction chunks with
  | nil => intro out h; exact h
  | cons c r ih => intro out _; exact ih _ (C20_lspawn_truncreport out c).1

/-- **qmail-rspawn has no truncation** (`truncreport = 0`, the `> 100` test is false): the child's output is kept
whole, so it is bounded only by memory — growth goes through `stralloc_readyplus` (`C20_readyplus_sound`:
refusal, not corruption, when it cannot grow).  This is exhaustion by a trusted child, not a bounds matter. -/
theorem C20_rspawn_output_unbounded (out chunk : Bytes) : Nq.Spawn.accumulate .r out chunk = out ++ chunk := by
  unfold Nq.Spawn.accumulate
  have : ¬ (Nq.Spawn.truncreport .r > Nq.Gen.SpawnTexts.TRUNC_MIN ∧ (out ++ chunk).length > Nq.Spawn.truncreport .r) := by
    intro h; have : Nq.Spawn.truncreport .r = 0 := by decide
    have e3 : Nq.Gen.SpawnTexts.TRUNC_MIN = 100 := by decide
    omega
  simp only
  rw [if_neg this]

/- qmail-send REPORTMAX: `dline[c].len ≤ REPORTMAX` for every report stream is `Nq.Props.C18.C18_send_bound`
   (over `Nq.SendReport.feed`); it is cited, not restated, here. -/

/-- **qmail-pop3d msgno()** (a statement about the C19 model `Nq.Pop3.msgno`, tied to qmail-pop3d.c by C19's harness): an accepted message number is an index `< numm` that fits `int`. -/
theorem C20_pop3_msgno (s : Nq.Pop3.Sess) (arg : Bytes) (i : Nat) (h : Nq.Pop3.msgno s arg = .ok i) :
    i < s.msgs.length ∧ i < Nq.Pop3.INT_MAX :=
  have c := (Nq.Lemmas.Pop3.msgno_ok_iff s arg i).1 h
  ⟨c.2.2.2.1, c.2.2.2.2.1⟩

/-! ### length caps -/

/-- **netstring length cap** (qmail-qmtpd getlen(), model `Nq.Netstring.getlen` of C07): for EVERY byte stream a
length that getlen() returns is at most `10·200000000 + 9 = 2000000009 < 2³¹`, so the `int i` counters that
the callers compare with the `unsigned long len` (`for (i = 0;i < len;++i)`) cannot overflow; larger
declarations end in `resources()` / `badproto()`.  The cap is the constant in the source (both translators agree). -/
theorem C20_qmtpd_getlen_cap (inp rest : Bytes) (v : Nat) (h : Nq.Netstring.getlen qmtpdLenCap 0 inp = .ok v rest) :
    v ≤ qmtpdLenCap * 10 + 9 ∧ v < 2147483648 ∧ qmtpdLenCap = Nq.Gen.C07.qmtpLenMax := by
  have := qmtp_getlen_le qmtpdLenCap inp 0 v rest (Nat.zero_le _) h
  have e : qmtpdLenCap = 200000000 := by decide
  exact ⟨this, by omega, by decide⟩

/-- the same for qmail-qmqpd getlen() (on getbyte / bytesleft), model `Nq.Netstring.Qmqp.getlen` -/
theorem C20_qmqpd_getlen_cap (bl : Nat) (inp rest : Bytes) (v bl' : Nat)
    (h : Nq.Netstring.Qmqp.getlen qmqpdLenCap bl 0 inp = .ok (v, bl') rest) :
    v ≤ qmqpdLenCap * 10 + 9 ∧ v < 2147483648 ∧ qmqpdLenCap = Nq.Gen.C07.qmqpLenMax := by
  have := qmqp_getlen_le qmqpdLenCap bl inp 0 v bl' rest (Nat.zero_le _) h
  have e : qmqpdLenCap = 200000000 := by decide
  exact ⟨this, by omega, by decide⟩

/-- **smtptext cap** (qmail-remote.c get(): CR dropped, appended only while `smtptext.len < HUGESMTPTEXT`): for
every reply stream the accumulated text never exceeds HUGESMTPTEXT bytes, and the byte-by-byte accumulation is
exactly the `textOf` of the C09 model (which C09's harness compares with the real smtpcode()). -/
theorem C20_smtptext_cap (raw : Bytes) :
    (raw.foldl (smtptextStep Nq.Gen.HUGESMTPTEXT) []).length ≤ Nq.Gen.HUGESMTPTEXT ∧
    raw.foldl (smtptextStep Nq.Gen.HUGESMTPTEXT) [] = Nq.RemoteSmtp.textOf raw := by
  refine ⟨smtptext_fold_le _ raw [] (Nat.zero_le _), ?_⟩
  rw [smtptext_fold_eq _ raw [] (Nat.zero_le _)]
  simp [Nq.RemoteSmtp.textOf]

end fixed

/-! ## (d) dns.c -/

section dns
open Nq.Dns

/-- **findname / findip / findmx** (the code as it is, `fixed` = what the translator saw in
dns.c): for every response, every position inside it and every `dn_expand` that honours its contract,
each byte dns.c reads is inside the response, each offset passed to dn_expand is at most its end, and
`responsepos` does not pass `responseend`. -/
theorem C20_dns_find_in_bounds (k : Kind) (resp : Bytes) (dn : Nat → Option Nat) (want : Nat) (st : St)
    (hp : st.pos ≤ resp.length) (hdn : DnOk resp dn) :
    StepIn resp (find k dnsRdataChecked resp dn want st) := by
  have : dnsRdataChecked = true := by decide
  rw [this]; exact (find_in k resp dn want st hp hdn).1

/-- the whole answer loop of dns_ptr / dns_ip / dns_mxip, for any number of records -/
theorem C20_dns_walk_in_bounds (k : Kind) (resp : Bytes) (dn : Nat → Option Nat) (want fuel : Nat) (st : St)
    (hp : st.pos ≤ resp.length) (hdn : DnOk resp dn) :
    ∀ s ∈ walk k dnsRdataChecked resp dn want fuel st, StepIn resp s := by
  have : dnsRdataChecked = true := by decide
  rw [this]; exact walk_in k resp dn want fuel st hp hdn

/-- the loop ends (2 or DNS_SOFT) after at most `numanswers + 1` calls -/
theorem C20_dns_walk_terminates (k : Kind) (resp : Bytes) (dn : Nat → Option Nat) (want fuel : Nat) (st : St)
    (hp : st.pos ≤ resp.length) (hdn : DnOk resp dn) (hf : st.num < fuel) :
    ∃ s, (walk k true resp dn want fuel st).getLast? = some s ∧ (s.r = .soft ∨ s.r = .done) := by
  induction fuel generalizing st with
  | zero => omega
  | succ fuel ih =>
    obtain ⟨f1, f3⟩ := find_in k resp dn want st hp hdn
    rw [walk_succ]
    split
    · next h => exact ⟨_, rfl, h⟩
    · next h =>
      have hlt : (find k true resp dn want st).st.num < fuel := by have := f3 (fun e => h (.inr e)); omega
      obtain ⟨s, h1, h2⟩ := ih _ f1.2.2 hlt
      exact ⟨s, by rw [List.getLast?_cons, h1]; rfl, h2⟩

/-- the question-section walk of resolve() leaves `responsepos ≤ responseend` -/
theorem C20_dns_questions_in_bounds (resp : Bytes) (dn : Nat → Option Nat) (hl : HFIXEDSZ ≤ resp.length)
    (hdn : DnOk resp dn) :
    (resolve resp dn).2.pos ≤ resp.length ∧ ∀ p ∈ (resolve resp dn).1.dns, p ≤ resp.length := by
  unfold resolve
  exact questions_in resp dn _ _ hl hdn

/-- **the defect repaired by 367ee1b, kept as a theorem about the old code**: without the comparison
of RDLENGTH with the bytes left, a 23-byte response that ends right after an A record header makes
findip read offsets 23..26 — beyond the response. -/
theorem C20_dns_prefix_overread :
    ((find .ip false [0,0,0,0, 0,0,0,1, 0,0,0,0,  0,  0,1, 0,1, 0,0,0,0, 0,4]
        (fun p => if p = 12 then some 1 else none) 1 ⟨12, 1⟩).reads.any (· ≥ 23)) = true ∧
    StepIn [0,0,0,0, 0,0,0,1, 0,0,0,0,  0,  0,1, 0,1, 0,0,0,0, 0,4]
      (find .ip true [0,0,0,0, 0,0,0,1, 0,0,0,0,  0,  0,1, 0,1, 0,0,0,0, 0,4]
        (fun p => if p = 12 then some 1 else none) 1 ⟨12, 1⟩) := by
  decide +kernel

end dns

/-! ## (e) cdb reader -/

section cdb
open Nq.Users

/-- **cdb_seek on any file (corrupt, truncated, hostile)**: a record is reported only after its 8-byte
header and its whole key were read from inside the file — every offset taken from the file is validated by
the read that follows it (a short read is an error), there is no in-memory index. -/
theorem C20_cdb_seek_in_file (f key : Bytes) (dpos dlen : Nat) (h : cdbSeek f key = .found dpos dlen) :
    dpos ≤ f.length ∧ key.length + 8 ≤ dpos :=
  cdbSeek_in f key dpos dlen h

/-- the data handed to the caller is a slice of the file of exactly the claimed length, or the lookup
fails (`cdb_bread` short ⇒ error): a lying `dlen` cannot make the reader return bytes from elsewhere. -/
theorem C20_cdb_get_slice (f key d : Bytes) (h : cdbGet f key = .found d) :
    ∃ dpos, dpos ≤ f.length ∧ d = (f.drop dpos).take d.length ∧ dpos + d.length ≤ f.length := by
  obtain ⟨_, p, _, _, _, hd, hle⟩ := Nq.Lemmas.Users.cdbGet_sound f key d h
  exact ⟨p + 8 + key.length, by omega, hd.symm, hle⟩

end cdb

/-! ## (f) token822.c: count, allocate, fill -/

section tok
open Nq.TokPass

/-- **token822_parse, pass 1 counts = pass 2 stores, for every field.**  When the counting pass returns
`(numtoks, numchars)` (i.e. does not `return 0`), the filling pass — which has no bounds test of its own inside
`( )`, `" "`, `[ ]` and never compares `t` / `cbuf` with the allocated sizes — ends with exactly `numtoks` tokens
and `numchars` buffer bytes, never reads `sa->s[salen]`, stores only to `ta->t[k]` with `k < numtoks` and to
`buf->s[j]` with `j < numchars` (atomcheck() reads only such `j`), and its buffer stores are `0,1,…,numchars-1`
in this order, each exactly once. -/
theorem C20_tok_parse_two_pass (s : Bytes) (nt nc : Nat) (h : pass1 s = some (nt, nc)) :
    (pass2 s).t = nt ∧ (pass2 s).cb = nc ∧ (pass2 s).oob = false ∧
    (∀ e ∈ (pass2 s).ev, e.ok nt nc) ∧ bufStores (pass2 s).ev = List.range nc := by
  obtain ⟨a1, a2, a3, _, a5⟩ := run_sim s .top 0 0 0 nt nc h
  refine ⟨a1, a2, a3, a5, ?_⟩
  obtain ⟨k, e, b⟩ := run2_buf s .top 0 0 0
  unfold pass2
  rw [b, List.range_eq_range', ← a2, e, Nat.zero_add]

/-- complement: the hypothesis is what protects pass 2.  Pass 2 on its own is NOT safe — on the field `(` (which
pass 1 refuses: `return 0` before anything is allocated) it would read `sa->s[1]` of a one-byte field. -/
theorem C20_tok_parse_pass2_needs_pass1 :
    pass1 [LPAR] = none ∧ (pass2 [LPAR]).oob = true := by decide

open Nq.TokFill in
/-- **token822_unparse, for every token array (any types, any bytes) and every `linelen`**: every offset the second
walk stores to or reads back — including the NSUW folding macro, which writes two bytes ahead of the cursor and
shifts the line back over a tentative fold — is below the length the first walk computed and handed to
`stralloc_ready`; the final `sa->len` is below it too (and ≥ 1: the `--s` never leaves the block). -/
theorem C20_tok_unparse_within_count (linelen : Nat) (ts : List Tk) :
    (∀ i ∈ (unparseFill linelen ts).ix, i.idx < ulen1 ts) ∧
    (unparseFill linelen ts).len < ulen1 ts ∧ 1 ≤ (unparseFill linelen ts).len := by
  have c0 : CurOk ⟨0, 0, none⟩ := ⟨Nat.le_refl _, by intro le h; cases h⟩
  obtain ⟨a1, a2, a3⟩ := toksFill_spec linelen ts 0 ⟨0, 0, none⟩ c0 0 (Nat.le_refl _)
  obtain ⟨_, _, n3, n4, n5⟩ := nsuw_spec linelen _ a1
  rw [Nat.zero_add] at a2 a3
  have hN := Nat.le_trans n3 (Nat.add_le_add_right a2 2)
  refine ⟨?_, Nat.lt_of_lt_of_le (Nat.sub_lt (Nat.lt_of_lt_of_le Nat.zero_lt_two n4) Nat.one_pos) hN,
    Nat.le_sub_of_add_le n4⟩
  intro i hi
  rcases List.mem_append.1 hi with hi | hi
  · exact Nat.lt_of_lt_of_le (a3 i hi) (Nat.le_add_right _ 2)
  · exact Nat.lt_of_lt_of_le (n5 i hi) (Nat.add_le_add_right a2 2)

open Nq.TokFill in
/-- **token822_unquote**: the second walk stores to exactly the offsets `0 … len-1` the first walk counted, in order. -/
theorem C20_tok_unquote_exact (ts : List Tk) :
    (qFill ts 0).1 = qlen1 ts ∧ (qFill ts 0).2 = (List.range (qlen1 ts)).map Ix.st := by
  obtain ⟨a, b⟩ := qFill_fill ts 0
  exact ⟨a.trans (Nat.zero_add _), by rw [b, List.range_eq_range']⟩

-- non-vacuity: `a@"b" (c\))` is accepted by pass 1 with 4 tokens / 4 bytes; a folded address list
example : pass1 [97, 64, 34, 98, 34, 32, 40, 99, 92, 41, 41] = some (4, 4) := by decide +kernel
open Nq.TokFill in
example : ulen1 [⟨ATOM, [97]⟩, ⟨COMMA, []⟩, ⟨QUOTE, [34]⟩, ⟨COMMA, []⟩, ⟨ATOM, [98]⟩] = 16 ∧
    (unparseFill 3 [⟨ATOM, [97]⟩, ⟨COMMA, []⟩, ⟨QUOTE, [34]⟩, ⟨COMMA, []⟩, ⟨ATOM, [98]⟩]).len = 15 ∧
    (unparseFill 0 [⟨ATOM, [97]⟩, ⟨COMMA, []⟩, ⟨QUOTE, [34]⟩, ⟨COMMA, []⟩, ⟨ATOM, [98]⟩]).len = 11 := by decide +kernel
open Nq.TokFill in
example : qlen1 [⟨LITERAL, [49]⟩, ⟨COMMENT, [120]⟩, ⟨TAT, []⟩] = 4 := by decide +kernel

end tok

/-! ## (g) qmail-local.c main(): count the forward lines, calloc, fill `recips[]` -/

section localpass
open Nq.LocalPass

/-- **qmail-local, for every content of the .qmail file (or of `aliasempty`), both values of the x bit, -n or not, and
every outcome of the mbox / maildir / program deliveries on the way**: pass 2 stores `recips[0], recips[1], …` in
order, never more than pass 1 counted, so every index stored to — including the terminating `recips[numforward] = 0`
— is inside the `numforward + 1` pointers that were allocated; the program's own `count_forward` (which also counts
with -n, where nothing is stored) obeys the same bound.  Pass 1 looks at the first byte of the raw line, pass 2 at
the first byte after the line was cut and its trailing blanks were overwritten: the bound is an inequality (next
theorem), not an identity. -/
theorem C20_local_two_pass (doit : Bool) (env : Nat → Bool) (ffo : Bool) (cmds : Bytes) :
    (∀ k ∈ allStores doit (pass2 doit env ffo cmds), k < pass1 cmds + 1) ∧
    (pass2 doit env ffo cmds).stores = List.range (pass2 doit env ffo cmds).nf ∧
    (pass2 doit env ffo cmds).nf ≤ pass1 cmds ∧ (pass2 doit env ffo cmds).cf ≤ pass1 cmds := by
  obtain ⟨⟨n, hn, e, b⟩, d⟩ := run2_bound doit env cmds [] true 0 0 0 ffo
  rw [Nat.zero_add] at e d
  have a : (pass2 doit env ffo cmds).nf ≤ pass1 cmds := Nat.le_trans (Nat.le_of_eq e) hn
  have hb : (pass2 doit env ffo cmds).stores = List.range (pass2 doit env ffo cmds).nf := by
    unfold pass2; rw [b, e, List.range_eq_range']
  refine ⟨?_, hb, a, d⟩
  intro k hk
  unfold allStores at hk
  rcases List.mem_append.1 hk with hk | hk
  · rw [hb] at hk
    exact Nat.lt_succ_of_le (Nat.le_trans (Nat.le_of_lt (List.mem_range.1 hk)) a)
  · split at hk
    · rw [List.mem_singleton.1 hk]
      exact Nat.lt_succ_of_le a
    · cases hk

/-- the count is an upper bound only: an all-blank line is counted by pass 1 (its first byte is a blank) and skipped
by pass 2 (its first byte has become NUL) — one pointer of the array stays unused -/
theorem C20_local_pass1_overcounts :
    pass1 [97, 10, 32, 10] = 2 ∧ (pass2 true (fun _ => false) false [97, 10, 32, 10]).nf = 1 := by decide

-- non-vacuity: "a@b\n \n#c\n&d\n+list\n" : four lines counted, two stored (indices 0, 1), terminator at 2
example : pass1 [97, 64, 98, 10, 32, 10, 35, 99, 10, 38, 100, 10, 43, 108, 105, 115, 116, 10] = 4 ∧
    allStores true (pass2 true (fun _ => false) false [97, 64, 98, 10, 32, 10, 35, 99, 10, 38, 100, 10, 43, 108, 105, 115, 116, 10]) = [0, 1, 2] := by
  decide +kernel
-- "+list" then a program line: the run dies before anything is stored
example : (pass2 true (fun _ => false) false [43, 108, 105, 115, 116, 10, 124, 112, 10, 97, 10]).exit = .die := by decide +kernel

end localpass

/-! ## (h) getln2.c / getln.c / byte_chr.c -/

section getln
open Nq.Getln Nq.Substdio Nq.Stralloc

/-- **getln2, for every stream, every read chunking (script), every allocator behaviour, every separator and every
well-formed starting state**: every offset `byte_chr` dereferences is inside the substdio buffer; a returned slice
`[*cont, *cont + *clen)` lies inside the buffer (`*clen = 0` at end of input); every `substdio_get` into the line buffer
copies to `sa->s[start .. start+count)` with `start + count ≤ sa->a` as it is at that moment (what
`stralloc_readyplus(sa,n)` just guaranteed); the substdio invariant `n + p = size` and the stralloc invariant survive,
whether the call succeeds or fails.  Hypothesis `size < 2³²`: `substdio.n` is a C `int`, a larger buffer cannot be
described at all. -/
theorem C20_getln2_in_bounds (grant : Nat → Bool) (sep : Byte) (g : GSt)
    (hi : IWF g.ss) (hw : WF 1 g.sa) (hs : g.ss.size < Stralloc.U32) :
    IWF (getln2 grant sep g).st.ss ∧ (getln2 grant sep g).st.ss.size = g.ss.size ∧ WF 1 (getln2 grant sep g).st.sa ∧
    (∀ j ∈ (getln2 grant sep g).rd, j < g.ss.size) ∧
    (∀ e ∈ (getln2 grant sep g).sast, e.1 + e.2.1 ≤ e.2.2) ∧
    ((getln2 grant sep g).ret = true → (getln2 grant sep g).cont + (getln2 grant sep g).clen ≤ g.ss.size) := by
  generalize hr : getln2 grant sep g = r
  unfold getln2 at hr
  generalize ho : ready 1 30 grant g.sa 0 = o at hr
  cases hk : o.ret
  · rw [if_neg (Bool.eq_false_iff.mp hk)] at hr
    subst hr ho
    exact ⟨hi, rfl, (rpi_fail 1 30 grant g.sa 0 0 hw hk).1, nofun, nofun, nofun⟩
  · rw [if_pos hk] at hr
    have w := (ready_ok 1 30 grant g.sa 0 hw (by decide) ho hk).1
    have := loop_good grant sep g.ss.size hs (g.ss.data.length + g.ss.src.length + 2)
      ⟨g.ss, { o.x with len := 0 }⟩ [] [] hi rfl (wf_setLen w (Nat.zero_le _)) nofun nofun
    rw [hr] at this
    exact ⟨this.iwf, this.size, this.wf, this.rd, this.sast, this.cont⟩

/-- **getln**: when it goes on to `stralloc_catb(sa,cont,clen)`, the `clen` bytes it copies FROM lie inside the substdio
buffer and the record it copies TO is well-formed, so `C20_catb_sound` applies to the copy. -/
theorem C20_getln_copy_in_bounds (grant : Nat → Bool) (sep : Byte) (g : GSt)
    (hi : IWF g.ss) (hw : WF 1 g.sa) (hs : g.ss.size < Stralloc.U32) (out : Out)
    (h : (getln grant sep g).2 = some out) :
    (getln grant sep g).1.cont + (getln grant sep g).1.clen ≤ g.ss.size ∧
    (out.ret = true → WF 1 out.x ∧ storesIn out ∧ out.x.len < out.x.a) := by
  obtain ⟨_, _, a3, _, _, a6⟩ := C20_getln2_in_bounds grant sep g hi hw hs
  unfold getln at h ⊢
  by_cases hc : ((getln2 grant sep g).ret && decide ((getln2 grant sep g).clen ≠ 0)) = true
  · rw [if_pos hc] at h ⊢
    simp only [Option.some.injEq] at h
    subst h
    simp only [Bool.and_eq_true] at hc
    refine ⟨a6 hc.1, fun hret => ?_⟩
    obtain ⟨c1, c2, _, c4⟩ := C20_catb_sound grant _ _ a3 hret
    exact ⟨c1, c2, c4⟩
  · rw [if_neg hc] at h; cases h

-- non-vacuity: a 4-byte buffer, the stream "ab\ncd" delivered 3 bytes at a time: first call returns the slice at
-- offset 1 of length 3 with nothing copied; the second call reaches end of input with "cd" in the line buffer
example : IWF { size := 4, n := 4, src := [97, 98, 10, 99, 100], rs := [3, 3, 3] } ∧
    ((getln2 (fun _ => true) 10 ⟨{ size := 4, n := 4, src := [97, 98, 10, 99, 100], rs := [3, 3, 3] }, {}⟩).cont,
     (getln2 (fun _ => true) 10 ⟨{ size := 4, n := 4, src := [97, 98, 10, 99, 100], rs := [3, 3, 3] }, {}⟩).clen) = (1, 3) := by
  decide +kernel

end getln

/-! ## non-vacuity -/

open Nq.Stralloc in
example : WF 1 {} ∧ (catb (fun n => n ≤ 1000) {} 5).ret = true ∧ (catb (fun n => n ≤ 1000) {} 5).x = ⟨true, 5, 6, 6⟩ := by decide +kernel
open Nq.Stralloc in
example : (catb (fun _ => true) ⟨true, 4294967290, 4294967295, 4294967295⟩ 10).ret = false := by decide +kernel
open Nq.Stralloc in
example : (readyplusInternal 16 10 (fun _ => true) ⟨true, 0, 1, 16⟩ 268435455 0).ret = false := by decide +kernel
open Nq.Substdio in
example : OWF ⟨4, 0, [], [], [1, 0], []⟩ ∧ (put ⟨4, 0, [], [], [], []⟩ [1, 2, 3, 4, 5, 6]).1.out = [1, 2, 3, 4, 5, 6] := by decide +kernel
open Nq.Substdio in
example : (drain 10 ⟨3, 3, 0, [], [1, 2, 3, 4, 5], [2, 1], []⟩ 2).2.1.flatten = [1, 2, 3, 4, 5] := by decide +kernel
open Nq.Dns in
example : DnOk [0,0,0,0, 0,0,0,1, 0,0,0,0, 0, 0,1, 0,1, 0,0,0,0, 0,4, 1,2,3,4] (fun p => if p = 12 then some 1 else none) ∧
    (find .ip true [0,0,0,0, 0,0,0,1, 0,0,0,0, 0, 0,1, 0,1, 0,0,0,0, 0,4, 1,2,3,4] (fun p => if p = 12 then some 1 else none) 1 ⟨12, 1⟩).r = .ip 1 2 3 4 := by
  constructor
  · intro p i h; by_cases c : p = 12 <;> simp [c] at h; subst h; subst c; decide
  · decide +kernel

end Nq.Props.C20
