/-
  Nq.TriggerRelaxed — `Trigger.accept` with individual GUARDS REMOVED (property C16, extension round, session 4).

  `Trigger.accept` is an acceptor: the order of the programs' steps is part of its guards, so "trigger_set precedes opendir",
  "link precedes the pull", "readdir returns every entry before NULL" (`C16_order`, `C16_scan_complete`) merely restate guards.
  To find out which of them the no-lost-wake-up invariant really rests on, each guard can be switched off separately here:
  `acceptX r` accepts everything `accept` accepts (`acceptX_of_accept`, Nq/Lemmas/TriggerLive.lean) plus the steps `extra r` allows.

    opendirAnywhere   `opendir` also straight from `idle`, WITHOUT a preceding trigger_set (first half of `C16_order` removed)
    pullBeforeLink    the injector may open/write/close the FIFO before `link(todo/n)` (second half of `C16_order` removed)
    skipScan          after trigger_set the daemon may go back to `select` without scanning ("trigger_set … never after" removed:
                      this is what a `todo_do` that re-arms AFTER its scan does)
    endEarly          readdir may return NULL while entries the stream covers are unread (`C16_scan_complete` removed)

  Results (Nq/Props/C16.lean): with `opendirAnywhere` the invariant still holds for every trace (`C16_order_opendir_guard_removed`);
  with each of the other three a lost wake-up is reachable (`C16_guards_necessary`).  Core Lean only.
-/
import Nq.Trigger

namespace Nq.Trigger

structure Relax where
  opendirAnywhere : Bool := false
  pullBeforeLink : Bool := false
  skipScan : Bool := false
  endEarly : Bool := false
  deriving DecidableEq, Repr

/-- the additional steps a relaxation allows (only consulted where `accept` rejects) -/
def extra (r : Relax) (s : St) : Ev → Option St
  | .dOpendir => if r.opendirAnywhere = true ∧ s.d = .idle then some { s with d := .scanning s.todo } else none
  | .iOpen n ok =>
    if r.pullBeforeLink = true ∧ s.pc n = .start ∧ ok = s.dOpen then
      some (if ok then { s with pc := upd s.pc n .opened, writers := s.writers + 1 } else { s with pc := upd s.pc n .finished })
    else none
  | .iLink n => if r.pullBeforeLink = true ∧ n ∉ s.todo then some { s with todo := n :: s.todo } else none
  | .dEnd =>
    match s.d with
    | .scanning _ => if r.endEarly = true then some { s with d := .idle } else none
    | .reopened => if r.skipScan = true then some { s with d := .idle } else none
    | _ => none
  | _ => none

def acceptX (r : Relax) (s : St) (e : Ev) : Option St :=
  match accept s e with
  | some s' => some s'
  | none => extra r s e

def acceptAllX (r : Relax) : St → List Ev → Option St
  | s, [] => some s
  | s, e :: es => match acceptX r s e with
    | some s' => acceptAllX r s' es
    | none => none

/-- the state the no-lost-wake-up theorem excludes: daemon outside a scan, injection `n` complete and unprocessed, FIFO not readable -/
def lost (s : St) (n : Nat) : Bool := decide (s.d = .idle) && s.todo.contains n && pulled (s.pc n) && !s.buf

end Nq.Trigger
